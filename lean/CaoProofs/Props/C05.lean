import CaoProofs.Props.C02
/-!
# C05 — the memory limit is enforced and garbage is reclaimed

* `Ledger`: the byte counter of the allocator equals the sum of the charges of the allocated
  objects. Preserved by `gc`, `initTable`, `initString`, `initSimple` (success *and* failure),
  `tableInsert` (for a rooted table in a heap with unique addresses) and `clear`.
* `alloc_le_limit`: `allocated ≤ limit` is an invariant of `allocBytes` and of the operations
  built from it.
* `allocPure_fst`: the outcome of an allocation, with `p` bytes pending, is the test whether the
  objects reachable from the roots plus `p` plus the request fit the limit; `oom_only_if_full` /
  `alloc_succeeds_if_fits` / `alloc_outcome_iff` are the case `p = 0`: under `Ledger`, an
  allocation is refused **iff** the reachable objects plus the request exceed the limit — garbage
  never causes an out-of-memory error.
* `threshold_after_gc`, `nextGc_ge_initial`, `no_gc_below_threshold`.
* `Inv`: ledger, limit, unique addresses, fresh address and threshold together. `Stable P` says that the
  steps an object constructor is made of (allocation, refund, creation, replacement) keep `P`; each
  conjunct of `Inv` but the ledger is `Stable` and so is kept by `initTable`, `initString`, `initSimple`,
  `tableInsert` (`*_inv`).
-/
namespace Cao.C05
open Cao Cao.Vm Cao.Gc Cao.C02

/-! ## 1. the ledger -/

def charges (h : Heap) : Nat := (h.objs.map (fun p => Heap.chargeOf p.2)).sum

/-- accounted bytes = sum of the charges of the objects currently allocated -/
def Ledger (s : VmState) : Prop :=
  s.mem.allocated = (s.heap.objs.map (fun p => Heap.chargeOf p.2)).sum

/-- the ledger in the middle of an operation: `p` bytes are charged for storage that is not yet
    (or no longer) part of an object -/
def LedgerP (s : VmState) (p : Nat) : Prop := s.mem.allocated = charges s.heap + p

theorem ledger_iff (s : VmState) : Ledger s ↔ LedgerP s 0 := Iff.rfl

/-- charge of what survives a collection = charge of the reachable objects -/
def liveCharge (s : VmState) : Nat := charges (gc s).heap

theorem liveCharge_eq (s : VmState) :
    liveCharge s = ((s.heap.objs.filter (fun p => decide (p.1 ∈ reachable s))).map
      (fun p => Heap.chargeOf p.2)).sum ∧
    ∀ p, p ∈ s.heap.objs.filter (fun p => decide (p.1 ∈ reachable s)) ↔
      p ∈ s.heap.objs ∧ Reach s.heap (rootAddrs s) p.1 := by
  constructor
  · unfold liveCharge charges
    rw [gc_heap_objs]
    simp only [List.contains_eq_mem]
  · intro p
    rw [List.mem_filter, ← mem_reachable]
    simp

theorem gc_charges (s : VmState) :
    charges (gc s).heap +
      ((s.heap.objs.filter (fun p => !(reachable s).contains p.1)).map
        (fun p => Heap.chargeOf p.2)).sum = charges s.heap := by
  unfold charges
  rw [gc_heap_objs]
  exact sum_filter_add_sum_filter_not _ _ _

theorem gc_ledgerP (s : VmState) (p : Nat) (h : LedgerP s p) : LedgerP (gc s) p := by
  unfold LedgerP at *
  have h1 := gc_charges s
  have h2 := gc_allocated s
  omega

/-- **the collection keeps the ledger balanced** -/
theorem gc_ledger (s : VmState) (h : Ledger s) : Ledger (gc s) := gc_ledgerP s 0 h

theorem liveCharge_le (s : VmState) : liveCharge s ≤ charges s.heap := by
  have := gc_charges s
  unfold liveCharge; omega

/-- **a fresh machine** -/
theorem fresh_ledger (c : Config) : Ledger (VmState.fresh c) := rfl

/-- **`clear`: every object is released and its charge returned** -/
theorem clear_zero (s : VmState) (h : Ledger s) : (clear s).mem.allocated = 0 := by
  have : (clear s).mem.allocated = s.mem.allocated - charges s.heap := by
    simp only [clear, foldl_add_eq_sum, Nat.zero_add]; rfl
  rw [this, h]; unfold charges; omega

theorem clear_ledger (s : VmState) (h : Ledger s) : Ledger (clear s) := by
  show (clear s).mem.allocated = 0
  exact clear_zero s h

/-- removing one object and releasing its charge (what `clear` does object by object) -/
theorem dealloc_remove_ledger (s : VmState) (pre post : List (Nat × Obj)) (a : Nat) (o : Obj)
    (hobjs : s.heap.objs = pre ++ (a, o) :: post) (h : Ledger s) :
    Ledger { refund (Heap.chargeOf o) s with heap := { s.heap with objs := pre ++ post } } := by
  unfold Ledger at *
  simp only [refund]
  rw [h, hobjs]
  simp only [List.map_append, List.map_cons, List.sum_append, List.sum_cons]
  omega

/-! ### `allocBytes` -/

theorem allocCharged_ledgerP (c : Nat) (s : VmState) (p : Nat) (h : LedgerP s p) :
    LedgerP (allocCharged c s) (p + c) := by
  unfold LedgerP at *
  show s.mem.allocated + c = charges s.heap + (p + c)
  omega

theorem collect_ledgerP (s : VmState) (p : Nat) (h : LedgerP s p) : LedgerP (collect s) p :=
  gc_ledgerP s p h

theorem allocCollected_ledgerP (c : Nat) (s : VmState) (p : Nat) (h : LedgerP s p) :
    LedgerP (allocCollected c s) (p + c) := by
  unfold allocCollected
  split
  · exact collect_ledgerP _ _ (allocCharged_ledgerP c s p h)
  · exact allocCharged_ledgerP c s p h

theorem refund_ledgerP (c : Nat) (s : VmState) (p : Nat) (h : LedgerP s (p + c)) :
    LedgerP (refund c s) p := by
  unfold LedgerP at *
  show s.mem.allocated - c = charges s.heap + p
  omega

/-- the two outcomes of `allocBytes`: granted when the bytes fit after the (possible) collection,
    refused and refunded otherwise -/
theorem allocBytes_ok {c : Nat} {s s' : VmState} {u : Unit}
    (hrun : (allocBytes c).run.run s = (.ok u, s')) :
    s' = allocCollected c s ∧ s'.mem.allocated ≤ s'.mem.limit := by
  rw [allocBytes_run] at hrun
  unfold allocPure at hrun
  dsimp only at hrun
  split at hrun
  · cases hrun
  · next h => cases hrun; exact ⟨rfl, Nat.le_of_not_gt h⟩

theorem allocBytes_err {c : Nat} {s s' : VmState} {e : ErrKind}
    (hrun : (allocBytes c).run.run s = (.error e, s')) :
    e = .outOfMemory ∧ s' = refund c (allocCollected c s) ∧
    (allocCollected c s).mem.allocated > (allocCollected c s).mem.limit := by
  rw [allocBytes_run] at hrun
  unfold allocPure at hrun
  dsimp only at hrun
  split at hrun
  · next h => cases hrun; exact ⟨rfl, rfl, h⟩
  · cases hrun

theorem allocBytes_ok_ledgerP (c : Nat) (s s' : VmState) (p : Nat) (u : Unit)
    (hrun : (allocBytes c).run.run s = (.ok u, s')) (h : LedgerP s p) : LedgerP s' (p + c) :=
  (allocBytes_ok hrun).1 ▸ allocCollected_ledgerP c s p h

/-- **a refused allocation is refunded**, and the only possible error is `outOfMemory` -/
theorem allocBytes_err_ledgerP (c : Nat) (s s' : VmState) (p : Nat) (e : ErrKind)
    (hrun : (allocBytes c).run.run s = (.error e, s')) (h : LedgerP s p) :
    LedgerP s' p ∧ e = .outOfMemory := by
  obtain ⟨he, rfl, -⟩ := allocBytes_err hrun
  exact ⟨refund_ledgerP c _ p (allocCollected_ledgerP c s p h), he⟩

/-! ### object constructors -/

theorem withObject_ledger (o : Obj) (s : VmState) (h : LedgerP s (Heap.chargeOf o)) :
    Ledger (withObject o s) := by
  unfold Ledger LedgerP charges at *
  simp only [withObject, List.map_append, List.sum_append, List.map_cons, List.map_nil,
    List.sum_cons, List.sum_nil]
  omega

theorem alloc2Pure_ledger (c1 c2 : Nat) (o : Obj) (s : VmState) (hc : Heap.chargeOf o = c1 + c2)
    (h : Ledger s) : Ledger (alloc2Pure c1 c2 o s).2 := by
  unfold alloc2Pure
  rcases h1 : allocPure c1 s with ⟨r1, s1⟩
  rw [← allocBytes_run] at h1
  cases r1 with
  | error e => exact (allocBytes_err_ledgerP c1 s s1 0 e h1 h).1
  | ok u =>
    have l1 := allocBytes_ok_ledgerP c1 s s1 0 u h1 h
    dsimp only
    rcases h2 : allocPure c2 s1 with ⟨r2, s2⟩
    rw [← allocBytes_run] at h2
    cases r2 with
    | error e =>
      have l2 := (allocBytes_err_ledgerP c2 s1 s2 (0 + c1) e h2 l1).1
      exact refund_ledgerP c1 s2 0 l2
    | ok u =>
      have l2 := allocBytes_ok_ledgerP c2 s1 s2 (0 + c1) u h2 l1
      exact withObject_ledger o s2 (by rw [hc]; simpa [Nat.add_comm] using l2)

/-- **`initTable` keeps the ledger balanced, whether it succeeds or is refused** -/
theorem initTable_ledger (s : VmState) (h : Ledger s) : Ledger (initTable.run.run s).2 := by
  rw [initTable_run]; exact alloc2Pure_ledger _ _ _ s rfl h

theorem initString_ledger (bytes : List UInt8) (s : VmState) (h : Ledger s) :
    Ledger ((initString bytes).run.run s).2 := by
  rw [initString_run]; exact alloc2Pure_ledger _ _ _ s rfl h

/-- `initSimple` is used for functions, natives, closures and upvalues (header only); for these
    the charge is the header -/
theorem initSimple_ledger (o : Obj) (s : VmState) (ho : Heap.chargeOf o = Heap.objCharge)
    (h : Ledger s) : Ledger ((initSimple o).run.run s).2 := by
  rw [initSimple_run]
  unfold alloc1Pure
  rcases h1 : allocPure Heap.objCharge s with ⟨r1, s1⟩
  rw [← allocBytes_run] at h1
  cases r1 with
  | error e => exact (allocBytes_err_ledgerP _ s s1 0 e h1 h).1
  | ok u =>
    have l1 := allocBytes_ok_ledgerP _ s s1 0 u h1 h
    exact withObject_ledger o s1 (by rw [ho]; simpa using l1)

theorem initSimple_ledger_fn (hd ar : UInt32) (s : VmState) (h : Ledger s) :
    Ledger ((initSimple (.fn hd ar)).run.run s).2 := initSimple_ledger _ s rfl h
theorem initSimple_ledger_native (hd : UInt32) (s : VmState) (h : Ledger s) :
    Ledger ((initSimple (.native hd)).run.run s).2 := initSimple_ledger _ s rfl h
theorem initSimple_ledger_closure (hd ar : UInt32) (ups : List Nat) (s : VmState) (h : Ledger s) :
    Ledger ((initSimple (.closure hd ar ups)).run.run s).2 := initSimple_ledger _ s rfl h
theorem initSimple_ledger_upvalue (l : UpLoc) (s : VmState) (h : Ledger s) :
    Ledger ((initSimple (.upvalue l)).run.run s).2 := initSimple_ledger _ s rfl h

/-! ### unique addresses; `tableInsert` -/

/-- every address is allocated at most once -/
def UniqueAddrs (h : Heap) : Prop := (h.objs.map (fun p => p.1)).Nodup

/-- the next fresh address is above every allocated address -/
def FreshNext (h : Heap) : Prop := ∀ p ∈ h.objs, p.1 < h.next

theorem set_keys (h : Heap) (a : Nat) (o : Obj) :
    (h.set a o).objs.map (fun p => p.1) = h.objs.map (fun p => p.1) := by
  unfold Heap.set
  simp only [List.map_map]
  apply List.map_congr_left
  intro p _
  by_cases hp : (p.1 == a) = true
  · simp only [Function.comp, hp, if_true]; exact (by simpa using hp : p.1 = a).symm
  · simp only [Function.comp, hp]; rfl

theorem set_unique (h : Heap) (a : Nat) (o : Obj) (hu : UniqueAddrs h) : UniqueAddrs (h.set a o) := by
  unfold UniqueAddrs; rw [set_keys]; exact hu

theorem set_fresh (h : Heap) (a : Nat) (o : Obj) (hf : FreshNext h) : FreshNext (h.set a o) := by
  intro p hp
  have : p.1 ∈ (h.set a o).objs.map (fun p => p.1) := List.mem_map_of_mem hp
  rw [set_keys] at this
  obtain ⟨q, hq, hqp⟩ := List.mem_map.mp this
  rw [← hqp]; exact hf q hq

theorem gc_unique (s : VmState) (hu : UniqueAddrs s.heap) : UniqueAddrs (gc s).heap := by
  unfold UniqueAddrs at *
  rw [gc_heap_objs]
  exact List.Nodup.sublist (List.Sublist.map _ List.filter_sublist) hu

theorem gc_fresh (s : VmState) (hf : FreshNext s.heap) : FreshNext (gc s).heap := by
  intro p hp
  exact hf p ((gc_exact s p).mp hp).1

theorem withObject_fresh (o : Obj) (s : VmState) (hf : FreshNext s.heap) :
    FreshNext (withObject o s).heap := by
  intro p hp
  simp only [withObject, List.mem_append, List.mem_singleton] at hp ⊢
  rcases hp with hp | rfl
  · exact Nat.lt_succ_of_lt (hf p hp)
  · exact Nat.lt_succ_self _

theorem withObject_unique (o : Obj) (s : VmState) (hu : UniqueAddrs s.heap) (hf : FreshNext s.heap) :
    UniqueAddrs (withObject o s).heap ∧ FreshNext (withObject o s).heap := by
  refine ⟨?_, withObject_fresh o s hf⟩
  · unfold UniqueAddrs at *
    simp only [withObject, List.map_append, List.map_cons, List.map_nil]
    rw [List.nodup_append]
    refine ⟨hu, by simp, ?_⟩
    intro x hx y hy
    obtain ⟨q, hq, hqx⟩ := List.mem_map.mp hx
    have := hf q hq
    rcases List.mem_singleton.mp hy with rfl
    omega

private theorem map_set_noop (l : List (Nat × Obj)) (a : Nat) (o' : Obj)
    (ha : a ∉ l.map (fun p => p.1)) :
    l.map (fun p => if p.1 == a then (a, o') else p) = l := by
  induction l with
  | nil => rfl
  | cons p l ih =>
    simp only [List.map_cons, List.mem_cons, not_or] at ha
    have hp : (p.1 == a) = false := by simpa using fun h => ha.1 h.symm
    simp only [List.map_cons, hp, Bool.false_eq_true, if_false, ih ha.2]

theorem charges_set (h : Heap) (a : Nat) (o o' : Obj) (hu : UniqueAddrs h)
    (hg : h.get a = some o) :
    charges (h.set a o') + Heap.chargeOf o = charges h + Heap.chargeOf o' := by
  unfold UniqueAddrs at hu
  unfold Heap.get at hg
  unfold charges Heap.set
  generalize h.objs = l at hu hg
  induction l with
  | nil => simp at hg
  | cons p l ih =>
    simp only [List.map_cons, List.nodup_cons] at hu
    by_cases hp : (p.1 == a) = true
    · have hpa : p.1 = a := by simpa using hp
      simp only [List.find?_cons, hp, Option.map_some, Option.some.injEq] at hg
      rw [hpa] at hu
      simp only [List.map_cons, hp, if_true, List.sum_cons, map_set_noop l a o' hu.1, ← hg]
      omega
    · have hp' : (p.1 == a) = false := by simpa using hp
      simp only [List.find?_cons, hp'] at hg
      have := ih hu.2 hg
      simp only [List.map_cons, hp', Bool.false_eq_true, if_false, List.sum_cons] at this ⊢
      omega

theorem set_ledgerP (s : VmState) (a : Nat) (o o' : Obj) (p : Nat) (hu : UniqueAddrs s.heap)
    (hg : s.heap.get a = some o) (hc : Heap.chargeOf o' = Heap.chargeOf o) (h : LedgerP s p) :
    LedgerP { s with heap := s.heap.set a o' } p := by
  have := charges_set s.heap a o o' hu hg
  unfold LedgerP at *
  show s.mem.allocated = charges (s.heap.set a o') + p
  omega

theorem allocBytes_unique (c : Nat) (s : VmState) (hu : UniqueAddrs s.heap) (hf : FreshNext s.heap) :
    UniqueAddrs ((allocBytes c).run.run s).2.heap ∧ FreshNext ((allocBytes c).run.run s).2.heap := by
  rcases (allocBytes_vs_no_collection c s).2 with h | h
  · rw [h]; exact ⟨hu, hf⟩
  · rw [h]; exact ⟨gc_unique s hu, gc_fresh s hf⟩

theorem ledger_insertEffect {a : Nat} {s s' : VmState} (he : InsertEffect a s s') (h : Ledger s)
    (hu : UniqueAddrs s.heap) (hr : Reach s.heap (rootAddrs s) a) : Ledger s' := by
  cases he with
  | none => exact h
  | rows es' hg => exact set_ledgerP s a _ _ 0 hu hg rfl h
  | oom hg ha => rw [← allocBytes_run] at ha; exact (allocBytes_err_ledgerP _ s _ 0 _ ha h).1
  | @grow cap es s1 es' hg ha =>
    rw [← allocBytes_run] at ha
    have hob := allocBytes_obs (Heap.tableCharge (HMap.growCap cap)) s
    have hvs := (allocBytes_vs_no_collection (Heap.tableCharge (HMap.growCap cap)) s).2
    rw [ha] at hob hvs
    have l1 := allocBytes_ok_ledgerP _ s s1 0 () ha h
    -- the table is rooted, so the collection has left it where it was
    have hg1 : s1.heap.get a = some (.table cap es) := by rw [hob.fwd a hr]; exact hg
    have hu1 : UniqueAddrs s1.heap := by
      rcases hvs with h' | h'
      · rw [h']; exact hu
      · rw [h']; exact gc_unique s hu
    have hcs := charges_set s1.heap a _ (.table (HMap.growCap cap) es') hu1 hg1
    unfold LedgerP at l1
    show s1.mem.allocated - Heap.tableCharge cap = charges (s1.heap.set a _)
    simp only [Heap.chargeOf] at hcs
    omega

/-- **`tableInsert` keeps the ledger balanced**: an overwrite or an append without growth does not
    allocate; a growth charges the new storage and releases the old one; a refused growth is
    refunded. Needed: addresses are unique, and the table is reachable from the roots (it is on
    the value stack or guarded whenever the VM calls `tableInsert`) — see the counter-example
    below for an unrooted table. -/
theorem tableInsert_ledger (a : Nat) (k v : Val) (s : VmState) (h : Ledger s)
    (hu : UniqueAddrs s.heap) (hr : Reach s.heap (rootAddrs s) a) :
    Ledger ((tableInsert a k v).run.run s).2 := by
  rw [tableInsert_run]; exact ledger_insertEffect (tableInsertPure_effect a k v s) h hu hr

/-- the rootedness hypothesis of `tableInsert_ledger` is necessary: growing an *unreachable*
    table while a collection is forced frees the table in the middle of the operation, and the
    release of its old storage is then charged twice -/
def unrootedGrow : VmState :=
  { stack := VStack.new 4, frameCap := 4, sched := .every,
    mem := { allocated := Heap.chargeOf (.table 1 []), nextGc := 10000, limit := 10000 },
    heap := { objs := [(1, .table 1 [])], next := 2 } }

example : Ledger unrootedGrow ∧ UniqueAddrs unrootedGrow.heap ∧
    ¬ Ledger ((tableInsert 1 (.int 0) (.int 0)).run.run unrootedGrow).2 := by
  refine ⟨by unfold Ledger; decide, by unfold UniqueAddrs; decide, ?_⟩
  rw [tableInsert_run]
  unfold Ledger
  decide

/-! ## 2. the limit is an invariant -/

def WithinLimit (s : VmState) : Prop := s.mem.allocated ≤ s.mem.limit

theorem gc_allocated_le (s : VmState) : (gc s).mem.allocated ≤ s.mem.allocated := by
  rw [gc_allocated]; omega

theorem allocCollected_mem (c : Nat) (s : VmState) :
    (allocCollected c s).mem.allocated ≤ s.mem.allocated + c ∧
    (allocCollected c s).mem.limit = s.mem.limit := by
  unfold allocCollected
  split
  · exact ⟨gc_allocated_le (allocCharged c s), rfl⟩
  · exact ⟨Nat.le_refl _, rfl⟩

/-- **the limit is enforced by every allocation**, successful or refused; no `Ledger` needed -/
theorem alloc_le_limit (c : Nat) (s : VmState) (h : WithinLimit s) :
    WithinLimit ((allocBytes c).run.run s).2 ∧
    ((allocBytes c).run.run s).2.mem.limit = s.mem.limit := by
  rw [allocBytes_run]
  unfold allocPure
  obtain ⟨h1, h2⟩ := allocCollected_mem c s
  unfold WithinLimit at *
  dsimp only
  split
  · refine ⟨?_, h2⟩
    show (allocCollected c s).mem.allocated - c ≤ (allocCollected c s).mem.limit
    omega
  · refine ⟨?_, h2⟩
    show (allocCollected c s).mem.allocated ≤ (allocCollected c s).mem.limit
    omega

/-- on success the limit holds even if it did not hold before -/
theorem alloc_ok_le_limit (c : Nat) (s s' : VmState) (u : Unit)
    (hrun : (allocBytes c).run.run s = (.ok u, s')) : WithinLimit s' := (allocBytes_ok hrun).2

theorem refund_withinLimit (c : Nat) (s : VmState) (h : WithinLimit s) : WithinLimit (refund c s) := by
  unfold WithinLimit at *
  show s.mem.allocated - c ≤ s.mem.limit
  omega

theorem gc_le_limit (s : VmState) (h : WithinLimit s) : WithinLimit (gc s) := by
  have := gc_allocated_le s
  unfold WithinLimit at *
  show (gc s).mem.allocated ≤ s.mem.limit
  omega

theorem fresh_le_limit (c : Config) : WithinLimit (VmState.fresh c) := Nat.zero_le _

/-! ## 3. out of memory only when the live data does not fit -/

theorem gc_allocCharged_heap (c : Nat) (s : VmState) : (gc (allocCharged c s)).heap = (gc s).heap := rfl

theorem allocCollected_trigP (c : Nat) (s : VmState) (p : Nat) (ht : allocTrig c s = true)
    (h : LedgerP s p) : (allocCollected c s).mem.allocated = liveCharge s + p + c := by
  have h1 : LedgerP (allocCollected c s) (p + c) := allocCollected_ledgerP c s p h
  unfold LedgerP at h1
  have h2 : (allocCollected c s).heap = (gc s).heap := by
    unfold allocCollected; rw [if_pos ht]; rfl
  rw [h2] at h1
  unfold liveCharge; omega

theorem allocCollected_notrig (c : Nat) (s : VmState) (ht : allocTrig c s = false) :
    allocCollected c s = allocCharged c s ∧ s.mem.allocated + c ≤ s.mem.limit ∧
    s.mem.allocated + c ≤ s.mem.nextGc := by
  refine ⟨by unfold allocCollected; simp [ht], ?_, ?_⟩ <;>
  · unfold allocTrig at ht
    simp only [Bool.or_eq_false_iff, decide_eq_false_iff_not] at ht
    omega

/-- **the outcome of an allocation is decided by the live size** (plus what is pending, plus the
    request) — not by the schedule, the amount of garbage or the threshold -/
theorem allocPure_fst (c : Nat) (s : VmState) (p : Nat) (h : LedgerP s p) :
    (allocPure c s).1 =
      if liveCharge s + p + c ≤ s.mem.limit then .ok () else .error .outOfMemory := by
  unfold allocPure
  dsimp only
  have hlim := (allocCollected_mem c s).2
  cases ht : allocTrig c s with
  | true =>
    have ha := allocCollected_trigP c s p ht h
    by_cases hfit : liveCharge s + p + c ≤ s.mem.limit
    · rw [if_neg (by omega), if_pos hfit]
    · rw [if_pos (by omega), if_neg hfit]
  | false =>
    obtain ⟨h1, h2, _⟩ := allocCollected_notrig c s ht
    have hl := liveCharge_le s
    have ha : (allocCollected c s).mem.allocated = s.mem.allocated + c := by rw [h1]; rfl
    unfold LedgerP at h
    rw [if_neg (by omega), if_pos (by omega)]

/-- **an allocation is refused only if the reachable objects plus the request exceed the
    limit** (a collection has run before the refusal, so garbage does not count) -/
theorem oom_only_if_full (c : Nat) (s s' : VmState) (e : ErrKind) (h : Ledger s)
    (hrun : (allocBytes c).run.run s = (.error e, s')) :
    e = .outOfMemory ∧ liveCharge s + c > s.mem.limit := by
  have := allocPure_fst c s 0 h
  rw [← allocBytes_run, hrun] at this
  split at this
  · cases this
  · cases this; exact ⟨rfl, by omega⟩

/-- **if the reachable objects plus the request fit, the allocation succeeds** — a program whose
    live data stays bounded can allocate indefinitely -/
theorem alloc_succeeds_if_fits (c : Nat) (s : VmState) (h : Ledger s)
    (hfit : liveCharge s + c ≤ s.mem.limit) :
    ∃ s', (allocBytes c).run.run s = (.ok (), s') :=
  ⟨(allocPure c s).2, (allocBytes_run c s).trans
    (Prod.ext ((allocPure_fst c s 0 h).trans (if_pos (by omega))) rfl)⟩

/-- the outcome of an allocation depends only on the live size — not on the schedule, not on
    the amount of garbage, not on the threshold -/
theorem alloc_outcome_iff (c : Nat) (s : VmState) (h : Ledger s) :
    (∃ s', (allocBytes c).run.run s = (.ok (), s')) ↔ liveCharge s + c ≤ s.mem.limit := by
  refine ⟨fun ⟨s', hs'⟩ => ?_, alloc_succeeds_if_fits c s h⟩
  have := allocPure_fst c s 0 h
  rw [← allocBytes_run, hs'] at this
  split at this
  · omega
  · cases this

/-! ## 4. the collection threshold -/

/-- the threshold never drops below its initial value -/
def ThresholdOk (s : VmState) : Prop := Mem.initialGc s.mem.limit ≤ s.mem.nextGc

theorem fresh_threshold (c : Config) : ThresholdOk (VmState.fresh c) := Nat.le_refl _

theorem clear_threshold (s : VmState) : ThresholdOk (clear s) := Nat.le_refl _

theorem collect_threshold (s : VmState) : ThresholdOk (collect s) := Nat.le_max_right _ _

theorem nextGc_ge_initial (c : Nat) (s : VmState) (h : ThresholdOk s) :
    ThresholdOk ((allocBytes c).run.run s).2 := by
  rw [allocBytes_run]
  unfold allocPure
  have hc : ThresholdOk (allocCollected c s) := by
    unfold allocCollected
    split
    · exact collect_threshold _
    · exact h
  dsimp only
  split
  · exact hc
  · exact hc

/-- **after a collection triggered by an allocation the threshold is twice the surviving size**
    (or the initial threshold if that is larger) -/
theorem threshold_after_gc (c : Nat) (s s' : VmState) (u : Unit) (ht : allocTrig c s = true)
    (hrun : (allocBytes c).run.run s = (.ok u, s')) :
    s'.mem.nextGc = max (2 * s'.mem.allocated) (Mem.initialGc s'.mem.limit) ∧
    s'.gcRuns = s.gcRuns + 1 := by
  rw [(allocBytes_ok hrun).1]
  unfold allocCollected
  rw [if_pos ht]
  exact ⟨by show max _ _ = max _ _; rw [Nat.mul_comm]; rfl, rfl⟩

/-- an allocation that is not forced and stays below the threshold and the limit does not collect -/
theorem no_gc_below_threshold (c : Nat) (s : VmState) (hf : s.sched.forced s.allocIndex = false)
    (h1 : s.mem.allocated + c ≤ s.mem.nextGc) (h2 : s.mem.allocated + c ≤ s.mem.limit) :
    (allocBytes c).run.run s = (.ok (), allocCharged c s) := by
  have ht : allocTrig c s = false := by
    unfold allocTrig
    simp only [hf, Bool.false_or, Bool.or_eq_false_iff, decide_eq_false_iff_not]
    omega
  rw [allocBytes_run]
  unfold allocPure
  rw [(allocCollected_notrig c s ht).1]
  dsimp only
  rw [if_neg (by show ¬ (s.mem.allocated + c > s.mem.limit); omega)]

/-- so after a collection that left `n` bytes allocated, no (unforced) collection happens until
    the allocated size has doubled (or the initial threshold / the limit is reached) -/
theorem next_gc_after_doubling (c c' : Nat) (s s' : VmState) (u : Unit) (ht : allocTrig c s = true)
    (hrun : (allocBytes c).run.run s = (.ok u, s'))
    (hf : s'.sched.forced s'.allocIndex = false)
    (hsmall : s'.mem.allocated + c' ≤ 2 * s'.mem.allocated ∨
              s'.mem.allocated + c' ≤ Mem.initialGc s'.mem.limit)
    (hlim : s'.mem.allocated + c' ≤ s'.mem.limit) :
    (allocBytes c').run.run s' = (.ok (), allocCharged c' s') := by
  have hth := (threshold_after_gc c s s' u ht hrun).1
  apply no_gc_below_threshold c' s' hf _ hlim
  rw [hth]
  rcases hsmall with h | h
  · exact Nat.le_trans h (Nat.le_max_left _ _)
  · exact Nat.le_trans h (Nat.le_max_right _ _)

/-! ## the invariants together -/

/-- the accounting invariant of the machine -/
structure Inv (s : VmState) : Prop where
  ledger : Ledger s
  within : WithinLimit s
  unique : UniqueAddrs s.heap
  fresh : FreshNext s.heap
  threshold : ThresholdOk s

theorem fresh_inv (c : Config) : Inv (VmState.fresh c) :=
  ⟨fresh_ledger c, fresh_le_limit c, List.nodup_nil, fun _ h => (by cases h), fresh_threshold c⟩

theorem gc_inv (s : VmState) (h : Inv s) : Inv (gc s) :=
  ⟨gc_ledger s h.ledger, gc_le_limit s h.within, gc_unique s h.unique, gc_fresh s h.fresh, h.threshold⟩

theorem clear_inv (s : VmState) (h : Inv s) : Inv (clear s) :=
  ⟨clear_ledger s h.ledger, by unfold WithinLimit; rw [clear_zero s h.ledger]; exact Nat.zero_le _,
   List.nodup_nil, fun _ hp => (by cases hp), clear_threshold s⟩

/-- a property of the machine that every step of an object constructor keeps: an allocation
    (granted or refused), a refund, the creation of the object, the replacement of an object -/
structure Stable (P : VmState → Prop) : Prop where
  alloc : ∀ c s, P s → P ((allocBytes c).run.run s).2
  refund : ∀ c s, P s → P (refund c s)
  withObject : ∀ o s, P s → P (withObject o s)
  set : ∀ a o s, P s → P { s with heap := s.heap.set a o }

theorem Stable.allocPure {P : VmState → Prop} (hP : Stable P) (c : Nat) (s : VmState) (h : P s) :
    P (allocPure c s).2 := by rw [← allocBytes_run]; exact hP.alloc c s h

theorem Stable.alloc2Pure {P : VmState → Prop} (hP : Stable P) (c1 c2 : Nat) (o : Obj) (s : VmState)
    (h : P s) : P (alloc2Pure c1 c2 o s).2 := by
  unfold Gc.alloc2Pure
  have a1 := hP.allocPure c1 s h
  rcases h1 : Gc.allocPure c1 s with ⟨r1, s1⟩
  rw [h1] at a1
  cases r1 with
  | error e => exact a1
  | ok u =>
    dsimp only
    have a2 := hP.allocPure c2 s1 a1
    rcases h2 : Gc.allocPure c2 s1 with ⟨r2, s2⟩
    rw [h2] at a2
    cases r2 with
    | error e => exact hP.refund c1 s2 a2
    | ok u => exact hP.withObject o s2 a2

theorem Stable.alloc1Pure {P : VmState → Prop} (hP : Stable P) (c : Nat) (o : Obj) (s : VmState)
    (h : P s) : P (alloc1Pure c o s).2 := by
  unfold Gc.alloc1Pure
  have a1 := hP.allocPure c s h
  rcases h1 : Gc.allocPure c s with ⟨r1, s1⟩
  rw [h1] at a1
  cases r1 with
  | error e => exact a1
  | ok u => exact hP.withObject o s1 a1

theorem Stable.insertEffect {P : VmState → Prop} (hP : Stable P) {a : Nat} {s s' : VmState}
    (he : InsertEffect a s s') (h : P s) : P s' := by
  cases he with
  | none => exact h
  | rows es' hg => exact hP.set _ _ s h
  | @oom cap _ _ _ hg ha =>
    have := hP.allocPure (Heap.tableCharge (HMap.growCap cap)) s h
    rwa [ha] at this
  | @grow cap _ _ es' hg ha =>
    have := hP.allocPure (Heap.tableCharge (HMap.growCap cap)) s h
    rw [ha] at this
    exact hP.set _ _ _ (hP.refund _ _ this)

theorem Stable.tableInsert {P : VmState → Prop} (hP : Stable P) (a : Nat) (k v : Val) (s : VmState)
    (h : P s) : P ((tableInsert a k v).run.run s).2 := by
  rw [tableInsert_run]; exact hP.insertEffect (tableInsertPure_effect a k v s) h

theorem withinLimit_stable : Stable WithinLimit :=
  ⟨fun c s h => (alloc_le_limit c s h).1, refund_withinLimit, fun _ _ h => h, fun _ _ _ h => h⟩

theorem addrs_stable : Stable fun s => UniqueAddrs s.heap ∧ FreshNext s.heap :=
  ⟨fun c s h => allocBytes_unique c s h.1 h.2, fun _ _ h => h, fun o s h => withObject_unique o s h.1 h.2,
    fun a o _ h => ⟨set_unique _ a o h.1, set_fresh _ a o h.2⟩⟩

theorem threshold_stable : Stable ThresholdOk :=
  ⟨nextGc_ge_initial, fun _ _ h => h, fun _ _ h => h, fun _ _ _ h => h⟩

/-- **`initTable` (success or failure) preserves all accounting invariants** -/
theorem initTable_inv (s : VmState) (h : Inv s) : Inv (initTable.run.run s).2 := by
  refine ⟨initTable_ledger s h.ledger, ?_, ?_, ?_, ?_⟩ <;> rw [initTable_run]
  · exact withinLimit_stable.alloc2Pure _ _ _ s h.within
  · exact (addrs_stable.alloc2Pure _ _ _ s ⟨h.unique, h.fresh⟩).1
  · exact (addrs_stable.alloc2Pure _ _ _ s ⟨h.unique, h.fresh⟩).2
  · exact threshold_stable.alloc2Pure _ _ _ s h.threshold

theorem initString_inv (b : List UInt8) (s : VmState) (h : Inv s) : Inv ((initString b).run.run s).2 := by
  refine ⟨initString_ledger b s h.ledger, ?_, ?_, ?_, ?_⟩ <;> rw [initString_run]
  · exact withinLimit_stable.alloc2Pure _ _ _ s h.within
  · exact (addrs_stable.alloc2Pure _ _ _ s ⟨h.unique, h.fresh⟩).1
  · exact (addrs_stable.alloc2Pure _ _ _ s ⟨h.unique, h.fresh⟩).2
  · exact threshold_stable.alloc2Pure _ _ _ s h.threshold

theorem initSimple_inv (o : Obj) (s : VmState) (ho : Heap.chargeOf o = Heap.objCharge) (h : Inv s) :
    Inv ((initSimple o).run.run s).2 := by
  refine ⟨initSimple_ledger o s ho h.ledger, ?_, ?_, ?_, ?_⟩ <;> rw [initSimple_run]
  · exact withinLimit_stable.alloc1Pure _ o s h.within
  · exact (addrs_stable.alloc1Pure _ o s ⟨h.unique, h.fresh⟩).1
  · exact (addrs_stable.alloc1Pure _ o s ⟨h.unique, h.fresh⟩).2
  · exact threshold_stable.alloc1Pure _ o s h.threshold

/-- **`tableInsert` on a rooted table preserves all accounting invariants** -/
theorem tableInsert_inv (a : Nat) (k v : Val) (s : VmState) (h : Inv s)
    (hr : Reach s.heap (rootAddrs s) a) : Inv ((tableInsert a k v).run.run s).2 :=
  ⟨tableInsert_ledger a k v s h.ledger h.unique hr, withinLimit_stable.tableInsert a k v s h.within,
    (addrs_stable.tableInsert a k v s ⟨h.unique, h.fresh⟩).1,
    (addrs_stable.tableInsert a k v s ⟨h.unique, h.fresh⟩).2, threshold_stable.tableInsert a k v s h.threshold⟩

/-! ## 5. non-vacuity -/

private def okB {ε α : Type} : Except ε α → Bool | .ok _ => true | .error _ => false
private def isOom {α : Type} : Except ErrKind α → Bool | .error .outOfMemory => true | _ => false

/-- a machine with a 500 byte limit; one table costs 96 + 328 = 424 bytes -/
def m0 : VmState := VmState.fresh { memLimit := 500, stackSize := 4, callStackSize := 4, maxInstr := 10 }
/-- the first table fits (it stays guarded, i.e. live) -/
def m1 : VmState := (initTable.run.run m0).2
/-- a second one is refused: the first is still live -/
def m2 : VmState := (initTable.run.run m1).2
/-- the guard is dropped: the first table is garbage now -/
def m3 : VmState := ((dropGuard 1).run.run m2).2
/-- and the same request succeeds, because the collection reclaims the first table -/
def m4 : VmState := (initTable.run.run m3).2

example : okB (initTable.run.run m0).1 = true ∧ m1.mem.allocated = 424 ∧ m1.guards = [1] ∧
    m1.heap.objs.map (·.1) = [1] := by decide
example : isOom (initTable.run.run m1).1 = true ∧ m2.mem.allocated = 424 ∧ m2.gcRuns = 2 ∧
    m2.heap.objs.map (·.1) = [1] := by decide
example : liveCharge m1 + Heap.objCharge > m1.mem.limit := by decide
example : okB (initTable.run.run m3).1 = true ∧ m4.mem.allocated = 424 ∧
    m4.heap.objs.map (·.1) = [2] ∧ m4.mem.nextGc = 848 := by decide
example : Inv m0 := fresh_inv _
example : Inv m4 := by
  have h1 : Inv m1 := initTable_inv _ (fresh_inv _)
  have h2 : Inv m2 := initTable_inv _ h1
  have h3 : Inv m3 := ⟨h2.ledger, h2.within, h2.unique, h2.fresh, h2.threshold⟩
  exact initTable_inv _ h3

end Cao.C05
