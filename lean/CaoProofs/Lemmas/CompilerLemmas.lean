import CaoProofs.Lemmas.CodeLogic
import CaoProofs.Lemmas.CompileRun
/-!
# Invariants of the compiler model that hold across every primitive state update

The compiler changes its state only through a dozen kinds of update (append code, push an
instruction with its trace entry, back-patch a jump operand, append a label, …).  `Prims R` says
that `R k` holds across each of them as long as the first `k` bytes of the bytecode are out of
reach of back-patching, `Raises E` that `E` holds of every error the compiler raises.
`Runs R E k Q m` has the triple `Sat` as its clause for successful runs and a second clause for the errors;
for all `R` and `E` it is a logic of compiler code (`runsLogic`), and `compileUnit_runs` carries it through the unit.
Three statements about every successful run of the card compiler are proved with it: (a) the bytecode only grows and the
bytes that were there stay (back-patching touches only placeholders of the action itself), (b) the trace log is extended
by entries keyed by positions of the new bytes, (c) the bookkeeping (`curIndices`, `functionId`, `scopeDepth`, the number
of `locals` and `upvalues` contexts) is restored.  (a) and (b) are the instance `Ext`; the tables the card compiler leaves
alone (`Keeps`, `ResolveLemmas`) and the errors it can end with (`CompilerNoPanic`) are further instances.  (c), `Hs`, is a
second such logic (`hsLogic`), indexed by the shape of the bookkeeping before and after.
-/
namespace Cao.Compiler
open Cao

/-! ## the primitive updates and errors -/

/-- `R k` holds across every primitive state update of the card compiler, as long as the first `k`
bytes of the bytecode are out of reach of back-patching -/
class Prims (R : Nat → CState → CState → Prop) : Prop where
  refl : ∀ k s, R k s s
  trans : ∀ {k a b c}, R k a b → R k b c → R k a c
  /-- a shorter frozen prefix claims less -/
  weaken : ∀ {k k' s s'}, k ≤ k' → R k' s s' → R k s s'
  emit : ∀ {k s} (bs : Array UInt8), k ≤ s.bytecode.size → R k s { s with bytecode := s.bytecode ++ bs }
  instr : ∀ {k s} (o : UInt8) (t : Trace), k ≤ s.bytecode.size →
    R k s { s with trace := s.trace ++ [(s.bytecode.size, t)], bytecode := s.bytecode.push o }
  patch : ∀ {k s} (at_ : Nat) (bs : List UInt8), k ≤ at_ → k ≤ s.bytecode.size →
    R k s { s with bytecode := patched s.bytecode at_ bs }
  label : ∀ {k s} (x : UInt32 × Nat), R k s { s with labels := s.labels ++ [x] }
  data : ∀ {k s} (bs : Array UInt8), R k s { s with data := s.data ++ bs }
  varId : ∀ {k s} (h : UInt32), R k s { s with varIds := s.varIds ++ [(h, s.nextVar)], nextVar := s.nextVar + 1 }
  varName : ∀ {k s} (x : UInt32 × String), R k s { s with varNames := s.varNames ++ [x] }
  book : ∀ {k s} (ci : List Nat) (sd : List Int) (ls : List (List Local)) (us : List (List (Bool × UInt8)))
    (fid : Nat), R k s { s with curIndices := ci, scopeDepth := sd, locals := ls, upvalues := us, functionId := fid }

instance {R₁ R₂ : Nat → CState → CState → Prop} [Prims R₁] [Prims R₂] :
    Prims (fun k s s' => R₁ k s s' ∧ R₂ k s s') where
  refl k s := ⟨Prims.refl k s, Prims.refl k s⟩
  trans h1 h2 := ⟨Prims.trans h1.1 h2.1, Prims.trans h1.2 h2.2⟩
  weaken hk h := ⟨Prims.weaken hk h.1, Prims.weaken hk h.2⟩
  emit bs hk := ⟨Prims.emit bs hk, Prims.emit bs hk⟩
  instr o t hk := ⟨Prims.instr o t hk, Prims.instr o t hk⟩
  patch at_ bs h hk := ⟨Prims.patch at_ bs h hk, Prims.patch at_ bs h hk⟩
  label x := ⟨Prims.label x, Prims.label x⟩
  data bs := ⟨Prims.data bs, Prims.data bs⟩
  varId h := ⟨Prims.varId h, Prims.varId h⟩
  varName x := ⟨Prims.varName x, Prims.varName x⟩
  book ci sd ls us fid := ⟨Prims.book ci sd ls us fid, Prims.book ci sd ls us fid⟩

/-- `E` holds of the errors the compiler raises: located errors and the two zero-handle panics -/
class Raises (E : CErr → Prop) : Prop where
  located : ∀ (kind : CErrKind) (t : Trace), E (.err kind (some t))
  panicInsert : E (.panic "HandleTable::insert with handle 0")
  panicEntry : E (.panic "HandleTable::entry with handle 0")

structure Runs {α : Type} (R : Nat → CState → CState → Prop) (E : CErr → Prop) (k : Nat) (Q : α → Prop)
    (m : CM α) : Prop where
  ok : Sat (k ≤ ·.bytecode.size) (fun s s' => k ≤ s'.bytecode.size ∧ R k s s') Q m
  err : ∀ s e, m s = .error e → k ≤ s.bytecode.size → E e

abbrev Run {α : Type} (R : Nat → CState → CState → Prop) (E : CErr → Prop) (k : Nat) (m : CM α) : Prop :=
  Runs R E k (fun _ => True) m

abbrev AnyErr : CErr → Prop := fun _ => True

section rules
variable {R : Nat → CState → CState → Prop} {E : CErr → Prop} [Prims R] [Raises E] {α β : Type} {k : Nat}

omit [Raises E] in
theorem runs_stable : Sat.Stable (k ≤ ·.bytecode.size) (fun s s' => k ≤ s'.bytecode.size ∧ R k s s') :=
  ⟨fun hk => ⟨hk, Prims.refl _ _⟩, fun _ h1 h2 => ⟨h2.1, Prims.trans h1.2 h2.2⟩, fun _ h => h.1⟩

omit [Raises E] in
theorem runs_bind {Q : α → Prop} {Q' : β → Prop} {m : CM α} {f : α → CM β}
    (hm : Runs R E k Q m) (hf : ∀ a, Q a → Runs R E k Q' (f a)) : Runs R E k Q' (m >>= f) := by
  refine ⟨Sat.bind runs_stable hm.ok fun a q => (hf a q).ok, fun s e h hk => ?_⟩
  rcases bind_err.1 h with h | ⟨a, s', h1, h2⟩
  · exact hm.err s e h hk
  · obtain ⟨⟨k1, _⟩, qa⟩ := hm.ok s a s' h1 hk
    exact (hf a qa).err s' e h2 k1

omit [Prims R] [Raises E] in
theorem runs_weaken {Q Q' : α → Prop} {m : CM α} (hm : Runs R E k Q m) (h : ∀ a, Q a → Q' a) :
    Runs R E k Q' m := ⟨hm.ok.weaken h, hm.err⟩

omit [Raises E] in
theorem runs_seq {Q : β → Prop} {m : CM Unit} {n : CM β} (hm : Runs R E k (fun _ => True) m)
    (hn : Runs R E k Q n) : Runs R E k Q (m >>= fun _ => n) := runs_bind hm fun _ _ => hn

omit [Raises E] in
theorem runs_pure {Q : α → Prop} {a : α} (h : Q a) : Runs R E k Q (pure a : CM α) :=
  ⟨Sat.pure runs_stable h, fun s e hr => by cases hr⟩

omit [Raises E] in
theorem runs_ret {a : α} : Runs R E k (fun _ => True) (pure a : CM α) := runs_pure trivial

omit [Raises E] in
theorem runs_get : Runs R E k (fun st => k ≤ st.bytecode.size) (get : CM CState) :=
  ⟨fun s b s' hr hk => by cases hr; exact ⟨⟨hk, Prims.refl k s⟩, hk⟩, fun s e hr => by cases hr⟩

omit [Raises E] in
theorem runs_get_bind {Q : β → Prop} {f : CState → CM β} (h : ∀ st, Runs R E st.bytecode.size Q (f st)) :
    Runs R E k Q (get >>= f) :=
  ⟨fun s b s' hr hk =>
    have := (h s).ok s b s' hr (Nat.le_refl _)
    ⟨⟨Nat.le_trans hk this.1.1, Prims.weaken hk this.1.2⟩, this.2⟩,
   fun s e hr _ => (h s).err s e hr (Nat.le_refl _)⟩

omit [Prims R] [Raises E] in
theorem Runs.and_val {Q : α → Prop} {m : CM α} (hm : Runs R E k (fun _ => True) m)
    (hv : ∀ s a s', m s = .ok (a, s') → Q a) : Runs R E k Q m :=
  ⟨hm.ok.and_val hv, hm.err⟩

omit [Prims R] [Raises E] in
theorem runs_modify {f : CState → CState}
    (h : ∀ s, k ≤ s.bytecode.size → k ≤ (f s).bytecode.size ∧ R k s (f s)) :
    Runs R E k (fun _ => True) (modify f : CM Unit) :=
  ⟨Sat.modify h, fun s e hr => by cases hr⟩

omit [Raises E] in
theorem runs_book {ci : CState → List Nat} {sd : CState → List Int} {ls : CState → List (List Local)}
    {us : CState → List (List (Bool × UInt8))} {fid : CState → Nat} :
    Runs R E k (fun _ => True) (modify (fun s =>
      { s with curIndices := ci s, scopeDepth := sd s, locals := ls s, upvalues := us s, functionId := fid s }) :
      CM Unit) :=
  runs_modify fun _ hk => ⟨hk, Prims.book _ _ _ _ _⟩

omit [Raises E] in
theorem runs_label {x : CState → UInt32 × Nat} :
    Runs R E k (fun _ => True) (modify (fun s => { s with labels := s.labels ++ [x s] }) : CM Unit) :=
  runs_modify fun _ hk => ⟨hk, Prims.label _⟩

omit [Prims R] [Raises E] in
theorem runs_throw {Q : α → Prop} {e : CErr} (h : E e) : Runs R E k Q (throw e : CM α) :=
  ⟨fun s b s' hr => (nomatch hr), fun s e' hr _ => by cases hr; exact h⟩

omit [Prims R] in
theorem runs_fail {Q : α → Prop} {e : CErrKind} : Runs R E k Q (fail e : CM α) :=
  ⟨fun s b s' hr => (nomatch hr), fun s e' hr _ => by cases hr; exact Raises.located _ _⟩

omit [Raises E] in
theorem runs_throw_bind {Q : β → Prop} {e : CErr} {f : α → CM β} (h : E e) :
    Runs R E k Q ((throw e : CM α) >>= f) :=
  runs_bind (runs_throw (Q := fun _ => False) h) fun _ h => h.elim

theorem runs_fail_bind {Q : β → Prop} {e : CErrKind} {f : α → CM β} : Runs R E k Q ((fail e : CM α) >>= f) :=
  runs_bind (runs_fail (Q := fun _ => False)) fun _ h => h.elim

omit [Prims R] [Raises E] in
theorem runs_ite {Q : α → Prop} {c : Prop} [Decidable c] {x y : CM α}
    (hx : Runs R E k Q x) (hy : Runs R E k Q y) : Runs R E k Q (if c then x else y) := by
  split <;> assumption

end rules

/-- extensible: closes a goal `Run R E k m` for a known action `m` -/
syntax "runs_prim" : tactic
macro_rules | `(tactic| runs_prim) => `(tactic| with_reducible exact runs_label)
macro_rules | `(tactic| runs_prim) => `(tactic| with_reducible exact runs_book)

macro "runs_step" : tactic => `(tactic| first
  | intro _
  | with_reducible apply runs_ite
  | with_reducible exact runs_fail_bind
  | with_reducible apply runs_throw_bind
  | with_reducible apply runs_bind
  | with_reducible exact runs_get
  | with_reducible exact runs_ret
  | with_reducible assumption
  | runs_prim
  | exact Raises.panicInsert
  | dsimp only
  | split)
macro "runs" : tactic => `(tactic| repeat' runs_step)

section generators
variable {R : Nat → CState → CState → Prop} {E : CErr → Prop} [Prims R] [Raises E] {k : Nat}

/-! ### the primitives, from what each does to the state (`Lemmas/CMLogic.lean`, `Lemmas/CMPrims.lean`) -/

omit [Prims R] [Raises E] in
theorem runs_ok {α : Type} {m : CM α} {a : CState → α} {f : CState → CState} (hm : ∀ s, m s = .ok (a s, f s))
    (h : ∀ s, k ≤ s.bytecode.size → k ≤ (f s).bytecode.size ∧ R k s (f s)) : Run R E k m :=
  ⟨fun s b s' hr hk => by rw [hm] at hr; cases hr; exact ⟨h s hk, trivial⟩,
   fun s e hr _ => by rw [hm] at hr; cases hr⟩

theorem Reads.runs {α : Type} {g : CState → Except CErrKind α} {m : CM α} (h : Reads g m) : Run R E k m :=
  ⟨fun s a s' hr hk => by obtain ⟨_, rfl⟩ := h.ok hr; exact ⟨⟨hk, Prims.refl _ _⟩, trivial⟩,
   fun s e hr _ => by obtain ⟨_, _, rfl⟩ := h.err hr; exact Raises.located _ _⟩

omit [Raises E] in
theorem emitBytes_runs (bs : List UInt8) : Run R E k (emitBytes bs) :=
  runs_ok (emitBytes_run bs) fun s hk => ⟨by rw [Array.size_append]; omega, Prims.emit _ hk⟩
macro_rules | `(tactic| runs_prim) => `(tactic| with_reducible exact emitBytes_runs _)

omit [Raises E] in
theorem emitU32_runs (x : Nat) : Run R E k (emitU32 x) := emitBytes_runs _
macro_rules | `(tactic| runs_prim) => `(tactic| with_reducible exact emitU32_runs _)

omit [Raises E] in
theorem pushInstr_runs (o : UInt8) : Run R E k (pushInstr o) :=
  runs_ok (pushInstr_run o) fun s hk => ⟨by rw [Array.size_push]; omega, Prims.instr o _ hk⟩
macro_rules | `(tactic| runs_prim) => `(tactic| with_reducible exact pushInstr_runs _)

omit [Raises E] in
theorem pushSub_runs (i : Nat) : Run R E k (pushSub i) := by unfold pushSub; runs
omit [Raises E] in
theorem popSub_runs : Run R E k popSub := by unfold popSub; runs
macro_rules | `(tactic| runs_prim) => `(tactic| with_reducible exact pushSub_runs _)
macro_rules | `(tactic| runs_prim) => `(tactic| with_reducible exact popSub_runs)

theorem insertLabel_runs (h : UInt32) (pos : Nat) : Run R E k (insertLabel h pos) := by
  unfold insertLabel; runs
macro_rules | `(tactic| runs_prim) => `(tactic| with_reducible exact insertLabel_runs _ _)

omit [Raises E] in
theorem patchI32_runs {at_ : Nat} (v : Nat) (h : k ≤ at_) : Run R E k (patchI32 at_ v) := by
  rw [patchI32_eq]
  exact runs_modify fun s hk => ⟨by rw [patched_size]; exact hk, Prims.patch _ _ h hk⟩
macro_rules | `(tactic| runs_prim) => `(tactic| with_reducible exact patchI32_runs _ (by assumption))

omit [Raises E] in
theorem scopeBegin_runs : Run R E k scopeBegin := by unfold scopeBegin; runs
macro_rules | `(tactic| runs_prim) => `(tactic| with_reducible exact scopeBegin_runs)

omit [Raises E] in
theorem scopeEnd_runs : Run R E k scopeEnd := by unfold scopeEnd; runs
macro_rules | `(tactic| runs_prim) => `(tactic| with_reducible exact scopeEnd_runs)

theorem addLocalUnchecked_runs (n : String) : Run R E k (addLocalUnchecked n) := by
  unfold addLocalUnchecked; runs
macro_rules | `(tactic| runs_prim) => `(tactic| with_reducible exact addLocalUnchecked_runs _)

theorem validateVarName_runs (n : String) : Run R E k (validateVarName n) := (validateVarName_reads n).runs
macro_rules | `(tactic| runs_prim) => `(tactic| with_reducible exact validateVarName_runs _)

theorem addLocal_runs (n : String) : Run R E k (addLocal n) := by
  unfold addLocal; runs
macro_rules | `(tactic| runs_prim) => `(tactic| with_reducible exact addLocal_runs _)

theorem resolveVar_runs (n : String) : Run R E k (resolveVar n) :=
  ⟨fun s a s' hr hk => by
    obtain ⟨L, U, rfl⟩ := (resolveVar_ok hr).1.rest
    exact ⟨⟨hk, Prims.book _ _ _ _ _⟩, trivial⟩,
   fun s e hr _ => by rcases resolveVar_err hr with rfl | rfl <;> exact Raises.located _ _⟩
macro_rules | `(tactic| runs_prim) => `(tactic| with_reducible exact resolveVar_runs _)

omit [Raises E] in
theorem readLocalVar_runs (i : Nat) : Run R E k (readLocalVar i) := by unfold readLocalVar; runs
omit [Raises E] in
theorem writeLocalVar_runs (i : Nat) : Run R E k (writeLocalVar i) := by unfold writeLocalVar; runs
omit [Raises E] in
theorem readUpvalue_runs (i : Nat) : Run R E k (readUpvalue i) := by unfold readUpvalue; runs
omit [Raises E] in
theorem writeUpvalue_runs (i : Nat) : Run R E k (writeUpvalue i) := by unfold writeUpvalue; runs
macro_rules | `(tactic| runs_prim) => `(tactic| with_reducible exact readLocalVar_runs _)
macro_rules | `(tactic| runs_prim) => `(tactic| with_reducible exact writeLocalVar_runs _)
macro_rules | `(tactic| runs_prim) => `(tactic| with_reducible exact readUpvalue_runs _)
macro_rules | `(tactic| runs_prim) => `(tactic| with_reducible exact writeUpvalue_runs _)

omit [Raises E] in
theorem pushStr_runs (x : String) : Run R E k (pushStr x) :=
  runs_ok (pushStr_run x) fun s hk =>
    ⟨by rw [Array.size_append]; omega, Prims.trans (Prims.emit (R := R) _ hk) (Prims.data (R := R) _)⟩
macro_rules | `(tactic| runs_prim) => `(tactic| with_reducible exact pushStr_runs _)

theorem globalId_runs (x : String) : Run R E k (globalId x) := by
  refine ⟨fun s a s' hr hk => ?_, fun s e hr _ => ?_⟩ <;>
    rcases globalId_cases x s with ⟨_, h⟩ | ⟨_, id, s1, s2, h, h1, h2⟩ <;> rw [h] at hr <;> cases hr
  · have r1 : R k s s1 := by
      rcases h1 with ⟨_, _, _, rfl⟩ | ⟨_, _, rfl⟩
      · exact Prims.refl _ _
      · exact Prims.varId _
    have r2 : R k s1 s' := by
      rcases h2 with ⟨_, rfl⟩ | ⟨_, rfl⟩
      · exact Prims.refl _ _
      · exact Prims.varName _
    have hb : s'.bytecode = s.bytecode := by
      rcases h1 with ⟨_, _, _, rfl⟩ | ⟨_, _, rfl⟩ <;> rcases h2 with ⟨_, rfl⟩ | ⟨_, rfl⟩ <;> rfl
    exact ⟨⟨hb ▸ hk, Prims.trans r1 r2⟩, trivial⟩
  · exact Raises.panicEntry
macro_rules | `(tactic| runs_prim) => `(tactic| with_reducible exact globalId_runs _)

omit [Raises E] in
theorem readProps_runs : ∀ ps, Run R E k (readProps ps)
  | [] => by unfold readProps; runs
  | p :: ps => by
    have ih := readProps_runs ps
    unfold readProps; runs
macro_rules | `(tactic| runs_prim) => `(tactic| with_reducible exact readProps_runs _)

theorem readVarCard_runs (x : String) : Run R E k (readVarCard x) := by unfold readVarCard; runs
macro_rules | `(tactic| runs_prim) => `(tactic| with_reducible exact readVarCard_runs _)

theorem resolveFunction_runs (x : String) : Run R E k (resolveFunction x) := (resolveFunction_reads x).runs
macro_rules | `(tactic| runs_prim) => `(tactic| with_reducible exact resolveFunction_runs _)

theorem encodeJump_runs (x : String) : Run R E k (encodeJump x) := by unfold encodeJump; runs

/-! ### the combinators of `processCard` -/

theorem cardLabel_runs : Run R E k cardLabel := by unfold cardLabel; runs

omit [Raises E] in
theorem withSub_runs {i : Nat} {m : CM Unit} (hm : Run R E k m) : Run R E k (withSub i m) := by
  unfold withSub; runs

omit [Raises E] in
theorem encodeIfThen_runs {skip : UInt8} {m : CM Unit} (hm : Run R E k m) :
    Run R E k (encodeIfThen skip m) := by
  unfold encodeIfThen; runs

theorem addLocals_runs : ∀ ps, Run R E k (addLocals ps)
  | [] => by unfold addLocals; runs
  | p :: ps => by
    have ih := addLocals_runs ps
    unfold addLocals; runs

omit [Raises E] in
theorem emitUpvalues_runs : ∀ ups, Run R E k (emitUpvalues ups)
  | [] => by unfold emitUpvalues; runs
  | (l, i) :: rest => by
    have ih := emitUpvalues_runs rest
    unfold emitUpvalues; runs

omit [Raises E] in
theorem scalarIntCode_runs (i : Int64) : Run R E k (scalarIntCode i) := by
  unfold scalarIntCode; runs

theorem processScalarInt_runs (i : Int64) : Run R E k (processScalarInt i) :=
  runs_seq cardLabel_runs (scalarIntCode_runs i)

theorem bindLoopVar_runs (n : Option String) (src : Nat) : Run R E k (bindLoopVar n src) := by
  unfold bindLoopVar; runs

theorem setVarTarget_runs (n : String) : Run R E k (setVarTarget n) := by
  rw [setVarTarget_eq]; runs

omit [Raises E] in
theorem compileBegin_runs : Run R E k compileBegin := by unfold compileBegin; runs
omit [Raises E] in
theorem compileEnd_runs : Run R E k compileEnd := by unfold compileEnd; runs

/-! ### the arms taken whole, and the logic -/

/-- at one frozen prefix (`CodeLogic.setVarCode` asks for the value at every prefix) -/
theorem setVarCode_runs {n : String} {v : CM Unit} (h : Run R E k v) : Run R E k (setVarCode n v) :=
  runs_seq (withSub_runs h) (setVarTarget_runs n)

theorem setGlobalTail_runs (n : String) : Run R E k (setGlobalTail n) := by unfold setGlobalTail; runs

theorem setGlobalVarCode_runs {n : String} {v : CM Unit} (h : Run R E k v) : Run R E k (setGlobalVarCode n v) :=
  runs_seq (withSub_runs h) (setGlobalTail_runs n)

omit [Raises E] in
theorem ifElseCode_runs {c t e : CM Unit} (h1 : Run R E k c) (h2 : Run R E k t) (h3 : Run R E k e) : Run R E k (ifElseCode c t e) := by
  rw [ifElseCode_flat]
  exact runs_seq (withSub_runs h1) <| runs_seq (pushSub_runs 1) <| runs_seq (pushInstr_runs _) <|
    runs_bind runs_get fun _ hk => runs_seq (emitU32_runs _) <| runs_seq h2 <| runs_seq (pushInstr_runs _) <|
    runs_bind runs_get fun _ hk' => runs_seq (emitU32_runs _) <| runs_bind runs_get fun _ _ =>
    runs_seq (patchI32_runs _ hk) <| runs_seq popSub_runs <| runs_seq (withSub_runs h3) <|
    runs_bind runs_get fun _ _ => patchI32_runs _ hk'

theorem closureCode_runs {args : List String} {b : CM Unit} (h : Run R E k b) : Run R E k (closureCode args b) :=
  runs_seq (pushInstr_runs _) <| runs_bind runs_get fun _ hk => runs_seq (emitU32_runs _) <|
  runs_seq compileBegin_runs <| runs_bind runs_get fun _ _ => runs_seq (insertLabel_runs _ _) <|
  runs_seq scopeBegin_runs <| runs_seq (addLocals_runs _) <| runs_seq h <| runs_seq scopeEnd_runs <|
  runs_seq (pushInstr_runs _) <| runs_seq (pushInstr_runs _) <|
  runs_bind runs_get fun _ _ => runs_seq (patchI32_runs _ hk) <|
  runs_seq (pushInstr_runs _) <| runs_seq (emitBytes_runs _) <| runs_seq (emitU32_runs _) <|
  runs_bind runs_get fun _ _ => runs_seq (emitUpvalues_runs _) compileEnd_runs

theorem runsLogic : CodeLogic (fun _ => True) fun _ _ k _ Q m => Runs R E k Q m where
  A_path _ _ := trivial
  A_up _ := trivial
  pure := runs_pure
  bind := runs_bind
  get_bind := runs_get_bind
  pushSub := pushSub_runs
  popSub := popSub_runs
  scopeBegin := scopeBegin_runs
  scopeEnd := scopeEnd_runs
  cardLabel := cardLabel_runs
  addLocalUnchecked n _ := (addLocalUnchecked_runs n).and_val fun _ _ _ => addLocalUnchecked_lt
  addLocal n _ := (addLocal_runs n).and_val fun _ _ _ => addLocal_lt
  instr _ _ _ := runs_seq (pushInstr_runs _) (emitBytes_runs _)
  readLocalVar _ := readLocalVar_runs _
  writeLocalVar _ := writeLocalVar_runs _
  jump _ _ := runs_seq (pushInstr_runs _) (emitU32_runs _)
  str _ s := runs_seq (pushInstr_runs _) (pushStr_runs s)
  fnp n := runs_seq (pushInstr_runs _) (encodeJump_runs n)
  each _ _ _ _ _ _ := runs_seq (pushInstr_runs _) (emitBytes_runs _)
  setGlobalTail := setGlobalTail_runs
  readVarCard := readVarCard_runs
  setVarTarget x _ := setVarTarget_runs x
  encodeIfThen _ h := encodeIfThen_runs (h _ (Nat.le_refl _))
  ifElseCode _ h1 h2 h3 := ifElseCode_runs (h1 default _ (fun _ => True) trivial)
    (h2 default _ (fun _ => True) trivial) (h3 default _ (fun _ => True) trivial)
  closureCode _ h := closureCode_runs (h default _ (fun _ => True) trivial)

theorem processCard_runs (c : Card) : Run R E k (processCard c) :=
  runsLogic.processCard c default k (fun _ => True) trivial

theorem compileSubexprFrom_runs (i : Nat) (cs : List Card) : Run R E k (compileSubexprFrom i cs) :=
  runsLogic.compileSubexprFrom i cs default k (fun _ => True) trivial

/-- for every table slot `tv` (`CodeLogic.processArrayItems` assumes that it fits a byte) -/
theorem processArrayItems_runs (tv : Nat) : ∀ i cs, Run R E k (processArrayItems tv i cs)
  | _, [] => runs_ret
  | i, c :: cs => runs_seq (pushInstr_runs _) <| runs_seq (withSub_runs (processCard_runs c)) <|
      runs_seq (readLocalVar_runs _) <| runs_seq (pushInstr_runs _) (processArrayItems_runs tv (i + 1) cs)

theorem processFunctionCards_runs (i : Nat) (cs : List Card) : Run R E k (processFunctionCards i cs) :=
  runsLogic.processFunctionCards i cs default k (fun _ => True) trivial

end generators

/-! ## the whole compilation unit -/

theorem compileFunction_ok {f : FunctionIr} {s s' : CState} (h : compileFunction f s = .ok ((), s')) :
    ∃ s2 s3 s5 s6 s7,
      insertLabel f.handle s.bytecode.size { s with curFunction := f.functionIndex, curIndices := [] } = .ok ((), s2) ∧
      scopeBegin s2 = .ok ((), s3) ∧ processFunction f s3 = .ok ((), s5) ∧ scopeEnd s5 = .ok ((), s6) ∧
      pushInstr op.scalarNil s6 = .ok ((), s7) ∧ pushInstr op.ret s7 = .ok ((), s') := by
  unfold compileFunction at h
  rw [modify_bind_run, get_bind_run] at h
  obtain ⟨_, s2, h2, h⟩ := bind_ok.1 h
  obtain ⟨_, s3, h3, h⟩ := bind_ok.1 h
  obtain ⟨_, s5, h5, h⟩ := bind_ok.1 h
  obtain ⟨_, s6, h6, h⟩ := bind_ok.1 h
  obtain ⟨_, s7, h7, h8⟩ := bind_ok.1 h
  exact ⟨s2, s3, s5, s6, s7, h2, h3, h5, h6, h7, h8⟩

theorem compileUnit_ok {unit : Array FunctionIr} {s s' : CState} (h : compileUnit unit s = .ok ((), s')) :
    unit.isEmpty = false ∧ ∃ s1 s3 s5 s6 s7 s8,
      addFunctions unit.toList s = .ok ((), s1) ∧
      scopeBegin { s1 with curFunction := unit[0]!.functionIndex, curIndices := [0] } = .ok ((), s3) ∧
      processFunction unit[0]! s3 = .ok ((), s5) ∧
      scopeEnd { s5 with curFunction := unit[0]!.functionIndex, curIndices := [unit[0]!.cards.length] } = .ok ((), s6) ∧
      processCard .abort s6 = .ok ((), s7) ∧ compileFunctions (unit.toList.drop 1) s7 = .ok ((), s8) ∧
      pushInstr op.exit { s8 with imports := [] } = .ok ((), s') := by
  unfold compileUnit at h
  cases he : unit.isEmpty
  · simp only [he, Bool.false_eq_true, if_false] at h
    obtain ⟨_, s1, h1, h⟩ := bind_ok.1 h
    rw [modify_bind_run] at h
    obtain ⟨_, s3, h3, h⟩ := bind_ok.1 h
    obtain ⟨_, s5, h5, h⟩ := bind_ok.1 h
    rw [modify_bind_run] at h
    obtain ⟨_, s6, h6, h⟩ := bind_ok.1 h
    obtain ⟨_, s7, h7, h⟩ := bind_ok.1 h
    obtain ⟨_, s8, h8, h⟩ := bind_ok.1 h
    rw [modify_bind_run] at h
    exact ⟨rfl, s1, s3, s5, s6, s7, s8, h1, h3, h5, h6, h7, h8, h⟩
  · simp only [he, if_true] at h
    obtain ⟨_, _, h9, _⟩ := bind_ok.1 h
    cases h9

/-- `R k` also holds across the updates made between the cards: entering a function (and the final
`imports := []` of `compileUnit`), setting the position, registering a function in the jump table -/
class UnitPrims (R : Nat → CState → CState → Prop) : Prop extends Prims R where
  enter : ∀ {k s} (ns : List String) (imports : List (String × String)) (h : UInt32),
    R k s { s with ns := ns, imports := imports, fnHandle := h }
  pos : ∀ {k s} (f : Nat) (l : List Nat), R k s { s with curFunction := f, curIndices := l }
  jump : ∀ {k s} (x : String × (UInt32 × UInt32)), R k s { s with jumpTable := s.jumpTable ++ [x] }

section unit
variable {R : Nat → CState → CState → Prop} {E : CErr → Prop} [UnitPrims R] [Raises E] {k : Nat}

omit [Raises E] in
theorem runs_enter {ns : CState → List String} {imports : CState → List (String × String)} {h : CState → UInt32} :
    Run R E k (modify (fun s => { s with ns := ns s, imports := imports s, fnHandle := h s }) : CM Unit) :=
  runs_modify fun _ hk => ⟨hk, UnitPrims.enter _ _ _⟩

omit [Raises E] in
theorem runs_pos {f : CState → Nat} {l : CState → List Nat} :
    Run R E k (modify (fun s => { s with curFunction := f s, curIndices := l s }) : CM Unit) :=
  runs_modify fun _ hk => ⟨hk, UnitPrims.pos _ _⟩

omit [Raises E] in
theorem runs_jump {x : CState → String × (UInt32 × UInt32)} :
    Run R E k (modify (fun s => { s with jumpTable := s.jumpTable ++ [x s] }) : CM Unit) :=
  runs_modify fun _ hk => ⟨hk, UnitPrims.jump _⟩

theorem processFunction_runs (f : FunctionIr) : Run R E k (processFunction f) :=
  runs_seq runs_enter <| runs_seq (addLocals_runs _) (processFunctionCards_runs 0 f.cards)

theorem addFunction_runs (f : FunctionIr) : Run R E k (addFunction f) := by
  have := runs_jump (R := R) (E := E) (k := k) (x := fun _ => (f.fullName, (f.handle, UInt32.ofNat f.arguments.length)))
  unfold addFunction; runs

theorem addFunctions_runs : ∀ fs, Run R E k (addFunctions fs)
  | [] => runs_ret
  | f :: fs => runs_seq (addFunction_runs f) (addFunctions_runs fs)

theorem compileFunction_runs (f : FunctionIr) : Run R E k (compileFunction f) :=
  runs_seq runs_pos <| runs_bind runs_get fun _ _ =>
  runs_seq (insertLabel_runs _ _) <| runs_seq scopeBegin_runs <| runs_seq (processFunction_runs f) <|
  runs_seq scopeEnd_runs <| runs_seq (pushInstr_runs _) (pushInstr_runs _)

theorem compileFunctions_runs : ∀ fs, Run R E k (compileFunctions fs)
  | [] => runs_ret
  | f :: fs => runs_seq (compileFunction_runs f) (compileFunctions_runs fs)

theorem compileUnit_runs (unit : Array FunctionIr) : Run R E k (compileUnit unit) := by
  have h1 := addFunctions_runs (R := R) (E := E) (k := k) unit.toList
  have h2 := processFunction_runs (R := R) (E := E) (k := k) unit[0]!
  have h3 := processCard_runs (R := R) (E := E) (k := k) .abort
  have h4 := compileFunctions_runs (R := R) (E := E) (k := k) (unit.toList.drop 1)
  have h5 := runs_pos (R := R) (E := E) (k := k) (f := fun _ => unit[0]!.functionIndex) (l := fun _ => [0])
  have h6 := runs_pos (R := R) (E := E) (k := k) (f := fun _ => unit[0]!.functionIndex)
    (l := fun _ => [unit[0]!.cards.length])
  have h7 := runs_enter (R := R) (E := E) (k := k) (ns := fun s => s.ns) (imports := fun _ => []) (h := fun s => s.fnHandle)
  unfold compileUnit; runs

end unit

/-! ## (a)+(b): the bytecode only grows, a frozen prefix is never touched, new trace keys are
positions of the new bytes -/

structure Ext (k : Nat) (s s' : CState) : Prop where
  size_le : s.bytecode.size ≤ s'.bytecode.size
  pref : ∀ i, i < k → s'.bytecode[i]? = s.bytecode[i]?
  trace : ∃ t, s'.trace = s.trace ++ t ∧ ∀ p ∈ t, s.bytecode.size ≤ p.1 ∧ p.1 < s'.bytecode.size

theorem Ext.refl (k : Nat) (s : CState) : Ext k s s :=
  ⟨Nat.le_refl _, fun _ _ => rfl, [], by simp, by simp⟩

theorem Ext.of_eq {k : Nat} {s s' : CState} (hb : s'.bytecode = s.bytecode) (ht : s'.trace = s.trace) :
    Ext k s s' :=
  ⟨by rw [hb]; exact Nat.le_refl _, fun _ _ => by rw [hb], [], by simp [ht], by simp⟩

theorem Ext.trans {k : Nat} {s s1 s2 : CState} (h1 : Ext k s s1) (h2 : Ext k s1 s2) : Ext k s s2 := by
  obtain ⟨a1, b1, t1, c1, d1⟩ := h1
  obtain ⟨a2, b2, t2, c2, d2⟩ := h2
  refine ⟨Nat.le_trans a1 a2, fun i hi => by rw [b2 i hi, b1 i hi], t1 ++ t2, by rw [c2, c1, List.append_assoc], ?_⟩
  intro p hp
  rcases List.mem_append.1 hp with hp | hp
  · have := d1 p hp; omega
  · have := d2 p hp; omega

theorem Ext.weaken {k k' : Nat} {s s' : CState} (h : Ext k s s') (hk : k' ≤ k) : Ext k' s s' :=
  ⟨h.size_le, fun i hi => h.pref i (by omega), h.trace⟩

theorem Ext.append {k : Nat} {s s' : CState} {bs : Array UInt8} (hk : k ≤ s.bytecode.size)
    (hb : s'.bytecode = s.bytecode ++ bs) (ht : s'.trace = s.trace) : Ext k s s' := by
  refine ⟨by rw [hb]; simp, fun i hi => ?_, [], by simp [ht], by simp⟩
  rw [hb, Array.getElem?_append_left (by omega)]

instance : UnitPrims Ext where
  refl := Ext.refl
  trans := Ext.trans
  weaken hk h := h.weaken hk
  emit _ hk := Ext.append hk rfl rfl
  instr o t hk := ⟨by simp, fun i hi => by
    show (_ : Array UInt8)[i]? = _
    rw [Array.push_eq_append, Array.getElem?_append_left (by omega)], [_], rfl, by simp⟩
  patch at_ bs h _ := ⟨Nat.le_of_eq (patched_size ..).symm,
    fun i hi => patched_getElem? _ _ _ (.inl (Nat.lt_of_lt_of_le hi h)), [], (List.append_nil _).symm,
    fun _ hp => nomatch hp⟩
  label _ := Ext.of_eq rfl rfl
  data _ := Ext.of_eq rfl rfl
  varId _ := Ext.of_eq rfl rfl
  varName _ := Ext.of_eq rfl rfl
  book _ _ _ _ _ := Ext.of_eq rfl rfl
  enter _ _ _ := Ext.of_eq rfl rfl
  pos _ _ := Ext.of_eq rfl rfl
  jump _ := Ext.of_eq rfl rfl

instance : Raises AnyErr := ⟨fun _ _ => trivial, trivial, trivial⟩

structure MonoV {α : Type} (k : Nat) (Q : α → Prop) (m : CM α) : Prop where
  run : ∀ s a s', m s = .ok (a, s') → k ≤ s.bytecode.size → Ext k s s' ∧ Q a

abbrev Mono {α : Type} (k : Nat) (m : CM α) : Prop := MonoV k (fun _ => True) m

theorem MonoV.runs {α : Type} {k : Nat} {Q : α → Prop} {m : CM α} (h : MonoV k Q m) :
    Runs Ext AnyErr k Q m :=
  ⟨fun s a s' hr hk => ⟨⟨Nat.le_trans hk (h.run s a s' hr hk).1.size_le, (h.run s a s' hr hk).1⟩,
    (h.run s a s' hr hk).2⟩, fun _ _ _ _ => trivial⟩

theorem Runs.monoV {α : Type} {k : Nat} {Q : α → Prop} {m : CM α}
    (h : Runs Ext AnyErr k Q m) : MonoV k Q m :=
  ⟨fun s a s' hr hk => ⟨(h.ok s a s' hr hk).1.2, (h.ok s a s' hr hk).2⟩⟩

theorem mono_weaken {α : Type} {k : Nat} {Q Q' : α → Prop} {m : CM α}
    (hm : MonoV k Q m) (h : ∀ a, Q a → Q' a) : MonoV k Q' m :=
  (runs_weaken hm.runs h).monoV

theorem mono_throw {α : Type} {k : Nat} {Q : α → Prop} {e : CErr} : MonoV k Q (throw e : CM α) :=
  (runs_throw trivial).monoV

theorem pushInstr_mono {k : Nat} (o : UInt8) : Mono k (pushInstr o) := (pushInstr_runs o).monoV
theorem patchI32_mono {k at_ : Nat} (v : Nat) (h : k ≤ at_) : Mono k (patchI32 at_ v) := (patchI32_runs v h).monoV
theorem scopeBegin_mono {k : Nat} : Mono k scopeBegin := scopeBegin_runs.monoV
theorem scopeEnd_mono {k : Nat} : Mono k scopeEnd := scopeEnd_runs.monoV
theorem addLocals_mono {k : Nat} (ps : List String) : Mono k (addLocals ps) := (addLocals_runs ps).monoV
theorem processCard_mono {k : Nat} (c : Card) : Mono k (processCard c) := (processCard_runs c).monoV
theorem processArrayItems_mono {k : Nat} (tv i : Nat) (cs : List Card) :
    Mono k (processArrayItems tv i cs) := (processArrayItems_runs tv i cs).monoV
theorem compileSubexprFrom_mono {k : Nat} (i : Nat) (cs : List Card) :
    Mono k (compileSubexprFrom i cs) := (compileSubexprFrom_runs i cs).monoV
theorem compileSubexpr_mono {k : Nat} (cs : List Card) : Mono k (compileSubexpr cs) :=
  compileSubexprFrom_mono 0 cs
theorem compileFunction_mono {k : Nat} (f : FunctionIr) : Mono k (compileFunction f) :=
  (compileFunction_runs f).monoV
theorem compileFunctions_mono {k : Nat} (fs : List FunctionIr) : Mono k (compileFunctions fs) :=
  (compileFunctions_runs fs).monoV
theorem compileUnit_mono {k : Nat} (unit : Array FunctionIr) : Mono k (compileUnit unit) :=
  (compileUnit_runs unit).monoV

/-! ## (c) balance of the bookkeeping

`shape s` (`Lemmas/CodeLogic.lean`) collects the bookkeeping fields; `Hs p q m` says that `m` takes a state
of shape `p` (with at least one `locals` context) to a state of shape `q`. -/

structure Hs {α : Type} (p q : Shape) (m : CM α) : Prop where
  run : ∀ s a s', m s = .ok (a, s') → shape s = p → p.nLocals ≠ 0 → shape s' = q

theorem hs_bind {α β : Type} {p q r : Shape} {m : CM α} {f : α → CM β}
    (hm : Hs p q m) (hq : p.nLocals ≠ 0 → q.nLocals ≠ 0) (hf : ∀ a, Hs q r (f a)) : Hs p r (m >>= f) := by
  constructor
  intro s b s'' h hp hn
  obtain ⟨a, s', h1, h2⟩ := bind_ok.1 h
  exact (hf a).run s' b s'' h2 (hm.run s a s' h1 hp hn) (hq hn)

theorem hs_pure {α : Type} {p : Shape} {a : α} : Hs p p (pure a : CM α) := by
  constructor
  intro s b s' hr hp _
  simp only [pure_run, Except.ok.injEq, Prod.mk.injEq] at hr
  obtain ⟨_, rfl⟩ := hr
  exact hp

theorem hs_get {p : Shape} : Hs p p (get : CM CState) := by
  constructor
  intro s b s' hr hp _
  simp only [get_run, Except.ok.injEq, Prod.mk.injEq] at hr
  obtain ⟨_, rfl⟩ := hr
  exact hp

theorem hs_ok {α : Type} {p q : Shape} {m : CM α} {a : CState → α} {f : CState → CState}
    (hm : ∀ s, m s = .ok (a s, f s)) (h : ∀ s, shape s = p → p.nLocals ≠ 0 → shape (f s) = q) : Hs p q m :=
  ⟨fun s b s' hr hp hn => by rw [hm] at hr; cases hr; exact h s hp hn⟩

theorem hs_modify {p q : Shape} {f : CState → CState}
    (h : ∀ s, shape s = p → p.nLocals ≠ 0 → shape (f s) = q) : Hs p q (modify f : CM Unit) :=
  hs_ok (fun _ => rfl) h

theorem hs_modify_same {p : Shape} {f : CState → CState}
    (h : ∀ s, s.locals.length ≠ 0 → shape (f s) = shape s) : Hs p p (modify f : CM Unit) :=
  hs_modify fun s hp hn => by rw [h s (by rw [← hp] at hn; exact hn), hp]

theorem hs_throw {α : Type} {p q : Shape} {e : CErr} : Hs p q (throw e : CM α) := by
  constructor; intro s b s' hr _; simp at hr

theorem hs_throw_bind {α β : Type} {p q : Shape} {e : CErr} {f : α → CM β} :
    Hs p q ((throw e : CM α) >>= f) := by
  constructor; intro s b s' hr _
  obtain ⟨a, s1, h1, _⟩ := bind_ok.1 hr
  simp at h1

theorem hs_fail_bind {α β : Type} {p q : Shape} {e : CErrKind} {f : α → CM β} :
    Hs p q ((fail e : CM α) >>= f) := by
  constructor; intro s b s' hr _
  obtain ⟨a, s1, h1, _⟩ := bind_ok.1 hr
  simp at h1

/-- (the `else` branch comes first so that it determines an unknown `q`) -/
theorem hs_ite {α : Type} {p q : Shape} {c : Prop} [Decidable c] {x y : CM α}
    (hy : Hs p q y) (hx : Hs p q x) : Hs p q (if c then x else y) := by
  split <;> assumption

/-- extensible: closes a goal `Hs p ?q m` for a known action `m` -/
syntax "hs_prim" : tactic
macro_rules | `(tactic| hs_prim) => `(tactic| with_reducible exact (by assumption : ∀ p, Hs p p _) _)

macro "hs_step" : tactic => `(tactic| first
  | exact id
  | intro _
  | with_reducible apply hs_ite
  | with_reducible exact hs_throw_bind
  | with_reducible exact hs_fail_bind
  | with_reducible apply hs_bind
  | with_reducible exact hs_pure
  | with_reducible exact hs_get
  | with_reducible assumption
  | hs_prim
  | with_reducible exact hs_modify_same (fun _ _ => rfl)
  | dsimp only
  | split)
macro "hs" : tactic => `(tactic| repeat' hs_step)

theorem emitBytes_hs {p : Shape} (bs : List UInt8) : Hs p p (emitBytes bs) :=
  hs_ok (emitBytes_run bs) fun _ hp _ => hp
macro_rules | `(tactic| hs_prim) => `(tactic| with_reducible exact emitBytes_hs _)
theorem emitU32_hs {p : Shape} (x : Nat) : Hs p p (emitU32 x) := emitBytes_hs _
macro_rules | `(tactic| hs_prim) => `(tactic| with_reducible exact emitU32_hs _)

theorem pushInstr_hs {p : Shape} (o : UInt8) : Hs p p (pushInstr o) := hs_ok (pushInstr_run o) fun _ hp _ => hp
macro_rules | `(tactic| hs_prim) => `(tactic| with_reducible exact pushInstr_hs _)

theorem insertLabel_hs {p : Shape} (h : UInt32) (pos : Nat) : Hs p p (insertLabel h pos) := by
  unfold insertLabel; hs
macro_rules | `(tactic| hs_prim) => `(tactic| with_reducible exact insertLabel_hs _ _)

theorem patchI32_hs {p : Shape} (a v : Nat) : Hs p p (patchI32 a v) := by rw [patchI32_eq]; hs

/-! ### the bracketing primitives -/

theorem pushSub_hs {p : Shape} (i : Nat) : Hs p (p.push i) (pushSub i) := by
  unfold pushSub
  exact hs_modify fun s hp _ => by rw [← hp]; rfl

theorem popSub_hs {p : Shape} : Hs p p.pop popSub := by
  unfold popSub
  exact hs_modify fun s hp _ => by rw [← hp]; rfl

theorem scopeBegin_hs {p : Shape} : Hs p p.up scopeBegin := by
  unfold scopeBegin
  exact hs_modify fun s hp _ => by rw [← hp]; rfl

theorem scopeEnd_hs {p : Shape} : Hs p.up p scopeEnd := by
  unfold scopeEnd
  apply hs_bind (q := p)
  · refine hs_modify fun s hp _ => ?_
    cases p
    simp only [shape, Shape.mk.injEq] at hp ⊢
    obtain ⟨h1, h2, h3, h4, h5⟩ := hp
    refine ⟨h1, h2, ?_, h4, h5⟩
    rw [h3]; exact depthDown_depthUp _
  · exact id
  · intro _; hs
    exact hs_modify_same fun s _ => by simp [shape]

/-- the shape inside a closure body (`compile_begin`) -/
def Shape.enter (p : Shape) : Shape :=
  { curIndices := p.curIndices, functionId := p.functionId + 1, scopeDepth := p.scopeDepth ++ [0],
    nLocals := p.nLocals + 1, nUpvalues := p.nUpvalues + 1 }

theorem compileBegin_hs {p : Shape} : Hs p p.enter compileBegin := by
  unfold compileBegin
  exact hs_modify fun s hp _ => by rw [← hp]; simp [shape, Shape.enter]

theorem compileEnd_hs {p : Shape} : Hs p.enter p compileEnd := by
  unfold compileEnd
  refine hs_modify fun s hp _ => ?_
  cases p
  simp only [shape, Shape.enter, Shape.mk.injEq] at hp ⊢
  obtain ⟨h1, h2, h3, h4, h5⟩ := hp
  refine ⟨h1, by omega, by simp [h3], by simp [h4], by simp [h5]⟩

/-! ### balanced primitives -/

theorem addLocalUnchecked_hs {p : Shape} (n : String) : Hs p p (addLocalUnchecked n) := by
  unfold addLocalUnchecked; hs
  exact hs_modify_same fun s h => by simp [shape]; omega
macro_rules | `(tactic| hs_prim) => `(tactic| with_reducible exact addLocalUnchecked_hs _)

theorem Reads.hs {α : Type} {g : CState → Except CErrKind α} {m : CM α} {p : Shape} (h : Reads g m) : Hs p p m :=
  ⟨fun s a s' hr hp _ => by obtain ⟨_, rfl⟩ := h.ok hr; exact hp⟩

theorem validateVarName_hs {p : Shape} (n : String) : Hs p p (validateVarName n) := (validateVarName_reads n).hs
macro_rules | `(tactic| hs_prim) => `(tactic| with_reducible exact validateVarName_hs _)

theorem addLocal_hs {p : Shape} (n : String) : Hs p p (addLocal n) := by unfold addLocal; hs
macro_rules | `(tactic| hs_prim) => `(tactic| with_reducible exact addLocal_hs _)

theorem resolveVar_hs {p : Shape} (n : String) : Hs p p (resolveVar n) :=
  ⟨fun s a s' hr hp _ => by
    have c := (resolveVar_ok hr).1
    obtain ⟨L, U, rfl⟩ := c.rest
    have e1 : L.length = s.locals.length := c.nLocals
    have e2 : U.length = s.upvalues.length := c.nUpvalues
    rw [← hp]
    simp only [shape, e1, e2]⟩
macro_rules | `(tactic| hs_prim) => `(tactic| with_reducible exact resolveVar_hs _)

theorem readLocalVar_hs {p : Shape} (i : Nat) : Hs p p (readLocalVar i) := by unfold readLocalVar; hs
theorem writeLocalVar_hs {p : Shape} (i : Nat) : Hs p p (writeLocalVar i) := by unfold writeLocalVar; hs
theorem readUpvalue_hs {p : Shape} (i : Nat) : Hs p p (readUpvalue i) := by unfold readUpvalue; hs
theorem writeUpvalue_hs {p : Shape} (i : Nat) : Hs p p (writeUpvalue i) := by unfold writeUpvalue; hs
macro_rules | `(tactic| hs_prim) => `(tactic| with_reducible exact readLocalVar_hs _)
macro_rules | `(tactic| hs_prim) => `(tactic| with_reducible exact writeLocalVar_hs _)
macro_rules | `(tactic| hs_prim) => `(tactic| with_reducible exact readUpvalue_hs _)
macro_rules | `(tactic| hs_prim) => `(tactic| with_reducible exact writeUpvalue_hs _)

theorem pushStr_hs {p : Shape} (x : String) : Hs p p (pushStr x) := hs_ok (pushStr_run x) fun _ hp _ => hp
macro_rules | `(tactic| hs_prim) => `(tactic| with_reducible exact pushStr_hs _)

theorem globalId_hs {p : Shape} (x : String) : Hs p p (globalId x) :=
  ⟨fun s a s' hr hp _ => by
    rcases globalId_cases x s with ⟨_, h⟩ | ⟨_, id, s1, s2, h, h1, h2⟩ <;> rw [h] at hr <;> cases hr
    rcases h1 with ⟨_, _, _, rfl⟩ | ⟨_, _, rfl⟩ <;> rcases h2 with ⟨_, rfl⟩ | ⟨_, rfl⟩ <;> exact hp⟩
macro_rules | `(tactic| hs_prim) => `(tactic| with_reducible exact globalId_hs _)

theorem readProps_hs : ∀ (ps : List String) (p : Shape), Hs p p (readProps ps)
  | [], p => by unfold readProps; hs
  | x :: ps, p => by
    have ih := readProps_hs ps
    unfold readProps; hs
macro_rules | `(tactic| hs_prim) => `(tactic| with_reducible exact readProps_hs _ _)

theorem readVarCard_hs {p : Shape} (x : String) : Hs p p (readVarCard x) := by unfold readVarCard; hs
macro_rules | `(tactic| hs_prim) => `(tactic| with_reducible exact readVarCard_hs _)

theorem resolveFunction_hs {p : Shape} (x : String) : Hs p p (resolveFunction x) := (resolveFunction_reads x).hs
macro_rules | `(tactic| hs_prim) => `(tactic| with_reducible exact resolveFunction_hs _)

theorem encodeJump_hs {p : Shape} (x : String) : Hs p p (encodeJump x) := by unfold encodeJump; hs

/-! ### the arms taken whole, and the logic -/

def Bal {α : Type} (m : CM α) : Prop := ∀ p, Hs p p m

theorem cardLabel_hs {p : Shape} : Hs p p cardLabel := by unfold cardLabel; hs

theorem hs_seq {β : Type} {p q r : Shape} {m : CM Unit} {n : CM β} (hm : Hs p q m) (hn : Hs q r n)
    (hq : p.nLocals ≠ 0 → q.nLocals ≠ 0 := by exact id) : Hs p r (m >>= fun _ => n) :=
  hs_bind hm hq fun _ => hn

theorem hs_get_bind {β : Type} {p q : Shape} {f : CState → CM β} (hf : ∀ st, Hs p q (f st)) :
    Hs p q (get >>= f) := hs_bind hs_get id hf

theorem popSub_hs' {p : Shape} {i : Nat} : Hs (p.push i) p popSub := by
  have h := popSub_hs (p := p.push i)
  rwa [Shape.pop_push] at h

theorem withSub_hs {p : Shape} {i : Nat} {m : CM Unit} (hm : ∀ p, Hs p p m) : Hs p p (withSub i m) :=
  hs_seq (pushSub_hs i) (hs_seq (hm _) popSub_hs')

theorem encodeIfThen_hs {p : Shape} {skip : UInt8} {m : CM Unit} (hm : Hs p p m) :
    Hs p p (encodeIfThen skip m) :=
  hs_seq (pushInstr_hs _) <| hs_get_bind fun _ => hs_seq (emitU32_hs _) <| hs_seq hm <|
  hs_get_bind fun _ => patchI32_hs _ _

theorem addLocals_hs : ∀ (ps : List String) (p : Shape), Hs p p (addLocals ps)
  | [], _ => hs_pure
  | x :: ps, p => hs_bind (addLocal_hs x) id fun _ => addLocals_hs ps p

theorem emitUpvalues_hs : ∀ (ups : List (Bool × UInt8)) (p : Shape), Hs p p (emitUpvalues ups)
  | [], _ => hs_pure
  | (_, _) :: rest, p => hs_seq (pushInstr_hs _) <| hs_seq (pushInstr_hs _) <| hs_seq (emitBytes_hs _)
      (emitUpvalues_hs rest p)

theorem setVarTarget_hs {p : Shape} (n : String) : Hs p p (setVarTarget n) := by
  rw [setVarTarget_eq]; hs

theorem ifElseCode_hs {p : Shape} {c t e : CM Unit}
    (h1 : ∀ p, Hs p p c) (h2 : ∀ p, Hs p p t) (h3 : ∀ p, Hs p p e) : Hs p p (ifElseCode c t e) := by
  rw [ifElseCode_flat]
  exact hs_seq (withSub_hs h1) <| hs_seq (pushSub_hs 1) <| hs_seq (pushInstr_hs _) <| hs_get_bind fun _ =>
    hs_seq (emitU32_hs _) <| hs_seq (h2 _) <| hs_seq (pushInstr_hs _) <| hs_get_bind fun _ =>
    hs_seq (emitU32_hs _) <| hs_get_bind fun _ => hs_seq (patchI32_hs _ _) <| hs_seq popSub_hs' <|
    hs_seq (withSub_hs h3) <| hs_get_bind fun _ => patchI32_hs _ _

theorem closureCode_hs {p : Shape} {args : List String} {b : CM Unit} (h : ∀ p, Hs p p b) :
    Hs p p (closureCode args b) :=
  hs_seq (pushInstr_hs _) <| hs_get_bind fun _ => hs_seq (emitU32_hs _) <|
  hs_seq compileBegin_hs (hq := fun _ => Nat.succ_ne_zero _) <| hs_get_bind fun _ =>
  hs_seq (insertLabel_hs _ _) <| hs_seq scopeBegin_hs <| hs_seq (addLocals_hs _ _) <| hs_seq (h _) <|
  hs_seq scopeEnd_hs <| hs_seq (pushInstr_hs _) <| hs_seq (pushInstr_hs _) <| hs_get_bind fun _ =>
  hs_seq (patchI32_hs _ _) <| hs_seq (pushInstr_hs _) <| hs_seq (emitBytes_hs _) <| hs_seq (emitU32_hs _) <|
  hs_get_bind fun _ => hs_seq (emitUpvalues_hs _ _) compileEnd_hs

/-- `Hs` with a condition on the result; the side condition of `Hs.run` is established again at the end, so
that two such triples compose -/
def HsT {α : Type} (p q : Shape) (Q : α → Prop) (m : CM α) : Prop :=
  ∀ s a s', m s = .ok (a, s') → shape s = p → p.nLocals ≠ 0 → shape s' = q ∧ q.nLocals ≠ 0 ∧ Q a

theorem HsT.hs {α : Type} {p q : Shape} {Q : α → Prop} {m : CM α} (h : HsT p q Q m) : Hs p q m :=
  ⟨fun s a s' hr hp hn => (h s a s' hr hp hn).1⟩

theorem HsT.of {α : Type} {p q : Shape} {m : CM α} (h : Hs p q m)
    (hn : p.nLocals ≠ 0 → q.nLocals ≠ 0 := by exact id) : HsT p q (fun _ => True) m :=
  fun s a s' hr hp h0 => ⟨h.run s a s' hr hp h0, hn h0, trivial⟩

theorem HsT.val {α : Type} {p : Shape} {Q : α → Prop} {m : CM α} (h : Hs p p m)
    (hv : ∀ s a s', m s = .ok (a, s') → Q a) : HsT p p Q m :=
  fun s a s' hr hp h0 => ⟨h.run s a s' hr hp h0, h0, hv s a s' hr⟩

theorem hsLogic : CodeLogic (fun _ => True) fun p q _ _ Q m => HsT p q Q m where
  A_path _ _ := trivial
  A_up _ := trivial
  pure q := fun s a s' hr hp hn => by cases hr; exact ⟨hp, hn, q⟩
  bind hm hf := fun s b s'' hr hp hn => by
    obtain ⟨a, s', h1, h2⟩ := bind_ok.1 hr
    obtain ⟨e, hq, qa⟩ := hm s a s' h1 hp hn
    exact hf a qa s' b s'' h2 e hq
  get_bind hf := fun s b s' hr hp hn => hf s s b s' hr hp hn
  pushSub i := .of (pushSub_hs i)
  popSub := .of popSub_hs
  scopeBegin := .of scopeBegin_hs
  scopeEnd := .of scopeEnd_hs
  cardLabel := .of cardLabel_hs
  addLocalUnchecked n _ := .val (addLocalUnchecked_hs n) fun _ _ _ => addLocalUnchecked_lt
  addLocal n _ := .val (addLocal_hs n) fun _ _ _ => addLocal_lt
  instr _ _ _ := .of (hs_seq (pushInstr_hs _) (emitBytes_hs _))
  readLocalVar _ := .of (readLocalVar_hs _)
  writeLocalVar _ := .of (writeLocalVar_hs _)
  jump _ _ := .of (hs_seq (pushInstr_hs _) (emitU32_hs _))
  str _ s := .of (hs_seq (pushInstr_hs _) (pushStr_hs s))
  fnp n := .of (hs_seq (pushInstr_hs _) (encodeJump_hs n))
  each _ _ _ _ _ _ := .of (hs_seq (pushInstr_hs _) (emitBytes_hs _))
  setGlobalTail n := .of (by unfold setGlobalTail; hs)
  readVarCard x := .of (readVarCard_hs x)
  setVarTarget x _ := .of (setVarTarget_hs x)
  encodeIfThen _ h := .of (encodeIfThen_hs (h _ (Nat.le_refl _)).hs)
  ifElseCode _ h1 h2 h3 := .of (ifElseCode_hs (fun p => (h1 p 0 (fun _ => True) trivial).hs)
    (fun p => (h2 p 0 (fun _ => True) trivial).hs) fun p => (h3 p 0 (fun _ => True) trivial).hs)
  closureCode _ h := .of (closureCode_hs fun p => (h p 0 (fun _ => True) trivial).hs)

theorem processCard_hs {p : Shape} (c : Card) : Hs p p (processCard c) :=
  (hsLogic.processCard c p 0 (fun _ => True) trivial).hs

theorem compileSubexprFrom_hs {p : Shape} (i : Nat) (cs : List Card) : Hs p p (compileSubexprFrom i cs) :=
  (hsLogic.compileSubexprFrom i cs p 0 (fun _ => True) trivial).hs

theorem compileSubexpr_hs {p : Shape} (cs : List Card) : Hs p p (compileSubexpr cs) :=
  compileSubexprFrom_hs 0 cs

/-- for every table slot `tv` (`CodeLogic.processArrayItems` assumes that it fits a byte) -/
theorem processArrayItems_hs (tv : Nat) : ∀ (i : Nat) (cs : List Card) {p : Shape}, Hs p p (processArrayItems tv i cs)
  | _, [], _ => hs_pure
  | i, c :: cs, _ => hs_seq (pushInstr_hs _) <| hs_seq (withSub_hs fun _ => processCard_hs c) <|
      hs_seq (readLocalVar_hs _) <| hs_seq (pushInstr_hs _) (processArrayItems_hs tv (i + 1) cs)

/-! ## the statements, for all cards

`(m.run s = .ok (a, s'))` is definitionally `m s = .ok (a, s')`. -/

/-- what (a) and (b) say about a successful run from `s` to `s'` -/
structure Extends (s s' : CState) : Prop where
  /-- (a) the bytecode only grows … -/
  size_le : s.bytecode.size ≤ s'.bytecode.size
  /-- (a) … and the bytes that were there are unchanged (back-patching only touches placeholders
      emitted by the action itself) -/
  pref : ∀ i, i < s.bytecode.size → s'.bytecode[i]? = s.bytecode[i]?
  /-- (b) the trace log is extended by entries keyed by positions of the new bytes -/
  trace : ∃ t, s'.trace = s.trace ++ t ∧ ∀ p ∈ t, s.bytecode.size ≤ p.1 ∧ p.1 < s'.bytecode.size

theorem extends_iff {s s' : CState} : Extends s s' ↔ Ext s.bytecode.size s s' :=
  ⟨fun h => ⟨h.size_le, h.pref, h.trace⟩, fun e => ⟨e.size_le, e.pref, e.trace⟩⟩

theorem Mono.extends {α : Type} {m : CM α} (hm : ∀ k, Mono k m) {s s' : CState} {a : α}
    (h : m.run s = .ok (a, s')) : Extends s s' :=
  extends_iff.2 ((hm s.bytecode.size).run s a s' h (Nat.le_refl _)).1

/-- the balance statement (c) about a successful run from `s` to `s'` -/
structure Balanced (s s' : CState) : Prop where
  curIndices : s'.curIndices = s.curIndices
  functionId : s'.functionId = s.functionId
  scopeDepth : s'.scopeDepth = s.scopeDepth
  locals : s'.locals.length = s.locals.length
  upvalues : s'.upvalues.length = s.upvalues.length

theorem Hs.balanced {α : Type} {m : CM α} (hm : ∀ p, Hs p p m) {s s' : CState} {a : α}
    (h : m.run s = .ok (a, s')) (hl : s.locals ≠ []) : Balanced s s' := by
  have e := (hm (shape s)).run s a s' h rfl (by simpa [shape] using hl)
  simp only [shape, Shape.mk.injEq] at e
  exact ⟨e.1, e.2.1, e.2.2.1, e.2.2.2.1, e.2.2.2.2⟩

/-- (a)+(b) for `processCard` -/
theorem processCard_extends {c : Card} {s s' : CState} (h : (processCard c).run s = .ok ((), s')) :
    Extends s s' := Mono.extends (fun _ => processCard_mono c) h

/-- (a)+(b) for `compileSubexpr` (the list version) -/
theorem compileSubexpr_extends {cs : List Card} {s s' : CState}
    (h : (compileSubexpr cs).run s = .ok ((), s')) : Extends s s' :=
  Mono.extends (fun _ => compileSubexpr_mono cs) h

theorem compileSubexprFrom_extends {i : Nat} {cs : List Card} {s s' : CState}
    (h : (compileSubexprFrom i cs).run s = .ok ((), s')) : Extends s s' :=
  Mono.extends (fun _ => compileSubexprFrom_mono i cs) h

theorem processArrayItems_extends {tv i : Nat} {cs : List Card} {s s' : CState}
    (h : (processArrayItems tv i cs).run s = .ok ((), s')) : Extends s s' :=
  Mono.extends (fun _ => processArrayItems_mono tv i cs) h

/-- (a) the size half (back-patching keeps the length) -/
theorem processCard_bytecode_size_le {c : Card} {s s' : CState}
    (h : (processCard c).run s = .ok ((), s')) : s.bytecode.size ≤ s'.bytecode.size :=
  (processCard_extends h).size_le

/-- (a) prefix property -/
theorem processCard_bytecode_prefix {c : Card} {s s' : CState}
    (h : (processCard c).run s = .ok ((), s')) (i : Nat) (hi : i < s.bytecode.size) :
    s'.bytecode[i]? = s.bytecode[i]? :=
  (processCard_extends h).pref i hi

/-- (b) every trace entry of the result is an old one or is keyed by a position in the new part of
    the bytecode (an old key need not be `< s'.bytecode.size`) -/
theorem processCard_trace_keys {c : Card} {s s' : CState}
    (h : (processCard c).run s = .ok ((), s')) (p : Nat × Trace) (hp : p ∈ s'.trace) :
    p ∈ s.trace ∨ (s.bytecode.size ≤ p.1 ∧ p.1 < s'.bytecode.size) := by
  obtain ⟨t, ht, hk⟩ := (processCard_extends h).trace
  rw [ht] at hp
  rcases List.mem_append.1 hp with hp | hp
  · exact .inl hp
  · exact .inr (hk p hp)

/-- (c) for `processCard` -/
theorem processCard_balanced {c : Card} {s s' : CState}
    (h : (processCard c).run s = .ok ((), s')) (hl : s.locals ≠ []) : Balanced s s' :=
  Hs.balanced (fun _ => processCard_hs c) h hl

/-- (c) for `compileSubexpr` -/
theorem compileSubexpr_balanced {cs : List Card} {s s' : CState}
    (h : (compileSubexpr cs).run s = .ok ((), s')) (hl : s.locals ≠ []) : Balanced s s' :=
  Hs.balanced (fun _ => compileSubexpr_hs cs) h hl

theorem compileSubexprFrom_balanced {i : Nat} {cs : List Card} {s s' : CState}
    (h : (compileSubexprFrom i cs).run s = .ok ((), s')) (hl : s.locals ≠ []) : Balanced s s' :=
  Hs.balanced (fun _ => compileSubexprFrom_hs i cs) h hl

theorem processArrayItems_balanced {tv i : Nat} {cs : List Card} {s s' : CState}
    (h : (processArrayItems tv i cs).run s = .ok ((), s')) (hl : s.locals ≠ []) : Balanced s s' :=
  Hs.balanced (fun _ => processArrayItems_hs tv i cs) h hl

/-! ### the hypothesis `s.locals ≠ []` of (c) is needed

`addLocalUnchecked` rebuilds the list of contexts as `locals.dropLast ++ [last ++ [l]]`, so from a
state without any `locals` context it *creates* one: the unconditional balance statement is false.
(The initial state and every state reached by `compileUnit` have at least one context.) -/

def nLocalsAfter (m : CM Unit) (s : CState) : Nat :=
  match m.run s with
  | .ok (_, s') => s'.locals.length
  | .error _ => 0

theorem nLocalsAfter_array_nil : nLocalsAfter (processCard (.array [])) { locals := [] } = 1 := by decide

/-- counterexample to (c) without the hypothesis on `locals` -/
theorem processCard_not_balanced_without_locals :
    ∃ (c : Card) (s s' : CState), (processCard c).run s = .ok ((), s') ∧
      s'.locals.length ≠ s.locals.length := by
  have h1 := nLocalsAfter_array_nil
  unfold nLocalsAfter at h1
  cases h : (processCard (.array [])).run { locals := [] } with
  | error e => rw [h] at h1; cases h1
  | ok r =>
    obtain ⟨⟨⟩, s'⟩ := r
    rw [h] at h1
    exact ⟨_, _, s', h, by simp only at h1; rw [h1]; decide⟩

/-! ## the statements, for the whole compilation unit -/

theorem compileUnit_extends {unit : Array FunctionIr} {s s' : CState}
    (h : (compileUnit unit).run s = .ok ((), s')) : Extends s s' :=
  Mono.extends (fun _ => compileUnit_mono unit) h

theorem compileUnit_trace_keys {unit : Array FunctionIr} {s' : CState}
    (h : (compileUnit unit).run {} = .ok ((), s')) (p : Nat × Trace) (hp : p ∈ s'.trace) :
    p.1 < s'.bytecode.size := by
  obtain ⟨t, ht, hk⟩ := (compileUnit_extends h).trace
  rw [ht] at hp
  simp only [List.nil_append] at hp
  exact (hk p hp).2

/-- the trace table of a compiled program only has keys inside the bytecode -/
theorem compile_trace_keys {m std : Module} {limit : Nat} {prog : Program}
    (h : compile m std limit = .ok prog) (p : Nat × Trace) (hp : p ∈ prog.trace) :
    p.1 < prog.bytecode.size := by
  obtain ⟨unit, s, hC, rfl⟩ := compile_run h
  exact compileUnit_trace_keys hC.run p (resolveLog_subset _ p hp)

end Cao.Compiler
