import CaoProofs.Props.C02b
import CaoProofs.Props.C17
import CaoProofs.Lemmas.EquivarianceRun
import CaoProofs.Lemmas.RunInv
/-!
# C17 (continued) — a cleared VM behaves like a fresh one

`Props/C17.lean` shows that `clear s` equals a freshly constructed machine in every observable
component except `heap.next` (the address counter), the stale slots of the value stack, the host
log, the forced-collection schedule and ghost counters. Here the *runs* are compared:

1. `Lemmas/EquivarianceRun.lean` (`run_shiftA`): the interpreter is equivariant under adding a constant
   `δ` to every address — so a fresh machine and the fresh machine whose address counter starts at
   `s.heap.next` behave alike, all deep values (`ownD`) and everything printed being equal;
2. the relation of `Lemmas/SchedRel.lean` with `full := False`, `pre := s.hostLog` holds between
   `clear s` and that shifted fresh machine (they differ in stale stack slots, host log, schedule,
   ghost counters), and `runC_sim'` carries it through a run.

`clear_behaves_like_fresh` is for safe runs (`C02b.SafeRun`: no stale stack slot is touched — the
schedules of the two machines differ, so this is needed exactly as for C02); without the side
condition the statement at the end of `Props/C17.lean` is false (`clear_behaves_like_fresh_Full_false`).
-/
namespace Cao.C17b
open Cao Cao.Vm Cao.Gc Cao.C02 Cao.C05 Cao.RunInv Cao.SchedFull Cao.C02b

/-- the fresh machine whose address counter starts where the cleared machine's does -/
def freshAt (s : VmState) : VmState := shiftS (s.heap.next - 1) (VmState.fresh (C17.configOf s))

theorem freshAt_eq (s : VmState) (h : 1 ≤ s.heap.next) :
    freshAt s = { VmState.fresh (C17.configOf s) with heap := { objs := [], next := s.heap.next } } := by
  unfold freshAt
  rw [shiftS_fresh]
  have : 1 + (s.heap.next - 1) = s.heap.next := by omega
  rw [this]

/-- cleared machine / shifted fresh machine: stale slots, host log, schedule and counters differ -/
abbrev cfg17 (s : VmState) : Cfg := ⟨False, s.hostLog⟩

theorem freshAt_inv (s : VmState) (h : 1 ≤ s.heap.next) : C05.Inv (freshAt s) := by
  rw [freshAt_eq s h]
  exact ⟨rfl, Nat.zero_le _, List.nodup_nil, fun _ hp => (by cases hp), Nat.le_refl _⟩

/-- **the cleared machine and the (address-shifted) fresh machine are related**, up to the budget
    counters that `run` overwrites -/
theorem clear_rel_fresh (s : VmState) (hi : C05.Inv s) (h : 1 ≤ s.heap.next) :
    Rel (cfg17 s) { clear s with remaining := 0, dispatches := 0 }
      { freshAt s with remaining := 0, dispatches := 0 } := by
  have hinvR := freshAt_inv s h
  rw [freshAt_eq s h] at hinvR ⊢
  refine ⟨fun _ => False, ?_⟩
  exact
    { stack := ⟨⟨rfl, by simp [clear, VStack.clear, VmState.fresh, VStack.new, C17.configOf],
                 fun i hi => absurd hi (Nat.not_lt_zero i)⟩, fun hf => hf.elim⟩
      globals := rfl, frames := rfl, openUpvalues := rfl, guards := rfl, next := rfl, limit := rfl
      remaining := rfl, dispatches := rfl
      hostLog := by show s.hostLog = s.hostLog ++ []; rw [List.append_nil]
      frameCap := rfl
      uniqL := List.nodup_nil, uniqR := List.nodup_nil
      freshL := fun _ hp => (by cases hp), freshR := fun _ hp => (by cases hp)
      rootsK := by
        intro a ha
        rcases (Gc.mem_rootAddrs _ a).mp ha with h1 | h1 | h1 | h1 | h1
        · rw [show ({ clear s with remaining := 0, dispatches := 0 } : VmState).stack.contents = []
            from C17.clear_contents s] at h1
          cases h1
        · cases h1
        · cases h1
        · cases h1
        · cases h1
      closed := fun _ _ _ hk => hk.elim
      agree := fun _ hk => hk.elim
      invL := inv_of_same (s := clear s) rfl rfl (clear_inv s hi)
      invR := inv_of_same (s := ({ VmState.fresh (C17.configOf s) with
                heap := { objs := [], next := s.heap.next } } : VmState)) rfl rfl hinvR }

theorem ownD_shift_list (δ : Nat) (h : Heap) (l : List Val) :
    (l.map (shiftV δ)).map (ownD (shiftHeap δ h)) = l.map (ownD h) := by
  rw [List.map_map]
  apply List.map_congr_left
  intro v _
  exact ownD_shiftA δ h v

/-- **A cleared VM behaves like a fresh one.** If the run from `clear s` and the run from the fresh
    machine with the address counter at `s.heap.next` touch no stale stack slot, then the run from
    `clear s` and the run from a *fresh* machine with the same configuration
    * end with the same outcome (error kind and position, or success),
    * leave the same deep values on the stack and in the global variables,
    * append the same lines to the host log. -/
theorem clear_behaves_like_fresh (p : Prog) (n : Nat) (s : VmState) (hi : C05.Inv s)
    (hnext : 1 ≤ s.heap.next) (hcap : 0 < s.frameCap)
    (h1 : SafeRun p n (clear s)) (h2 : SafeRun p n (freshAt s)) :
    let r₁ := run p n (clear s)
    let r₂ := run p n (VmState.fresh (C17.configOf s))
    r₁.2.map (fun e => (e.kind.name, e.at_)) = r₂.2.map (fun e => (e.kind.name, e.at_)) ∧
    r₁.1.stack.contents.map (ownD r₁.1.heap) = r₂.1.stack.contents.map (ownD r₂.1.heap) ∧
    r₁.1.globals.map (ownD r₁.1.heap) = r₂.1.globals.map (ownD r₂.1.heap) ∧
    r₁.1.hostLog = s.hostLog ++ r₂.1.hostLog := by
  have hroom : (clear s).frames.length < (clear s).frameCap := hcap
  obtain ⟨e, hr⟩ := runC_sim' (natSimHyp (cfg17 s)) p n (clear_rel_fresh s hi hnext) rfl hroom
  rw [h1, h2] at e hr
  have hsh := run_shiftA p n (s.heap.next - 1) (VmState.fresh (C17.configOf s))
  have hst := rel_ownD_stack hr
  have hgl := rel_ownD_globals hr
  obtain ⟨K, hA⟩ := hr
  have hlog := hA.hostLog
  unfold freshAt at e hst hgl hlog
  rw [hsh] at e hst hgl hlog
  dsimp only at e hst hgl hlog ⊢
  refine ⟨?_, ?_, ?_, ?_⟩
  · rw [← e, Option.map_map]
    rfl
  · rw [← hst, shiftS_stack_contents, shiftS_heap, ownD_shift_list]
  · rw [← hgl, shiftS_globals, shiftS_heap, ownD_shift_list]
  · exact hlog

/-- in particular the conclusion of `C17.clear_behaves_like_fresh_Full` -/
theorem clear_behaves_like_fresh_kind (p : Prog) (n : Nat) (s : VmState) (hi : C05.Inv s)
    (hnext : 1 ≤ s.heap.next) (hcap : 0 < s.frameCap)
    (h1 : SafeRun p n (clear s)) (h2 : SafeRun p n (freshAt s)) :
    ((run p n (clear s)).2.map (·.kind.name)) =
      ((run p n (VmState.fresh (C17.configOf s))).2.map (·.kind.name)) := by
  have := (clear_behaves_like_fresh p n s hi hnext hcap h1 h2).1
  have h3 := congrArg (Option.map Prod.fst) this
  rw [Option.map_map, Option.map_map] at h3
  exact h3

theorem reachable_next_pos {cf : Config} {s : VmState} (h : C05b.Reachable cf s) : 1 ≤ s.heap.next := by
  induction h with
  | fresh => exact Nat.le_refl _
  | run p n _ ih => exact Nat.le_trans ih (run_next_mono p n _)
  | clear _ ih => exact ih
  | sched _ _ _ ih => exact ih

theorem reachable_frameCap {cf : Config} {s : VmState} (h : C05b.Reachable cf s) :
    s.frameCap = cf.callStackSize := by
  induction h with
  | fresh => rfl
  | run p n _ ih => rw [C17.run_frameCap]; exact ih
  | clear _ ih => exact ih
  | sched _ _ _ ih => exact ih

/-- **for every machine the host can reach** (created, run, cleared, re-scheduled any number of
    times), configured with a non-empty call stack -/
theorem clear_behaves_like_fresh_reachable (p : Prog) (n : Nat) {cf : Config} {s : VmState}
    (h : C05b.Reachable cf s) (hcap : 0 < cf.callStackSize)
    (h1 : SafeRun p n (clear s)) (h2 : SafeRun p n (freshAt s)) :
    let r₁ := run p n (clear s)
    let r₂ := run p n (VmState.fresh (C17.configOf s))
    r₁.2.map (fun e => (e.kind.name, e.at_)) = r₂.2.map (fun e => (e.kind.name, e.at_)) ∧
    r₁.1.stack.contents.map (ownD r₁.1.heap) = r₂.1.stack.contents.map (ownD r₂.1.heap) ∧
    r₁.1.globals.map (ownD r₁.1.heap) = r₂.1.globals.map (ownD r₂.1.heap) ∧
    r₁.1.hostLog = s.hostLog ++ r₂.1.hostLog :=
  clear_behaves_like_fresh p n s (C05b.reachable_inv h).1 (reachable_next_pos h)
    (by rw [reachable_frameCap h]; exact hcap) h1 h2

/-- the checked interpreter needs no side condition -/
theorem clear_behaves_like_fresh_checked (p : Prog) (n : Nat) (s : VmState) (hi : C05.Inv s)
    (hnext : 1 ≤ s.heap.next) (hcap : 0 < s.frameCap) :
    (runC p n (freshAt s)).2 = (runC p n (clear s)).2 ∧
    Rel (cfg17 s) (runC p n (clear s)).1 (runC p n (freshAt s)).1 :=
  runC_sim' (natSimHyp (cfg17 s)) p n (clear_rel_fresh s hi hnext) rfl hcap

/-! ## the unconditional statement is false -/

/-- `C05b.staleProg` (a stale slot read through an open upvalue) with a branch on the observed
    length: `… len; GotoIfTrue 51; Exit; <invalid>` -/
def staleProg2 : Prog :=
  { bytecode := #[5, 7,0,0,0,0,0,0,0, 31, 42, 9,0,0,0, 0,0,0,0, 9, 45, 1, 1, 17, 0,0,0,0, 40,
                  18, 0,0,0,0, 11, 10,
                  31, 16, 44, 0,0,0,0, 34, 29, 51,0,0,0, 10, 10, 255],
    data := #[], labels := [(9, 36)], varNames := [], trace := [] }

/-- a machine that forces a collection at every allocation; `clear` keeps the schedule -/
def everyState : VmState := { VmState.fresh C05b.staleCfg with sched := .every }

/-- **the statement at the end of `Props/C17.lean` does not hold for arbitrary bytecode**: the
    cleared machine (which still forces collections) sees the stale reference freed and exits,
    the fresh machine sees it alive and runs into the invalid opcode -/
theorem clear_behaves_like_fresh_Full_false : ¬ C17.clear_behaves_like_fresh_Full := by
  intro h
  have := h staleProg2 100 everyState rfl
  revert this
  decide +kernel

/-! ## non-vacuity -/

/-- a machine that has run `C02b.maxProg` (it holds a global table, stale stack slots, an advanced
    address counter) -/
def usedState : VmState := (run maxProg 100 { VmState.fresh smallCfg with sched := .every }).1

example : usedState.globals.length = 1 ∧
    (clear usedState).stack.data.getD 1 .nil = .obj 2 ∧
    (VmState.fresh (C17.configOf usedState)).stack.data.getD 1 .nil = .nil := by decide +kernel

theorem used_inv : C05.Inv usedState := C05b.run_inv _ _ _ (inv_of_same (s := VmState.fresh smallCfg) rfl rfl (fresh_inv smallCfg))
theorem used_safe1 : SafeRun closureProg 100 (clear usedState) := by decide +kernel
theorem used_safe2 : SafeRun closureProg 100 (freshAt usedState) := by decide +kernel

example := clear_behaves_like_fresh closureProg 100 usedState used_inv (by decide +kernel) (by decide +kernel)
  used_safe1 used_safe2

example : C05b.Reachable smallCfg usedState := .run _ _ (.sched .every 0 .fresh)

end Cao.C17b
