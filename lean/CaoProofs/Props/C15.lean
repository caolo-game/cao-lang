import CaoProofs.Lemmas.TraceLemmas
import CaoProofs.Lemmas.CompileRun
import CaoModel.Vm
/-!
# C15 — error traces point at source cards

Property: *When a run fails, the first entry of the error's trace resolves, in the source module it
was compiled from, to the card whose instruction raised the error, and the following entries are
the call cards of the active call chain from innermost to outermost, each carrying the namespace of
the function it belongs to. When compilation fails because of a specific card, the error's location
resolves to that card.*

The compiler side is proved for **all** cards / modules over the total compiler model
(`CaoModel/Compiler.lean`), with the triple `Tr` of `Lemmas/TraceLemmas.lean`.

Vocabulary
* `ownOps d` — the opcodes the arm of `process_card` for `d` emits (via `push_instruction`) while
  the position is the index of `d` itself; `childOps par i` — those it emits while the position is
  the index of its child `i`.  **Finding**: `While`, `IfTrue`, `IfFalse` and `IfElse` emit their
  conditional / backward jumps *after* `push_sub(1)`, so these `Goto*` instructions are labelled with
  the index of the *body* child (child 1), not with the index of the loop / conditional card.  The
  statement "the opcode at a trace key is one of `ownOps` of the resolved card" is therefore false
  (`naive_owner_false`); the corrected statement adds the `childOps` of the parent.
* `withStd m std` — the module the compiler works on (`std` appended to the submodules);
  `Module.descend` — navigation along the namespace of a trace entry.
* `CardEntry` / `EpilogueEntry` — the two kinds of trace entries of a compiled program.
  **Finding**: the implicit instructions `Exit` (after `main` and at the end of the program) and
  `ScalarNil; Return` (end of every other function) are also given trace entries; they carry an
  index list of length `≤ 1` (`[#cards of main]` for the `Exit` after `main`; for the others the
  position left behind by the function just compiled: the index of its last top-level card, `[]` for
  a function without cards, `[#cards of main]` again when `main` is the only function) that does
  **not** designate "their" card and in general no card at all (`naive_resolves_false`).
-/
namespace Cao.C15
open Cao Cao.Compiler

/-! ## 1. every trace entry / error location of `processCard c` is the path of a real sub-card -/

theorem pre_any (s : CState) : Pre s.trace.length none [] s.curIndices s :=
  ⟨rfl, (fun _ h => nomatch h), Nat.le_refl _, by simp, by simp⟩

/-- **(1)** Running `processCard c` from *any* state: position, namespace and function are
restored, and every new trace entry carries the namespace and function of the state and the index
list `s.curIndices ++ suf` of a real sub-card `c.getPath suf = some d`. -/
theorem processCard_trace_paths {c : Card} {s s' : CState}
    (h : (processCard c).run s = .ok ((), s')) :
    s'.curIndices = s.curIndices ∧ s'.ns = s.ns ∧ s'.curFunction = s.curFunction ∧
    ∃ t, s'.trace = s.trace ++ t ∧ ∀ e ∈ t, e.2.ns = s.ns ∧ e.2.function = s.curFunction ∧
      ∃ suf d, e.2.indices = s.curIndices ++ suf ∧ c.getPath suf = some d := by
  obtain ⟨r, hq⟩ := (processCard_tr c s.trace.length s.curIndices none []).ok s () s' h (pre_any s)
  obtain ⟨t, ht, hall⟩ := r.rel.trace
  refine ⟨hq, r.ns, r.fn, t, ht, fun e he => ?_⟩
  obtain ⟨_, _, o, _, h1, h2, suf, d, h3, h4, _⟩ := hall e he
  exact ⟨h1, h2, suf, d, h3, h4⟩

/-- **(1, errors)** A (non-panic) error raised by `processCard c` always has a location, which
carries the namespace and function of the state and the index list of a real sub-card of `c`. -/
theorem processCard_error_path {c : Card} {s : CState} {k : CErrKind} {loc : Option Trace}
    (h : (processCard c).run s = .error (.err k loc)) :
    ∃ t, loc = some t ∧ t.ns = s.ns ∧ t.function = s.curFunction ∧
    ∃ suf d, t.indices = s.curIndices ++ suf ∧ c.getPath suf = some d :=
  (processCard_tr c s.trace.length s.curIndices none []).err s k loc h (pre_any s)

/-! ## 2. the instruction at a trace key belongs to the designated card -/

/-- **(2)** Every new trace entry `(pos, t)` of `processCard c` is keyed by a position of the new
part of the bytecode, and the byte at `pos` **in the final bytecode** is an opcode emitted for the
sub-card `d` that `t` designates: one of `ownOps d`, or one of the opcodes the parent of `d` emits
under the index of `d` (`childOps`). Later writes are appends or patches of jump operands, which are
never trace keys. -/
theorem processCard_trace_owner {c : Card} {s s' : CState}
    (h : (processCard c).run s = .ok ((), s')) :
    ∃ t, s'.trace = s.trace ++ t ∧ ∀ e ∈ t,
      s.bytecode.size ≤ e.1 ∧ e.1 < s'.bytecode.size ∧
      ∃ suf d o, e.2.indices = s.curIndices ++ suf ∧ c.getPath suf = some d ∧
        s'.bytecode[e.1]? = some o ∧
        (o ∈ ownOps d ∨
          ∃ pre i par, suf = pre ++ [i] ∧ c.getPath pre = some par ∧ o ∈ childOps par i) := by
  obtain ⟨r, _⟩ := (processCard_tr c s.trace.length s.curIndices none []).ok s () s' h (pre_any s)
  obtain ⟨t, ht, hall⟩ := r.rel.trace
  refine ⟨t, ht, fun e he => ?_⟩
  obtain ⟨x1, x2, o, x3, _, _, suf, d, h3, h4, hat⟩ := hall e he
  refine ⟨x1, x2, suf, d, o, h3, h4, x3, ?_⟩
  rcases hat with ⟨d', h5, h6⟩ | h5
  · rw [h4] at h5; cases h5; exact .inl h6
  · exact .inr h5

/-- the trace entries present before the run (from the `n0`-th on) still label the same bytes after
it: `processCard` only appends bytes and patches jump operands it emitted itself -/
theorem processCard_keeps_labels {c : Card} {s s' : CState}
    (h : (processCard c).run s = .ok ((), s')) (n0 : Nat) (hn : n0 ≤ s.trace.length)
    (hk : ∀ e ∈ s.trace.drop n0, e.1 < s.bytecode.size) :
    ∀ e ∈ s.trace.drop n0, s'.bytecode[e.1]? = s.bytecode[e.1]? :=
  ((processCard_tr c n0 s.curIndices none []).ok s () s' h
    ⟨rfl, (fun _ h => nomatch h), hn, hk, by simp⟩).1.rel.keep

def traceAndCode (c : Card) : Option (List (Nat × List Nat) × List UInt8) :=
  match (processCard c).run {} with
  | .ok (_, s) => some (s.trace.map (fun e => (e.1, e.2.indices)), s.bytecode.toList)
  | .error _ => none

/-- `While(nil, nil)`: the `GotoIfFalse` (30) at position 1 and the `Goto` (28) at position 7 are
labelled `[1]`, the index of the body -/
theorem while_example :
    traceAndCode (.bin .while .scalarNil .scalarNil) =
      some ([(0, [0]), (1, [1]), (6, [1]), (7, [1])], [7, 30, 12, 0, 0, 0, 7, 28, 0, 0, 0, 0]) := by
  decide +kernel

/-- the uncorrected statement of (2) is false: the `GotoIfFalse` of a `While` is labelled with the
index of the body card, which does not own it -/
theorem naive_owner_false :
    ¬ ∀ (c : Card) (s s' : CState), (processCard c).run s = .ok ((), s') →
      ∀ e ∈ s'.trace.drop s.trace.length, ∃ suf d o, e.2.indices = s.curIndices ++ suf ∧
        c.getPath suf = some d ∧ s'.bytecode[e.1]? = some o ∧ o ∈ ownOps d := by
  intro hall
  have hw := while_example
  unfold traceAndCode at hw
  cases hr : (processCard (.bin .while .scalarNil .scalarNil)).run {} with
  | error e => rw [hr] at hw; cases hw
  | ok r =>
    obtain ⟨⟨⟩, s'⟩ := r
    rw [hr] at hw
    simp only [Option.some.injEq, Prod.mk.injEq] at hw
    obtain ⟨ht, hb⟩ := hw
    have h2 : ∃ e ∈ s'.trace, e.1 = 1 ∧ e.2.indices = [1] := by
      have : (1, [1]) ∈ s'.trace.map (fun e => (e.1, e.2.indices)) := by rw [ht]; simp
      obtain ⟨e, he, heq⟩ := List.mem_map.1 this
      simp only [Prod.mk.injEq] at heq
      exact ⟨e, he, heq.1, heq.2⟩
    obtain ⟨e, he, he1, he2⟩ := h2
    obtain ⟨suf, d, o, h3, h4, h5, h6⟩ := hall _ _ _ hr e (by simpa using he)
    simp only [List.nil_append] at h3
    rw [he2] at h3
    subst h3
    simp only [Card.getPath, Card.getChild, Option.some.injEq] at h4
    subst h4
    have hbyte : s'.bytecode[1]? = some 30 := by
      rw [← Array.getElem?_toList, hb]; rfl
    rw [he1, hbyte] at h5
    cases h5
    revert h6
    decide

/-! ## 3. the trace table of a compiled program resolves in the source module -/

/-- a trace entry that designates the card `d` of the source, `o` being an opcode emitted for `d` -/
def CardEntry (m' : Module) (t : Trace) (o : UInt8) : Prop :=
  ∃ sub d, m'.descend t.ns = some sub ∧
    sub.getCard { function := t.function, indices := t.indices } = .ok d ∧
    (o ∈ ownOps d ∨ ∃ pre j par, t.indices = pre ++ [j] ∧
      sub.getCard { function := t.function, indices := pre } = .ok par ∧ o ∈ childOps par j)

/-- a trace entry of an implicit `Exit` / `ScalarNil; Return`: it designates an existing function
and carries the index list `[#cards]` (one past the last card: never a card) or the position after
the loop over the cards (`lastIdx [] 0 cards`, i.e. `[#cards - 1]`, the last card — which did not
emit that instruction — or `[]` when the function has no card) -/
def EpilogueEntry (m' : Module) (t : Trace) (o : UInt8) : Prop :=
  ∃ sub name fn, m'.descend t.ns = some sub ∧ sub.functions[t.function]? = some (name, fn) ∧
    EpiloguePos fn.cards t.indices ∧ o ∈ epilogueOps

/-- an error location that designates a card of the source -/
def CardLoc (m' : Module) (t : Trace) : Prop :=
  ∃ sub d, m'.descend t.ns = some sub ∧
    sub.getCard { function := t.function, indices := t.indices } = .ok d

theorem getCard_of {sub : Module} {k i : Nat} {name : String} {fn : Func} {c d : Card} {suf : List Nat}
    (hfun : sub.functions[k]? = some (name, fn)) (hc : fn.cards[i]? = some c)
    (hd : c.getPath suf = some d) : sub.getCard { function := k, indices := i :: suf } = .ok d := by
  simp [Module.getCard, hfun, hc, hd]

theorem unitOp_entry {m' : Module} {fs : List FunctionIr} (hfs : ∀ f ∈ fs, FnAt m' f) {t : Trace}
    {o : UInt8} (h : UnitOp fs t o) : CardEntry m' t o ∨ EpilogueEntry m' t o := by
  obtain ⟨f, hf, h1, h2, h3⟩ := h
  obtain ⟨sub, hdesc, name, fn, hfun, hcards⟩ := hfs f hf
  rw [← h1] at hdesc
  rw [← h2] at hfun
  rcases h3 with ⟨i, suf, c, d, hl, hc, hd, hat⟩ | ⟨hlen, ho⟩
  · left
    rw [← hcards] at hc
    refine ⟨sub, d, hdesc, by rw [hl]; exact getCard_of hfun hc hd, ?_⟩
    rcases hat with ⟨d', h5, h6⟩ | ⟨pre, j, par, h5, h6, h7⟩
    · rw [hd] at h5; cases h5; exact .inl h6
    · exact .inr ⟨i :: pre, j, par, by rw [hl, h5]; rfl, getCard_of hfun hc h6, h7⟩
  · exact .inr ⟨sub, name, fn, hdesc, hfun, by rw [hcards]; exact hlen, ho⟩

theorem unitLoc_entry {m' : Module} {fs : List FunctionIr} (hfs : ∀ f ∈ fs, FnAt m' f) {t : Trace}
    {k : CErrKind} (h : UnitLoc fs k t) :
    CardLoc m' t ∨ (∃ sub name fn, m'.descend t.ns = some sub ∧
      sub.functions[t.function]? = some (name, fn) ∧ HeaderPos t.indices ∧
      (k = .emptyVariable ∨ k = .tooManyLocals)) := by
  obtain ⟨f, hf, h1, h2, h3⟩ := h
  obtain ⟨sub, hdesc, name, fn, hfun, hcards⟩ := hfs f hf
  rw [← h1] at hdesc
  rw [← h2] at hfun
  rcases h3 with ⟨i, suf, c, d, hl, hc, hd⟩ | ⟨hlen, hk⟩
  · rw [← hcards] at hc
    exact .inl ⟨sub, d, hdesc, by rw [hl]; exact getCard_of hfun hc hd⟩
  · exact .inr ⟨sub, name, fn, hdesc, hfun, hlen, by simpa using hk⟩

theorem safe_init : Safe 0 [] ({} : CState) := ⟨Nat.le_refl _, by simp, by simp⟩

/-- **(3)** Every entry `(pos, t)` of the trace table of a compiled program labels a byte of the
final bytecode and either designates a card `d` of the source module (navigating `t.ns` from
`withStd m std` and fetching `⟨t.function, t.indices⟩` with `Module.getCard`), the byte being an
opcode emitted for `d`, or is one of the implicit epilogue instructions (`Exit`, `ScalarNil`,
`Return`) of an existing function, labelled `[#cards]` or with the index of the function's last
top-level card (`EpiloguePos`). -/
theorem compile_trace_resolves {m std : Module} {limit : Nat} {p : Program}
    (h : compile m std limit = .ok p) :
    ∀ e ∈ p.trace, ∃ o, p.bytecode[e.1]? = some o ∧
      (CardEntry (withStd m std) e.2 o ∨ EpilogueEntry (withStd m std) e.2 o) := by
  obtain ⟨unit, s, hC, rfl⟩ := compile_run h
  intro e he
  have he' := resolveLog_subset _ e he
  obtain ⟨r, _⟩ := (compileUnit_seg unit).ok {} () s hC.run safe_init ⟨rfl, rfl, rfl⟩
  obtain ⟨t, ht, hall⟩ := r.trace
  simp only [List.nil_append] at ht
  rw [ht] at he'
  obtain ⟨_, _, o, h1, h2⟩ := hall e he'
  exact ⟨o, h1, unitOp_entry (intoIrStream_spec hC.ir) h2⟩

/-- entries with an index list of length `≥ 2` always designate a card -/
theorem compile_trace_resolves_deep {m std : Module} {limit : Nat} {p : Program}
    (h : compile m std limit = .ok p) (e : Nat × Trace) (he : e ∈ p.trace)
    (hd : 2 ≤ e.2.indices.length) :
    ∃ o, p.bytecode[e.1]? = some o ∧ CardEntry (withStd m std) e.2 o := by
  obtain ⟨o, h1, h2 | ⟨_, _, _, _, _, h3, _⟩⟩ := compile_trace_resolves h e he
  · exact ⟨o, h1, h2⟩
  · have := h3.length_le; omega

/-- entries that label an opcode other than `Exit`, `ScalarNil`, `Return` always designate a card -/
theorem compile_trace_resolves_op {m std : Module} {limit : Nat} {p : Program}
    (h : compile m std limit = .ok p) (e : Nat × Trace) (he : e ∈ p.trace) (o : UInt8)
    (ho : p.bytecode[e.1]? = some o) (hne : o ∉ epilogueOps) : CardEntry (withStd m std) e.2 o := by
  obtain ⟨o', h1, h2 | ⟨_, _, _, _, _, _, h3⟩⟩ := compile_trace_resolves h e he
  · rw [ho] at h1; cases h1; exact h2
  · rw [ho] at h1; cases h1; exact absurd h3 hne

/-! ### non-vacuity, and the counter-example to the unqualified statement -/

/-- `main` = `Not(Len(nil))` -/
def exModule : Module := Module.mk [] [("main", ⟨[], [.un .not (.un .len .scalarNil)]⟩)] []
def exStd : Module := Module.mk [] [] []

def traceOf (m std : Module) : Option (List (Nat × Trace) × List UInt8) :=
  match compile m std with
  | .ok p => some (p.trace, p.bytecode.toList)
  | .error _ => none

/-- the compiled program: `ScalarNil Len Not Exit Exit`, the first entry has the depth-3 path
`[0, 0, 0]` -/
theorem exModule_trace : traceOf exModule exStd = some
    ([(0, ⟨[], 0, [0, 0, 0]⟩), (1, ⟨[], 0, [0, 0]⟩), (2, ⟨[], 0, [0]⟩), (3, ⟨[], 0, [1]⟩),
      (4, ⟨[], 0, [1]⟩)],
     [7, 34, 27, 10, 10]) := by
  decide +kernel

/-- … and that first entry resolves to the innermost card `nil`, the second to `Len(nil)` -/
example : ((withStd exModule exStd).descend []).map
    (fun sub => sub.getCard { function := 0, indices := [0, 0, 0] }) = some (.ok .scalarNil) := rfl
example : ((withStd exModule exStd).descend []).map
    (fun sub => (sub.getCard { function := 0, indices := [0, 0] }).toOption.map Card.toTok) =
    some (some "len(nil)") := by decide +kernel

/-- … while the entries of the two implicit `Exit`s, labelled `[1]`, do not resolve -/
example : ((withStd exModule exStd).descend []).map
    (fun sub => sub.getCard { function := 0, indices := [1] }) = some (.error .cardNotFound) := rfl

/-- the unqualified statement "every trace entry resolves to a card" is false -/
theorem naive_resolves_false :
    ¬ ∀ (m std : Module) (limit : Nat) (p : Program), compile m std limit = .ok p →
      ∀ e ∈ p.trace, ∃ sub d, (withStd m std).descend e.2.ns = some sub ∧
        sub.getCard { function := e.2.function, indices := e.2.indices } = .ok d := by
  intro hall
  have ht := exModule_trace
  unfold traceOf at ht
  cases hc : compile exModule exStd with
  | error e => rw [hc] at ht; cases ht
  | ok p =>
    rw [hc] at ht
    simp only [Option.some.injEq, Prod.mk.injEq] at ht
    obtain ⟨sub, d, h1, h2⟩ := hall _ _ _ p hc (3, ⟨[], 0, [1]⟩) (by rw [ht.1]; simp)
    simp only [Module.descend, Option.some.injEq] at h1
    subst h1
    revert h2
    simp [Module.getCard, withStd, exModule, Module.functions]

/-! ## 4. the location of a compilation error -/

/-- **(4)** A compilation error (other than a model `panic`) always has a location `t`, which
either designates a card of the source (this is the case for every error raised inside
`processCard`, `processCard_error_path`: its index list extends the position of a top-level
card by the path of a real sub-card), or is the dummy location of an error that is not about a
card (`intoIrStream` failed, or `DuplicateName` / `EmptyProgram` raised before the first function
is entered), or is a `EmptyVariable` /
`TooManyLocals` error raised while binding the *arguments* of an existing function, located at
`[0]` (`main`) or `[]` (any other function). -/
theorem compile_error_resolves {m std : Module} {limit : Nat} {k : CErrKind} {loc : Option Trace}
    (h : compile m std limit = .error (.err k loc)) :
    ∃ t, loc = some t ∧
    (CardLoc (withStd m std) t ∨
    (t = { ns := [], function := 0, indices := [] } ∧
      (intoIrStream m std limit = .error k ∨ k = .emptyProgram ∨ k = .duplicateName)) ∨
    (∃ sub name fn, (withStd m std).descend t.ns = some sub ∧
      sub.functions[t.function]? = some (name, fn) ∧ HeaderPos t.indices ∧
      (k = .emptyVariable ∨ k = .tooManyLocals))) := by
  rcases compile_error_iff.1 h with ⟨k', hk, he⟩ | ⟨unit, hunit, he⟩
  · cases he
    exact ⟨_, rfl, .inr (.inl ⟨rfl, .inl hk⟩)⟩
  · obtain ⟨t, rfl, ht⟩ := (compileUnit_seg unit).err {} k loc he safe_init ⟨rfl, rfl, rfl⟩
    refine ⟨t, rfl, ?_⟩
    rcases ht with ⟨h1, h2⟩ | h1
    · exact .inr (.inl ⟨h1, .inr h2⟩)
    · rcases unitLoc_entry (intoIrStream_spec hunit) h1 with h2 | h2
      · exact .inl h2
      · exact .inr (.inr h2)

/-- an error located at an index list of length `≥ 2` always designates a card -/
theorem compile_error_resolves_deep {m std : Module} {limit : Nat} {k : CErrKind} {t : Trace}
    (h : compile m std limit = .error (.err k (some t))) (hd : 2 ≤ t.indices.length) :
    CardLoc (withStd m std) t := by
  obtain ⟨t', ht, hc⟩ := compile_error_resolves h
  cases ht
  rcases hc with h1 | ⟨rfl, _⟩ | ⟨_, _, _, _, _, h3, _⟩
  · exact h1
  · simp at hd
  · have := h3.length_le; omega

/-- non-vacuity: `main` = `Not(SetGlobalVar("", nil))` fails with `EmptyVariable` located at `[0, 0]` -/
def exBad : Module := Module.mk [] [("main", ⟨[], [.un .not (.setGlobalVar "" .scalarNil)]⟩)] []

def errOf (m std : Module) : Option (CErrKind × Trace) :=
  match compile m std with
  | .error (.err k (some t)) => some (k, t)
  | _ => none

theorem exBad_error : errOf exBad exStd = some (.emptyVariable, ⟨[], 0, [0, 0]⟩) := by decide +kernel

example : ((withStd exBad exStd).descend []).map
    (fun sub => sub.getCard { function := 0, indices := [0, 0] }) =
    some (.ok (.setGlobalVar "" .scalarNil)) := rfl

/-! ## 5. the shape of the run-time error trace -/

def lookup (p : Vm.Prog) (a : Nat) : Option Trace := (p.trace.find? (fun t => t.1 == a)).map (·.2)

/-- **(5)** `errTrace` is the trace entry keyed by the failing instruction pointer (if there is
one), followed by the entries keyed by the recorded call-site pointers of the active frames,
innermost (= last pushed) first; frames whose call site has no entry are skipped. -/
theorem errTrace_shape (p : Vm.Prog) (e : Vm.RunErr) :
    Vm.errTrace p e = (lookup p e.at_).toList ++ e.frames.reverse.filterMap (fun f => lookup p f.src) :=
  rfl

/-- when the failing instruction has a trace entry, it is the head, and the tail is exactly the
list of call-site entries -/
theorem errTrace_cons (p : Vm.Prog) (e : Vm.RunErr) (t : Trace) (h : lookup p e.at_ = some t) :
    Vm.errTrace p e = t :: e.frames.reverse.filterMap (fun f => lookup p f.src) := by
  rw [errTrace_shape, h]; rfl

/-- when moreover every active frame's call site has a trace entry, the tail has one entry per
frame, in reverse frame order -/
theorem errTrace_all (p : Vm.Prog) (e : Vm.RunErr) (t : Trace) (ts : List Trace)
    (h : lookup p e.at_ = some t) (hs : e.frames.reverse.map (fun f => lookup p f.src) = ts.map some) :
    Vm.errTrace p e = t :: ts := by
  rw [errTrace_cons p e t h]
  congr 1
  have : ∀ l : List Vm.Frame, l.filterMap (fun f => lookup p f.src) =
      (l.map (fun f => lookup p f.src)).filterMap id := fun l => by rw [List.filterMap_map]; rfl
  rw [this, hs, List.filterMap_map]
  simp

theorem lookup_mem {p : Vm.Prog} {a : Nat} {t : Trace} (h : lookup p a = some t) : (a, t) ∈ p.trace := by
  obtain ⟨⟨a', t'⟩, hf, rfl⟩ := Option.map_eq_some_iff.1 h
  obtain rfl : a' = a := by simpa using List.find?_some hf
  exact List.mem_of_find?_eq_some hf

theorem errTrace_mem (p : Vm.Prog) (e : Vm.RunErr) (t : Trace) (h : t ∈ Vm.errTrace p e) :
    (e.at_, t) ∈ p.trace ∨ ∃ f ∈ e.frames, (f.src, t) ∈ p.trace := by
  rw [errTrace_shape] at h
  rcases List.mem_append.1 h with h | h
  · exact .inl (lookup_mem (Option.mem_toList.1 h))
  · obtain ⟨f, hf, hl⟩ := List.mem_filterMap.1 h
    exact .inr ⟨f, List.mem_reverse.1 hf, lookup_mem hl⟩

/-- **(3)+(5)** For a program compiled from `m`: every entry of a run-time error trace is keyed by
a position `pos` (the failing instruction pointer or the call site of an active frame) whose byte
is an opcode emitted for the source card the entry designates — or is one of the implicit
epilogue instructions. -/
theorem errTrace_resolves {m std : Module} {limit : Nat} {prog : Program}
    (h : compile m std limit = .ok prog) (e : Vm.RunErr) (t : Trace)
    (ht : t ∈ Vm.errTrace (Vm.Prog.ofProgram prog) e) :
    ∃ pos o, (pos = e.at_ ∨ ∃ f ∈ e.frames, pos = f.src) ∧ prog.bytecode[pos]? = some o ∧
      (CardEntry (withStd m std) t o ∨ EpilogueEntry (withStd m std) t o) := by
  rcases errTrace_mem _ e t ht with h1 | ⟨f, hf, h1⟩
  · obtain ⟨o, h2, h3⟩ := compile_trace_resolves h _ h1
    exact ⟨e.at_, o, .inl rfl, h2, h3⟩
  · obtain ⟨o, h2, h3⟩ := compile_trace_resolves h _ h1
    exact ⟨f.src, o, .inr ⟨f, hf, rfl⟩, h2, h3⟩

/-! ## 6. call sites are call cards -/

def IsCallCard : Card → Prop
  | .call _ _ => True
  | .dynamicCall _ _ => True
  | _ => False

/-- `CallFunction` is emitted only by the `Call` and `DynamicCall` arms … -/
theorem ownOps_callFunction (d : Card) (h : op.callFunction ∈ ownOps d) : IsCallCard d := by
  cases d with
  | call => trivial
  | dynamicCall => trivial
  | un k _ => cases k <;> simp [ownOps, unOp, op, Gen.op] at h
  | bin k _ _ => cases k <;> simp [ownOps, binOwnOps, binOp, op, Gen.op] at h
  | tri k _ _ _ => cases k <;> simp [ownOps, triOwnOps, op, Gen.op] at h
  | _ => simp [ownOps, readVarOps, setVarOps, repeatOps, forEachOps, arrayOps, closureOps, op, Gen.op] at h

/-- … and never under the index of a child -/
theorem childOps_callFunction (par : Card) (j : Nat) : op.callFunction ∉ childOps par j := by
  unfold childOps
  split
  · rename_i k _ _; cases k <;> simp [binChildOps, whileChildOps, op, Gen.op]
  · rename_i k _ _ _; cases k <;> simp [triChildOps, ifElseChildOps, op, Gen.op]
  · simp

/-- **(6)** In a compiled program, a trace entry whose key holds the opcode `CallFunction` designates
a `Call` or `DynamicCall` card of the source (standard-library wrappers are ordinary functions of
the submodule `std` of `withStd m std`). -/
theorem call_site_is_call_card {m std : Module} {limit : Nat} {p : Program}
    (h : compile m std limit = .ok p) (e : Nat × Trace) (he : e ∈ p.trace)
    (ho : p.bytecode[e.1]? = some op.callFunction) :
    ∃ sub d, (withStd m std).descend e.2.ns = some sub ∧
      sub.getCard { function := e.2.function, indices := e.2.indices } = .ok d ∧ IsCallCard d := by
  obtain ⟨sub, d, h1, h2, h3⟩ := compile_trace_resolves_op h e he _ ho (by decide)
  refine ⟨sub, d, h1, h2, ?_⟩
  rcases h3 with h3 | ⟨_, j, par, _, _, h4⟩
  · exact ownOps_callFunction d h3
  · exact absurd h4 (childOps_callFunction par j)

/-- the same inside `processCard` -/
theorem processCard_call_site {c : Card} {s s' : CState} (h : (processCard c).run s = .ok ((), s'))
    (e : Nat × Trace) (he : e ∈ s'.trace.drop s.trace.length)
    (ho : s'.bytecode[e.1]? = some op.callFunction) :
    ∃ suf d, e.2.indices = s.curIndices ++ suf ∧ c.getPath suf = some d ∧ IsCallCard d := by
  obtain ⟨t, ht, hall⟩ := processCard_trace_owner h
  rw [ht, List.drop_left] at he
  obtain ⟨_, _, suf, d, o, h1, h2, h3, h4⟩ := hall e he
  rw [ho] at h3
  cases h3
  refine ⟨suf, d, h1, h2, ?_⟩
  rcases h4 with h4 | ⟨_, j, par, _, _, h5⟩
  · exact ownOps_callFunction d h4
  · exact absurd h5 (childOps_callFunction par j)

end Cao.C15
