import CaoProofs.Lemmas.SchedInstr
import CaoProofs.Lemmas.UpvalueLemmas
/-!
# Schedule independence, all instructions: calls and upvalues

The side conditions `UpvOk` / `ReadUpvOk` of the instructions that can read a value-stack slot
through an open upvalue (and `FrameOk`, which only `StepOk` mentions), the hypotheses on callbacks
and host functions, the two-run rules for the upvalue primitives and for `callScript`, and the
helpers of the `RegisterUpvalue` case of `step_sim_upv`.
-/
namespace Cao.SchedFull
open Cao Cao.Vm Cao.Gc Cao.C02 Cao.C05 Cao.RunInv Cao.Native

/-! ## the side conditions -/

def FrameOk (s : VmState) : Prop := ∀ f, s.frames.getLast? = some f → f.stackOffset ≤ s.stack.count

/-- no open upvalue of the list points at or above the stack height (`Upv.UpBound` of
    `Lemmas/UpvalueLemmas.lean`) -/
def UpvOk (s : VmState) : Prop :=
  ∀ a ∈ s.openUpvalues, ∀ i, s.heap.get a = some (.upvalue (.stack i)) → i < s.stack.count

/-- the upvalue that `ReadUpvalue index` reads, if it is open, points below the stack height -/
def ReadUpvOk (index : Nat) (s : VmState) : Prop :=
  ∀ fr c hd ar ups u i, s.frames.getLast? = some fr → fr.closure = some c →
    s.heap.get c = some (.closure hd ar ups) → ups[index]? = some u →
    s.heap.get u = some (.upvalue (.stack i)) → i < s.stack.count

/-! ## callbacks and host functions -/

/-- related callbacks: called on a function value that denotes the same thing in both machines,
    they return the same value (denoting the same thing) or fail with the same error -/
def ReSim (c : Cfg) (re₁ re₂ : Reenter) : Prop :=
  ∀ (f : Val) (K : Nat → Prop) (s t : VmState), Agree c K s t → VK K f →
    W2 c (re₁ f) (re₂ f) (fun a b s' t' => b = a ∧ VRes c a s' t') s t

def NatSimAt (c : Cfg) (re₁ re₂ : Reenter) (hd : UInt32) : Prop :=
  ∀ (K : Nat → Prop) (s t : VmState), Agree c K s t →
    W2 c (callNative re₁ hd) (callNative re₂ hd) (fun _ _ s' t' => Rel c s' t') s t

/-! ## the upvalue primitives -/
section upv
variable {c : Cfg} {K : Nat → Prop} {s t : VmState}

theorem upvalueSlot_eq (h : Core c K s t) {a : Nat} (ha : K a) : upvalueSlot t.heap a = upvalueSlot s.heap a := by
  unfold upvalueSlot; rw [h.agree a ha]

theorem find?_congr' {α : Type} {p q : α → Bool} : ∀ {l : List α}, (∀ x ∈ l, p x = q x) → l.find? p = l.find? q
  | [], _ => rfl
  | x :: l, h => by
    rw [List.find?_cons, List.find?_cons, h x List.mem_cons_self,
      find?_congr' (fun y hy => h y (List.mem_cons_of_mem _ hy))]

theorem closeGo_sub (top : Nat) (s0 : VmState) : ∀ (l : List Nat) (h : Heap),
    ∀ x ∈ (closeUpvalues.go top s0 l h).1, x ∈ l := by
  intro l
  induction l with
  | nil => intro h x hx; unfold closeUpvalues.go at hx; exact hx
  | cons a rest ih =>
    intro h x hx
    unfold closeUpvalues.go at hx
    split at hx
    · split at hx
      · exact hx
      · exact List.mem_cons_of_mem _ (ih _ x hx)
    · cases hx

theorem closeGo_agree (top : Nat) (s0 t0 : VmState) (hst : StackSame s0.stack t0.stack) :
    ∀ (l : List Nat) (s t : VmState), Agree c K s t → (∀ a ∈ l, K a) →
      (∀ a ∈ l, ∀ i, s.heap.get a = some (.upvalue (.stack i)) →
        i < s0.stack.count ∧ VK K (s0.stack.data.getD i .nil)) →
      (closeUpvalues.go top t0 l t.heap).1 = (closeUpvalues.go top s0 l s.heap).1 ∧
      Agree c K { s with heap := (closeUpvalues.go top s0 l s.heap).2 }
                { t with heap := (closeUpvalues.go top t0 l t.heap).2 } := by
  intro l
  induction l with
  | nil =>
    intro s t h _ _
    unfold closeUpvalues.go
    exact ⟨rfl, h⟩
  | cons a rest ih =>
    intro s t h hK hok
    have ha : K a := hK a List.mem_cons_self
    unfold closeUpvalues.go
    rw [upvalueSlot_eq h.toCore ha]
    cases hu : upvalueSlot s.heap a with
    | none => exact ⟨rfl, h⟩
    | some i =>
      dsimp only
      by_cases hi : i < top
      · rw [if_pos hi, if_pos hi]; exact ⟨rfl, h⟩
      · rw [if_neg hi, if_neg hi]
        have hg := Upv.upvalueSlot_eq_some.mp hu
        obtain ⟨hlt, hvk⟩ := hok a List.mem_cons_self i hg
        rw [StackSame.getD hst hlt]
        have hA := h.set a (.upvalue (.closed (s0.stack.data.getD i .nil))) ha
          (fun b hb => by
            simp only [Heap.children, List.mem_singleton] at hb
            exact hvk b hb.symm)
          (fun o ho => by rw [hg] at ho; cases ho; rfl)
        refine ih _ _ hA (fun x hx => hK x (List.mem_cons_of_mem _ hx)) ?_
        intro x hx j hj
        rw [show ({ s with heap := s.heap.set a (.upvalue (.closed (s0.stack.data.getD i .nil))) } : VmState).heap
          = s.heap.set a (.upvalue (.closed (s0.stack.data.getD i .nil))) from rfl, Gc.get_set] at hj
        split at hj
        · rw [hg] at hj; cases hj
        · exact hok x (List.mem_cons_of_mem _ hx) j hj

theorem w2_closeUpvalues {Q : PUnit → PUnit → VmState → VmState → Prop} (top : Nat) (h : Agree c K s t)
    (hok : ∀ a ∈ s.openUpvalues, ∀ i, s.heap.get a = some (.upvalue (.stack i)) → i < s.stack.count)
    (hq : ∀ s' t', s'.stack = s.stack → s'.frames = s.frames → Agree c K s' t' → Q ⟨⟩ ⟨⟩ s' t') :
    W2 c (closeUpvalues top) (closeUpvalues top) Q s t := by
  obtain ⟨e, hA⟩ := closeGo_agree top s t h.stack.1 s.openUpvalues s t h (fun a ha => h.k_upv ha)
    (fun a ha i hg => ⟨hok a ha i hg, h.vk_slot (hok a ha i hg)⟩)
  have e2 := go_closeUpvalues top t
  unfold Upv.closeState at e2
  rw [h.openUpvalues, e] at e2
  exact w2_of_go (go_closeUpvalues top s) e2 (hq _ _ rfl rfl
    (hA.upvalues_change rfl fun a ha => h.k_upv (closeGo_sub top s s.openUpvalues s.heap a ha)))

theorem w2_readUpvalueLoc {Q : Val → Val → VmState → VmState → Prop} (a : Nat) (h : Agree c K s t)
    (ha : K a) (hok : ∀ i, s.heap.get a = some (.upvalue (.stack i)) → i < s.stack.count)
    (hq : ∀ v, VK K v → Q v v s t) : W2 c (readUpvalueLoc a) (readUpvalueLoc a) Q s t := by
  unfold readUpvalueLoc
  refine w2_get' ?_
  rw [h.agree a ha]
  cases hg : s.heap.get a with
  | none => exact w2_throwE h.rel
  | some o =>
    cases o with
    | upvalue loc =>
      cases loc with
      | stack i =>
        dsimp only
        rw [StackSame.getD h.stack.1 (hok i hg)]
        exact w2_pure (hq _ (h.vk_slot (hok i hg)))
      | closed v =>
        exact w2_pure (hq _ (h.vk_child ha hg (by simp [Heap.children])))
    | _ => exact w2_throwE h.rel

theorem w2_writeUpvalueLoc {Q : PUnit → PUnit → VmState → VmState → Prop} (a : Nat) (v : Val)
    (h : Agree c K s t) (ha : K a) (hv : VK K v)
    (hq : ∀ s' t', Agree c K s' t' → Q ⟨⟩ ⟨⟩ s' t') :
    W2 c (writeUpvalueLoc a v) (writeUpvalueLoc a v) Q s t := by
  unfold writeUpvalueLoc
  refine w2_get' ?_
  rw [h.agree a ha]
  cases hg : s.heap.get a with
  | none => exact w2_throwE h.rel
  | some o =>
    cases o with
    | upvalue loc =>
      cases loc with
      | stack i =>
        refine w2_set (hq _ _ ?_)
        refine h.stack_change (h.stack.map (fun x => { x with data := x.data.set i v }) (h.stack.1.dataSet i v))
          (fun w hw => ?_)
        rcases mem_dataSet_contents hw with rfl | hw
        · exact hv
        · exact h.vk_stack hw
      | closed w =>
        refine w2_set (hq _ _ ?_)
        exact h.set a _ ha (fun b hb => by
            simp only [Heap.children, List.mem_singleton] at hb
            exact hv b hb.symm)
          (fun o ho => by rw [hg] at ho; cases ho; rfl)
    | _ => exact w2_throwE h.rel


theorem sim_callScript (p : Prog) (src ip : Nat) (label : UInt32) (arity : Nat) (closure : Option Nat)
    (h : Agree c K s t) (hc : ∀ a, closure = some a → K a) :
    W2 c (step.callScript p src ip label arity closure) (step.callScript p src ip label arity closure)
      (QStep c) s t := by
  have g1 := go_callScript p src ip label arity closure s
  have g2 := go_callScript p src ip label arity closure t
  have e1 : t.frames.isEmpty = s.frames.isEmpty := by rw [h.frames]
  have e2 : (t.stack.count < arity) = (s.stack.count < arity) := by rw [h.stack.count]
  have e3 : (t.frames.length ≥ t.frameCap) = (s.frames.length ≥ s.frameCap) := by rw [h.frames, h.frameCap]
  by_cases h1 : s.frames.isEmpty = true
  · rw [if_pos h1] at g1; rw [if_pos (e1.trans h1)] at g2; exact w2_of_go_err g1 g2 h.rel
  rw [if_neg h1] at g1; rw [if_neg (by rw [e1]; exact h1)] at g2
  by_cases h2 : s.stack.count < arity
  · rw [if_pos h2] at g1; rw [if_pos (e2 ▸ h2)] at g2; exact w2_of_go_err g1 g2 h.rel
  rw [if_neg h2] at g1; rw [if_neg (e2 ▸ h2)] at g2
  by_cases h3 : s.frames.length ≥ s.frameCap
  · rw [if_pos h3] at g1; rw [if_pos (e3 ▸ h3)] at g2; exact w2_of_go_err g1 g2 h.rel
  rw [if_neg h3] at g1; rw [if_neg (e3 ▸ h3)] at g2
  have hroots : ∀ f ∈ (s.frames.dropLast ++
          [{ (s.frames.getLast?.getD ⟨0, 0, 0, none⟩ : Frame) with dst := ip }]) ++
          [({ src := src, dst := ip, stackOffset := s.stack.count - arity, closure := closure } : Frame)],
      ∀ a, f.closure = some a → K a := by
    intro f hf a ha
    simp only [List.mem_append, List.mem_singleton] at hf
    rcases hf with (hf | hf) | hf
    · exact h.k_frame (List.dropLast_subset _ hf) ha
    · subst hf
      cases hl : s.frames.getLast? with
      | none => rw [hl] at ha; cases ha
      | some lf =>
        rw [hl] at ha
        exact h.k_frame (List.mem_of_getLast? hl) ha
    · subst hf; exact hc a ha
  have hA := h.frames_change (fs' := (t.frames.dropLast ++
          [{ (t.frames.getLast?.getD ⟨0, 0, 0, none⟩ : Frame) with dst := ip }]) ++
          [{ src := src, dst := ip, stackOffset := t.stack.count - arity, closure := closure }])
      (by rw [h.frames, h.stack.count]) hroots
  cases hl : p.labels.find? (fun l => l.1 == label) with
  | none => rw [hl] at g1 g2; exact w2_of_go_err g1 g2 hA.rel
  | some lp =>
    obtain ⟨_, pos⟩ := lp
    rw [hl] at g1 g2
    exact w2_of_go g1 g2 ⟨rfl, hA.rel⟩

/-! ## helpers of the `RegisterUpvalue` case of `step_sim_upv` (`Lemmas/SchedStepAll.lean`) -/

theorem initSimple_facts {o : Obj} {s s' : VmState} {a : Nat} (hgo : (initSimple o).go s = (.ok a, s')) :
    a = s.heap.next ∧ s'.guards = a :: s.guards ∧
    (∀ x ob, x ≠ a → s'.heap.get x = some ob → s.heap.get x = some ob) := by
  rw [show (initSimple o).go s = _ from initSimple_run o s] at hgo
  unfold alloc1Pure at hgo
  have o1 := allocPure_obs Heap.objCharge s
  have g1 := allocPure_get Heap.objCharge s
  rcases h1 : allocPure Heap.objCharge s with ⟨r1, s1⟩
  rw [h1] at hgo o1 g1
  cases r1 with
  | error e => cases hgo
  | ok u =>
    simp only [Prod.mk.injEq, Except.ok.injEq] at hgo
    obtain ⟨rfl, rfl⟩ := hgo
    dsimp only at o1 g1
    refine ⟨o1.next, ?_, ?_⟩
    · show s1.heap.next :: s1.guards = s1.heap.next :: s.guards
      rw [o1.guards]
    · intro x ob hx hg
      rw [get_withObject_old o s1 x hx] at hg
      exact g1 x ob hg

theorem partition_congr' {α : Type} {p q : α → Bool} {l : List α} (h : ∀ x ∈ l, p x = q x) :
    l.partition p = l.partition q := by
  rw [List.partition_eq_filter_filter, List.partition_eq_filter_filter]
  have e1 : l.filter p = l.filter q := List.filter_congr h
  have e2 : l.filter (not ∘ p) = l.filter (not ∘ q) :=
    List.filter_congr (fun x hx => by simp only [Function.comp, h x hx])
  rw [e1, e2]

theorem closure_kids {hd ar : UInt32} {ups : List Nat} {u b : Nat}
    (hb : Val.obj b ∈ Heap.children (.closure hd ar (ups ++ [u]))) :
    b = u ∨ Val.obj b ∈ Heap.children (.closure hd ar ups) := by
  simp only [Heap.children, List.map_append, List.mem_append, List.mem_map, List.mem_singleton,
    Val.obj.injEq, List.map_cons, List.map_nil] at hb ⊢
  rcases hb with hb | hb
  · exact Or.inr hb
  · exact Or.inl hb

end upv

end Cao.SchedFull
