import CaoModel.Bytecode
/-!
# The checker `Bytecode.wfReason`, clause by clause

`wfReason` is one long cascade of local definitions and early exits.  Its local functions are copied here as
definitions (`checkInstrOf`; `C10.regionsOf`, `C10.enclosingOf`, `C10.checkUpOf` for the upvalue counts), and
`wfReason_none_iff` says once what it means that no exit is taken: the code decodes, ends with `Exit`, every
operand passes its check (`checkInstrOf_none_iff`: one clause per class of opcodes), the upvalue counts pass
(left as `findSome? (checkUpOf …) = none`), labels and trace keys are decoded positions, every instruction that
needs one has a trace entry, and the variable tables are consistent (`IdsOK`, with `wfReason.dupH` as it is).
C04 reads five of the clauses and the jump class from left to right (what the interpreter may rely on), C10 all
from right to left (compiled programs pass).
-/
namespace Cao.C10
open Cao Cao.Compiler Cao.Bytecode

/-- the closure regions `[label h, L)` the checker computes (copy of the local definition in
`Bytecode.wfReason`) -/
def regionsOf (p : Program) (instrs : List (Nat × UInt8)) : List (Nat × Nat × Nat) :=
  instrs.filterMap (fun (pos, o) =>
    if o == op.closure then
      let h := UInt32.ofNat (rdU32 p.bytecode (pos + 1))
      match p.labels.find? (fun l => l.1 == h) with
      | some (_, start) => some (start, pos, wfReason.count p 256 (pos + 9) 0)
      | none => none
    else none)

def enclosingOf (p : Program) (instrs : List (Nat × UInt8)) (pos : Nat) : Option (Nat × Nat × Nat) :=
  ((regionsOf p instrs).filter (fun r => r.1 ≤ pos && pos < r.2.1)).foldl
    (fun (best : Option (Nat × Nat × Nat)) r =>
      match best with
      | none => some r
      | some b => if r.2.1 - r.1 < b.2.1 - b.1 then some r else some b) none

/-- the upvalue-count check of `Bytecode.wfReason` (copy of its local `checkUp`) -/
def checkUpOf (p : Program) (instrs : List (Nat × UInt8)) : Nat × UInt8 → Option String := fun (pos, o) =>
  if o == op.setUpvalue || o == op.readUpvalue then
    match enclosingOf p instrs pos with
    | none => some s!"upvalue access at {pos} outside of any closure body"
    | some (_, _, n) =>
      if rdU32 p.bytecode (pos + 1) < n then none
      else some s!"upvalue index at {pos} is not below the {n} upvalue(s) its closure registers"
  else if o == op.registerUpvalue && p.bytecode.getD (pos + 2) 0 == 0 then
    match enclosingOf p instrs pos with
    | none => some s!"non-local capture at {pos} outside of any closure body"
    | some (_, _, n) =>
      if (p.bytecode.getD (pos + 1) 0).toNat < n then none
      else some s!"non-local capture at {pos} refers to an upvalue its enclosing closure does not have"
  else none

end Cao.C10

namespace Cao.Bytecode
open Cao Cao.Compiler

/-- the operand check of `Bytecode.wfReason` (copy of its local `checkInstr`; `starts` = the decoded positions) -/
def checkInstrOf (p : Program) (starts : List Nat) : Nat × UInt8 → Option String := fun (pos, o) =>
  let a := pos + 1
  if o == op.goto || o == op.gotoIfTrue || o == op.gotoIfFalse then
    if starts.contains (rdU32 p.bytecode a) then none else some s!"jump at {pos} does not land on an instruction"
  else if o == op.stringLiteral || o == op.nativeFunctionPointer then
    if validStr p.data (rdU32 p.bytecode a) then none else some s!"string operand at {pos} is not a complete valid string"
  else if o == op.functionPointer || o == op.closure then
    let h := UInt32.ofNat (rdU32 p.bytecode a)
    if p.labels.any (fun l => l.1 == h) then none else some s!"function handle at {pos} has no label"
  else if o == op.setLocalVar || o == op.readLocalVar || o == op.setUpvalue || o == op.readUpvalue then
    if rdU32 p.bytecode a < maxSlots then none else some s!"local/upvalue index at {pos} out of range"
  else if o == op.setGlobalVar || o == op.readGlobalVar then
    if rdU32 p.bytecode a < p.varIds.length then none else some s!"global id at {pos} out of range"
  else if o == op.beginForEach || o == op.forEach then
    if (List.range 5).all (fun i => rdU32 p.bytecode (a + 4 * i) < maxSlots) then none
    else some s!"for-each slot at {pos} out of range"
  else if o == op.registerUpvalue then
    if (p.bytecode.getD (a + 1) 0).toNat ≤ 1 then none
    else some s!"register-upvalue flag at {pos} is not boolean"
  else none

/-- the clauses of the checker on the variable tables: ids dense, handles distinct, every id named, as many
names as ids -/
def IdsOK (p : Program) : Prop :=
  (∀ i, i < p.varIds.length → i ∈ p.varIds.map (·.2)) ∧ wfReason.dupH (p.varIds.map (·.1)) = false ∧
  (∀ i, i < p.varIds.length → ∃ n ∈ p.varNames, n.1 = Hash.handleFromU32 (UInt32.ofNat i)) ∧
  p.varNames.length = p.varIds.length

theorem ite_none_iff {c : Prop} [Decidable c] {s : String} : (if c then none else some s) = none ↔ c := by
  by_cases h : c
  · simp [h]
  · simp [h]

theorem ite_some_eq_none {c : Prop} [Decidable c] {s : String} {r : Option String} :
    (if c then some s else r) = none ↔ ¬ c ∧ r = none := by
  by_cases h : c
  · simp [h]
  · simp [h]

theorem checkInstrOf_none_iff {p : Program} {starts : List Nat} {pos : Nat} {o : UInt8} :
    checkInstrOf p starts (pos, o) = none ↔
    ((o = op.goto ∨ o = op.gotoIfTrue ∨ o = op.gotoIfFalse) → rdU32 p.bytecode (pos + 1) ∈ starts) ∧
    ((o = op.stringLiteral ∨ o = op.nativeFunctionPointer) → validStr p.data (rdU32 p.bytecode (pos + 1)) = true) ∧
    ((o = op.functionPointer ∨ o = op.closure) →
      ∃ l ∈ p.labels, l.1 = UInt32.ofNat (rdU32 p.bytecode (pos + 1))) ∧
    ((o = op.setLocalVar ∨ o = op.readLocalVar ∨ o = op.setUpvalue ∨ o = op.readUpvalue) →
      rdU32 p.bytecode (pos + 1) < maxSlots) ∧
    ((o = op.setGlobalVar ∨ o = op.readGlobalVar) → rdU32 p.bytecode (pos + 1) < p.varIds.length) ∧
    ((o = op.beginForEach ∨ o = op.forEach) → ∀ i, i < 5 → rdU32 p.bytecode (pos + 1 + 4 * i) < maxSlots) ∧
    (o = op.registerUpvalue → (p.bytecode.getD (pos + 1 + 1) 0).toNat ≤ 1) := by
  have hany : ∀ h : UInt32, p.labels.any (fun l => l.1 == h) = true ↔ ∃ l ∈ p.labels, l.1 = h := fun h => by
    simp only [List.any_eq_true, beq_iff_eq]
  have hall : ((List.range 5).all fun i => decide (rdU32 p.bytecode (pos + 1 + 4 * i) < maxSlots)) = true ↔
      ∀ i, i < 5 → rdU32 p.bytecode (pos + 1 + 4 * i) < maxSlots := by
    simp only [List.all_eq_true, List.mem_range, decide_eq_true_eq]
  unfold checkInstrOf
  dsimp only
  constructor
  · -- each opcode of a class selects the branch of its class
    intro h
    refine ⟨?_, ?_, ?_, ?_, ?_, ?_, ?_⟩
    · rintro (rfl | rfl | rfl) <;> rw [if_pos (by decide)] at h <;> exact List.contains_iff_mem.1 (ite_none_iff.1 h)
    · rintro (rfl | rfl) <;> rw [if_neg (by decide), if_pos (by decide)] at h <;> exact ite_none_iff.1 h
    · rintro (rfl | rfl) <;> rw [if_neg (by decide), if_neg (by decide), if_pos (by decide)] at h <;>
        exact (hany _).1 (ite_none_iff.1 h)
    · rintro (rfl | rfl | rfl | rfl) <;>
        rw [if_neg (by decide), if_neg (by decide), if_neg (by decide), if_pos (by decide)] at h <;>
        exact ite_none_iff.1 h
    · rintro (rfl | rfl) <;>
        rw [if_neg (by decide), if_neg (by decide), if_neg (by decide), if_neg (by decide), if_pos (by decide)] at h <;>
        exact ite_none_iff.1 h
    · rintro (rfl | rfl) <;>
        rw [if_neg (by decide), if_neg (by decide), if_neg (by decide), if_neg (by decide), if_neg (by decide),
          if_pos (by decide)] at h <;>
        exact hall.1 (ite_none_iff.1 h)
    · rintro rfl
      rw [if_neg (by decide), if_neg (by decide), if_neg (by decide), if_neg (by decide), if_neg (by decide),
        if_neg (by decide), if_pos (by decide)] at h
      exact ite_none_iff.1 h
  · -- down the cascade: the first class the opcode belongs to is the one whose clause is used
    rintro ⟨c1, c2, c3, c4, c5, c6, c7⟩
    by_cases h1 : (o == op.goto || o == op.gotoIfTrue || o == op.gotoIfFalse) = true
    · rw [if_pos h1]
      exact ite_none_iff.2 (List.contains_iff_mem.2 (c1 (by simpa [or_assoc] using h1)))
    rw [if_neg h1]
    by_cases h2 : (o == op.stringLiteral || o == op.nativeFunctionPointer) = true
    · rw [if_pos h2]
      exact ite_none_iff.2 (c2 (by simpa using h2))
    rw [if_neg h2]
    by_cases h3 : (o == op.functionPointer || o == op.closure) = true
    · rw [if_pos h3]
      exact ite_none_iff.2 ((hany _).2 (c3 (by simpa using h3)))
    rw [if_neg h3]
    by_cases h4 : (o == op.setLocalVar || o == op.readLocalVar || o == op.setUpvalue || o == op.readUpvalue) = true
    · rw [if_pos h4]
      exact ite_none_iff.2 (c4 (by simpa [or_assoc] using h4))
    rw [if_neg h4]
    by_cases h5 : (o == op.setGlobalVar || o == op.readGlobalVar) = true
    · rw [if_pos h5]
      exact ite_none_iff.2 (c5 (by simpa using h5))
    rw [if_neg h5]
    by_cases h6 : (o == op.beginForEach || o == op.forEach) = true
    · rw [if_pos h6]
      exact ite_none_iff.2 (hall.2 (c6 (by simpa using h6)))
    rw [if_neg h6]
    by_cases h7 : (o == op.registerUpvalue) = true
    · rw [if_pos h7]
      exact ite_none_iff.2 (c7 (by simpa using h7))
    · rw [if_neg h7]

theorem wfReason_none_iff (p : Program) : wfReason p = none ↔
    ∃ l, decodeAll p.bytecode (p.bytecode.size + 1) 0 [] = .ok l ∧
      (∃ a, l.getLast? = some (a, op.exit)) ∧
      (∀ x ∈ l, checkInstrOf p (l.map (·.1)) x = none) ∧
      l.findSome? (C10.checkUpOf p l) = none ∧
      (∀ lab ∈ p.labels, lab.2 ∈ l.map (·.1)) ∧
      (∀ t ∈ p.trace, t.1 ∈ l.map (·.1)) ∧
      (∀ x ∈ l, needsTrace x.2 = true → ∃ t ∈ p.trace, t.1 = x.1) ∧
      IdsOK p := by
  unfold wfReason
  constructor
  · intro h
    split at h
    · cases h
    next l hl =>
    dsimp only at h
    split at h
    · cases h
    next a lastOp hlast =>
    -- `split` would simplify the whole of `h` to get rid of this `if`
    by_cases hexit : (lastOp != op.exit) = true
    · rw [if_pos hexit] at h; cases h
    rw [if_neg hexit] at h
    split at h
    · cases h
    next hci =>
    split at h
    · cases h
    next hcu =>
    split at h
    · cases h
    next hlab =>
    split at h
    · cases h
    next htr =>
    split at h
    · cases h
    next hcomp =>
    rw [List.find?_eq_none] at hlab htr hcomp
    refine ⟨l, hl, ⟨a, by rw [hlast, show lastOp = op.exit by simpa using hexit]⟩,
      List.findSome?_eq_none_iff.1 hci, hcu,
      fun lab hm => List.contains_iff_mem.1 (by simpa using hlab lab hm),
      fun t ht => List.contains_iff_mem.1 (by simpa using htr t ht), fun x hm hn => ?_, ?_⟩
    · have := hcomp x hm
      obtain ⟨y, hy⟩ : ∃ y, (x.1, y) ∈ p.trace := by simpa [hn] using this
      exact ⟨(x.1, y), hy, rfl⟩
    · simp only [ite_some_eq_none, Bool.not_eq_true', Bool.not_eq_false, List.all_eq_true, List.mem_range,
        List.contains_iff_mem, List.any_eq_true, beq_iff_eq, Bool.not_eq_true, bne_eq_false_iff_eq, and_true] at h
      exact ⟨h.1, h.2.2.1, h.2.2.2.1, h.2.2.2.2⟩
  · rintro ⟨l, hl, ⟨a, hlast⟩, hci, hcu, hlab, htr, hcomp, g1, g2, g3, g4⟩
    rw [hl]
    dsimp only
    rw [hlast]
    dsimp only
    rw [if_neg (by decide)]
    split
    · rename_i r hr
      exact absurd ((List.findSome?_eq_none_iff.2 hci).symm.trans hr) (by simp)
    split
    · rename_i r hr
      exact absurd (hcu.symm.trans hr) (by simp)
    split
    · rename_i h pos hf
      have hp := List.find?_some hf
      rw [List.contains_iff_mem.2 (hlab _ (List.mem_of_find?_eq_some hf))] at hp
      cases hp
    split
    · rename_i pos tr hf
      have hp := List.find?_some hf
      rw [List.contains_iff_mem.2 (htr _ (List.mem_of_find?_eq_some hf))] at hp
      cases hp
    split
    · rename_i pos o hf
      have hp := List.find?_some hf
      simp only [Bool.and_eq_true, Bool.not_eq_true'] at hp
      obtain ⟨t, ht, e⟩ := hcomp _ (List.mem_of_find?_eq_some hf) hp.1
      rw [List.any_eq_true.2 ⟨t, ht, by simp [e]⟩] at hp
      cases hp.2
    simp only [ite_some_eq_none, Bool.not_eq_true', Bool.not_eq_false, List.all_eq_true, List.mem_range,
      List.contains_iff_mem, List.any_eq_true, beq_iff_eq, Bool.not_eq_true, bne_eq_false_iff_eq, and_true]
    exact ⟨g1, by simp, g2, g3, g4⟩

end Cao.Bytecode
