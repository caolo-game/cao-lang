import CaoProofs.Lemmas.VmLogic
import CaoProofs.Lemmas.StackLemmas
/-!
# The primitives of the interpreter as equations on `M.go`

What a run of `m >>= f` says about the runs of `m` and `f` (`ok_bind`, `err_bind`, `go_bind_ok`), and one equation per
primitive of `CaoModel/Vm.lean` that proofs follow step by step. At the end the instructions of `Lemmas/Instr.lean`
that several proofs follow exactly (`Pop`, `Return`, `CallFunction`), each as one equation for every state.
-/
namespace Cao.Upv
open Cao Cao.Vm

theorem upvalueSlot_eq_some {h : Heap} {a i : Nat} :
    upvalueSlot h a = some i ↔ h.get a = some (.upvalue (.stack i)) := by
  unfold upvalueSlot
  split
  · next j hj => rw [hj]; simp
  · next hne =>
    constructor
    · intro h1; cases h1
    · intro h1; exact absurd h1 (hne i)

def closeState (top : Nat) (s : VmState) : VmState :=
  { s with openUpvalues := (closeUpvalues.go top s s.openUpvalues s.heap).1,
           heap := (closeUpvalues.go top s s.openUpvalues s.heap).2 }

theorem closeState_nil {s : VmState} (h : s.openUpvalues = []) (top : Nat) : closeState top s = s := by
  unfold closeState
  rw [h, closeUpvalues.go, ← h]

end Cao.Upv

namespace Cao.Vm
open Cao.Gc

/-! ## inversion of successful and failing runs -/
section inversion
variable {α β : Type}

theorem ok_bind {m : M α} {f : α → M β} {s s'' : VmState} {b : β}
    (h : (m >>= f).go s = (.ok b, s'')) :
    ∃ a s', m.go s = (.ok a, s') ∧ (f a).go s' = (.ok b, s'') := by
  rw [go_bind] at h
  rcases hm : m.go s with ⟨r, s'⟩
  rw [hm] at h
  cases r with
  | error e => simp at h
  | ok a => exact ⟨a, s', rfl, h⟩

theorem err_bind {m : M α} {f : α → M β} {s s'' : VmState} {e : ErrKind}
    (h : (m >>= f).go s = (.error e, s'')) :
    m.go s = (.error e, s'') ∨ ∃ a s', m.go s = (.ok a, s') ∧ (f a).go s' = (.error e, s'') := by
  rw [go_bind] at h
  rcases hm : m.go s with ⟨r, s'⟩
  rw [hm] at h
  cases r with
  | error e' => left; simpa using h
  | ok a => right; exact ⟨a, s', rfl, h⟩

theorem go_bind_ok {m : M α} {f : α → M β} {s s' : VmState} {a : α} (h : m.go s = (.ok a, s')) :
    (m >>= f).go s = (f a).go s' := by rw [go_bind, h]

end inversion

/-! ## the value stack -/

theorem go_peek (n : Nat) (s : VmState) : (peek n).go s = (.ok (s.stack.peekLast n), s) := rfl

theorem peekLast_mem {st : VStack Val} {n a : Nat} (h : st.peekLast n = .obj a) :
    Val.obj a ∈ st.contents := by
  unfold VStack.peekLast at h
  split at h
  · exact Native.getD_obj_mem (by omega) h
  · cases h

theorem go_popN (n : Nat) (s : VmState) :
    (popN n).go s = (.ok ⟨⟩, { s with stack := (s.stack.popN n).1 }) := rfl

theorem go_pop (s : VmState) : pop.go s = (.ok s.stack.pop.2, { s with stack := s.stack.pop.1 }) := rfl

theorem go_push (v : Val) (s : VmState) :
    (push v).go s =
      if s.stack.count + 1 < s.stack.data.length then
        (.ok ⟨⟩, { s with stack := ⟨s.stack.count + 1, s.stack.data.set s.stack.count v⟩ })
      else (.error .stackoverflow, s) := by
  unfold push
  simp only [go_bind, go_get, VStack.push]
  by_cases h : s.stack.count + 1 < s.stack.data.length
  · simp only [h, if_true]; rfl
  · simp only [h, if_false]; rfl

theorem push_ok {v : Val} {s s' : VmState} {u : PUnit} (h : (push v).go s = (.ok u, s')) :
    s.stack.count + 1 < s.stack.data.length ∧
    s' = { s with stack := ⟨s.stack.count + 1, s.stack.data.set s.stack.count v⟩ } := by
  rw [go_push] at h
  split at h
  · next hc => exact ⟨hc, by simpa using h.symm⟩
  · simp at h

theorem push_err {v : Val} {s s' : VmState} {e : ErrKind} (h : (push v).go s = (.error e, s')) :
    e = .stackoverflow ∧ s' = s := by
  rw [go_push] at h
  split at h
  · simp at h
  · simp only [Prod.mk.injEq, Except.error.injEq] at h
    exact ⟨h.1.symm, h.2.symm⟩

/-! ## the running frame and its locals -/

theorem go_curFrame (s : VmState) : curFrame.go s = match s.frames.getLast? with
    | some f => (.ok f, s)
    | none => (.error (.panic "call stack is empty"), s) := by
  unfold curFrame
  simp only [go_bind, go_get]
  cases s.frames.getLast? <;> rfl

theorem go_curFrame_some {s : VmState} {fr : Frame} (h : s.frames.getLast? = some fr) :
    curFrame.go s = (.ok fr, s) := by
  rw [go_curFrame, h]

theorem go_readLocal (off idx : Nat) (s : VmState) :
    (readLocal off idx).go s = (.ok (s.stack.get (off + idx)), s) := rfl

theorem go_writeLocal (off idx : Nat) (v : Val) (s : VmState) :
    (writeLocal off idx v).go s = match (s.stack.set (off + idx) v).2 with
      | .ok _ => (.ok ⟨⟩, { s with stack := (s.stack.set (off + idx) v).1 })
      | .error _ => (.error .varNotFound, s) := by
  unfold writeLocal
  simp only [go_bind, go_get]
  rcases s.stack.set (off + idx) v with ⟨st, r⟩
  cases r <;> rfl

/-! ## guards and objects -/

theorem go_dropGuard (a : Nat) (s : VmState) :
    (dropGuard a).go s = (.ok ⟨⟩, { s with guards := s.guards.erase a }) := rfl

theorem go_newObject (o : Obj) (s : VmState) : (newObject o).go s = (.ok s.heap.next, withObject o s) := rfl

theorem go_allocBytes (c : Nat) (s : VmState) : (allocBytes c).go s = allocPure c s := allocBytes_run c s

theorem go_initSimple (o : Obj) (s : VmState) : (initSimple o).go s = alloc1Pure Heap.objCharge o s :=
  initSimple_run o s

theorem go_tableInsert (a : Nat) (k v : Val) (s : VmState) :
    (tableInsert a k v).go s = tableInsertPure a k v s := tableInsert_run a k v s

/-! ## upvalue objects -/

theorem go_readUpvalueLoc_open {s : VmState} {u i : Nat} (h : s.heap.get u = some (.upvalue (.stack i))) :
    (readUpvalueLoc u).go s = (.ok (s.stack.data.getD i .nil), s) := by
  unfold readUpvalueLoc
  simp only [go_bind, go_get, h, go_pure]

theorem go_readUpvalueLoc_closed {s : VmState} {u : Nat} {v : Val}
    (h : s.heap.get u = some (.upvalue (.closed v))) : (readUpvalueLoc u).go s = (.ok v, s) := by
  unfold readUpvalueLoc
  simp only [go_bind, go_get, h, go_pure]

theorem go_writeUpvalueLoc_open {s : VmState} {u i : Nat} (v : Val)
    (h : s.heap.get u = some (.upvalue (.stack i))) :
    (writeUpvalueLoc u v).go s =
      (.ok ⟨⟩, { s with stack := { s.stack with data := s.stack.data.set i v } }) := by
  unfold writeUpvalueLoc
  simp only [go_bind, go_get, h, go_set]

theorem go_writeUpvalueLoc_closed {s : VmState} {u : Nat} (v : Val) {w : Val}
    (h : s.heap.get u = some (.upvalue (.closed w))) :
    (writeUpvalueLoc u v).go s = (.ok ⟨⟩, { s with heap := s.heap.set u (.upvalue (.closed v)) }) := by
  unfold writeUpvalueLoc
  simp only [go_bind, go_get, h, go_set]

theorem go_closeUpvalues (top : Nat) (s : VmState) :
    (closeUpvalues top).go s = (.ok ⟨⟩, Upv.closeState top s) := by
  unfold closeUpvalues Upv.closeState
  simp only [go_bind, go_get]
  rcases closeUpvalues.go top s s.openUpvalues s.heap with ⟨l, h⟩
  rfl

/-! ## entering a script function -/

/-- `push_call_frame` + jump, as a function of the state -/
theorem go_callScript (p : Prog) (src ip : Nat) (l : UInt32) (ar : Nat) (c : Option Nat) (s : VmState) :
    (step.callScript p src ip l ar c).go s =
      if s.frames.isEmpty = true then (.error (.panic "Call stack was empty"), s) else
      if s.stack.count < ar then (.error .missingArgument, s) else
      if s.frames.length ≥ s.frameCap then (.error .callStackOverflow, s) else
      match p.labels.find? (fun l' => l'.1 == l) with
      | some (_, pos) =>
        (.ok { ip := pos },
          { s with frames := s.frames.dropLast ++ [{ (s.frames.getLast?.getD ⟨0, 0, 0, none⟩) with dst := ip }] ++
              [{ src := src, dst := ip, stackOffset := s.stack.count - ar, closure := c }] })
      | none =>
        (.error .procedureNotFound,
          { s with frames := s.frames.dropLast ++ [{ (s.frames.getLast?.getD ⟨0, 0, 0, none⟩) with dst := ip }] ++
              [{ src := src, dst := ip, stackOffset := s.stack.count - ar, closure := c }] }) := by
  unfold step.callScript
  by_cases h1 : s.frames.isEmpty = true
  · simp only [go_bind, go_get, h1, if_true, go_throwE]
  by_cases h2 : s.stack.count < ar
  · simp only [go_bind, go_get, h1, Bool.false_eq_true, if_false, h2, if_true, go_throwE]
  by_cases h3 : s.frames.length ≥ s.frameCap
  · simp only [go_bind, go_get, h1, Bool.false_eq_true, if_false, h2, h3, if_true, go_throwE]
  simp only [go_bind, go_get, h1, Bool.false_eq_true, if_false, h2, h3, go_set]
  cases p.labels.find? (fun l' => l'.1 == l) with
  | none => rfl
  | some x => rfl

@[elab_as_elim]
theorem callScript_cases {motive : Except ErrKind Ctl × VmState → Prop} (p : Prog) (src ip : Nat) (l : UInt32)
    (ar : Nat) (c : Option Nat) (s : VmState)
    (empty : s.frames = [] → motive (.error (.panic "Call stack was empty"), s))
    (refused : ∀ e, s.frames ≠ [] → PlainErr e → motive (.error e, s))
    (entered : ∀ fr r, s.frames.getLast? = some fr →
      (r = .error .procedureNotFound ∨ ∃ e, p.labels.find? (fun x => x.1 == l) = some e ∧ r = .ok { ip := e.2 }) →
      motive (r, { s with frames := s.frames.dropLast ++ [{ fr with dst := ip }] ++
        [{ src := src, dst := ip, stackOffset := s.stack.count - ar, closure := c }] })) :
    motive ((step.callScript p src ip l ar c).go s) := by
  rw [go_callScript]
  split
  · next h => exact empty (List.isEmpty_iff.1 h)
  next hne =>
  have hne : s.frames ≠ [] := fun h => hne (List.isEmpty_iff.2 h)
  split
  · exact refused _ hne ⟨rfl, nofun⟩
  split
  · exact refused _ hne ⟨rfl, nofun⟩
  obtain ⟨fr, hfr⟩ : ∃ fr, s.frames.getLast? = some fr := ⟨_, List.getLast?_eq_some_getLast hne⟩
  rw [hfr]
  split
  · next hfind => exact entered fr _ hfr (.inr ⟨_, hfind, rfl⟩)
  · exact entered fr _ hfr (.inl rfl)

theorem callScript_frames (p : Prog) (src ip : Nat) (l : UInt32) (ar : Nat) (c : Option Nat) (s : VmState) :
    ∃ fs, ((step.callScript p src ip l ar c).go s).2 = { s with frames := fs } :=
  callScript_cases p src ip l ar c s (fun _ => ⟨_, rfl⟩) (fun _ _ _ => ⟨_, rfl⟩) fun _ _ _ _ => ⟨_, rfl⟩

/-! ## `getTable` with a fallback -/

/-- the table test of `ForEach`: `<|>` replaces whatever error `getTable` raises -/
theorem go_getTableOr (v : Val) (e : ErrKind) (s : VmState) :
    ((do let (_, _, es) ← getTable v; pure es) <|> throwE e : M (List (Val × Val))).go s =
      match isTable s.heap v with
      | some es => (.ok es, s)
      | none => (.error e, s) := by
  refine (go_orElse _ (fun _ => throwE e) s).trans ?_
  rw [go_bind]
  cases v with
  | obj a =>
    rw [show (getTable (.obj a)).go s = _ from getTable_run a s]
    unfold isTable
    cases hg : s.heap.get a with
    | none => simp [hg]
    | some o => cases o <;> simp [hg]
  | _ => rfl

/-! ## primitives that succeed -/

theorem _root_.Cao.VStack.push_ok {α : Type} [Inhabited α] {st st' : VStack α} {v : α} (h : st.push v = (st', .ok ())) :
    st.count + 1 < st.data.length ∧ st' = ⟨st.count + 1, st.data.set st.count v⟩ := by
  unfold VStack.push at h
  split at h
  · next hc => exact ⟨hc, (Prod.mk.inj h).1.symm⟩
  · cases (Prod.mk.inj h).2

theorem go_push_ok {v : Val} {s : VmState} {st' : VStack Val} (h : s.stack.push v = (st', .ok ())) :
    (push v).go s = (.ok ⟨⟩, { s with stack := st' }) := by
  rw [go_push, if_pos (VStack.push_ok h).1, (VStack.push_ok h).2]

theorem go_writeLocal_ok {off idx : Nat} {v old : Val} {s : VmState} {st' : VStack Val}
    (h : s.stack.set (off + idx) v = (st', .ok old)) :
    (writeLocal off idx v).go s = (.ok ⟨⟩, { s with stack := st' }) := by
  rw [go_writeLocal, h]

/-! ## instructions -/

theorem go_instrPop (ip : Nat) (s : VmState) :
    (Upv.Instr.pop ip).go s = (.ok { ip }, { s with stack := s.stack.pop.1 }) := rfl

/-- `Return`, with `clear_until` and the final `push` left standing; `Cross.go_ret`
    (`Lemmas/CrossLemmas.lean`) is the same equation with both evaluated -/
theorem go_instrRet (s : VmState) :
    Upv.Instr.ret.go s =
      match s.frames.getLast? with
      | none => (.error .badReturn, s)
      | some fr =>
        let s' : VmState := { Upv.closeState fr.stackOffset { s with frames := s.frames.dropLast } with
                               stack := (s.stack.clearUntil fr.stackOffset).1 }
        match s.frames.dropLast.getLast? with
        | none => (.error .badReturn, s')
        | some caller => (do push s.stack.last; pure ({ ip := caller.dst } : Ctl) : M Ctl).go s' := by
  unfold Upv.Instr.ret
  simp only [go_bind, go_get]
  cases s.frames.getLast? with
  | none => rfl
  | some fr =>
    simp only [go_bind, go_set, go_closeUpvalues, go_get, VStack.clearUntil]
    rw [show (Upv.closeState fr.stackOffset { s with frames := s.frames.dropLast }).frames = s.frames.dropLast from rfl]
    cases s.frames.dropLast.getLast? with
    | none => rfl
    | some caller => simp only [go_bind]; rfl

theorem go_instrCallFunction (p : Prog) (re : Reenter) (src : Nat) (s : VmState) :
    (Cross.Instr.callFunction p re src).go s =
      let s1 : VmState := { s with stack := s.stack.pop.1 }
      match s.stack.pop.2 with
      | .obj a =>
        match s.heap.get a with
        | some (.native h) => (do callNative re h; pure ({ ip := src + 1 } : Ctl) : M Ctl).go s1
        | some (.fn h ar) => (step.callScript p src (src + 1) h ar.toNat none).go s1
        | some (.closure h ar _) => (step.callScript p src (src + 1) h ar.toNat (some a)).go s1
        | _ => (.error .invalidArgument, s1)
      | _ => (.error .invalidArgument, s1) := by
  unfold Cross.Instr.callFunction
  rw [go_bind, go_pop]
  cases s.stack.pop.2 with
  | obj a =>
    dsimp only
    rw [go_bind, go_get]
    dsimp only
    cases s.heap.get a with
    | none => rfl
    | some o => cases o <;> rfl
  | _ => rfl

theorem go_instrCallFunction_fn {p : Prog} {re : Reenter} {src : Nat} {s : VmState} {a pos : Nat} {h ar h' : UInt32}
    (hpop : s.stack.pop.2 = .obj a) (hget : s.heap.get a = some (.fn h ar)) (hfr : s.frames ≠ [])
    (hargs : ar.toNat ≤ s.stack.pop.1.count) (hroom : s.frames.length < s.frameCap)
    (hl : p.labels.find? (fun l => l.1 == h) = some (h', pos)) :
    (Cross.Instr.callFunction p re src).go s = (.ok { ip := pos },
      { s with stack := s.stack.pop.1,
               frames := s.frames.dropLast ++ [{ (s.frames.getLast?.getD ⟨0, 0, 0, none⟩) with dst := src + 1 }] ++
                 [{ src := src, dst := src + 1, stackOffset := s.stack.pop.1.count - ar.toNat, closure := none }] }) := by
  rw [go_instrCallFunction, hpop]
  dsimp only
  rw [hget]
  dsimp only
  rw [go_callScript, if_neg fun he => hfr (List.isEmpty_iff.1 he), if_neg (Nat.not_lt.2 hargs),
    if_neg (Nat.not_le.2 hroom), hl]

end Cao.Vm
