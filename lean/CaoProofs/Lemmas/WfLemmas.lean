import CaoProofs.Lemmas.WfInv
import CaoProofs.Lemmas.CompilerLemmas
/-!
# Hoare-style rules for the structural invariant `Inv` (C10)

`Tr k K Q m`: started in a state with at least `k` bytes of bytecode that satisfies `Inv H` (for any
hole set `H`), in which every position in `K` is a known instruction start `≤ k`, a successful run
of `m` keeps the first `k` bytes and the jump table, only appends labels and trace entries (keyed by new
positions: `Rel`), re-establishes `Inv H`, and its result satisfies `Q`.  The file proves the triple for the primitives of `process_card`, the back-patched arms
included (`hole_step`, `patch_step`: a jump emitted with a placeholder operand is a hole in `H` until
`patchI32` closes it); `trLogic` hands them to `CodeLogic`, which does the cards.
-/
namespace Cao.Compiler.Wf
open Cao Cao.Bytecode

structure Rel (k : Nat) (s s' : CState) : Prop where
  ext : Ext k s s'
  labels : ∃ l, s'.labels = s.labels ++ l
  jt : s'.jumpTable = s.jumpTable

theorem Rel.refl (k : Nat) (s : CState) : Rel k s s := ⟨Ext.refl _ _, ⟨[], by simp⟩, rfl⟩

theorem Rel.trans {k : Nat} {s s1 s2 : CState} (h1 : Rel k s s1) (h2 : Rel k s1 s2) : Rel k s s2 :=
  ⟨h1.ext.trans h2.ext, grows_trans h1.labels h2.labels, by rw [h2.jt, h1.jt]⟩

theorem Rel.weaken {k k' : Nat} {s s' : CState} (h : Rel k s s') (hk : k' ≤ k) : Rel k' s s' :=
  ⟨h.ext.weaken hk, h.labels, h.jt⟩

def KF (K : Nat → Prop) (k : Nat) (s : CState) : Prop := ∀ t, K t → t ≤ k ∧ Start s.bytecode t

theorem KF.ext {K : Nat → Prop} {k : Nat} {s s' : CState} (h : KF K k s) (he : Ext k s s') : KF K k s' := by
  intro t ht
  obtain ⟨h1, h2⟩ := h t ht
  exact ⟨h1, h2.congr fun i _ hi => getD_of_getElem? (he.pref i (by omega))⟩

theorem KF.mono {K : Nat → Prop} {k k' : Nat} {s : CState} (h : KF K k s) (hk : k ≤ k') : KF K k' s :=
  fun t ht => ⟨Nat.le_trans (h t ht).1 hk, (h t ht).2⟩

/-- the list-length part of `Aux`, as a fact about a state value read by `get` -/
structure LocOK (s : CState) : Prop where
  locals : ∀ ls ∈ s.locals, ls.length ≤ 255
  upvalues : ∀ us ∈ s.upvalues, us.length ≤ 255

structure Tr {α : Type} (k : Nat) (K : Nat → Prop) (Q : α → Prop) (m : CM α) : Prop where
  run : ∀ (H : Nat → Prop) s a s', m s = .ok (a, s') → k ≤ s.bytecode.size → Inv H s → KF K k s →
    Rel k s s' ∧ Inv H s' ∧ Q a

variable {k : Nat} {K : Nat → Prop}

structure Pre (k : Nat) (K : Nat → Prop) (H : Nat → Prop) (s : CState) : Prop where
  hk : k ≤ s.bytecode.size
  inv : Inv H s
  kf : KF K k s

theorem Pre.rel {k : Nat} {K H : Nat → Prop} {s s' : CState} (hp : Pre k K H s) (hr : Rel k s s')
    (hi : Inv H s') : Pre k K H s' :=
  ⟨Nat.le_trans hp.hk hr.ext.size_le, hi, hp.kf.ext hr.ext⟩

theorem tr_sat {α : Type} {Q : α → Prop} {m : CM α} :
    Tr k K Q m ↔ ∀ H, Sat (Pre k K H) (fun s s' => Rel k s s' ∧ Inv H s') Q m :=
  ⟨fun h H s a s' hr hp => and_assoc.2 (h.run H s a s' hr hp.hk hp.inv hp.kf),
   fun h => ⟨fun H s a s' hr hk hI hK => and_assoc.1 (h H s a s' hr ⟨hk, hI, hK⟩)⟩⟩

theorem pre_stable (k : Nat) (K H : Nat → Prop) : Sat.Stable (Pre k K H) (fun s s' => Rel k s s' ∧ Inv H s') :=
  ⟨fun hp => ⟨Rel.refl _ _, hp.inv⟩, fun _ h1 h2 => ⟨h1.1.trans h2.1, h2.2⟩, fun hp h => hp.rel h.1 h.2⟩

theorem tr_pure {α : Type} {Q : α → Prop} {a : α} (h : Q a) :
    Tr k K Q (pure a : CM α) :=
  tr_sat.2 fun H => .pure (pre_stable k K H) h

theorem tr_bind {α β : Type} {Q : α → Prop} {Q' : β → Prop} {m : CM α}
    {f : α → CM β} (hm : Tr k K Q m) (hf : ∀ a, Q a → Tr k K Q' (f a)) : Tr k K Q' (m >>= f) :=
  tr_sat.2 fun H => (tr_sat.1 hm H).bind (pre_stable k K H) fun a q => tr_sat.1 (hf a q) H

theorem tr_weaken {α : Type} {k : Nat} {K : Nat → Prop} {Q Q' : α → Prop} {m : CM α}
    (hm : Tr k K Q m) (h : ∀ a, Q a → Q' a) : Tr k K Q' m :=
  tr_sat.2 fun H => (tr_sat.1 hm H).weaken h

theorem tr_get_bind {β : Type} {Q : β → Prop} {f : CState → CM β}
    (h : ∀ st, k ≤ st.bytecode.size → LocOK st →
      Tr st.bytecode.size (fun t => K t ∨ t = st.bytecode.size) Q (f st)) :
    Tr k K Q (get >>= f) := by
  constructor
  intro H s b s' hr hk hI hK
  obtain ⟨a, s1, h1, h2⟩ := bind_ok.1 hr
  simp only [get_run, Except.ok.injEq, Prod.mk.injEq] at h1
  obtain ⟨rfl, rfl⟩ := h1
  have hK' : KF (fun t => K t ∨ t = s.bytecode.size) s.bytecode.size s := by
    intro t ht
    rcases ht with ht | rfl
    · exact ⟨Nat.le_trans (hK t ht).1 hk, (hK t ht).2⟩
    · exact ⟨Nat.le_refl _, hI.tiled⟩
  obtain ⟨r, i, q⟩ := (h s hk ⟨hI.aux.locals, hI.aux.upvalues⟩).run H s b s' h2 (Nat.le_refl _) hI hK'
  exact ⟨r.weaken hk, i, q⟩

theorem tr_throw {α : Type} {k : Nat} {K : Nat → Prop} {Q : α → Prop} {e : CErr} :
    Tr k K Q (throw e : CM α) :=
  tr_sat.2 fun _ => .throw

theorem tr_fail {α : Type} {Q : α → Prop} {e : CErrKind} :
    Tr k K Q (fail e : CM α) :=
  tr_sat.2 fun _ => .fail

theorem tr_throw_bind {α β : Type} {k : Nat} {K : Nat → Prop} {Q : β → Prop} {e : CErr} {f : α → CM β} :
    Tr k K Q ((throw e : CM α) >>= f) :=
  tr_sat.2 fun _ => .throw_bind

theorem tr_fail_bind {α β : Type} {Q : β → Prop} {e : CErrKind} {f : α → CM β} :
    Tr k K Q ((fail e : CM α) >>= f) :=
  tr_sat.2 fun _ => .fail_bind

theorem tr_modify_other {f : CState → CState} (h : ∀ s, core (f s) = core s) :
    Tr k K (fun _ => True) (modify f : CM Unit) := by
  constructor
  intro H s a s' hr hk hI _
  simp only [modify_run, Except.ok.injEq, Prod.mk.injEq] at hr
  obtain ⟨_, rfl⟩ := hr
  have hc := h s
  simp only [core, Prod.mk.injEq] at hc
  exact ⟨⟨Ext.of_eq hc.1 hc.2.2.2.1, ⟨[], by simp [hc.2.2.1]⟩, hc.2.2.2.2.2.2.2.1⟩, Inv.of_core (h s) hI, trivial⟩

theorem pushSub_tr (i : Nat) : Tr k K (fun _ => True) (pushSub i) :=
  tr_modify_other fun _ => rfl

theorem popSub_tr : Tr k K (fun _ => True) popSub := tr_modify_other fun _ => rfl

theorem scopeBegin_tr : Tr k K (fun _ => True) scopeBegin :=
  tr_modify_other fun _ => rfl

theorem withSub_tr {i : Nat} {m : CM Unit} (hm : Tr k K (fun _ => True) m) :
    Tr k K (fun _ => True) (withSub i m) :=
  tr_bind (pushSub_tr i) fun _ _ => tr_bind hm fun _ _ => popSub_tr

theorem validateVarName_tr (n : String) :
    Tr k K (fun _ => True) (validateVarName n) := by
  unfold validateVarName
  split
  · exact tr_fail
  · exact tr_pure trivial

/-! ## instruction units -/

theorem _root_.Cao.Compiler.OperOK.plain {H : Nat → Prop} {s : CState} {p : Nat} {o : UInt8} {bs : List UInt8}
    (hc : constrained o = false) (ht : ∃ t ∈ s.trace, t.1 = p) : OperOK H s p o bs :=
  OperOK.of_unconstrained hc fun _ => ht

theorem _root_.Cao.Compiler.OperOK.mk_slot {H : Nat → Prop} {s : CState} {p : Nat} {o : UInt8} {x : Nat}
    (hs : isSlot o = true) (ht : ∃ t ∈ s.trace, t.1 = p) (hx : x < 255) :
    OperOK H s p o (le32 (UInt32.ofNat x)) := by
  simp only [isSlot, Bool.or_eq_true, beq_iff_eq] at hs
  rcases hs with ((hs | hs) | hs) | hs <;> subst hs <;>
  exact ⟨fun _ => ht, by nocls, by nocls, by nocls, by nocls, fun _ => ⟨x, hx, rfl⟩, by nocls, by nocls, by nocls⟩

theorem _root_.Cao.Compiler.OperOK.mk_str {H : Nat → Prop} {s : CState} {p : Nat} {o : UInt8} {off : Nat}
    (hs : isStr o = true) (ht : ∃ t ∈ s.trace, t.1 = p) (h : StrAt s.data off) :
    OperOK H s p o (le32 (UInt32.ofNat off)) := by
  simp only [isStr, Bool.or_eq_true, beq_iff_eq] at hs
  rcases hs with hs | hs <;> subst hs <;>
  exact ⟨fun _ => ht, by nocls, fun _ => ⟨off, rfl, h⟩, by nocls, by nocls, by nocls, by nocls, by nocls, by nocls⟩

theorem _root_.Cao.Compiler.OperOK.mk_fnp {H : Nat → Prop} {s : CState} {p : Nat} {bs : List UInt8}
    (ht : ∃ t ∈ s.trace, t.1 = p) (h : ∃ e ∈ s.jumpTable, bs.take 4 = le32 e.2.1) :
    OperOK H s p op.functionPointer bs :=
  ⟨fun _ => ht, by nocls, by nocls, fun _ => h, by nocls, by nocls, by nocls, by nocls, by nocls⟩

theorem _root_.Cao.Compiler.OperOK.mk_clos {H : Nat → Prop} {s : CState} {p : Nat} {bs : List UInt8}
    (ht : ∃ t ∈ s.trace, t.1 = p) (h : ∃ l ∈ s.labels, bs.take 4 = le32 l.1) :
    OperOK H s p op.closure bs :=
  ⟨fun _ => ht, by nocls, by nocls, by nocls, fun _ => h, by nocls, by nocls, by nocls, by nocls⟩

theorem _root_.Cao.Compiler.OperOK.mk_glob {H : Nat → Prop} {s : CState} {p : Nat} {o : UInt8} {x : Nat}
    (hs : isGlob o = true) (ht : ∃ t ∈ s.trace, t.1 = p) (hx : x < s.varIds.length) :
    OperOK H s p o (le32 (UInt32.ofNat x)) := by
  simp only [isGlob, Bool.or_eq_true, beq_iff_eq] at hs
  rcases hs with hs | hs <;> subst hs <;>
  exact ⟨fun _ => ht, by nocls, by nocls, by nocls, by nocls, by nocls, fun _ => ⟨x, hx, rfl⟩, by nocls, by nocls⟩

theorem _root_.Cao.Compiler.OperOK.mk_each {H : Nat → Prop} {s : CState} {p : Nat} {o : UInt8} {a b c d e : Nat}
    (hs : isEach o = true) (ht : ∃ t ∈ s.trace, t.1 = p)
    (ha : a < 255) (hb : b < 255) (hc : c < 255) (hd : d < 255) (he : e < 255) :
    OperOK H s p o (le32 (UInt32.ofNat a) ++ (le32 (UInt32.ofNat b) ++ (le32 (UInt32.ofNat c) ++
      (le32 (UInt32.ofNat d) ++ le32 (UInt32.ofNat e))))) := by
  simp only [isEach, Bool.or_eq_true, beq_iff_eq] at hs
  rcases hs with hs | hs <;> subst hs <;>
  exact ⟨fun _ => ht, by nocls, by nocls, by nocls, by nocls, by nocls, by nocls,
    fun _ => ⟨a, b, c, d, e, ha, hb, hc, hd, he, rfl⟩, by nocls⟩

theorem _root_.Cao.Compiler.OperOK.mk_reg {H : Nat → Prop} {s : CState} {p : Nat} {i f : UInt8}
    (ht : ∃ t ∈ s.trace, t.1 = p) (hf : f.toNat ≤ 1) :
    OperOK H s p op.registerUpvalue [i, f] :=
  ⟨fun _ => ht, by nocls, by nocls, by nocls, by nocls, by nocls, by nocls, by nocls, fun _ => ⟨i, f, hf, rfl⟩⟩

theorem afterInstr_trace (s : CState) (o : UInt8) (bs : List UInt8) :
    ∃ t ∈ (afterInstr s o bs).trace, t.1 = s.bytecode.size :=
  ⟨(s.bytecode.size, { ns := s.ns, function := s.curFunction, indices := s.curIndices }),
   by simp [afterInstr], rfl⟩

theorem afterInstr_rel {k : Nat} {s : CState} (hk : k ≤ s.bytecode.size) (o : UInt8) (bs : List UInt8) :
    Rel k s (afterInstr s o bs) := by
  refine ⟨⟨by simp [afterInstr], fun i hi => ?_, [_], rfl, by simp [afterInstr]⟩, ⟨[], by simp [afterInstr]⟩, rfl⟩
  show (s.bytecode ++ _)[i]? = _
  rw [Array.getElem?_append_left (by omega)]

theorem _root_.Cao.Compiler.Inv.afterInstr {H : Nat → Prop} {s : CState} {o : UInt8} {bs : List UInt8} (hI : Inv H s)
    (hsp : Gen.spanOf o = some (bs.length + 1))
    (hok : OperOK H (afterInstr s o bs) s.bytecode.size o bs) : Inv H (afterInstr s o bs) := by
  refine hI.push (o := o) (bs := bs) rfl hsp ⟨#[], by simp [Wf.afterInstr]⟩ rfl ?_ ?_ (Nat.le_refl _) rfl hok
    (hI.aux.of_eq rfl rfl rfl rfl rfl (by simp [Wf.afterInstr]))
  · intro t ht
    simp only [Wf.afterInstr, List.mem_append, List.mem_singleton] at ht
    rcases ht with ht | rfl
    · exact .inl ht
    · exact .inr rfl
  · intro t ht; simp [Wf.afterInstr, ht]

theorem instr_tr {o : UInt8} {bs : List UInt8}
    (hsp : Gen.spanOf o = some (bs.length + 1))
    (hok : ∀ (H : Nat → Prop) s, k ≤ s.bytecode.size → Inv H s → KF K k s →
      OperOK H (afterInstr s o bs) s.bytecode.size o bs) :
    Tr k K (fun _ => True) (pushInstr o >>= fun _ => emitBytes bs) := by
  constructor
  intro H s a s' hr hk hI hK
  rw [pushInstr_emit_run] at hr
  simp only [Except.ok.injEq, Prod.mk.injEq] at hr
  obtain ⟨_, rfl⟩ := hr
  exact ⟨afterInstr_rel hk o bs, hI.afterInstr hsp (hok H s hk hI hK), trivial⟩

theorem instr0_tr {o : UInt8} (hsp : Gen.spanOf o = some 1) (hc : constrained o = false) :
    Tr k K (fun _ => True) (pushInstr o) :=
  instr_tr (bs := []) hsp fun _ _ _ _ _ => .plain hc (afterInstr_trace ..)

theorem instrP_tr {o : UInt8} {bs : List UInt8}
    (hsp : Gen.spanOf o = some (bs.length + 1)) (hc : constrained o = false) :
    Tr k K (fun _ => True) (pushInstr o >>= fun _ => emitBytes bs) :=
  instr_tr hsp fun _ _ _ _ _ => .plain hc (afterInstr_trace ..)

theorem instrSlot_tr {o : UInt8} {x : Nat} (hs : isSlot o = true) (hx : x < 255) :
    Tr k K (fun _ => True) (pushInstr o >>= fun _ => emitU32 x) := by
  have hsp : Gen.spanOf o = some ((le32 (UInt32.ofNat x)).length + 1) := by
    rw [le32_length]
    simp only [isSlot, Bool.or_eq_true, beq_iff_eq] at hs
    rcases hs with ((hs | hs) | hs) | hs <;> subst hs <;> decide
  exact instr_tr hsp fun _ _ _ _ _ => .mk_slot hs (afterInstr_trace ..) hx

theorem instrJump_tr {o : UInt8} {t : Nat} (hs : isJump o = true) (ht : K t) :
    Tr k K (fun _ => True) (pushInstr o >>= fun _ => emitU32 t) := by
  have hsp : Gen.spanOf o = some ((le32 (UInt32.ofNat t)).length + 1) := by
    rw [le32_length]; exact isJump_span hs
  refine instr_tr hsp fun H s hk hI hK => .mk_jump hs (fun _ => afterInstr_trace ..) (.inr ⟨t, rfl, ?_, ?_⟩)
  · have h := (hK t ht).2
    refine h.congr fun i _ hi => ?_
    have := (hK t ht).1
    exact getD_append_left (by omega)
  · have := (hK t ht).1
    simp only [afterInstr, Array.size_append]; omega

theorem readLocalVar_tr {i : Nat} (h : i < 255) :
    Tr k K (fun _ => True) (readLocalVar i) := instrSlot_tr (by decide) h
theorem writeLocalVar_tr {i : Nat} (h : i < 255) :
    Tr k K (fun _ => True) (writeLocalVar i) := instrSlot_tr (by decide) h
theorem readUpvalue_tr {i : Nat} (h : i < 255) :
    Tr k K (fun _ => True) (readUpvalue i) := instrSlot_tr (by decide) h
theorem writeUpvalue_tr {i : Nat} (h : i < 255) :
    Tr k K (fun _ => True) (writeUpvalue i) := instrSlot_tr (by decide) h

/-! ## symbolic execution of `CM` actions -/

theorem fail_bind_run {α β : Type} (e : CErrKind) (f : α → CM β) (s : CState) :
    ((fail e : CM α) >>= f) s =
      .error (.err e (some { ns := s.ns, function := s.curFunction, indices := s.curIndices })) := rfl
theorem pure_bind_run {α β : Type} (a : α) (f : α → CM β) (s : CState) :
    ((pure a : CM α) >>= f) s = f a s := rfl

/-! ## global variables -/

structure GAux (s : CState) : Prop where
  ids : s.varIds.map (·.2) = List.range s.nextVar
  nodup : (s.varIds.map (·.1)).Pairwise (· ≠ ·)
  names : ∀ i, i < s.nextVar → ∃ n ∈ s.varNames, n.1 = idHash i
  namesEq : HInj s.nextVar → s.varNames.map (·.1) = (List.range s.nextVar).map idHash

theorem _root_.Cao.Compiler.Aux.gaux {s : CState} (h : Aux s) : GAux s := ⟨h.ids, h.nodup, h.names, h.namesEq⟩

theorem GAux.len {s : CState} (h : GAux s) : s.varIds.length = s.nextVar := by
  have := congrArg List.length h.ids
  simpa using this

theorem _root_.Cao.Compiler.HInj.mono {n m : Nat} (h : HInj m) (hnm : n ≤ m) : HInj n :=
  fun i j hi hj e => h i j (by omega) (by omega) e

/-- state components `globalId` does not touch (those its users ask for, and three more) -/
def core2 (s : CState) :=
  (s.bytecode, s.data, s.labels, s.trace, s.jumpTable, s.locals, s.upvalues, s.ns, s.curFunction, s.curIndices)

theorem globalId_spec {name : String} {s s' : CState} {id : Nat} (hr : globalId name s = .ok (id, s'))
    (hg : GAux s) :
    GAux s' ∧ id < s'.varIds.length ∧ s.varIds.length ≤ s'.varIds.length ∧ s'.nextVar ≤ s.nextVar + 1 ∧
    core2 s' = core2 s := by
  have hlen := hg.len
  rcases globalId_cases name s with ⟨_, he⟩ | ⟨_, id', s1, s2, h2, h1, hn⟩
  · rw [he] at hr; cases hr
  rw [h2] at hr
  obtain ⟨rfl, rfl⟩ := Prod.mk.inj (Except.ok.inj hr)
  simp only [List.any_eq_true, List.any_eq_false, beq_iff_eq] at hn
  rcases h1 with ⟨x, hf, rfl, e1⟩ | ⟨hf, rfl, rfl⟩
  · -- the handle has an id: it is below `nextVar`, so it has a name
    obtain rfl : s = s1 := e1.symm
    have hi : x.2 < s.nextVar := by
      have : x.2 ∈ s.varIds.map (·.2) := List.mem_map.2 ⟨_, List.mem_of_find?_eq_some hf, rfl⟩
      rw [hg.ids] at this
      exact List.mem_range.1 this
    obtain ⟨n, hn', e⟩ := hg.names x.2 hi
    rcases hn with ⟨_, rfl⟩ | ⟨hno, _⟩
    · exact ⟨hg, by rw [hlen]; exact hi, Nat.le_refl _, Nat.le_succ _, rfl⟩
    · exact absurd e (hno n hn')
  · -- a new id, the next free one
    have hnew : ∀ p ∈ s.varIds, p.1 ≠ Hash.handleFromBytes name.toUTF8.toList := fun p hp => by
      simpa using List.find?_eq_none.1 hf p hp
    have hids : (s.varIds ++ [(Hash.handleFromBytes name.toUTF8.toList, s.nextVar)]).map (·.2) =
        List.range (s.nextVar + 1) := by
      rw [List.map_append, hg.ids, List.range_succ]; rfl
    have hnd : ((s.varIds ++ [(Hash.handleFromBytes name.toUTF8.toList, s.nextVar)]).map (·.1)).Pairwise (· ≠ ·) := by
      rw [List.map_append, List.pairwise_append]
      refine ⟨hg.nodup, by simp, ?_⟩
      intro a ha b hb
      simp only [List.map_cons, List.map_nil, List.mem_singleton] at hb
      obtain ⟨p, hp, rfl⟩ := List.mem_map.1 ha
      rw [hb]; exact hnew p hp
    rcases hn with ⟨⟨n, hn', e⟩, rfl⟩ | ⟨_, rfl⟩
    · -- it has a name already: then `idHash` is not injective up to it
      refine ⟨⟨hids, hnd, fun j hj => ?_, fun hinj => ?_⟩, by simp [hlen], by simp, Nat.le_refl _, rfl⟩
      · rcases Nat.lt_succ_iff_lt_or_eq.1 hj with hj | rfl
        · exact hg.names j hj
        · exact ⟨n, hn', e⟩
      · exfalso
        have : n.1 ∈ s.varNames.map (·.1) := List.mem_map.2 ⟨n, hn', rfl⟩
        rw [hg.namesEq (hinj.mono (Nat.le_succ _))] at this
        obtain ⟨j, hj, ej⟩ := List.mem_map.1 this
        have hj' := List.mem_range.1 hj
        have hinj' : HInj (s.nextVar + 1) := hinj
        have := hinj' j s.nextVar (by omega) (by omega) (by rw [ej]; exact e)
        omega
    · refine ⟨⟨hids, hnd, fun j hj => ?_, fun hinj => ?_⟩, by simp [hlen], by simp, Nat.le_refl _, rfl⟩
      · rcases Nat.lt_succ_iff_lt_or_eq.1 hj with hj | rfl
        · obtain ⟨n, hn', e⟩ := hg.names j hj
          exact ⟨n, by simp [hn'], e⟩
        · exact ⟨(idHash s.nextVar, name), by simp [idHash], rfl⟩
      · show (s.varNames ++ _).map (·.1) = _
        rw [List.map_append, hg.namesEq (hinj.mono (Nat.le_succ _)), List.range_succ, List.map_append]
        rfl

/-! ## read-only actions -/

structure RO {α : Type} (s0 : CState) (P : α → Prop) (m : CM α) : Prop where
  run : ∀ a s', m s0 = .ok (a, s') → s' = s0 ∧ P a

theorem ro_bind {α β : Type} {s0 : CState} {Q : α → Prop} {P : β → Prop} {m : CM α} {f : α → CM β}
    (hm : RO s0 Q m) (hf : ∀ a, Q a → RO s0 P (f a)) : RO s0 P (m >>= f) := by
  constructor; intro b s' hr
  obtain ⟨a, s1, h1, h2⟩ := bind_ok.1 hr
  obtain ⟨rfl, qa⟩ := hm.run a s1 h1
  exact (hf a qa).run b s' h2

/-! ## units that involve tables -/

theorem Rel.of_append {k : Nat} {s s' : CState} {b : Array UInt8} (hk : k ≤ s.bytecode.size)
    (hb : s'.bytecode = s.bytecode ++ b)
    (ht : ∃ t, s'.trace = s.trace ++ t ∧ ∀ p ∈ t, s.bytecode.size ≤ p.1 ∧ p.1 < s'.bytecode.size)
    (hl : s'.labels = s.labels) (hj : s'.jumpTable = s.jumpTable) : Rel k s s' := by
  refine ⟨⟨by rw [hb]; simp, fun i hi => ?_, ht⟩, ⟨[], by simp [hl]⟩, hj⟩
  rw [hb, Array.getElem?_append_left (by omega)]

theorem unit_step {H : Nat → Prop} {k : Nat} {s s' : CState} {o : UInt8} {bs : List UInt8} {t : Trace}
    (hI : Inv H s) (hk : k ≤ s.bytecode.size)
    (hb : s'.bytecode = s.bytecode ++ (o :: bs).toArray)
    (htr : s'.trace = s.trace ++ [(s.bytecode.size, t)])
    (hl : s'.labels = s.labels) (hj : s'.jumpTable = s.jumpTable)
    (hd : ∃ d, s'.data = s.data ++ d) (hv : s.varIds.length ≤ s'.varIds.length)
    (hsp : Gen.spanOf o = some (bs.length + 1))
    (hok : (∃ t ∈ s'.trace, t.1 = s.bytecode.size) → OperOK H s' s.bytecode.size o bs)
    (ha : Aux s') : Rel k s s' ∧ Inv H s' := by
  refine ⟨Rel.of_append hk hb ⟨[_], htr, ?_⟩ hl hj, ?_⟩
  · intro p hp
    simp only [List.mem_singleton] at hp
    subst hp
    simp only [hb, Array.size_append, List.size_toArray, List.length_cons]
    omega
  · refine hI.push hb hsp hd hl ?_ ?_ hv hj (hok ⟨_, by rw [htr]; exact List.mem_append_right _ (List.mem_singleton.2 rfl), rfl⟩) ha
    · intro x hx
      rw [htr] at hx
      simp only [List.mem_append, List.mem_singleton] at hx
      rcases hx with hx | rfl
      · exact .inl hx
      · exact .inr rfl
    · intro x hx; rw [htr]; exact List.mem_append_left _ hx

theorem readGlobal_tr (v : String) :
    Tr k K (fun _ => True) (do let id ← globalId v; pushInstr op.readGlobalVar; emitU32 id) := by
  constructor
  intro H s a s' hr hk hI hK
  suffices h : Rel k s s' ∧ Inv H s' from ⟨h.1, h.2, trivial⟩
  obtain ⟨id, s1, h1, h2⟩ := bind_ok.1 hr
  obtain ⟨hg1, hid, hvl, hnv, hc⟩ := globalId_spec h1 hI.aux.gaux
  rw [pushInstr_bind_run, emitU32_run] at h2
  obtain ⟨_, rfl⟩ := Prod.mk.inj (Except.ok.inj h2)
  simp only [core2, Prod.mk.injEq] at hc
  obtain ⟨c1, c2, c3, c4, c5, c6, c7, c8, c9, c10⟩ := hc
  have hb : (afterInstr s1 op.readGlobalVar []).bytecode ++ (le32 (UInt32.ofNat id)).toArray =
      s.bytecode ++ (op.readGlobalVar :: le32 (UInt32.ofNat id)).toArray := by
    simp [afterInstr, c1]
  exact unit_step (o := op.readGlobalVar) (bs := le32 (UInt32.ofNat id)) hI hk hb
    (by show s1.trace ++ _ = _; rw [c4, c1]) c3 c5 ⟨#[], by simp [afterInstr, c2]⟩ hvl
    (by rw [le32_length]; decide) (fun ht => .mk_glob (by decide) ht hid)
    ⟨by show ∀ ls ∈ s1.locals, _; rw [c6]; exact hI.aux.locals,
     by show ∀ us ∈ s1.upvalues, _; rw [c7]; exact hI.aux.upvalues,
     hg1.ids, hg1.nodup, hg1.names, hg1.namesEq, by
      have := hI.aux.nv
      show s1.nextVar ≤ _
      simp only [hb, Array.size_append, List.size_toArray, List.length_cons, le32_length]
      omega⟩

/-! ## the runs of the instruction units with a table lookup in the middle -/

theorem setGlobalTail_ok {name : String} {s s' : CState} {u : Unit} (hr : setGlobalTail name s = .ok (u, s')) :
    ∃ id s1, globalId name (afterInstr s op.setGlobalVar []) = .ok (id, s1) ∧
      s' = { s1 with bytecode := s1.bytecode ++ (le32 (UInt32.ofNat id)).toArray } := by
  unfold setGlobalTail at hr
  rw [pushInstr_bind_run] at hr
  split at hr
  · rw [fail_bind_run] at hr; cases hr
  · obtain ⟨id, s1, h1, h2⟩ := bind_ok.1 hr
    rw [emitU32_run] at h2
    exact ⟨id, s1, h1, (Prod.mk.inj (Except.ok.inj h2)).2.symm⟩

theorem strInstr_ok {o : UInt8} {str : String} {s s' : CState} {u : Unit}
    (hr : (pushInstr o >>= fun _ => pushStr str) s = .ok (u, s')) :
    s' = { afterInstr s o [] with
      bytecode := (afterInstr s o []).bytecode ++ (le32 (UInt32.ofNat s.data.size)).toArray,
      data := s.data ++ (le32 (UInt32.ofNat str.toUTF8.toList.length) ++ str.toUTF8.toList).toArray } := by
  rw [pushInstr_bind_run, pushStr_run] at hr
  exact (Prod.mk.inj (Except.ok.inj hr)).2.symm

theorem fnpInstr_ok {name : String} {s s' : CState} {u : Unit}
    (hr : (pushInstr op.functionPointer >>= fun _ => encodeJump name) s = .ok (u, s')) :
    ∃ h arity, (∃ e ∈ s.jumpTable, e.2 = (h, arity)) ∧ s' = { afterInstr s op.functionPointer [] with
      bytecode := (afterInstr s op.functionPointer []).bytecode ++ (le32 h).toArray ++ (le32 arity).toArray } := by
  rw [pushInstr_bind_run] at hr
  obtain ⟨h, a, hres, rfl⟩ := encodeJump_ok hr
  exact ⟨h, a, resolveSpec_mem hres, rfl⟩

theorem setGlobalTail_tr (name : String) :
    Tr k K (fun _ => True) (setGlobalTail name) := by
  constructor
  intro H s a s' hr hk hI hK
  suffices h : Rel k s s' ∧ Inv H s' from ⟨h.1, h.2, trivial⟩
  obtain ⟨id, s1, h1, rfl⟩ := setGlobalTail_ok hr
  obtain ⟨hg1, hid, hvl, hnv, hc⟩ := globalId_spec h1
    (⟨hI.aux.ids, hI.aux.nodup, hI.aux.names, hI.aux.namesEq⟩ : GAux (afterInstr s op.setGlobalVar []))
  simp only [core2, Prod.mk.injEq] at hc
  obtain ⟨c1, c2, c3, c4, c5, c6, c7, c8, c9, c10⟩ := hc
  have hb : s1.bytecode ++ (le32 (UInt32.ofNat id)).toArray =
      s.bytecode ++ (op.setGlobalVar :: le32 (UInt32.ofNat id)).toArray := by
    simp [afterInstr, c1]
  exact unit_step (o := op.setGlobalVar) (bs := le32 (UInt32.ofNat id)) hI hk hb c4 c3 c5 ⟨#[], by simp [c2, afterInstr]⟩ hvl
    (by rw [le32_length]; decide) (fun ht => .mk_glob (by decide) ht hid)
    ⟨by show ∀ ls ∈ s1.locals, _; rw [c6]; exact hI.aux.locals,
     by show ∀ us ∈ s1.upvalues, _; rw [c7]; exact hI.aux.upvalues,
     hg1.ids, hg1.nodup, hg1.names, hg1.namesEq, by
      have := hI.aux.nv
      show s1.nextVar ≤ _
      simp only [hb, Array.size_append, List.size_toArray, List.length_cons, le32_length]
      have : (afterInstr s op.setGlobalVar []).nextVar = s.nextVar := rfl
      omega⟩

theorem strInstr_tr {o : UInt8} (ho : isStr o = true) (str : String) :
    Tr k K (fun _ => True) (pushInstr o >>= fun _ => pushStr str) := by
  constructor
  intro H s a s' hr hk hI hK
  suffices h : Rel k s s' ∧ Inv H s' from ⟨h.1, h.2, trivial⟩
  obtain rfl := strInstr_ok hr
  have hsp : Gen.spanOf o = some ((le32 (UInt32.ofNat s.data.size)).length + 1) := by
    rw [le32_length]
    simp only [isStr, Bool.or_eq_true, beq_iff_eq] at ho
    rcases ho with ho | ho <;> subst ho <;> decide
  exact unit_step (k := k) (o := o) (bs := le32 (UInt32.ofNat s.data.size))
    hI hk (by simp [afterInstr]) rfl rfl rfl ⟨_, rfl⟩ (Nat.le_refl _) hsp
    (fun ht => .mk_str ho ht ⟨str, s.data.toList, [], by simp, by simp⟩)
    (hI.aux.of_eq rfl rfl rfl rfl rfl (by simp [afterInstr]))

theorem fnpInstr_tr (name : String) :
    Tr k K (fun _ => True) (pushInstr op.functionPointer >>= fun _ => encodeJump name) := by
  constructor
  intro H s a s' hr hk hI hK
  suffices h : Rel k s s' ∧ Inv H s' from ⟨h.1, h.2, trivial⟩
  obtain ⟨h, arity, ⟨e, he, hre⟩, rfl⟩ := fnpInstr_ok hr
  exact unit_step (k := k) (o := op.functionPointer) (bs := le32 h ++ le32 arity)
    hI hk (by simp [afterInstr]) rfl rfl rfl ⟨#[], by simp [afterInstr]⟩ (Nat.le_refl _)
    (by rw [List.length_append, le32_length, le32_length]; decide)
    (fun ht => .mk_fnp ht ⟨e, he, by rw [List.take_left' (le32_length h), hre]⟩)
    (hI.aux.of_eq rfl rfl rfl rfl rfl (by simp [afterInstr]))

/-! ## locals and upvalues -/

/-- the invariant-relevant state without `locals` / `upvalues` -/
def core3 (s : CState) :=
  (s.bytecode, s.data, s.labels, s.trace, s.varIds, s.varNames, s.nextVar, s.jumpTable)

theorem _root_.Cao.Compiler.Inv.set_loc {H : Nat → Prop} {s s' : CState} (hI : Inv H s) (hc : core3 s' = core3 s)
    (hl : LocOK s') : Inv H s' := by
  simp only [core3, Prod.mk.injEq] at hc
  obtain ⟨h1, h2, h3, h4, h5, h6, h7, h8⟩ := hc
  refine hI.tables h1 (Grow.of_eq h1 h2 h3 h4 h5 h8) (fun l hl => .inl (by rw [← h3]; exact hl))
    (fun t ht => by rw [← h4]; exact ht) ⟨hl.locals, hl.upvalues, ?_, ?_, ?_, ?_, ?_⟩
  · rw [h5, h7]; exact hI.aux.ids
  · rw [h5]; exact hI.aux.nodup
  · rw [h6, h7]; exact hI.aux.names
  · rw [h6, h7]; exact hI.aux.namesEq
  · rw [h7, h1]; exact hI.aux.nv

theorem tr_modify_loc {f : CState → CState} (hc : ∀ s, core3 (f s) = core3 s)
    (hl : ∀ s, LocOK s → LocOK (f s)) : Tr k K (fun _ => True) (modify f : CM Unit) := by
  constructor
  intro H s a s' hr hk hI _
  simp only [modify_run, Except.ok.injEq, Prod.mk.injEq] at hr
  obtain ⟨_, rfl⟩ := hr
  have hc' := hc s
  simp only [core3, Prod.mk.injEq] at hc'
  exact ⟨⟨Ext.of_eq hc'.1 hc'.2.2.2.1, ⟨[], by simp [hc'.2.2.1]⟩, hc'.2.2.2.2.2.2.2⟩,
    hI.set_loc (hc s) (hl s ⟨hI.aux.locals, hI.aux.upvalues⟩), trivial⟩

theorem mem_getD_or {α : Type} (l : List α) (i : Nat) (d : α) : l.getD i d ∈ l ∨ l.getD i d = d := by
  rw [List.getD_eq_getElem?_getD]
  cases h : l[i]? with
  | none => exact .inr rfl
  | some x => exact .inl (List.mem_of_getElem? h)

theorem LocOK.getD_locals {s : CState} (h : LocOK s) (i : Nat) : (s.locals.getD i []).length ≤ 255 := by
  rcases mem_getD_or s.locals i [] with h1 | h1
  · exact h.locals _ h1
  · rw [h1]; exact Nat.zero_le _

theorem LocOK.getD_upvalues {s : CState} (h : LocOK s) (i : Nat) : (s.upvalues.getD i []).length ≤ 255 := by
  rcases mem_getD_or s.upvalues i [] with h1 | h1
  · exact h.upvalues _ h1
  · rw [h1]; exact Nat.zero_le _

theorem addLocalUnchecked_tr (n : String) :
    Tr k K (fun i => i < 255) (addLocalUnchecked n) := by
  unfold addLocalUnchecked
  apply tr_get_bind; intro st hk hloc; dsimp only
  split
  · exact tr_fail_bind
  · refine tr_bind (tr_modify_loc (fun _ => rfl) ?_) fun _ _ => tr_pure (by omega)
    intro s hs
    refine ⟨?_, hs.upvalues⟩
    intro ls hls
    simp only [List.mem_append, List.mem_singleton] at hls
    rcases hls with hls | rfl
    · exact hs.locals ls (List.dropLast_subset _ hls)
    · simp only [List.length_append, List.length_cons, List.length_nil]; omega

theorem addLocal_tr (n : String) : Tr k K (fun i => i < 255) (addLocal n) :=
  tr_bind (validateVarName_tr n) fun _ _ => addLocalUnchecked_tr n

theorem addLocals_tr : ∀ ps, Tr k K (fun _ => True) (addLocals ps)
  | [] => tr_pure trivial
  | p :: ps => tr_bind (addLocal_tr p) fun _ _ => addLocals_tr ps

def VarOK : Variable → Prop
  | .global => True
  | .local_ i => i < 255
  | .upvalue i => i < 255

theorem mem_getD {α : Type} {l : List (List α)} {x : List α} (h : x ∈ l) : ∃ i, l.getD i [] = x := by
  obtain ⟨i, hi, rfl⟩ := List.mem_iff_getElem.1 h
  exact ⟨i, by simp [List.getD_eq_getElem?_getD, hi]⟩

/-- looking a variable up only sets `captured` flags and lets upvalue lists grow up to their bound (`Captures`):
the invariant does not see it -/
theorem resolveVar_tr (n : String) : Tr k K VarOK (resolveVar n) := by
  constructor
  intro H s v s' hr hk hI _
  obtain ⟨c, hv, hup⟩ := resolveVar_ok hr
  have hloc : LocOK s := ⟨hI.aux.locals, hI.aux.upvalues⟩
  have hloc' : LocOK s' := by
    refine ⟨fun ls hls => ?_, fun us hus => ?_⟩
    · obtain ⟨i, rfl⟩ := mem_getD hls
      have := congrArg List.length (c.locals i)
      rw [List.length_map, List.length_map] at this
      rw [this]; exact hloc.getD_locals i
    · obtain ⟨g, rfl⟩ := mem_getD hus
      exact c.upvalues_le hloc.getD_upvalues g
  have hc : core3 s' = core3 s := by obtain ⟨L, U, e⟩ := c.rest; rw [e]; rfl
  have hc' := hc
  simp only [core3, Prod.mk.injEq] at hc'
  refine ⟨⟨Ext.of_eq hc'.1 hc'.2.2.2.1, ⟨[], by simp [hc'.2.2.1]⟩, hc'.2.2.2.2.2.2.2⟩, hI.set_loc hc hloc', ?_⟩
  cases v with
  | global => trivial
  | local_ i => exact Nat.lt_of_lt_of_le hv (hloc.getD_locals _)
  | upvalue u => exact hup hloc.getD_upvalues u rfl

/-! ## labels, raw bytes -/

theorem insertLabel_tr (h : UInt32) {pos : Nat} (hK : K pos) :
    Tr k K (fun _ => True) (insertLabel h pos) := by
  constructor
  intro H s a s' hr hk hI hKF
  unfold insertLabel at hr
  split at hr
  · rw [throw_bind_run] at hr; cases hr
  · simp only [modify_run, Except.ok.injEq, Prod.mk.injEq] at hr
    obtain ⟨_, rfl⟩ := hr
    have := hKF pos hK
    exact ⟨⟨Ext.of_eq rfl rfl, ⟨[(h, pos)], rfl⟩, rfl⟩, hI.label h this.2 (Nat.le_trans this.1 hk), trivial⟩

theorem cardLabel_tr : Tr k K (fun _ => True) cardLabel := by
  unfold cardLabel
  apply tr_get_bind; intro st _ _
  exact insertLabel_tr _ (Or.inr rfl)

theorem raw_tr {bytes : List UInt8}
    (h : ∀ b ∈ bytes, b = op.pop ∨ b = op.closeUpvalue) : Tr k K (fun _ => True) (emitBytes bytes) :=
  tr_sat.2 fun H => .emitBytes (pre_stable k K H) fun b hb s u s' hr hp => by
    rw [emitBytes_run] at hr
    obtain ⟨_, rfl⟩ := Prod.mk.inj (Except.ok.inj hr)
    exact ⟨⟨Rel.of_append hp.hk rfl ⟨[], by simp, by simp⟩ rfl rfl, hp.inv.raw (h b hb)⟩, trivial⟩

theorem scopeEnd_tr : Tr k K (fun _ => True) scopeEnd := by
  unfold scopeEnd
  refine tr_bind (tr_modify_other fun _ => rfl) fun _ _ => ?_
  apply tr_get_bind; intro st hk hloc; dsimp only
  refine tr_bind (tr_modify_loc (fun _ => rfl) ?_) fun _ _ => raw_tr (scopeEnd_bytes _)
  intro s hs
  refine ⟨?_, hs.upvalues⟩
  intro ls hls
  rcases List.mem_or_eq_of_mem_set hls with h | rfl
  · exact hs.locals ls h
  · rw [List.length_reverse]
    have h1 := (List.dropWhile_sublist (l := (st.locals.getD st.functionId []).reverse)
      (fun l => decide (l.depth > curDepth st))).length_le
    rw [List.length_reverse] at h1
    exact Nat.le_trans h1 (hloc.getD_locals _)

/-! ## compound rules: an instruction unit followed by more code -/

theorem tr_unit_bind {β : Type} {Q : β → Prop} {m : CM Unit} {f : Unit → CM Unit}
    {g : Unit → CM β} (hu : Tr k K (fun _ => True) (m >>= f)) (hg : Tr k K Q (g ())) :
    Tr k K Q (m >>= fun a => f a >>= g) :=
  bind_assoc m f g ▸ tr_bind hu fun _ _ => hg

theorem readProps_tr : ∀ ps, Tr k K (fun _ => True) (readProps ps)
  | [] => tr_pure trivial
  | p :: ps => by
    unfold readProps
    split
    · exact tr_unit_bind (strInstr_tr (by decide) p) <|
        tr_bind (instr0_tr (by decide) (by decide)) fun _ _ => readProps_tr ps
    · exact readProps_tr ps

/-! ## holes and back-patching -/

theorem _root_.Cao.Compiler.Ext.keep {k : Nat} {s s' : CState} (h : Ext k s s') {p : Nat} (hp : p < k) :
    s'.bytecode.getD p 0 = s.bytecode.getD p 0 := getD_of_getElem? (h.pref p hp)

theorem _root_.Cao.Compiler.Ext.keepStart {k : Nat} {s s' : CState} (h : Ext k s s') {t : Nat} (ht : t ≤ k)
    (hs : Start s.bytecode t) : Start s'.bytecode t :=
  hs.congr fun i _ hi => h.keep (by omega)

structure JumpAt (s : CState) (p : Nat) (o : UInt8) : Prop where
  start : Start s.bytecode p
  le : p + 5 ≤ s.bytecode.size
  op : s.bytecode.getD p 0 = o

theorem JumpAt.ext {k : Nat} {s s' : CState} {p : Nat} {o : UInt8} (h : JumpAt s p o) (he : Ext k s s')
    (hp : p < k) : JumpAt s' p o :=
  ⟨he.keepStart (by omega) h.start, Nat.le_trans h.le he.size_le, by rw [he.keep hp]; exact h.op⟩

theorem afterJump_pref (s : CState) (o : UInt8) (x : Nat) (i : Nat) (hi : i < s.bytecode.size) :
    (afterJump s o x).bytecode.getD i 0 = s.bytecode.getD i 0 := getD_append_left hi

theorem afterJump_op (s : CState) (o : UInt8) (x : Nat) : (afterJump s o x).bytecode.getD s.bytecode.size 0 = o :=
  getD_append_op _ _ _

theorem hole_step {H : Nat → Prop} {k : Nat} {s : CState} {o : UInt8} (x : Nat) (hI : Inv H s)
    (hk : k ≤ s.bytecode.size) (ho : isJump o = true) :
    Rel k s (afterJump s o x) ∧ Inv (fun q => H q ∨ q = s.bytecode.size) (afterJump s o x) ∧
    (afterJump s o x).bytecode.size = s.bytecode.size + 5 ∧
    JumpAt (afterJump s o x) s.bytecode.size o := by
  have z := afterJump_size s o x
  exact ⟨afterInstr_rel hk _ _, (hI.weaken fun q hq => .inl hq).afterInstr
    (by rw [le32_length]; exact isJump_span ho) (.mk_jump ho (fun _ => afterInstr_trace ..) (.inl (.inr rfl))), z,
    hI.tiled.congr fun i _ hi => afterJump_pref s o x i hi, by omega, afterJump_op s o x⟩

theorem patch_step {H H' : Nat → Prop} {k p v : Nat} {s s' : CState} {u : Unit} {o : UInt8} (hI : Inv H' s)
    (hr : patchI32 (p + 1) v s = .ok (u, s')) (hk : k ≤ p + 1)
    (hp : JumpAt s p o) (hj : isJump o = true) (hv : Start s.bytecode v) (hvle : v ≤ s.bytecode.size)
    (hH : ∀ q, H' q → H q ∨ q = p) :
    Rel k s s' ∧ Inv H s' ∧ s'.bytecode.size = s.bytecode.size ∧
    ∀ q o', q ≠ p → JumpAt s q o' → JumpAt s' q o' := by
  have hm := (patchI32_mono (k := k) v hk).run s u s' hr (by have := hp.le; omega)
  obtain ⟨bc', rfl, h1, hg⟩ := patchI32_ok hr
  have hg := hg (by have := hp.le; omega)
  refine ⟨⟨hm.1, ⟨[], by simp⟩, rfl⟩, hI.patch hp.start hp.le (by rw [hp.op]; exact hj) h1 hg hv hvle hH, h1, ?_⟩
  intro q o' hq hjq
  have hsp := isJump_span (by rw [hp.op]; exact hj : isJump (s.bytecode.getD p 0) = true)
  refine ⟨?_, by show q + 5 ≤ Array.size _; rw [h1]; exact hjq.le, ?_⟩
  · refine hjq.start.congr_starts fun t ht hlt => ?_
    show Array.getD _ t 0 = _
    rw [hg, if_neg]
    intro hc
    have := hp.start.no_overlap ht (by omega) hsp
    omega
  · show Array.getD _ q 0 = _
    rw [hg, if_neg]
    · exact hjq.op
    · intro hc
      have := hp.start.no_overlap hjq.start (by omega) hsp
      omega

/-! ## the back-patched arms -/

theorem Tr.step {α β : Type} {k : Nat} {K H : Nat → Prop} {Q : α → Prop} {m : CM α} {f : α → CM β}
    {s s'' : CState} {b : β} (hm : Tr k K Q m) (hp : Pre k K H s) (hr : (m >>= f) s = .ok (b, s'')) :
    ∃ a s', Rel k s s' ∧ Pre k K H s' ∧ Q a ∧ f a s' = .ok (b, s'') := by
  obtain ⟨a, s', h1, h2⟩ := bind_ok.1 hr
  obtain ⟨r, i, q⟩ := hm.run H s a s' h1 hp.hk hp.inv hp.kf
  exact ⟨a, s', r, hp.rel r i, q, h2⟩

theorem Tr.last {α : Type} {k : Nat} {K H : Nat → Prop} {Q : α → Prop} {m : CM α}
    {s s' : CState} {a : α} (hm : Tr k K Q m) (hp : Pre k K H s) (hr : m s = .ok (a, s')) :
    Rel k s s' ∧ Pre k K H s' ∧ Q a := by
  obtain ⟨r, i, q⟩ := hm.run H s a s' hr hp.hk hp.inv hp.kf
  exact ⟨r, hp.rel r i, q⟩

theorem encodeIfThen_tr {skip : UInt8} (hs : isJump skip = true) {m : CM Unit}
    (hm : ∀ k', k ≤ k' → Tr k' K (fun _ => True) m) : Tr k K (fun _ => True) (encodeIfThen skip m) := by
  constructor
  intro H s a s' hr hk hI hK
  obtain ⟨s3, h1, h2⟩ := encodeIfThen_ok hr
  obtain ⟨r2, i2, z2, j2⟩ := hole_step 0 hI hk hs
  obtain ⟨r3, i3, _⟩ := (hm (afterJump s skip 0).bytecode.size (by omega)).run _ _ _ _ h1 (Nat.le_refl _) i2
    ((hK.ext r2.ext).mono (by omega))
  obtain ⟨r4, i4, _⟩ := patch_step (H := H) (k := k) i3 h2 (by omega) (j2.ext r3.ext (by omega)) hs
    i3.tiled (Nat.le_refl _) (fun q hq => hq)
  exact ⟨(r2.trans (r3.weaken (by omega))).trans r4, i4, trivial⟩

/-! ## the other primitives of `process_card` -/

theorem eachInstr_tr {o : UInt8} {a b c d e : Nat}
    (ho : isEach o = true) (ha : a < 255) (hb : b < 255) (hc : c < 255) (hd : d < 255) (he : e < 255) :
    Tr k K (fun _ => True) (pushInstr o >>= fun _ => emitBytes (le32 (UInt32.ofNat a) ++ (le32 (UInt32.ofNat b) ++
      (le32 (UInt32.ofNat c) ++ (le32 (UInt32.ofNat d) ++ le32 (UInt32.ofNat e)))))) := by
  have hsp : Gen.spanOf o = some ((le32 (UInt32.ofNat a) ++ (le32 (UInt32.ofNat b) ++ (le32 (UInt32.ofNat c) ++
      (le32 (UInt32.ofNat d) ++ le32 (UInt32.ofNat e))))).length + 1) := by
    simp only [List.length_append, le32_length]
    simp only [isEach, Bool.or_eq_true, beq_iff_eq] at ho
    rcases ho with ho | ho <;> subst ho <;> decide
  exact instr_tr hsp fun _ _ _ _ _ => .mk_each ho (afterInstr_trace ..) ha hb hc hd he

theorem regInstr_tr (i : UInt8) {f : UInt8} (hf : f.toNat ≤ 1) :
    Tr k K (fun _ => True) (pushInstr op.registerUpvalue >>= fun _ => emitBytes [i, f]) :=
  instr_tr (by show Gen.spanOf op.registerUpvalue = some 3; decide) fun _ _ _ _ _ =>
    .mk_reg (afterInstr_trace ..) hf

theorem emitUpvalues_tr : ∀ ups, Tr k K (fun _ => True) (emitUpvalues ups)
  | [] => tr_pure trivial
  | (l, i) :: rest => by
    unfold emitUpvalues
    refine tr_bind (instr0_tr (by decide) (by decide)) fun _ _ => ?_
    refine tr_unit_bind (regInstr_tr i ?_) (emitUpvalues_tr rest)
    split <;> decide

theorem compileBegin_tr : Tr k K (fun _ => True) compileBegin := by
  unfold compileBegin
  refine tr_modify_loc (fun _ => rfl) fun s hs => ⟨?_, ?_⟩
  · intro ls hls
    simp only [List.mem_append, List.mem_singleton] at hls
    rcases hls with h | rfl
    · exact hs.locals ls h
    · exact Nat.zero_le _
  · intro us hus
    simp only [List.mem_append, List.mem_singleton] at hus
    rcases hus with h | rfl
    · exact hs.upvalues us h
    · exact Nat.zero_le _

theorem compileEnd_tr : Tr k K (fun _ => True) compileEnd := by
  unfold compileEnd
  exact tr_modify_loc (fun _ => rfl) fun s hs =>
    ⟨fun ls hls => hs.locals ls (List.dropLast_subset _ hls), fun us hus => hs.upvalues us (List.dropLast_subset _ hus)⟩

theorem readVarCard_tr (x : String) : Tr k K (fun _ => True) (readVarCard x) := by
  unfold readVarCard
  split
  all_goals
    refine tr_bind (resolveVar_tr _) fun v hv => ?_
    dsimp only
    split
    · exact tr_bind (readLocalVar_tr hv) fun _ _ => readProps_tr _
    · exact tr_bind (readUpvalue_tr hv) fun _ _ => readProps_tr _
    · simp only [← bind_assoc]
      exact tr_bind (readGlobal_tr _) fun _ _ => readProps_tr _

abbrev Blk (m : CM Unit) : Prop := ∀ k K, Tr k K (fun _ => True) m

theorem setVarTarget_tr (n : String) : Tr k K (fun _ => True) (setVarTarget n) := by
  rw [setVarTarget_eq]
  split
  · refine tr_bind (resolveVar_tr _) fun v hv => ?_
    split
    · exact writeLocalVar_tr hv
    · exact tr_bind (addLocal_tr n) fun _ hi => writeLocalVar_tr hi
    · exact writeUpvalue_tr hv
  · exact tr_bind (readVarCard_tr _) fun _ _ =>
      tr_unit_bind (strInstr_tr (by decide) _) (instr0_tr (by decide) (by decide))

theorem ifElseCode_tr {c t e : CM Unit} (hc : Blk c) (ht : Blk t) (he : Blk e) :
    Tr k K (fun _ => True) (ifElseCode c t e) := by
  constructor
  intro H s a s' hr hk hI hK
  obtain ⟨s1, s1', s3, s5, s5', s6, h1, h1', h3, h5, h5', h6, h7⟩ := ifElseCode_ok hr
  -- the condition
  obtain ⟨r1, i1, _⟩ := (withSub_tr (hc k K)).run H _ _ _ h1 hk hI hK
  have k1 := Nat.le_trans hk r1.ext.size_le
  obtain ⟨r1', i1', _⟩ := (pushSub_tr (k := k) (K := K) 1).run H _ _ _ h1' k1 i1 (hK.ext r1.ext)
  have k1' := Nat.le_trans k1 r1'.ext.size_le
  -- the conditional jump, with a hole, and the `then` branch
  obtain ⟨r2, i2, z2, j2⟩ := hole_step 0 i1' k1' (by decide : isJump op.gotoIfFalse = true)
  obtain ⟨r3, i3, _⟩ := (ht _ K).run _ _ _ _ h3 (Nat.le_refl _) i2
    ((((hK.ext r1.ext).ext r1'.ext).ext r2.ext).mono (by omega))
  have z3 := r3.ext.size_le
  -- the jump over the `else` branch, with a hole; the first hole is closed
  obtain ⟨r4, i4, z4, j4⟩ := hole_step (k := s3.bytecode.size) 0xEEF i3 (Nat.le_refl _)
    (by decide : isJump op.goto = true)
  obtain ⟨r5, i5, z5, keep5⟩ := patch_step (H := fun q => H q ∨ q = s3.bytecode.size) (k := k) i4 h5
    (by omega) ((j2.ext r3.ext (by omega)).ext r4.ext (by omega)) (by decide) i4.tiled (Nat.le_refl _) (by
      rintro q ((hq | hq) | hq)
      · exact .inl (.inl hq)
      · exact .inr hq
      · exact .inl (.inr hq))
  have j5 := keep5 _ _ (by omega) j4
  -- the `else` branch
  have rel5 : Rel k s s5 :=
    (((r1.trans r1').trans r2).trans (r3.weaken (by omega))).trans ((r4.weaken (by omega)).trans r5)
  have k5 := Nat.le_trans hk rel5.ext.size_le
  obtain ⟨r5', i5', _⟩ := (popSub_tr (k := s5.bytecode.size) (K := K)).run _ _ _ _ h5' (Nat.le_refl _) i5
    ((hK.ext rel5.ext).mono k5)
  obtain ⟨r6, i6, _⟩ := (withSub_tr (he s5.bytecode.size K)).run _ _ _ _ h6 r5'.ext.size_le i5'
    (((hK.ext rel5.ext).mono k5).ext r5'.ext)
  have z5' := r5'.ext.size_le
  have z6 := r6.ext.size_le
  -- the second hole is closed
  have l5 := j5.le
  obtain ⟨r7, i7, _⟩ := patch_step (H := H) (k := k) i6 h7 (by omega)
    ((j5.ext r5'.ext (by omega)).ext r6.ext (by omega)) (by decide) i6.tiled (Nat.le_refl _) (fun q hq => hq)
  exact ⟨(rel5.trans ((r5'.trans r6).weaken k5)).trans r7, i7, trivial⟩

theorem closureCtx_pre {k : Nat} {K H : Nat → Prop} {s : CState} (fh : UInt32)
    (hp : Pre k K H (afterJump s op.goto 0xEEF)) :
    Rel k (afterJump s op.goto 0xEEF) (closureCtx s fh) ∧ Pre k K H (closureCtx s fh) := by
  obtain ⟨r2, p2, _⟩ := compileBegin_tr.last (s' := { closureCtx s fh with labels := s.labels }) hp rfl
  have r3 : Rel k { closureCtx s fh with labels := s.labels } (closureCtx s fh) :=
    ⟨Ext.of_eq rfl rfl, ⟨[_], rfl⟩, rfl⟩
  exact ⟨r2.trans r3, p2.rel r3 (p2.inv.label fh p2.inv.tiled (Nat.le_refl _))⟩

theorem closureCode_tr {args : List String} {b : CM Unit} (hb : Blk b) :
    Tr k K (fun _ => True) (closureCode args b) := by
  constructor
  intro H s a s' hr hk hI hK
  obtain ⟨fh, s7, s10, s12, _, h7, h10, h12, h13⟩ := closureCode_ok hr
  -- the jump over the body, with a hole; the new context and the label of the body
  obtain ⟨r1, i1, z1, j1⟩ := hole_step (k := k) 0xEEF hI hk (by decide : isJump op.goto = true)
  obtain ⟨r2, p2⟩ := closureCtx_pre fh
    (⟨Nat.le_refl _, i1, (hK.ext r1.ext).mono (by omega)⟩ : Pre _ K (fun q => H q ∨ q = s.bytecode.size) _)
  -- the body, `ScalarNil; Return`
  obtain ⟨r7, p7, _⟩ := (tr_bind scopeBegin_tr fun _ _ => tr_bind (addLocals_tr _) fun _ _ =>
    tr_bind (hb _ _) fun _ _ => scopeEnd_tr).last p2 h7
  obtain ⟨r8, p8, _⟩ := (instr0_tr (by decide) (by decide)).last p7 (pushInstr_run op.scalarNil s7)
  obtain ⟨r9, p9, _⟩ := (instr0_tr (by decide) (by decide)).last p8 (pushInstr_run op.ret _)
  have r79 := (r7.trans r8).trans r9
  have r29 := r2.trans r79
  -- the hole is closed
  obtain ⟨r10, i10, z10, _⟩ := patch_step (H := H) (k := k) p9.inv h10 (by omega)
    (j1.ext r29.ext (by omega)) (by decide) p9.inv.tiled (Nat.le_refl _) (fun q hq => hq)
  have rel10 : Rel k s s10 := (r1.trans (r29.weaken (by omega))).trans r10
  have k10 := Nat.le_trans hk rel10.ext.size_le
  -- the `Closure` instruction: its handle has a label
  obtain ⟨l79, e79⟩ := r79.labels
  obtain ⟨l10, e10⟩ := r10.labels
  have i11 := i10.afterInstr (o := op.closure) (bs := le32 fh ++ le32 (UInt32.ofNat args.length))
    (by rw [List.length_append, le32_length, le32_length]; decide)
    (.mk_clos (afterInstr_trace ..) ⟨(fh, s.bytecode.size + 5),
      by rw [afterInstr_labels, e10, e79, closureCtx_labels]; simp, by rw [List.take_left' (le32_length _)]⟩)
  have p11 : Pre k K H _ := (⟨k10, i10, hK.ext rel10.ext⟩ : Pre k K H s10).rel (afterInstr_rel k10 ..) i11
  -- the registrations
  obtain ⟨r12, p12, _⟩ := (emitUpvalues_tr _).last p11 h12
  obtain ⟨r13, p13, _⟩ := compileEnd_tr.last p12 h13
  exact ⟨((rel10.trans (afterInstr_rel k10 ..)).trans r12).trans r13, p13.inv, trivial⟩

/-! ## the logic -/

theorem trLogic : CodeLogic (fun _ => True) fun _ _ k K Q m => Tr k K Q m where
  A_path _ _ := trivial
  A_up _ := trivial
  pure := tr_pure
  bind := tr_bind
  get_bind h := tr_get_bind fun st _ _ => h st
  pushSub := pushSub_tr
  popSub := popSub_tr
  scopeBegin := scopeBegin_tr
  scopeEnd := scopeEnd_tr
  cardLabel := cardLabel_tr
  addLocalUnchecked n _ := addLocalUnchecked_tr n
  addLocal n _ := addLocal_tr n
  instr h1 h2 _ := instrP_tr h1 h2
  readLocalVar := readLocalVar_tr
  writeLocalVar := writeLocalVar_tr
  jump := instrJump_tr
  str := strInstr_tr
  fnp := fnpInstr_tr
  each := eachInstr_tr
  setGlobalTail := setGlobalTail_tr
  readVarCard := readVarCard_tr
  setVarTarget x _ := setVarTarget_tr x
  encodeIfThen hs hm := encodeIfThen_tr hs hm
  ifElseCode _ hc ht he := ifElseCode_tr (fun k K => hc default k K trivial) (fun k K => ht default k K trivial)
    fun k K => he default k K trivial
  closureCode _ hb := closureCode_tr fun k K => hb default k K trivial

theorem processCard_tr (c : Card) : Blk (processCard c) := fun k K => trLogic.processCard c default k K trivial
theorem compileSubexprFrom_tr (i : Nat) (cs : List Card) : Blk (compileSubexprFrom i cs) :=
  fun k K => trLogic.compileSubexprFrom i cs default k K trivial

end Cao.Compiler.Wf
