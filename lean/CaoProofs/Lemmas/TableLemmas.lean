import CaoProofs.Props.C12
/-!
# Helper lemmas for C07 (`CaoLangTable`)

* `findC`: lookup of an entry by canonical key in an insertion-ordered entry list. It is
  `AL.lookup` of the association list `canonical key ↦ entry` (`lookup_canon`), which gives the
  facts that do not depend on the order; the others say how it interacts with append, overwrite
  in place (`setVal`) and drop of the last entry,
* `roomCap` (when inserting a new key into the hash part allocates) and `hm_count_eq` (the entry
  count of an `HMap` is determined by its set of keys); what `insert` / `remove` do is
  `C12.hm_insert_eq` / `C12.hm_remove_eq`.
-/
namespace Cao.TL
open Cao

theorem filterMap_fst {α β : Type} (f : α → Option (α × β)) :
    ∀ (ks : List α), (∀ k ∈ ks, ∃ v, f k = some (k, v)) → (ks.filterMap f).map Prod.fst = ks := by
  intro ks
  induction ks with
  | nil => intro _; rfl
  | cons k ks ih =>
    intro h
    obtain ⟨v, hv⟩ := h k (by simp)
    rw [List.filterMap_cons, hv]
    simp only [List.map_cons]
    rw [ih (fun k' hk' => h k' (List.mem_cons_of_mem _ hk'))]

theorem filterMap_eq_self {α : Type} (f : α → Option α) :
    ∀ (l : List α), (∀ e ∈ l, f e = some e) → l.filterMap f = l := by
  intro l
  induction l with
  | nil => intro _; rfl
  | cons a l ih =>
    intro h
    rw [List.filterMap_cons, h a (by simp), ih (fun e he => h e (List.mem_cons_of_mem _ he))]

section FindC
variable {W C : Type} [DecidableEq C] (ck : W → C)

def findC (l : List (W × W)) (c : C) : Option (W × W) := l.find? (fun e => decide (ck e.1 = c))

def ckeys (l : List (W × W)) : List C := l.map (fun e => ck e.1)

@[simp] theorem findC_nil (c : C) : findC ck ([] : List (W × W)) c = none := rfl

theorem findC_cons (e : W × W) (l : List (W × W)) (c : C) :
    findC ck (e :: l) c = if ck e.1 = c then some e else findC ck l c := by
  unfold findC
  rw [List.find?_cons]
  by_cases h : ck e.1 = c <;> simp [h]

variable {ck}

theorem lookup_canon (l : List (W × W)) (c : C) :
    AL.lookup (l.map (fun e => (ck e.1, e))) c = findC ck l c := by
  induction l with
  | nil => rfl
  | cons a l ih =>
    rw [List.map_cons, AL.lookup_cons, findC_cons, ih]

omit [DecidableEq C] in
theorem canon_wf {l : List (W × W)} (nd : (ckeys ck l).Nodup) : AL.WF (l.map (fun e => (ck e.1, e))) := by
  unfold AL.WF AL.keys; rw [List.map_map]; exact nd

theorem findC_some {l : List (W × W)} {c : C} {e : W × W} (h : findC ck l c = some e) :
    e ∈ l ∧ ck e.1 = c := by
  refine ⟨List.mem_of_find?_eq_some h, ?_⟩
  have := List.find?_some h
  simpa using this

theorem findC_none {l : List (W × W)} {c : C} : findC ck l c = none ↔ ∀ e ∈ l, ck e.1 ≠ c := by
  unfold findC
  rw [List.find?_eq_none]
  simp

theorem findC_none_iff_ckeys {l : List (W × W)} {c : C} : findC ck l c = none ↔ c ∉ ckeys ck l := by
  rw [← lookup_canon, AL.lookup_eq_none, AL.keys, List.map_map]; rfl

theorem findC_of_mem {l : List (W × W)} (nd : (ckeys ck l).Nodup) {e : W × W} (he : e ∈ l) :
    findC ck l (ck e.1) = some e := by
  rw [← lookup_canon]
  exact AL.lookup_of_mem (canon_wf nd) (List.mem_map.mpr ⟨e, he, rfl⟩)

theorem findC_append (l l' : List (W × W)) (c : C) :
    findC ck (l ++ l') c = (findC ck l c).or (findC ck l' c) := by
  unfold findC; rw [List.find?_append]

theorem findC_concat_new {l : List (W × W)} {e : W × W} (hnew : findC ck l (ck e.1) = none)
    (c : C) : findC ck (l ++ [e]) c = if c = ck e.1 then some e else findC ck l c := by
  rw [findC_append, findC_cons, findC_nil]
  by_cases hc : c = ck e.1
  · subst hc; rw [hnew]; simp
  · have : ck e.1 ≠ c := fun h => hc h.symm
    rw [if_neg hc, if_neg this]; simp

theorem findC_dropLast {l : List (W × W)} {e : W × W} (nd : (ckeys ck (l ++ [e])).Nodup) (c : C) :
    findC ck l c = if c = ck e.1 then none else findC ck (l ++ [e]) c := by
  have hnew : findC ck l (ck e.1) = none := by
    rw [findC_none_iff_ckeys]
    unfold ckeys at nd ⊢
    rw [List.map_append, List.nodup_append] at nd
    intro hm
    exact nd.2.2 _ hm _ (by simp) rfl
  rw [findC_concat_new hnew]
  by_cases hc : c = ck e.1
  · subst hc; simp [hnew]
  · simp [hc]

def setVal (c0 : C) (v : W) (l : List (W × W)) : List (W × W) :=
  l.map (fun e => if ck e.1 = c0 then (e.1, v) else e)

theorem setVal_fst (c0 : C) (v : W) (l : List (W × W)) :
    (setVal (ck := ck) c0 v l).map Prod.fst = l.map Prod.fst := by
  unfold setVal
  rw [List.map_map]
  apply List.map_congr_left
  intro e _
  simp only [Function.comp]
  split <;> rfl

theorem setVal_ckeys (c0 : C) (v : W) (l : List (W × W)) :
    ckeys ck (setVal (ck := ck) c0 v l) = ckeys ck l := by
  unfold ckeys setVal
  rw [List.map_map]
  apply List.map_congr_left
  intro e _
  simp only [Function.comp]
  split <;> rfl

theorem findC_setVal (c0 : C) (v : W) (l : List (W × W)) (c : C) :
    findC ck (setVal (ck := ck) c0 v l) c =
      (findC ck l c).map (fun e => if ck e.1 = c0 then (e.1, v) else e) := by
  induction l with
  | nil => rfl
  | cons a l ih =>
    have hcons : setVal (ck := ck) c0 v (a :: l) =
        (if ck a.1 = c0 then (a.1, v) else a) :: setVal (ck := ck) c0 v l := rfl
    rw [hcons, findC_cons, findC_cons, ih]
    have hfst : ck (if ck a.1 = c0 then (a.1, v) else a).1 = ck a.1 := by split <;> rfl
    rw [hfst]
    by_cases h : ck a.1 = c <;> simp [h]

theorem findC_setVal_present {l : List (W × W)} {c0 : C} {e0 : W × W}
    (h0 : findC ck l c0 = some e0) (v : W) (c : C) :
    findC ck (setVal (ck := ck) c0 v l) c = if c = c0 then some (e0.1, v) else findC ck l c := by
  rw [findC_setVal]
  by_cases hc : c = c0
  · subst hc
    rw [h0, if_pos rfl]
    simp [(findC_some h0).2]
  · rw [if_neg hc]
    cases hf : findC ck l c with
    | none => rfl
    | some e =>
      have := (findC_some hf).2
      have hne : ck e.1 ≠ c0 := by rw [this]; exact hc
      simp [hne]

theorem findC_filter (c0 : C) (l : List (W × W)) (c : C) :
    findC ck (l.filter (fun e => !decide (ck e.1 = c0))) c =
      if c = c0 then none else findC ck l c := by
  have e : (l.filter (fun e => !decide (ck e.1 = c0))).map (fun e => (ck e.1, e)) =
      AL.erase (l.map (fun e => (ck e.1, e))) c0 := by
    unfold AL.erase; rw [List.filter_map]; congr 2; funext e; simp
  rw [← lookup_canon, e, AL.lookup_erase, lookup_canon]

omit [DecidableEq C] in
theorem ckeys_filter_nodup {l : List (W × W)} (nd : (ckeys ck l).Nodup) (p : W × W → Bool) :
    (ckeys ck (l.filter p)).Nodup := by
  unfold ckeys at nd ⊢
  exact List.Nodup.sublist (List.Sublist.map _ List.filter_sublist) nd

end FindC

section HM
variable {K V : Type} [DecidableEq K] {hashOf : K → UInt64}

/-- capacity after making room for one more key in a table of capacity `cap` holding `len`
    keys: growth (one allocation, which fails iff `failAt = some 0`) is needed exactly when the
    load factor 0.7 would be exceeded; `none` = the allocation failed. -/
def roomCap (cap len : Nat) (failAt : Option Nat) : Option Nat :=
  if HMap.needsGrow (len + 1) cap then
    (if (C12.oracle failAt).next.1 then some (HMap.growCap cap) else none)
  else some cap

theorem hm_count_eq {m : HMap K V} (hI : C12.HInv hashOf m) (l : List (K × V)) (wf : AL.WF l)
    (h : ∀ k, AL.lookup l k = m.get hashOf k) : m.count = l.length := by
  have habs : OA.Abs m.cap m.slots (AL.lookup l) := by
    have : AL.lookup l = OA.get m.cap (HMap.home hashOf m.cap) m.slots := funext h
    rw [this]; exact OA.Abs_get hI.2.1
  rw [hI.2.2.1]
  exact (AL.length_eq_size hI.2.1 wf habs).symm

end HM

end Cao.TL
