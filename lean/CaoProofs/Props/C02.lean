import CaoProofs.Lemmas.GcLemmas
/-!
# C02 — garbage collection never invalidates a value the program can still use

`Reach h rs a`: the address `a` can be reached from the root addresses `rs` by following
`Heap.children` edges of objects that are allocated in `h`.

* `markLoop_sound`: the worklist marking of `CaoModel/Vm.lean` computes exactly `Reach`, for the
  fuel that `reachable` passes (`fuel_adequate`: no extra hypothesis is needed — duplicated roots,
  dangling addresses and even duplicated heap addresses are all covered by the bound);
* `gc_preserves_reachable`, `gc_frees_only_unreachable`, `gc_exact`, `gc_roots_unchanged`,
  `gc_idempotent`, `gc_no_dangling`;
* `allocBytes_obs` / `allocBytes_schedule_independent`: one allocation, whatever the schedule,
  changes the observable state only by freeing unreachable objects and by the counters.
-/
namespace Cao.C02
open Cao Cao.Vm Cao.Gc

/-! ## 1. reachability -/

/-- `a` is reachable from the roots `rs`: reflexive-transitive closure of the "is a child of an
    allocated object" relation, started at `rs` -/
inductive Reach (h : Heap) (rs : List Nat) : Nat → Prop
  | root {a : Nat} : a ∈ rs → Reach h rs a
  | step {a b : Nat} {o : Obj} :
      Reach h rs a → h.get a = some o → Val.obj b ∈ Heap.children o → Reach h rs b

theorem Reach.kid {h : Heap} {rs : List Nat} {a b : Nat} (ha : Reach h rs a)
    (hb : b ∈ kidsOf h a) : Reach h rs b := by
  obtain ⟨o, ho, hc⟩ := mem_kidsOf.mp hb
  exact Reach.step ha ho hc

theorem reach_of_stack {s : VmState} {a : Nat} (h : Val.obj a ∈ s.stack.contents) :
    Reach s.heap (rootAddrs s) a := Reach.root (mem_rootAddrs_stack h)

theorem reach_of_guard {s : VmState} {a : Nat} (h : a ∈ s.guards) : Reach s.heap (rootAddrs s) a :=
  Reach.root (mem_rootAddrs_guard h)

theorem reach_of_open {s : VmState} {a : Nat} (h : a ∈ s.openUpvalues) : Reach s.heap (rootAddrs s) a :=
  Reach.root (mem_rootAddrs_open h)

theorem Reach.mono {h : Heap} {rs rs' : List Nat} (hrs : ∀ r ∈ rs, Reach h rs' r) {a : Nat}
    (ha : Reach h rs a) : Reach h rs' a := by
  induction ha with
  | root hr => exact hrs _ hr
  | step _ ho hc ih => exact Reach.step ih ho hc

theorem Reach.subset_closed {h : Heap} {rs : List Nat} {S : Nat → Prop}
    (hroot : ∀ r ∈ rs, S r) (hclosed : ∀ a, S a → ∀ b ∈ kidsOf h a, S b) {a : Nat}
    (ha : Reach h rs a) : S a := by
  induction ha with
  | root hr => exact hroot _ hr
  | step _ ho hc ih => exact hclosed _ ih _ (mem_kidsOf.mpr ⟨_, ho, hc⟩)

/-! ## 2. the mark loop -/

/-- exactness needs no fuel: whatever gets marked was marked before or is reachable from the
    work list -/
theorem markLoop_exact (h : Heap) : ∀ (fuel : Nat) (work marked : List Nat) (x : Nat),
    x ∈ markLoop h fuel work marked → x ∈ marked ∨ Reach h work x := by
  intro fuel
  induction fuel with
  | zero => intro work marked x hx; rw [markLoop_zero] at hx; exact Or.inl hx
  | succ f ih =>
    intro work marked x hx
    cases work with
    | nil => rw [markLoop_nil] at hx; exact Or.inl hx
    | cons a work =>
      rw [markLoop_cons] at hx
      split at hx
      · rcases ih _ _ _ hx with h1 | h1
        · exact Or.inl h1
        · exact Or.inr (h1.mono (fun r hr => Reach.root (List.mem_cons_of_mem _ hr)))
      · rcases ih _ _ _ hx with h1 | h1
        · rcases List.mem_cons.mp h1 with rfl | h1
          · exact Or.inr (Reach.root List.mem_cons_self)
          · exact Or.inl h1
        · refine Or.inr (h1.mono ?_)
          intro r hr
          rcases List.mem_append.mp hr with hr | hr
          · exact Reach.kid (Reach.root List.mem_cons_self) hr
          · exact Reach.root (List.mem_cons_of_mem _ hr)

/-- the potential that bounds the number of iterations: the child references of the objects whose
    address is not marked yet (all list entries are counted, so duplicated addresses only make the
    bound larger) -/
def pot (l : List (Nat × Obj)) (marked : List Nat) : Nat :=
  (l.map (fun p => if p.1 ∈ marked then 0 else (Heap.children p.2).length)).sum

theorem pot_nil_marked (l : List (Nat × Obj)) :
    pot l [] = (l.map (fun p => (Heap.children p.2).length)).sum := by
  simp [pot]

theorem pot_cons (p : Nat × Obj) (l : List (Nat × Obj)) (marked : List Nat) :
    pot (p :: l) marked = (if p.1 ∈ marked then 0 else (Heap.children p.2).length) + pot l marked := by
  simp only [pot, List.map_cons, List.sum_cons]

theorem pot_cons_le (l : List (Nat × Obj)) (a : Nat) (marked : List Nat) :
    pot l (a :: marked) ≤ pot l marked := by
  induction l with
  | nil => simp [pot]
  | cons p l ih =>
    rw [pot_cons, pot_cons]
    have : (if p.1 ∈ a :: marked then 0 else (Heap.children p.2).length)
        ≤ (if p.1 ∈ marked then 0 else (Heap.children p.2).length) := by
      by_cases h1 : p.1 ∈ marked
      · rw [if_pos (List.mem_cons_of_mem _ h1)]; exact Nat.zero_le _
      · rw [if_neg h1]; split
        · exact Nat.zero_le _
        · exact Nat.le_refl _
    omega

/-- marking a new address pays for pushing its children -/
theorem pot_mark (l : List (Nat × Obj)) (a : Nat) (marked : List Nat) (ha : a ∉ marked) :
    pot l (a :: marked) +
      (match (l.find? (fun q : Nat × Obj => q.1 == a)).map (fun q : Nat × Obj => q.2) with
        | some o => addrs (Heap.children o)
        | none => []).length ≤ pot l marked := by
  induction l with
  | nil => simp [pot]
  | cons p l ih =>
    rw [pot_cons, pot_cons]
    by_cases hp : (p.1 == a) = true
    · have hpa : p.1 = a := by simpa using hp
      have h3 := pot_cons_le l a marked
      have h4 := length_addrs_le (Heap.children p.2)
      rw [if_pos (hpa ▸ List.mem_cons_self), if_neg (hpa ▸ ha)]
      simp only [List.find?_cons, hp, Option.map_some]
      omega
    · have hpa : ¬ p.1 = a := by simpa using hp
      have hc : (p.1 ∈ a :: marked) = (p.1 ∈ marked) := by
        simp [hpa]
      have hf : (p :: l).find? (fun q : Nat × Obj => q.1 == a)
          = l.find? (fun q : Nat × Obj => q.1 == a) := by
        simp [hpa]
      rw [hf]
      simp only [hc]
      omega

theorem pot_mark_heap (h : Heap) (a : Nat) (marked : List Nat) (ha : a ∉ marked) :
    pot h.objs (a :: marked) + (kidsOf h a).length ≤ pot h.objs marked := by
  have := pot_mark h.objs a marked ha
  unfold kidsOf Heap.get
  exact this

/-- the worklist invariant: the children of a marked address are marked or still queued -/
def WInv (h : Heap) (work marked : List Nat) : Prop :=
  ∀ x ∈ marked, ∀ k ∈ kidsOf h x, k ∈ marked ∨ k ∈ work

/-- with `work.length + pot` fuel the loop does not stop early: its result contains the marked
    set and the work list and is closed under children -/
theorem markLoop_closed (h : Heap) : ∀ (fuel : Nat) (work marked : List Nat),
    work.length + pot h.objs marked ≤ fuel → WInv h work marked →
    (∀ x ∈ marked, x ∈ markLoop h fuel work marked) ∧
    (∀ x ∈ work, x ∈ markLoop h fuel work marked) ∧
    (∀ x ∈ markLoop h fuel work marked, ∀ k ∈ kidsOf h x, k ∈ markLoop h fuel work marked) := by
  intro fuel
  induction fuel with
  | zero =>
    intro work marked hf hinv
    have hw : work = [] := by
      cases work with
      | nil => rfl
      | cons a w => simp at hf
    subst hw
    rw [markLoop_zero]
    refine ⟨fun _ hx => hx, fun _ hx => (by cases hx), ?_⟩
    intro x hx k hk
    rcases hinv x hx k hk with h1 | h1
    · exact h1
    · cases h1
  | succ f ih =>
    intro work marked hf hinv
    cases work with
    | nil =>
      rw [markLoop_nil]
      refine ⟨fun _ hx => hx, fun _ hx => (by cases hx), ?_⟩
      intro x hx k hk
      rcases hinv x hx k hk with h1 | h1
      · exact h1
      · cases h1
    | cons a work =>
      rw [markLoop_cons]
      by_cases hm : marked.contains a = true
      · rw [if_pos hm]
        have ham : a ∈ marked := by simpa using hm
        have hinv' : WInv h work marked := by
          intro x hx k hk
          rcases hinv x hx k hk with h1 | h1
          · exact Or.inl h1
          · rcases List.mem_cons.mp h1 with rfl | h1
            · exact Or.inl ham
            · exact Or.inr h1
        have hf' : work.length + pot h.objs marked ≤ f := by
          simp only [List.length_cons] at hf; omega
        obtain ⟨g1, g2, g3⟩ := ih work marked hf' hinv'
        refine ⟨g1, ?_, g3⟩
        intro x hx
        rcases List.mem_cons.mp hx with rfl | hx
        · exact g1 _ ham
        · exact g2 _ hx
      · rw [if_neg hm]
        have hm' : a ∉ marked := by simpa using hm
        have hinv' : WInv h (kidsOf h a ++ work) (a :: marked) := by
          intro x hx k hk
          rcases List.mem_cons.mp hx with rfl | hx
          · exact Or.inr (List.mem_append_left _ hk)
          · rcases hinv x hx k hk with h1 | h1
            · exact Or.inl (List.mem_cons_of_mem _ h1)
            · rcases List.mem_cons.mp h1 with rfl | h1
              · exact Or.inl List.mem_cons_self
              · exact Or.inr (List.mem_append_right _ h1)
        have hf' : (kidsOf h a ++ work).length + pot h.objs (a :: marked) ≤ f := by
          have := pot_mark_heap h a marked hm'
          simp only [List.length_cons, List.length_append] at hf ⊢; omega
        obtain ⟨g1, g2, g3⟩ := ih _ _ hf' hinv'
        refine ⟨fun x hx => g1 x (List.mem_cons_of_mem _ hx), ?_, g3⟩
        intro x hx
        rcases List.mem_cons.mp hx with rfl | hx
        · exact g1 _ List.mem_cons_self
        · exact g2 _ (List.mem_append_right _ hx)

/-- **soundness and exactness of the mark loop**, for any fuel of at least
    `work.length + pot h.objs marked`: the result is exactly the marked set plus what is
    reachable from the work list (and, by `markLoop_closed`, it is closed under children) -/
theorem markLoop_sound (h : Heap) (fuel : Nat) (work marked : List Nat)
    (hf : work.length + pot h.objs marked ≤ fuel) (hinv : WInv h work marked) (x : Nat) :
    x ∈ markLoop h fuel work marked ↔ x ∈ marked ∨ Reach h work x := by
  obtain ⟨g1, g2, g3⟩ := markLoop_closed h fuel work marked hf hinv
  constructor
  · exact markLoop_exact h fuel work marked x
  · rintro (h1 | h1)
    · exact g1 _ h1
    · exact Reach.subset_closed (S := fun y => y ∈ markLoop h fuel work marked) g2 g3 h1

/-- the fuel passed by `reachable` is adequate — unconditionally: each iteration either drops a
    work item or marks a new address and pushes at most as many items as that object has child
    references; duplicated roots are paid for by `rs.length`, dangling addresses have no
    children, and a duplicated heap address only makes `edgeCount` larger -/
theorem fuel_adequate (h : Heap) (rs : List Nat) :
    rs.length + pot h.objs [] ≤ rs.length + edgeCount h + h.objs.length + 1 := by
  have : edgeCount h = pot h.objs [] := by
    rw [pot_nil_marked, edgeCount, foldl_add_eq_sum]; simp
  omega

theorem mem_reachable (s : VmState) (a : Nat) :
    a ∈ reachable s ↔ Reach s.heap (rootAddrs s) a := by
  rw [reachable_eq, markLoop_sound s.heap _ _ [] (fuel_adequate s.heap (rootAddrs s))
    (fun _ hx => by cases hx)]
  constructor
  · rintro (h1 | h1)
    · cases h1
    · exact h1
  · intro h1; exact Or.inr h1

/-! ## 3. the collector keeps exactly the reachable objects -/

theorem gc_heap_objs (s : VmState) :
    (gc s).heap.objs = s.heap.objs.filter (fun p => (reachable s).contains p.1) := by
  simp [gc, List.partition_eq_filter_filter]

theorem gc_heap_next (s : VmState) : (gc s).heap.next = s.heap.next := rfl

theorem gc_allocated (s : VmState) :
    (gc s).mem.allocated = s.mem.allocated -
      ((s.heap.objs.filter (fun p => !(reachable s).contains p.1)).map
        (fun p => Heap.chargeOf p.2)).sum := by
  simp only [gc, List.partition_eq_filter_filter, foldl_add_eq_sum, Nat.zero_add]
  rfl

/-- `gc` does not touch the roots (nor anything but the heap, the byte counter and a ghost counter) -/
theorem gc_roots_unchanged (s : VmState) :
    (gc s).stack = s.stack ∧ (gc s).globals = s.globals ∧ (gc s).frames = s.frames ∧
    (gc s).openUpvalues = s.openUpvalues ∧ (gc s).guards = s.guards ∧
    (gc s).mem.limit = s.mem.limit ∧ (gc s).mem.nextGc = s.mem.nextGc ∧
    (gc s).heap.next = s.heap.next ∧ roots (gc s) = roots s :=
  ⟨rfl, rfl, rfl, rfl, rfl, rfl, rfl, rfl, rfl⟩

theorem rootAddrs_gc (s : VmState) : rootAddrs (gc s) = rootAddrs s := rfl

theorem gc_get (s : VmState) (a : Nat) :
    (gc s).heap.get a = if a ∈ reachable s then s.heap.get a else none := by
  unfold Heap.get
  rw [gc_heap_objs]
  split
  · rename_i ha
    rw [find?_filter_of_imp]
    intro x _ hx
    have : x.1 = a := by simpa using hx
    simpa [this] using ha
  · rename_i ha
    have : (s.heap.objs.filter (fun p => (reachable s).contains p.1)).find?
        (fun q => q.1 == a) = none := by
      rw [List.find?_eq_none]
      intro x hx hxa
      have h1 : x.1 = a := by simpa using hxa
      have h2 := (List.mem_filter.mp hx).2
      rw [h1] at h2
      exact ha (by simpa using h2)
    rw [this]; rfl

/-- **a reachable object survives the collection unchanged** -/
theorem gc_preserves_reachable (s : VmState) (a : Nat)
    (h : Reach s.heap (rootAddrs s) a) : (gc s).heap.get a = s.heap.get a := by
  rw [gc_get, if_pos ((mem_reachable s a).mpr h)]

/-- **whatever the collection frees was unreachable** -/
theorem gc_frees_only_unreachable (s : VmState) (a : Nat) (o : Obj)
    (hpre : s.heap.get a = some o) (hpost : (gc s).heap.get a = none) :
    ¬ Reach s.heap (rootAddrs s) a := by
  intro h
  rw [gc_preserves_reachable s a h, hpre] at hpost
  cases hpost

/-- **after the collection the allocated objects are exactly the reachable ones** (list level:
    the surviving entries are the entries whose address is reachable, in the same order) -/
theorem gc_exact (s : VmState) (p : Nat × Obj) :
    p ∈ (gc s).heap.objs ↔ p ∈ s.heap.objs ∧ Reach s.heap (rootAddrs s) p.1 := by
  rw [gc_heap_objs, List.mem_filter, ← mem_reachable]
  simp

theorem gc_exact_get (s : VmState) (a : Nat) (o : Obj) :
    (gc s).heap.get a = some o ↔ s.heap.get a = some o ∧ Reach s.heap (rootAddrs s) a := by
  rw [gc_get, ← mem_reachable]
  split
  · rename_i h; simp [h]
  · rename_i h; simp [h]

theorem gc_frees_unreachable (s : VmState) (a : Nat)
    (h : ¬ Reach s.heap (rootAddrs s) a) : (gc s).heap.get a = none := by
  rw [gc_get, if_neg (fun hm => h ((mem_reachable s a).mp hm))]

theorem Reach.transfer {h h' : Heap} {rs : List Nat}
    (hag : ∀ a, Reach h rs a → h'.get a = h.get a) {a : Nat} (ha : Reach h rs a) :
    Reach h' rs a := by
  induction ha with
  | root hr => exact Reach.root hr
  | step hr ho hc ih => exact Reach.step ih (by rw [hag _ hr]; exact ho) hc

theorem reach_gc_iff (s : VmState) (a : Nat) :
    Reach (gc s).heap (rootAddrs (gc s)) a ↔ Reach s.heap (rootAddrs s) a := by
  rw [rootAddrs_gc]
  constructor
  · intro h
    induction h with
    | root hr => exact Reach.root hr
    | step _ ho hc ih => exact Reach.step ih ((gc_exact_get s _ _).mp ho).1 hc
  · intro h
    exact Reach.transfer (fun a ha => gc_preserves_reachable s a ha) h

/-! ## 4. idempotence -/

/-- a second collection right after the first frees nothing -/
theorem gc_idempotent (s : VmState) :
    (gc (gc s)).heap = (gc s).heap ∧ (gc (gc s)).mem = (gc s).mem := by
  have hall : ∀ p ∈ (gc s).heap.objs, (reachable (gc s)).contains p.1 = true := by
    intro p hp
    have := ((gc_exact s p).mp hp).2
    have := (mem_reachable (gc s) p.1).mpr ((reach_gc_iff s p.1).mpr this)
    simpa using this
  have hobjs : (gc (gc s)).heap.objs = (gc s).heap.objs := by
    rw [gc_heap_objs (gc s)]
    exact List.filter_eq_self.mpr hall
  have hdead : (gc s).heap.objs.filter (fun p => !(reachable (gc s)).contains p.1) = [] := by
    rw [List.filter_eq_nil_iff]
    intro p hp
    have := hall p hp
    simp only [List.contains_eq_mem, decide_eq_true_eq] at this
    simp [this]
  constructor
  · show ({ (gc s).heap with objs := (gc (gc s)).heap.objs } : Heap) = (gc s).heap
    rw [hobjs]
  · have h1 := gc_allocated (gc s)
    rw [hdead] at h1
    have h2 : (gc (gc s)).mem = { (gc s).mem with allocated := (gc (gc s)).mem.allocated } := rfl
    rw [h2, h1]
    simp

/-! ## 5. no dangling references -/

def Present (h : Heap) (a : Nat) : Prop := ∃ o, h.get a = some o

def NoDangling (s : VmState) : Prop :=
  (∀ a ∈ rootAddrs s, Present s.heap a) ∧
  (∀ a o b, s.heap.get a = some o → Val.obj b ∈ Heap.children o → Present s.heap b)

theorem reach_present {s : VmState} (hnd : NoDangling s) {a : Nat}
    (h : Reach s.heap (rootAddrs s) a) : Present s.heap a := by
  cases h with
  | root hr => exact hnd.1 _ hr
  | step _ ho hc => exact hnd.2 _ _ _ ho hc

/-- **the collection creates no dangling reference** -/
theorem gc_no_dangling (s : VmState) (hnd : NoDangling s) : NoDangling (gc s) := by
  constructor
  · intro a ha
    have hr : Reach s.heap (rootAddrs s) a := Reach.root ha
    obtain ⟨o, ho⟩ := reach_present hnd hr
    exact ⟨o, by rw [gc_preserves_reachable s a hr]; exact ho⟩
  · intro a o b ho hc
    obtain ⟨ho', hr⟩ := (gc_exact_get s a o).mp ho
    have hb : Reach s.heap (rootAddrs s) b := Reach.step hr ho' hc
    obtain ⟨o', ho'⟩ := reach_present hnd hb
    exact ⟨o', by rw [gc_preserves_reachable s b hb]; exact ho'⟩

/-- consequently: every value the program can still get hold of (a root, or a component of a
    reachable object) denotes the same allocated object after the collection -/
theorem gc_usable_values_valid (s : VmState) (hnd : NoDangling s) (a : Nat)
    (h : Reach s.heap (rootAddrs s) a) :
    ∃ o, s.heap.get a = some o ∧ (gc s).heap.get a = some o := by
  obtain ⟨o, ho⟩ := reach_present hnd h
  exact ⟨o, ho, by rw [gc_preserves_reachable s a h]; exact ho⟩

/-! ## 6. one allocation is observationally independent of the collection schedule -/

/-- two states are observationally equal when their roots are identical and their heaps are
    identical on everything reachable from those roots (they may differ in unreachable objects,
    in the allocator counters, in the schedule and in ghost counters); the next fresh address is
    part of the observation because it becomes the value of the next object -/
structure ObsEq (s t : VmState) : Prop where
  stack : t.stack = s.stack
  globals : t.globals = s.globals
  frames : t.frames = s.frames
  openUpvalues : t.openUpvalues = s.openUpvalues
  guards : t.guards = s.guards
  next : t.heap.next = s.heap.next
  fwd : ∀ a, Reach s.heap (rootAddrs s) a → t.heap.get a = s.heap.get a
  bwd : ∀ a, Reach t.heap (rootAddrs t) a → s.heap.get a = t.heap.get a

theorem ObsEq.rootAddrs_eq {s t : VmState} (h : ObsEq s t) : rootAddrs t = rootAddrs s := by
  unfold rootAddrs roots
  rw [h.stack, h.globals, h.frames, h.openUpvalues, h.guards]

theorem ObsEq.refl (s : VmState) : ObsEq s s :=
  ⟨rfl, rfl, rfl, rfl, rfl, rfl, fun _ _ => rfl, fun _ _ => rfl⟩

theorem ObsEq.symm {s t : VmState} (h : ObsEq s t) : ObsEq t s :=
  ⟨h.stack.symm, h.globals.symm, h.frames.symm, h.openUpvalues.symm, h.guards.symm, h.next.symm,
   h.bwd, h.fwd⟩

theorem ObsEq.reach_iff {s t : VmState} (h : ObsEq s t) (a : Nat) :
    Reach t.heap (rootAddrs t) a ↔ Reach s.heap (rootAddrs s) a := by
  constructor
  · intro ha
    have := Reach.transfer h.bwd ha
    rwa [h.rootAddrs_eq] at this
  · intro ha
    have := Reach.transfer h.fwd ha
    rwa [← h.rootAddrs_eq] at this

theorem ObsEq.trans {s t u : VmState} (h1 : ObsEq s t) (h2 : ObsEq t u) : ObsEq s u where
  stack := h2.stack.trans h1.stack
  globals := h2.globals.trans h1.globals
  frames := h2.frames.trans h1.frames
  openUpvalues := h2.openUpvalues.trans h1.openUpvalues
  guards := h2.guards.trans h1.guards
  next := h2.next.trans h1.next
  fwd := fun a ha => (h2.fwd a ((h1.reach_iff a).mpr ha)).trans (h1.fwd a ha)
  bwd := fun a ha => (h1.bwd a ((h2.reach_iff a).mp ha)).trans (h2.bwd a ha)

theorem obsEq_of_same {s t : VmState} (h1 : t.stack = s.stack) (h2 : t.globals = s.globals)
    (h3 : t.frames = s.frames) (h4 : t.openUpvalues = s.openUpvalues) (h5 : t.guards = s.guards)
    (h6 : t.heap = s.heap) : ObsEq s t :=
  ⟨h1, h2, h3, h4, h5, by rw [h6], fun _ _ => by rw [h6], fun _ _ => by rw [h6]⟩

theorem obsEq_gc (s : VmState) : ObsEq s (gc s) where
  stack := rfl
  globals := rfl
  frames := rfl
  openUpvalues := rfl
  guards := rfl
  next := rfl
  fwd := fun a ha => gc_preserves_reachable s a ha
  bwd := fun a ha => (gc_preserves_reachable s a ((reach_gc_iff s a).mp ha)).symm

theorem obsEq_collect (s : VmState) : ObsEq s (collect s) :=
  (obsEq_gc s).trans (obsEq_of_same rfl rfl rfl rfl rfl rfl)

theorem obsEq_allocCollected (c : Nat) (s : VmState) : ObsEq s (allocCollected c s) := by
  have h0 : ObsEq s (allocCharged c s) := obsEq_of_same rfl rfl rfl rfl rfl rfl
  unfold allocCollected
  split
  · exact h0.trans (obsEq_collect _)
  · exact h0

/-- **whatever the schedule bit, the threshold and the outcome, `allocBytes` changes the
    observable state in no way**: stack, globals, frames, open upvalues, guards and the next
    address are identical, and every object reachable from the roots is identical -/
theorem allocBytes_obs (c : Nat) (s : VmState) : ObsEq s ((allocBytes c).run.run s).2 := by
  rw [allocBytes_run]
  unfold allocPure
  have h := obsEq_allocCollected c s
  dsimp only
  split
  · exact h.trans (obsEq_of_same rfl rfl rfl rfl rfl rfl)
  · exact h

theorem allocPure_obs (c : Nat) (s : VmState) : ObsEq s (allocPure c s).2 :=
  allocBytes_run c s ▸ allocBytes_obs c s

/-- the result of `allocBytes` compared with the result of the run in which no collection
    happens (`allocCharged`: only the charge is added): same observable state; and the heap is
    either untouched or the collected heap -/
theorem allocBytes_vs_no_collection (c : Nat) (s : VmState) :
    ObsEq (allocCharged c s) ((allocBytes c).run.run s).2 ∧
    (((allocBytes c).run.run s).2.heap = s.heap ∨
     ((allocBytes c).run.run s).2.heap = (gc s).heap) := by
  refine ⟨(ObsEq.symm (obsEq_of_same rfl rfl rfl rfl rfl rfl : ObsEq s (allocCharged c s))).trans
    (allocBytes_obs c s), ?_⟩
  rw [allocBytes_run]
  unfold allocPure allocCollected
  dsimp only
  split <;> split <;> first | exact Or.inr rfl | exact Or.inl rfl

/-- **schedule independence of one allocation**: from observationally equal states (in
    particular: from the same state under two different schedules), two allocations — of any
    sizes, collecting or not, succeeding or not — end in observationally equal states -/
theorem allocBytes_schedule_independent (c₁ c₂ : Nat) (s₁ s₂ : VmState) (h : ObsEq s₁ s₂) :
    ObsEq ((allocBytes c₁).run.run s₁).2 ((allocBytes c₂).run.run s₂).2 :=
  ((allocBytes_obs c₁ s₁).symm.trans h).trans (allocBytes_obs c₂ s₂)

theorem allocBytes_any_schedule (c : Nat) (s : VmState) (sch₁ sch₂ : Sched) (i₁ i₂ : Nat) :
    ObsEq ((allocBytes c).run.run { s with sched := sch₁, allocIndex := i₁ }).2
          ((allocBytes c).run.run { s with sched := sch₂, allocIndex := i₂ }).2 :=
  allocBytes_schedule_independent c c _ _ (obsEq_of_same rfl rfl rfl rfl rfl rfl)

/-- the same for the object constructors: a new object gets the same address under both schedules,
    and guards and stack stay equal -/
theorem withObject_obs (o : Obj) (s₁ s₂ : VmState) (h : ObsEq s₁ s₂) :
    (withObject o s₂).heap.next = (withObject o s₁).heap.next ∧
    (withObject o s₂).guards = (withObject o s₁).guards ∧
    (withObject o s₂).stack = (withObject o s₁).stack := by
  simp only [withObject, h.next, h.guards, h.stack, and_self]

/-- Schedule independence of *whole runs*, for arbitrary bytecode: refuted as stated
    (`C05b.schedule_independence_Full_false`: an ill-formed program observes the schedule), proved
    for runs whose stack-safety checks hold (`C02b.schedule_independence`). Statement: for every program `p`,
    budget `n` and state `s`, and any two schedules, `run p n {s with sched := sch₁}` and
    `run p n {s with sched := sch₂}` end with the same outcome (error kind and position), the
    same host log and `ObsEq` final states, provided `Ledger`-style accounting holds (so that
    out-of-memory is decided by the live size, see `C05.alloc_outcome_iff`) and heap addresses
    are unique. The proof under `SafeRun` is a simulation argument: every instruction of `step` maps
    related states to related states (`SchedFull.step_sim_upv`; each instruction only reads the heap
    through roots); its allocation case is `SchedFull.allocPure_core` (same outcome by
    `allocPure_fst`, related states by `schedCore_allocPure`). The `gc` engine of the
    driver tests this statement on generated programs. -/
def schedule_independence_Full : Prop :=
  ∀ (p : Prog) (n : Nat) (s : VmState) (sch₁ sch₂ : Sched),
    s.mem.allocated = (s.heap.objs.map (fun q => Heap.chargeOf q.2)).sum →
    (s.heap.objs.map (fun q => q.1)).Nodup → (∀ q ∈ s.heap.objs, q.1 < s.heap.next) →
    ObsEq (run p n { s with sched := sch₁ }).1 (run p n { s with sched := sch₂ }).1 ∧
    ((run p n { s with sched := sch₁ }).2.map (fun e => (e.kind.name, e.at_))) =
      ((run p n { s with sched := sch₂ }).2.map (fun e => (e.kind.name, e.at_))) ∧
    (run p n { s with sched := sch₁ }).1.hostLog = (run p n { s with sched := sch₂ }).1.hostLog

/-! ## 7. non-vacuity -/

/-- objects 1 and 2 form a cycle, 3 is shared by both, 4 is garbage (and points into the live
    part), 5 is kept alive only by a guard; the only other root is the global `obj 1` -/
def demo : VmState :=
  { stack := VStack.new 4, frameCap := 4, mem := { allocated := 1000, nextGc := 2000, limit := 4000 },
    globals := [.int 7, .obj 1],
    guards := [5],
    heap := { objs := [(1, .table 8 [(.int 0, .obj 2), (.int 1, .obj 3)]),
                       (2, .table 8 [(.obj 3, .obj 1)]),
                       (3, .str [104, 105]),
                       (4, .table 8 [(.int 0, .obj 1)]),
                       (5, .closure 0 0 [])],
              next := 6 } }

example : reachable demo = [5, 3, 2, 1] := by decide
example : (gc demo).heap.objs.map (·.1) = [1, 2, 3, 5] := by decide
example : ((gc demo).heap.get 4).isNone = true ∧ ((gc demo).heap.get 3).isSome = true := by decide
example : (gc demo).mem.allocated = 1000 - Heap.chargeOf (.table 8 []) := by decide
example : Reach demo.heap (rootAddrs demo) 3 :=
  Reach.step (a := 1) (o := .table 8 [(.int 0, .obj 2), (.int 1, .obj 3)])
    (Reach.root (by decide)) rfl (by decide)
example : ¬ Reach demo.heap (rootAddrs demo) 4 :=
  fun h => absurd ((mem_reachable demo 4).mpr h) (by decide)

end Cao.C02
