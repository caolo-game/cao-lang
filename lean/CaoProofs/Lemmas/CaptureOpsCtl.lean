import CaoProofs.Lemmas.CaptureInv
import CaoProofs.Lemmas.NoPanicStep
/-!
# One instruction keeps the capture invariant: the control opcodes that leave the call stack alone

The jumps, `Exit`, `PopTable`, `FunctionPointer`, `Closure`.
-/
namespace Cao.Vm
open Cao.Gc Cao.C02

variable {p : Prog} {G : Nat → Prop} {lvl cnt : Nat → Nat} {E : ErrKind → Prop} [ErrClass E]
  {re : Reenter} {W0 : List (Option Nat × Nat)} {fs0 : List Frame} {l : Frame} {src : Nat}

set_option linter.unusedSectionVars false in
theorem st_op_goto (hs : CapStatic p G lvl cnt) (hsrc : G src)
    (hop : p.bytecode.getD src 0 = Compiler.op.goto) :
    St (InvX p lvl none (W0 ++ [(l.closure, lvl src)]) (fs0 ++ [l])) (step p re src)
      (StepQ p lvl W0 fs0 l src) E := by
  rw [step_goto p re src hop]
  exact st_pure fun _ h => .ord rfl h (hs.jump src hsrc (.inl hop))

theorem st_op_gotoIfTrue (hs : CapStatic p G lvl cnt) (hsrc : G src)
    (hop : p.bytecode.getD src 0 = Compiler.op.gotoIfTrue) :
    St (InvX p lvl none (W0 ++ [(l.closure, lvl src)]) (fs0 ++ [l])) (step p re src)
      (StepQ p lvl W0 fs0 l src) E := by
  rw [step_gotoIfTrue p re src hop]
  exact st_conseq (kp_gotoIf (X := fun _ => True) _ _).st (fun _ h => h)
    (fun _ _ ⟨hK, hx, hip⟩ => .ord hx hK (hip.elim (fun h => h ▸ hs.jump src hsrc (.inr (.inl hop)))
      fun h => h ▸ hs.fall hsrc hop)) fun _ h => h

theorem st_op_gotoIfFalse (hs : CapStatic p G lvl cnt) (hsrc : G src)
    (hop : p.bytecode.getD src 0 = Compiler.op.gotoIfFalse) :
    St (InvX p lvl none (W0 ++ [(l.closure, lvl src)]) (fs0 ++ [l])) (step p re src)
      (StepQ p lvl W0 fs0 l src) E := by
  rw [step_gotoIfFalse p re src hop]
  exact st_conseq (kp_gotoIf (X := fun _ => True) _ _).st (fun _ h => h)
    (fun _ _ ⟨hK, hx, hip⟩ => .ord hx hK (hip.elim (fun h => h ▸ hs.fall hsrc hop)
      fun h => h ▸ hs.jump src hsrc (.inr (.inr hop)))) fun _ h => h

set_option linter.unusedSectionVars false in
theorem st_op_exit (hop : p.bytecode.getD src 0 = Compiler.op.exit) :
    St (InvX p lvl none (W0 ++ [(l.closure, lvl src)]) (fs0 ++ [l])) (step p re src)
      (StepQ p lvl W0 fs0 l src) E := by
  rw [step_exit p re src hop]
  exact st_pure fun _ h => .exit rfl h

/-- the rows of a table are replaced: no function or closure object is touched -/
theorem st_op_popTable (hs : CapStatic p G lvl cnt) (hsrc : G src)
    (hop : p.bytecode.getD src 0 = Compiler.op.popTable) :
    St (InvX p lvl none (W0 ++ [(l.closure, lvl src)]) (fs0 ++ [l])) (step p re src)
      (StepQ p lvl W0 fs0 l src) E := by
  rw [step_popTable p re src hop]
  refine st_falls hs hsrc (hop ▸ by decide) (hop ▸ by decide) (X := fun _ => True) ?_
  unfold Instr.popTable
  refine kp_prim_bind fun inst => .of_at fun s hK => ho_getTable_bind hK fun a cap es _ hg => ?_
  m_head
  split
  · refine Kp.at ?_ hK
    kp_auto
    exact falls_of_op hop 1 rfl (by decide)
  · refine ho_go_bind (m := modify _) rfl (Kp.at ?_ (hK.harmless (harmless_set s a _ rfl fun x hx => by
      rw [hg] at hx; cases hx; rfl) (.inl rfl)))
    kp_auto
    exact falls_of_op hop 1 rfl (by decide)

/-- the invariant just after the object `o` has been put at `a` -/
structure InvN (p : Prog) (lvl : Nat → Nat) (a : Nat) (o : Obj) (W : List (Option Nat × Nat))
    (fs : List Frame) (s : VmState) : Prop where
  fn : ∀ b h ar, s.heap.get b = some (.fn h ar) → b ≠ a → FnSafe p lvl h
  clo : ∀ b h ar ups, s.heap.get b = some (.closure h ar ups) → b ≠ a → Complete p lvl h ups.length
  obl : ∀ w ∈ W, FrameOk s.heap w.2 w.1
  rooted : RootedIn W fs
  frames : s.frames = fs
  new : s.heap.get a = some o

theorem invN_withObject {W : List (Option Nat × Nat)} {fs : List Frame} {s : VmState} (o : Obj)
    (h : InvX p lvl none W fs s) (hfresh : s.heap.get s.heap.next = none) :
    InvN p lvl s.heap.next o W fs (withObject o s) := by
  refine ⟨fun b hd ar hb hne => ?_, fun b hd ar ups hb hne => ?_, fun w hw => ?_, h.rooted, h.frames, ?_⟩
  · rw [get_withObject] at hb
    cases hg : s.heap.get b with
    | some x => rw [hg] at hb; simp only [Option.some.injEq] at hb; subst hb; exact h.heap.fn b hd ar hg
    | none =>
      rw [hg] at hb
      simp only at hb
      split at hb
      · next he => exact absurd he.symm hne
      · cases hb
  · rw [get_withObject] at hb
    cases hg : s.heap.get b with
    | some x =>
      rw [hg] at hb; simp only [Option.some.injEq] at hb; subst hb
      exact h.heap.clo b hd ar ups hg (by simp)
    | none =>
      rw [hg] at hb
      simp only at hb
      split at hb
      · next he => exact absurd he.symm hne
      · cases hb
  · rcases h.obl w hw with h0 | ⟨c, hc, hd, ar, ups, hg, hn⟩
    · exact .inl h0
    · refine .inr ⟨c, hc, hd, ar, ups, ?_, hn⟩
      rw [get_withObject, hg]
  · rw [get_withObject, hfresh]; simp

/-- the address is in use: the new object is not visible, nothing changes -/
theorem invX_withObject_stale {W : List (Option Nat × Nat)} {fs : List Frame} {s : VmState} (o : Obj) {x : Obj}
    (h : InvX p lvl none W fs s) (hx : s.heap.get s.heap.next = some x) :
    InvX p lvl none W fs (withObject o s) := by
  have key : ∀ b, (withObject o s).heap.get b = s.heap.get b := by
    intro b
    rw [get_withObject]
    cases hg : s.heap.get b with
    | some y => rfl
    | none =>
      simp only
      split
      · next he => rw [he] at hx; rw [hx] at hg; cases hg
      · rfl
  refine ⟨⟨fun b hd ar hb => h.heap.fn b hd ar (key b ▸ hb), fun b hd ar ups hb hne =>
    h.heap.clo b hd ar ups (key b ▸ hb) hne⟩, fun w hw => ?_, h.rooted, h.frames, fun _ hx => by cases hx⟩
  rcases h.obl w hw with h0 | ⟨c, hc, hd, ar, ups, hg, hn⟩
  · exact .inl h0
  · exact .inr ⟨c, hc, hd, ar, ups, by rw [key]; exact hg, hn⟩

theorem invX_withObject_fn {W : List (Option Nat × Nat)} {fs : List Frame} {s : VmState} {hd ar : UInt32}
    (h : InvX p lvl none W fs s) (hsafe : FnSafe p lvl hd) :
    InvX p lvl none W fs (withObject (.fn hd ar) s) := by
  cases hx : s.heap.get s.heap.next with
  | some x => exact invX_withObject_stale _ h hx
  | none =>
    have hn := invN_withObject (.fn hd ar) h hx
    refine ⟨⟨fun b h1 ar1 hb => ?_, fun b h1 ar1 ups hb _ => ?_⟩, hn.obl, hn.rooted, hn.frames,
      fun _ hx => by cases hx⟩
    · by_cases hba : b = s.heap.next
      · subst hba
        rw [hn.new] at hb
        simp only [Option.some.injEq, Obj.fn.injEq] at hb
        rw [← hb.1]; exact hsafe
      · exact hn.fn b h1 ar1 hb hba
    · by_cases hba : b = s.heap.next
      · subst hba
        rw [hn.new] at hb
        cases hb
      · exact hn.clo b h1 ar1 ups hb hba

omit [ErrClass E] in
theorem st_newObject_fn {W : List (Option Nat × Nat)} {fs : List Frame} {hd ar : UInt32}
    (hsafe : FnSafe p lvl hd) :
    St (InvX p lvl none W fs) (newObject (.fn hd ar)) (fun _ => InvX p lvl none W fs) E :=
  st_total (f := fun s => s.heap.next) (g := withObject (.fn hd ar)) (fun _ => rfl)
    fun _ hs => invX_withObject_fn hs hsafe

theorem st_op_functionPointer (hs : CapStatic p G lvl cnt) (hsrc : G src)
    (hop : p.bytecode.getD src 0 = Compiler.op.functionPointer) :
    St (InvX p lvl none (W0 ++ [(l.closure, lvl src)]) (fs0 ++ [l])) (step p re src)
      (StepQ p lvl W0 fs0 l src) E := by
  rw [Cross.step_functionPointer p re src hop]
  refine st_falls hs hsrc (hop ▸ by decide) (hop ▸ by decide) (X := fun _ => True) ?_
  unfold Cross.Instr.functionPointer initSimple
  refine kp_bind (kp_bind (hl_allocBytes _).kp fun _ =>
    st_inv_iff_kp.1 (st_newObject_fn (hs.fnLabel src hsrc hop))) fun a => ?_
  kp_auto
  exact falls_of_op hop 9 rfl (by decide)

theorem mem_take_set_self {α : Type} (d : List α) (n : Nat) (v : α) (h : n < d.length) :
    v ∈ (d.set n v).take (n + 1) := by
  rw [List.mem_take_iff_getElem]
  refine ⟨n, by simp; omega, ?_⟩
  simp

theorem getD_set_self {α : Type} (d : List α) (n : Nat) (v dflt : α) (h : n < d.length) :
    (d.set n v).getD n dflt = v := by
  simp [List.getD_eq_getElem?_getD, h]

theorem invX_of_invN_push {W : List (Option Nat × Nat)} {fs : List Frame} {s : VmState} {a : Nat}
    {hd ar : UInt32} (h : InvN p lvl a (.closure hd ar []) W fs s)
    (hfit : s.stack.count + 1 < s.stack.data.length) (g : List Nat) :
    let s' : VmState := { s with stack := { count := s.stack.count + 1, data := s.stack.data.set s.stack.count (.obj a) },
                                 guards := g }
    InvX p lvl (some a) W fs s' ∧ s'.heap.get a = some (.closure hd ar []) ∧ TopIs s' a := by
  refine ⟨⟨⟨fun b h1 ar1 hb => ?_, fun b h1 ar1 ups hb hne => ?_⟩, h.obl, h.rooted, h.frames, fun a' ha' => ?_⟩,
    h.new, ?_⟩
  · by_cases hba : b = a
    · subst hba
      have := h.new
      simp only at hb
      rw [this] at hb; cases hb
    · exact h.fn b h1 ar1 hb hba
  · exact h.clo b h1 ar1 ups hb (fun hba => hne (by rw [hba]))
  · simp only [Option.some.injEq] at ha'
    subst ha'
    show Val.obj a ∈ (s.stack.data.set s.stack.count (Val.obj a)).take (s.stack.count + 1)
    exact mem_take_set_self _ _ _ (by omega)
  · refine ⟨Nat.succ_pos _, ?_, ?_⟩
    · show s.stack.count + 1 < (s.stack.data.set s.stack.count (Val.obj a)).length
      rw [List.length_set]; exact hfit
    · show (s.stack.data.set s.stack.count (Val.obj a)).getD (s.stack.count + 1 - 1) Val.nil = Val.obj a
      rw [Nat.add_sub_cancel]
      exact getD_set_self _ _ _ _ (by omega)

theorem st_op_closure (hs : CapStatic p G lvl cnt) (hsrc : G src)
    (hop : p.bytecode.getD src 0 = Compiler.op.closure) :
    St (InvX p lvl none (W0 ++ [(l.closure, lvl src)]) (fs0 ++ [l])) (step p re src)
      (StepQ p lvl W0 fs0 l src) E := by
  have hseq : lvl (src + 9) = lvl src :=
    hs.fall hsrc hop
  rw [Upv.step_closure p re src hop]
  unfold Upv.Instr.closure initSimple
  generalize hhd : UInt32.ofNat (rdU32 p.bytecode (src + 1)) = hd
  generalize har : UInt32.ofNat (rdU32 p.bytecode (src + 1 + 4)) = ar
  refine st_bind (J := fun a s =>
      InvN p lvl a (.closure hd ar []) (W0 ++ [(l.closure, lvl src)]) (fs0 ++ [l]) s ∨
      InvX p lvl none (W0 ++ [(l.closure, lvl src)]) (fs0 ++ [l]) s) ?_ (fun a => ?_)
  · refine st_bind (st_inv_iff_kp.2 (hl_allocBytes _).kp) fun _ => st_total (f := fun s => s.heap.next)
      (g := withObject (.closure hd ar [])) (fun _ => rfl) fun s hs' => ?_
    cases hx : s.heap.get s.heap.next with
    | some x => exact .inr (invX_withObject_stale _ hs' hx)
    | none => exact .inl (invN_withObject _ hs' hx)
  · refine st_push_bind fun s hs' hfit => st_total (f := fun _ => { ip := src + 1 + 8 })
      (g := fun t => { t with guards := t.guards.erase a }) (fun _ => rfl) fun t ht => ?_
    subst ht
    rcases hs' with hN | hX
    · obtain ⟨h1, h2, h3⟩ := invX_of_invN_push hN hfit (s.guards.erase a)
      exact StepQ.clos a ar rfl rfl hop h1 (hhd ▸ h2) h3
    · exact StepQ.ord rfl (hX.congr' rfl rfl) hseq

end Cao.Vm
