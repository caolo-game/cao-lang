import CaoProofs.Lemmas.ResolveLemmas
import CaoProofs.Lemmas.SplitOn
import CaoModel.Generated.Stdlib
/-!
# The compile context between two functions is clean; where `row_to_value` ends up (C09b)

`compileFunction` is entered in a state whose bookkeeping is `functionId = 0`, `locals = [[]]`,
`scopeDepth = [0]` (`Clean`), and leaves it in such a state again, for arbitrary cards: every
local is declared inside the scope `compileFunction` opens (depth `≥ 1`), so the `scope_end` at
the end of the function removes all of them. `Good s`: every local of every compile context has depth `≥ 1`;
`Lvl k k' m` and `Gd k m` carry it, with a lower bound of the current depth, through the primitives (`compileEnd` keeps
`Good` only). With the balance of the bookkeeping (`Hs`) this is a logic of compiler code (`lvLogic : CodeLogic …`) in
which a local may be declared at the shapes of depth `≥ 1`.

On top of it, for programs compiled with the generated standard library (`Gen.stdlib`), `compile_rowToValue_layout`:
the stream of `intoIrStream` ends with `std.row_to_value`, the program ends with its ten bytes and the final `Exit`,
and the label table maps its handle to the position of its code (no hash-collision hypothesis is needed, because the
function is compiled last).
-/
namespace Cao.Compiler
open Cao

/-! ## every local is declared inside a scope -/

def Good (s : CState) : Prop := ∀ ctx ∈ s.locals, ∀ l ∈ ctx, (1 : Int) ≤ l.depth

structure Pre (k : Int) (s : CState) : Prop where
  locals_ne : s.locals ≠ []
  depth_ne : s.scopeDepth ≠ []
  depth : k ≤ curDepth s
  good : Good s

structure Gd {α : Type} (k : Int) (m : CM α) : Prop where
  run : ∀ s a s', m s = .ok (a, s') → Pre k s → Good s'

theorem gd_weaken {α : Type} {k k' : Int} {m : CM α} (h : Gd k m) (hk : k ≤ k') : Gd k' m :=
  ⟨fun s a s' hr hp => h.run s a s' hr ⟨hp.locals_ne, hp.depth_ne, Int.le_trans hk hp.depth, hp.good⟩⟩

structure Lvl {α : Type} (k k' : Int) (m : CM α) : Prop where
  run : ∀ s a s', m s = .ok (a, s') → Pre k s → Pre k' s'

theorem Lvl.gd {α : Type} {k k' : Int} {m : CM α} (h : Lvl k k' m) : Gd k m :=
  ⟨fun s a s' hr hp => (h.run s a s' hr hp).good⟩

theorem lvl_bind {α β : Type} {k j k' : Int} {m : CM α} {f : α → CM β}
    (hm : Lvl k j m) (hf : ∀ a, Lvl j k' (f a)) : Lvl k k' (m >>= f) :=
  ⟨fun s b s'' h hp =>
    have ⟨a, s', h1, h2⟩ := bind_ok.1 h
    (hf a).run s' b s'' h2 (hm.run s a s' h1 hp)⟩

theorem lvl_modify {k k' : Int} {f : CState → CState} (h : ∀ s, Pre k s → Pre k' (f s)) :
    Lvl k k' (modify f : CM Unit) :=
  ⟨fun s _ _ hr hp => by cases hr; exact h s hp⟩

theorem Pre.of_eq {k : Int} {s s' : CState} (hp : Pre k s) (hl : s'.locals = s.locals)
    (hd : s'.scopeDepth = s.scopeDepth) : Pre k s' :=
  ⟨hl ▸ hp.locals_ne, hd ▸ hp.depth_ne, by unfold curDepth; rw [hd]; exact hp.depth,
    by unfold Good; rw [hl]; exact hp.good⟩

theorem lvl_modify_same {k : Int} {f : CState → CState}
    (h : ∀ s, (f s).locals = s.locals ∧ (f s).scopeDepth = s.scopeDepth) : Lvl k k (modify f : CM Unit) :=
  lvl_modify fun s hp => hp.of_eq (h s).1 (h s).2

theorem lvl_pure {α : Type} {k : Int} {a : α} : Lvl k k (pure a : CM α) :=
  ⟨fun s _ _ hr hp => by cases hr; exact hp⟩
theorem lvl_get {k : Int} : Lvl k k (get : CM CState) :=
  ⟨fun s _ _ hr hp => by cases hr; exact hp⟩
theorem lvl_throw {α : Type} {k : Int} {e : CErr} : Lvl k k (throw e : CM α) :=
  ⟨fun s _ _ hr _ => by cases hr⟩
theorem lvl_fail {α : Type} {k : Int} {e : CErrKind} : Lvl k k (fail e : CM α) :=
  ⟨fun s _ _ hr _ => by cases hr⟩

/-- (the `else` branch comes first so that it determines an unknown `k'`) -/
theorem lvl_ite {α : Type} {k k' : Int} {c : Prop} [Decidable c] {x y : CM α}
    (hy : Lvl k k' y) (hx : Lvl k k' x) : Lvl k k' (if c then x else y) := by
  split <;> assumption

theorem gd_throw {α : Type} {k : Int} {e : CErr} : Gd k (throw e : CM α) := by
  constructor; intro s b s' hr _; simp at hr

theorem Pre.split {k : Int} {s : CState} (hp : Pre k s) : ∃ r d, s.scopeDepth = r ++ [d] ∧ k ≤ d := by
  obtain ⟨r, d, hrd⟩ := (List.eq_nil_or_concat s.scopeDepth).resolve_left hp.depth_ne
  rw [List.concat_eq_append] at hrd
  have hd := hp.depth
  rw [curDepth, hrd, List.getLast?_concat] at hd
  exact ⟨r, d, hrd, hd⟩

theorem scopeBegin_lvl {k : Int} : Lvl k (k + 1) scopeBegin :=
  ⟨fun s _ _ hr hp => by
    cases hr
    obtain ⟨r, d, hrd, hd⟩ := hp.split
    refine ⟨hp.locals_ne, ?_, ?_, hp.good⟩
    · show depthUp s.scopeDepth ≠ []
      simp [hrd, depthUp_concat]
    · show k + 1 ≤ (depthUp s.scopeDepth).getLast?.getD 0
      simpa [hrd, depthUp_concat] using hd⟩

theorem gd_scopeBegin {k : Int} : Gd k scopeBegin := scopeBegin_lvl.gd

theorem mem_getD {α : Type} {l : List (List α)} {i : Nat} {x : α} (h : x ∈ l.getD i []) :
    ∃ c ∈ l, x ∈ c := by
  rw [List.getD_eq_getElem?_getD] at h
  cases hx : l[i]? with
  | none => rw [hx] at h; cases h
  | some c => rw [hx] at h; exact ⟨c, List.mem_of_getElem? hx, h⟩

theorem scopeEnd_lvl {k : Int} : Lvl (k + 1) k scopeEnd :=
  ⟨fun s _ s' hr hp => by
    obtain ⟨hd', hl, _⟩ := scopeEnd_ok hr
    obtain ⟨r, d, hrd, hd⟩ := hp.split
    rw [hrd, depthDown_concat] at hd'
    refine ⟨?_, by simp [hd'], by simp [curDepth, hd']; omega, ?_⟩
    · intro h0
      have := congrArg List.length hl
      rw [h0, List.length_set] at this
      exact hp.locals_ne (List.eq_nil_of_length_eq_zero this.symm)
    · intro ctx hctx l hlm
      rw [hl] at hctx
      rcases List.mem_or_eq_of_mem_set hctx with hc | rfl
      · exact hp.good ctx hc l hlm
      · obtain ⟨c, hc, hm⟩ := mem_getD (mem_keptLocals hlm)
        exact hp.good c hc l hm⟩

theorem length_set' {α : Type} (l : List α) (i : Nat) (a : α) : (l.set i a).length = l.length := by simp

theorem compileBegin_lvl {k : Int} : Lvl k 0 compileBegin :=
  ⟨fun s _ _ hr hp => by
    cases hr
    refine ⟨by simp, by simp, by simp [curDepth], ?_⟩
    intro ctx hctx l hl
    rcases List.mem_append.1 hctx with hc | hc
    · exact hp.good ctx hc l hl
    · cases List.mem_singleton.1 hc; cases hl⟩

theorem gd_compileEnd {k : Int} : Gd k compileEnd :=
  ⟨fun s _ _ hr hp => by
    cases hr
    exact fun ctx hctx l hl => hp.good ctx (List.dropLast_subset _ hctx) l hl⟩

theorem emitBytes_lvl {k : Int} (bs : List UInt8) : Lvl k k (emitBytes bs) :=
  lvl_modify_same fun _ => ⟨rfl, rfl⟩
theorem emitU32_lvl {k : Int} (x : Nat) : Lvl k k (emitU32 x) := emitBytes_lvl _
theorem pushInstr_lvl {k : Int} (o : UInt8) : Lvl k k (pushInstr o) :=
  lvl_bind (lvl_bind lvl_get fun _ => lvl_pure) fun _ => lvl_modify_same fun _ => ⟨rfl, rfl⟩

/-- closes a leaf `Lvl k ?k' m` for a known action `m`; extended below by the layers whose lemmas the walks need -/
syntax "gd_prim" : tactic
macro_rules | `(tactic| gd_prim) => `(tactic| with_reducible exact (by assumption : ∀ k, Lvl k k _) _)

/-- one step of the walk through a `do` block: a bind splits into its first action (a leaf, which
    fixes the depth the rest starts from) and the rest; the two commonest leaves are tried first -/
macro "gd_step" : tactic => `(tactic| first
  | assumption
  | intro _
  | with_reducible apply lvl_bind
  | with_reducible exact emitU32_lvl _
  | with_reducible exact pushInstr_lvl _
  | gd_prim
  | with_reducible exact lvl_pure
  | with_reducible exact lvl_get
  | with_reducible exact lvl_throw
  | with_reducible exact lvl_fail
  | with_reducible exact lvl_modify_same (fun _ => ⟨rfl, rfl⟩)
  | with_reducible apply lvl_ite
  | dsimp only
  | split)
macro "gd" : tactic => `(tactic| repeat' gd_step)

/-! ### the primitives and what is made of them -/

theorem insertLabel_lvl {k : Int} (h : UInt32) (pos : Nat) : Lvl k k (insertLabel h pos) := by
  unfold insertLabel; gd
theorem patchI32_lvl {k : Int} (a v : Nat) : Lvl k k (patchI32 a v) := by unfold patchI32; gd
theorem pushSub_lvl {k : Int} (i : Nat) : Lvl k k (pushSub i) := by unfold pushSub; gd
theorem popSub_lvl {k : Int} : Lvl k k popSub := by unfold popSub; gd
theorem pushSub_gd {k : Int} (i : Nat) : Gd k (pushSub i) := (pushSub_lvl i).gd

/-- the new local is declared at the current depth -/
theorem addLocalUnchecked_lvl {k : Int} (n : String) (hk : 1 ≤ k) : Lvl k k (addLocalUnchecked n) := by
  constructor
  intro s a s' hr hp
  rw [addLocalUnchecked_run] at hr
  split at hr
  · cases hr
  · cases hr
    refine ⟨by simp, hp.depth_ne, hp.depth, fun ctx hctx l hl => ?_⟩
    rcases List.mem_append.1 hctx with hc | hc
    · exact hp.good ctx (List.dropLast_subset _ hc) l hl
    · cases List.mem_singleton.1 hc
      rcases List.mem_append.1 hl with hl | hl
      · cases hx : s.locals.getLast? with
        | none => rw [hx] at hl; cases hl
        | some c => rw [hx] at hl; exact hp.good c (List.mem_of_getLast? hx) l hl
      · cases List.mem_singleton.1 hl
        exact Int.le_trans hk hp.depth

theorem Reads.lvl {α : Type} {g : CState → Except CErrKind α} {m : CM α} {k : Int} (h : Reads g m) : Lvl k k m :=
  ⟨fun s a s' hr hp => by obtain ⟨_, rfl⟩ := h.ok hr; exact hp⟩

theorem validateVarName_lvl {k : Int} (n : String) : Lvl k k (validateVarName n) := (validateVarName_reads n).lvl
theorem resolveFunction_lvl {k : Int} (x : String) : Lvl k k (resolveFunction x) := (resolveFunction_reads x).lvl

theorem Pre.captures {k : Int} {s s' : CState} (hp : Pre k s) (c : Captures s s') : Pre k s' := by
  have hd : s'.scopeDepth = s.scopeDepth := by obtain ⟨L, U, rfl⟩ := c.rest; rfl
  refine ⟨fun h0 => hp.locals_ne (List.eq_nil_of_length_eq_zero (by rw [← c.nLocals, h0]; rfl)),
    hd ▸ hp.depth_ne, by unfold curDepth; rw [hd]; exact hp.depth, fun ctx hctx l hl => ?_⟩
  obtain ⟨i, hi, rfl⟩ := List.getElem_of_mem hctx
  have e := c.locals i
  rw [List.getD_eq_getElem?_getD, List.getElem?_eq_getElem hi, Option.getD_some] at e
  have hm : (l.name, l.depth) ∈ (s.locals.getD i []).map fun l => (l.name, l.depth) :=
    e ▸ List.mem_map_of_mem hl
  obtain ⟨l', hl', el⟩ := List.mem_map.1 hm
  obtain ⟨c', hc', hm'⟩ := mem_getD hl'
  have ed : l'.depth = l.depth := congrArg Prod.snd el
  exact ed ▸ hp.good c' hc' l' hm'

theorem addUpvalue_gd {k : Int} (i : UInt8) (l : Bool) (f : Nat) : Gd k (addUpvalue i l f) :=
  ⟨fun _ _ _ hr hp => (hp.captures (addUpvalue_captures hr).1).good⟩

theorem resolveVar_lvl {k : Int} (n : String) : Lvl k k (resolveVar n) :=
  ⟨fun _ _ _ hr hp => hp.captures (resolveVar_ok hr).1⟩

theorem globalId_lvl {k : Int} (x : String) : Lvl k k (globalId x) :=
  ⟨fun s a s' hr hp => by
    rcases globalId_cases x s with ⟨_, h⟩ | ⟨_, id, s1, s2, h, h1, h2⟩ <;> rw [h] at hr <;> cases hr
    rcases h1 with ⟨_, _, _, rfl⟩ | ⟨_, _, rfl⟩ <;> rcases h2 with ⟨_, rfl⟩ | ⟨_, rfl⟩ <;> exact hp.of_eq rfl rfl⟩

macro_rules | `(tactic| gd_prim) => `(tactic| with_reducible first
  | exact emitBytes_lvl _ | exact insertLabel_lvl _ _
  | exact addLocalUnchecked_lvl _ (by omega) | exact validateVarName_lvl _ | exact resolveVar_lvl _
  | exact globalId_lvl _ | exact resolveFunction_lvl _)

theorem addLocal_lvl {k : Int} (n : String) (hk : 1 ≤ k) : Lvl k k (addLocal n) := by unfold addLocal; gd
theorem pushStr_lvl {k : Int} (x : String) : Lvl k k (pushStr x) := by unfold pushStr; gd
theorem encodeJump_lvl {k : Int} (x : String) : Lvl k k (encodeJump x) := by unfold encodeJump; gd
theorem cardLabel_lvl {k : Int} : Lvl k k cardLabel := by unfold cardLabel; gd
theorem readLocalVar_lvl {k : Int} (i : Nat) : Lvl k k (readLocalVar i) := by unfold readLocalVar; gd
theorem writeLocalVar_lvl {k : Int} (i : Nat) : Lvl k k (writeLocalVar i) := by unfold writeLocalVar; gd
theorem readUpvalue_lvl {k : Int} (i : Nat) : Lvl k k (readUpvalue i) := by unfold readUpvalue; gd
theorem writeUpvalue_lvl {k : Int} (i : Nat) : Lvl k k (writeUpvalue i) := by unfold writeUpvalue; gd

macro_rules | `(tactic| gd_prim) => `(tactic| with_reducible first
  | exact addLocal_lvl _ (by omega) | exact pushStr_lvl _
  | exact readLocalVar_lvl _ | exact writeLocalVar_lvl _ | exact readUpvalue_lvl _ | exact writeUpvalue_lvl _)

theorem readProps_lvl {k : Int} : ∀ (ps : List String), Lvl k k (readProps ps)
  | [] => by unfold readProps; gd
  | x :: ps => by
    have ih := readProps_lvl (k := k) ps
    unfold readProps; gd

theorem addLocals_lvl {k : Int} (hk : 1 ≤ k) : ∀ (ps : List String), Lvl k k (addLocals ps)
  | [] => by unfold addLocals; gd
  | x :: ps => by
    have ih := addLocals_lvl hk ps
    unfold addLocals; gd

theorem emitUpvalues_lvl {k : Int} : ∀ (ups : List (Bool × UInt8)), Lvl k k (emitUpvalues ups)
  | [] => by unfold emitUpvalues; gd
  | (l, i) :: rest => by
    have ih := emitUpvalues_lvl (k := k) rest
    unfold emitUpvalues; gd

macro_rules | `(tactic| gd_prim) => `(tactic| with_reducible exact readProps_lvl _)

theorem readVarCard_lvl {k : Int} (x : String) : Lvl k k (readVarCard x) := by unfold readVarCard; gd
macro_rules | `(tactic| gd_prim) => `(tactic| with_reducible exact readVarCard_lvl _)

theorem setVarTarget_lvl {k : Int} (hk : 1 ≤ k) (n : String) : Lvl k k (setVarTarget n) := by
  rw [setVarTarget_eq]; gd

theorem setGlobalTail_lvl {k : Int} (n : String) : Lvl k k (setGlobalTail n) := by unfold setGlobalTail; gd

/-! ### the logic -/

def Shape.depth (p : Shape) : Int := p.scopeDepth.getLast?.getD 0

theorem Shape.depth_up {p : Shape} (h : 1 ≤ p.depth) : 1 ≤ p.up.depth := by
  unfold Shape.depth at *
  rcases List.eq_nil_or_concat p.scopeDepth with h0 | ⟨r, d, h0⟩
  · rw [h0] at h; simp at h
  · rw [List.concat_eq_append] at h0
    rw [h0, List.getLast?_concat] at h
    simp only [h0, depthUp_concat, List.getLast?_concat, Option.getD_some] at h ⊢
    omega

def LvT {α : Type} (p q : Shape) (Q : α → Prop) (m : CM α) : Prop :=
  ∀ s a s', m s = .ok (a, s') → shape s = p → p.nLocals ≠ 0 → p.scopeDepth ≠ [] → Good s →
    shape s' = q ∧ q.nLocals ≠ 0 ∧ q.scopeDepth ≠ [] ∧ Good s' ∧ Q a

/-- the two halves as the primitives have them: balance (`Hs`) and `Gd` at the depth of the shape -/
theorem LvT.of {α : Type} {p q : Shape} {Q : α → Prop} {m : CM α} (hh : Hs p q m) (hg : Gd p.depth m)
    (hv : ∀ s a s', m s = .ok (a, s') → Q a) (hn : p.nLocals ≠ 0 → q.nLocals ≠ 0 := by exact id)
    (hd : p.scopeDepth ≠ [] → q.scopeDepth ≠ [] := by exact id) : LvT p q Q m :=
  fun s a s' hr hp h0 hd0 hG =>
    have pre : Pre p.depth s := by
      subst hp
      exact ⟨fun h => h0 (by simp [shape, h]), hd0, Int.le_refl _, hG⟩
    ⟨hh.run s a s' hr hp h0, hn h0, hd hd0, hg.run s a s' hr pre, hv s a s' hr⟩

theorem LvT.leaf {α : Type} {p : Shape} {m : CM α} (hh : Hs p p m) (hg : Lvl p.depth p.depth m) :
    LvT p p (fun _ => True) m :=
  .of hh hg.gd fun _ _ _ _ => trivial

theorem LvT.bind {α β : Type} {p q r : Shape} {Q : α → Prop} {Q' : β → Prop} {m : CM α} {f : α → CM β}
    (hm : LvT p q Q m) (hf : ∀ a, Q a → LvT q r Q' (f a)) : LvT p r Q' (m >>= f) := by
  intro s b s'' hr hp h0 hd hG
  obtain ⟨a, s', h1, h2⟩ := bind_ok.1 hr
  obtain ⟨e, hq, hqd, hG', qa⟩ := hm s a s' h1 hp h0 hd hG
  exact hf a qa s' b s'' h2 e hq hqd hG'

theorem LvT.seq {β : Type} {p q r : Shape} {Q : β → Prop} {m : CM Unit} {n : CM β}
    (hm : LvT p q (fun _ => True) m) (hn : LvT q r Q n) : LvT p r Q (m >>= fun _ => n) := hm.bind fun _ _ => hn

theorem LvT.get_bind {β : Type} {p q : Shape} {Q : β → Prop} {f : CState → CM β} (hf : ∀ st, LvT p q Q (f st)) :
    LvT p q Q (get >>= f) := fun s b s' hr hp h0 hd hG => hf s s b s' hr hp h0 hd hG

theorem pushInstr_lvT {p : Shape} (o : UInt8) : LvT p p (fun _ => True) (pushInstr o) :=
  .leaf (pushInstr_hs o) (pushInstr_lvl o)
theorem emitU32_lvT {p : Shape} (x : Nat) : LvT p p (fun _ => True) (emitU32 x) := .leaf (emitU32_hs x) (emitU32_lvl x)
theorem patchI32_lvT {p : Shape} (a v : Nat) : LvT p p (fun _ => True) (patchI32 a v) :=
  .leaf (patchI32_hs a v) (patchI32_lvl a v)
theorem pushSub_lvT {p : Shape} (i : Nat) : LvT p (p.push i) (fun _ => True) (pushSub i) :=
  .of (pushSub_hs i) (pushSub_gd i) fun _ _ _ _ => trivial
theorem popSub_lvT' {p : Shape} {i : Nat} : LvT (p.push i) p (fun _ => True) popSub :=
  .of popSub_hs' popSub_lvl.gd fun _ _ _ _ => trivial
theorem scopeBegin_lvT {p : Shape} : LvT p p.up (fun _ => True) scopeBegin :=
  .of scopeBegin_hs gd_scopeBegin (fun _ _ _ _ => trivial) id depthUp_ne_nil.2
theorem scopeEnd_lvT {p : Shape} : LvT p.up p (fun _ => True) scopeEnd :=
  .of scopeEnd_hs (gd_weaken (scopeEnd_lvl (k := p.up.depth - 1)).gd (by omega)) (fun _ _ _ _ => trivial) id
    depthUp_ne_nil.1

theorem lvLogic : CodeLogic (fun p => 1 ≤ p.depth) fun p q _ _ Q m => LvT p q Q m where
  A_path _ h := h
  A_up := Shape.depth_up
  pure q := fun s a s' hr hp h0 hd hG => by cases hr; exact ⟨hp, h0, hd, hG, q⟩
  bind := LvT.bind
  get_bind := LvT.get_bind
  pushSub := pushSub_lvT
  popSub := .of popSub_hs popSub_lvl.gd fun _ _ _ _ => trivial
  scopeBegin := scopeBegin_lvT
  scopeEnd := scopeEnd_lvT
  cardLabel := .leaf cardLabel_hs cardLabel_lvl
  addLocalUnchecked n hA := .of (addLocalUnchecked_hs n) (addLocalUnchecked_lvl n hA).gd fun _ _ _ => addLocalUnchecked_lt
  addLocal n hA := .of (addLocal_hs n) (addLocal_lvl n hA).gd fun _ _ _ => addLocal_lt
  instr _ _ _ := (pushInstr_lvT _).seq (.leaf (emitBytes_hs _) (emitBytes_lvl _))
  readLocalVar _ := .leaf (readLocalVar_hs _) (readLocalVar_lvl _)
  writeLocalVar _ := .leaf (writeLocalVar_hs _) (writeLocalVar_lvl _)
  jump _ _ := (pushInstr_lvT _).seq (emitU32_lvT _)
  str _ s := (pushInstr_lvT _).seq (.leaf (pushStr_hs s) (pushStr_lvl s))
  fnp n := (pushInstr_lvT _).seq (.leaf (encodeJump_hs n) (encodeJump_lvl n))
  each _ _ _ _ _ _ := (pushInstr_lvT _).seq (.leaf (emitBytes_hs _) (emitBytes_lvl _))
  setGlobalTail n := .leaf (by unfold setGlobalTail; hs) (setGlobalTail_lvl n)
  readVarCard x := .leaf (readVarCard_hs x) (readVarCard_lvl x)
  setVarTarget x hA := .leaf (setVarTarget_hs x) (setVarTarget_lvl hA x)
  encodeIfThen _ h := (pushInstr_lvT _).seq <| .get_bind fun _ => (emitU32_lvT _).seq <|
    (h _ (Nat.le_refl _)).seq <| .get_bind fun _ => patchI32_lvT _ _
  ifElseCode {p} _ _ _ _ _ hA h1 h2 h3 := by
    rw [ifElseCode_flat]
    exact ((pushSub_lvT 0).seq <| (h1 (p.push 0) 0 (fun _ => True) hA).seq popSub_lvT').seq <|
      (pushSub_lvT 1).seq <| (pushInstr_lvT _).seq <| .get_bind fun _ => (emitU32_lvT _).seq <|
      (h2 (p.push 1) 0 (fun _ => True) hA).seq <| (pushInstr_lvT _).seq <| .get_bind fun _ =>
      (emitU32_lvT _).seq <| .get_bind fun _ => (patchI32_lvT _ _).seq <| popSub_lvT'.seq <|
      ((pushSub_lvT 2).seq <| (h3 (p.push 2) 0 (fun _ => True) hA).seq popSub_lvT').seq <|
      .get_bind fun _ => patchI32_lvT _ _
  -- inside the closure the depth starts again at `0`, so its body is compiled at depth `1` whatever the
  -- depth outside; `compileEnd` forgets the closure's context
  closureCode {p} _ _ _ _ _ h := fun s a s' hr hp h0 hd hG => by
    have hA' : 1 ≤ p.enter.up.depth := by simp [Shape.depth, Shape.enter, depthUp_concat]
    have hb : LvT p p.enter (fun _ => True) compileBegin :=
      .of compileBegin_hs compileBegin_lvl.gd (fun _ _ _ _ => trivial) (fun _ => Nat.succ_ne_zero _)
        (fun _ => by simp [Shape.enter])
    have he : LvT p.enter p (fun _ => True) compileEnd :=
      .of compileEnd_hs gd_compileEnd (fun _ _ _ _ => trivial) (fun _ => h0) (fun _ => hd)
    exact ((pushInstr_lvT _).seq <| .get_bind fun _ => (emitU32_lvT _).seq <| hb.seq <| .get_bind fun _ =>
      (LvT.leaf (insertLabel_hs _ _) (insertLabel_lvl _ _)).seq <| scopeBegin_lvT.seq <|
      (LvT.leaf (addLocals_hs _ _) (addLocals_lvl hA' _)).seq <| (h _ 0 (fun _ => True) hA').seq <|
      scopeEnd_lvT.seq <| (pushInstr_lvT _).seq <| (pushInstr_lvT _).seq <| .get_bind fun _ =>
      (patchI32_lvT _ _).seq <| (pushInstr_lvT _).seq <| (LvT.leaf (emitBytes_hs _) (emitBytes_lvl _)).seq <|
      (emitU32_lvT _).seq <| .get_bind fun _ =>
      (LvT.leaf (emitUpvalues_hs _ _) (emitUpvalues_lvl _)).seq he) s a s' hr hp h0 hd hG

/-! ## the compile context between two functions -/

/-- the bookkeeping between two functions: no enclosing function, one empty context, depth 0 -/
structure Clean (s : CState) : Prop where
  fid : s.functionId = 0
  locals : s.locals = [[]]
  depth : s.scopeDepth = [0]

structure Same3 (s s' : CState) : Prop where
  fid : s'.functionId = s.functionId
  locals : s'.locals = s.locals
  depth : s'.scopeDepth = s.scopeDepth

theorem Same3.refl (s : CState) : Same3 s s := ⟨rfl, rfl, rfl⟩
theorem Same3.trans {a b c : CState} (h1 : Same3 a b) (h2 : Same3 b c) : Same3 a c :=
  ⟨h2.fid.trans h1.fid, h2.locals.trans h1.locals, h2.depth.trans h1.depth⟩
theorem Same3.clean {s s' : CState} (q : Same3 s s') (h : Clean s) : Clean s' :=
  ⟨q.fid.trans h.fid, q.locals.trans h.locals, q.depth.trans h.depth⟩

theorem insertLabel_same3 {h : UInt32} {pos : Nat} {s s' : CState} {a : Unit}
    (hr : insertLabel h pos s = .ok (a, s')) : Same3 s s' := by
  rw [insertLabel_run] at hr
  split at hr <;> cases hr
  exact ⟨rfl, rfl, rfl⟩

theorem pushInstr_same3 {o : UInt8} {s s' : CState} {a : Unit}
    (hr : pushInstr o s = .ok (a, s')) : Same3 s s' := by
  rw [pushInstr_run] at hr
  cases hr
  exact ⟨rfl, rfl, rfl⟩

theorem cardLabel_same3 {s s' : CState} {a : Unit} (hr : cardLabel s = .ok (a, s')) : Same3 s s' := by
  unfold cardLabel at hr
  simp only [bind_run, get_run] at hr
  exact insertLabel_same3 hr

theorem processFunction_inv {f : FunctionIr} {s s' : CState} (h : processFunction f s = .ok ((), s'))
    (hf : s.functionId = 0) (hl : s.locals = [[]]) (hd : s.scopeDepth = [1]) :
    s'.functionId = 0 ∧ s'.scopeDepth = [1] ∧ (∃ ctx, s'.locals = [ctx]) ∧ Good s' := by
  unfold processFunction at h
  obtain ⟨_, _, h1, h⟩ := bind_ok.1 h
  cases h1
  have hA : 1 ≤ (shape s).depth := by simp [shape, Shape.depth, hd]
  have h1 : LvT (shape s) _ _ (addLocals f.arguments.reverse) := lvLogic.addLocals (k := 0) (K := fun _ => True) hA _
  obtain ⟨e, _, _, hG, _⟩ := h1.seq (lvLogic.processFunctionCards 0 f.cards _ 0 (fun _ => True) hA) _ _ _ h rfl
    (by simp [shape, hl]) (by simp [shape, hd]) fun ctx hctx l hm => by simp [hl] at hctx; subst hctx; cases hm
  refine ⟨(congrArg Shape.functionId e).trans hf, (congrArg Shape.scopeDepth e).trans hd, ?_, hG⟩
  exact List.length_eq_one_iff.1 (by simpa [shape, hl] using congrArg Shape.nLocals e)

theorem dropWhile_all {α : Type} (p : α → Bool) : ∀ l : List α, (∀ x ∈ l, p x = true) → l.dropWhile p = []
  | [], _ => rfl
  | x :: l, h => by
    rw [List.dropWhile_cons, if_pos (h x (List.mem_cons_self ..))]
    exact dropWhile_all p l (fun y hy => h y (List.mem_cons_of_mem _ hy))

theorem keptLocals_nil {s : CState} (hf : s.functionId = 0) (hd : s.scopeDepth = [1])
    {ctx : List Local} (hl : s.locals = [ctx]) (hg : Good s) : keptLocals s = [] := by
  unfold keptLocals
  rw [hf, hl, hd]
  have hall : ∀ l ∈ ctx, (1 : Int) ≤ l.depth := hg ctx (by rw [hl]; simp)
  have : List.dropWhile (fun l : Local => decide (l.depth > (depthDown [1]).getLast?.getD 0))
      ([ctx].getD 0 []).reverse = [] := by
    apply dropWhile_all
    intro l hl'
    have hm : l ∈ ctx := by simpa using hl'
    have := hall l hm
    have e : (depthDown [1]).getLast?.getD 0 = 0 := by decide
    rw [e]
    simp only [gt_iff_lt, decide_eq_true_eq]
    omega
  rw [this]; rfl

theorem scopeEnd_clean {s s' : CState} {a : Unit} (h : scopeEnd s = .ok (a, s'))
    (hf : s.functionId = 0) (hd : s.scopeDepth = [1]) {ctx : List Local} (hl : s.locals = [ctx])
    (hg : Good s) : Clean s' := by
  obtain ⟨d6, l6, f6⟩ := scopeEnd_ok h
  refine ⟨f6.trans hf, ?_, by rw [d6, hd]; rfl⟩
  rw [l6, keptLocals_nil hf hd hl hg, hf, hl]; rfl

/-- a function body in its scope: `scopeBegin; processFunction f; …; scopeEnd`, where `…` keeps
    the bookkeeping -/
theorem body_clean {f : FunctionIr} {s s1 s2 s3 s4 : CState}
    (h1 : scopeBegin s = .ok ((), s1)) (h2 : processFunction f s1 = .ok ((), s2))
    (h4 : scopeEnd s3 = .ok ((), s4)) (hq : Same3 s2 s3) (hc : Clean s) : Clean s4 := by
  cases h1
  obtain ⟨f2, d2, ⟨ctx, l2⟩, g2⟩ := processFunction_inv h2 hc.fid hc.locals
    (show depthUp s.scopeDepth = [1] by rw [hc.depth]; rfl)
  exact scopeEnd_clean h4 (hq.fid.trans f2) (hq.depth.trans d2) (hq.locals.trans l2)
    (by unfold Good; rw [hq.locals]; exact g2)

theorem compileFunction_clean {f : FunctionIr} {s s' : CState}
    (h : compileFunction f s = .ok ((), s')) (hc : Clean s) : Clean s' := by
  obtain ⟨s2, s3, s5, s6, s7, h2, h3, h5, h6, h7, h8⟩ := compileFunction_ok h
  have c2 : Clean s2 := (insertLabel_same3 h2).clean ⟨hc.fid, hc.locals, hc.depth⟩
  exact (pushInstr_same3 h8).clean ((pushInstr_same3 h7).clean (body_clean h3 h5 h6 (Same3.refl _) c2))

theorem compileFunctions_clean : ∀ (fs : List FunctionIr) (s s' : CState),
    compileFunctions fs s = .ok ((), s') → Clean s → Clean s'
  | [], s, s', h, hc => by
    simp only [compileFunctions, pure_run, Except.ok.injEq, Prod.mk.injEq, true_and] at h
    subst h; exact hc
  | f :: fs, s, s', h, hc => by
    unfold compileFunctions at h
    obtain ⟨_, s1, h1, h2⟩ := bind_ok.1 h
    exact compileFunctions_clean fs s1 s' h2 (compileFunction_clean h1 hc)

theorem compileFunctions_append : ∀ (a b : List FunctionIr) (s s' : CState),
    compileFunctions (a ++ b) s = .ok ((), s') →
      ∃ s1, compileFunctions a s = .ok ((), s1) ∧ compileFunctions b s1 = .ok ((), s')
  | [], b, s, s', h => ⟨s, rfl, h⟩
  | f :: a, b, s, s', h => by
    simp only [List.cons_append, compileFunctions] at h
    obtain ⟨_, s1, h1, h2⟩ := bind_ok.1 h
    obtain ⟨s2, h3, h4⟩ := compileFunctions_append a b s1 s' h2
    refine ⟨s2, ?_, h4⟩
    simp only [compileFunctions]
    exact bind_ok.2 ⟨(), s1, h1, h3⟩

/-! ## `row_to_value` is the last function of the stream -/

/-- the cards of `row_to_value(_key, val)` -/
def rtvCards : List Card := [.un .ret (.readVar "val")]

theorem entriesSubs_append : ∀ (a b : List (String × Module)) (ns : List String),
    entriesSubs (a ++ b) ns = entriesSubs a ns ++ entriesSubs b ns
  | [], b, ns => by simp [entriesSubs]
  | (n, s) :: a, b, ns => by
    simp only [List.cons_append, entriesSubs, entriesSubs_append a b ns, List.append_assoc]

/-- the entry of `row_to_value` in the walk (no handle yet) -/
def rtvEntry : FunctionIr :=
  { functionIndex := 10, name := "row_to_value", arguments := ["_key", "val"], cards := rtvCards,
    ns := ["std"], imports := [], handle := 0 }

theorem entries_stdlib : ∃ init, entries Gen.stdlib ["std"] = init ++ [rtvEntry] := by
  exact ⟨(entries Gen.stdlib ["std"]).dropLast, by rfl⟩

theorem entries_withStd (m : Module) :
    ∃ P, entries (withStd m Gen.stdlib) [] = P ++ [rtvEntry] ∧ m.functions.length ≤ P.length := by
  obtain ⟨init, hinit⟩ := entries_stdlib
  cases m with
  | mk subs fns imps =>
    refine ⟨fnEntries [] (importsOf imps) fns 0 ++ entriesSubs subs [] ++ init, ?_, ?_⟩
    · simp only [withStd, entries, Module.submodules, Module.functions, Module.imports]
      rw [entriesSubs_append]
      simp only [entriesSubs, List.nil_append, List.append_nil, hinit, List.append_assoc]
    · simp only [Module.functions, List.length_append, fnEntries_length]
      omega

/-- **the stream of a program compiled with the generated standard library ends with
    `std.row_to_value`** (and something stands before it: `main` is swapped to the front) -/
theorem stream_last {m : Module} {limit : Nat} {unit : Array FunctionIr}
    (h : intoIrStream m Gen.stdlib limit = .ok unit) :
    ∃ (pre : List FunctionIr) (f : FunctionIr), unit.toList = pre ++ [f] ∧ pre ≠ [] ∧
      f.name = "row_to_value" ∧ f.ns = ["std"] ∧ f.arguments = ["_key", "val"] ∧ f.cards = rtvCards := by
  obtain ⟨_, _, mi, hmi, rfl⟩ := (intoIrStream_ok_iff m Gen.stdlib limit unit).1 h
  obtain ⟨P, hP, hlen⟩ := entries_withStd m
  have hmi' : mi < m.functions.length := (List.findIdx?_eq_some_iff_getElem.1 hmi).1
  unfold irStream
  rw [hP, withHandles_append]
  simp only [withHandles, Array.set!_eq_setIfInBounds, Array.toList_setIfInBounds]
  have hQ : (withHandles 0 P).length = P.length := withHandles_length 0 P
  rw [List.set_append, if_pos (by rw [hQ]; omega), List.set_append, if_pos (by rw [List.length_set, hQ]; omega)]
  refine ⟨_, _, rfl, ?_, rfl, rfl, rfl, rfl⟩
  intro h0
  have := congrArg List.length h0
  simp only [List.length_set, hQ, List.length_nil] at this
  omega

/-! ## the layout of the compiled program: the last function, then `Exit` -/

theorem addFunctions_same3 {fs : List FunctionIr} {s s' : CState}
    (h : addFunctions fs s = .ok ((), s')) : Same3 s s' := by
  obtain ⟨_, _, rfl⟩ := (addFunctions_ok fs s s').1 h
  exact ⟨rfl, rfl, rfl⟩

/-- **the end of a compiled unit**: when the stream is `pre ++ [f]` (`pre` not empty), the last
    function `f` is compiled from a clean context, and the program is its code followed by the
    final `Exit`; the label log is the one after `f` -/
theorem compileUnit_last {unit : Array FunctionIr} {sf : CState} {pre : List FunctionIr}
    {f : FunctionIr} (h : compileUnit unit {} = .ok ((), sf)) (hu : unit.toList = pre ++ [f])
    (hpre : pre ≠ []) :
    ∃ sb sa, Clean sb ∧ compileFunction f sb = .ok ((), sa) ∧
      sf.bytecode = sa.bytecode.push op.exit ∧ sf.labels = sa.labels := by
  obtain ⟨_, s1, s3, s5, s7, s8, s9, h1, h3, h5, h7, h8, h9, h11⟩ := compileUnit_ok h
  have c1 : Clean s1 := (addFunctions_same3 h1).clean ⟨rfl, rfl, rfl⟩
  have c7 : Clean s7 := body_clean h3 h5 h7 ⟨rfl, rfl, rfl⟩ ⟨c1.fid, c1.locals, c1.depth⟩
  have c8 : Clean s8 := by
    simp only [processCard] at h8
    obtain ⟨_, s7', h8a, h8b⟩ := bind_ok.1 h8
    exact (pushInstr_same3 h8b).clean ((cardLabel_same3 h8a).clean c7)
  have hdrop : unit.toList.drop 1 = pre.drop 1 ++ [f] := by
    rw [hu]
    cases pre with
    | nil => exact absurd rfl hpre
    | cons x xs => rfl
  rw [hdrop] at h9
  obtain ⟨sb, ha, hb⟩ := compileFunctions_append _ _ _ _ h9
  have cb : Clean sb := compileFunctions_clean _ _ _ ha c8
  simp only [compileFunctions] at hb
  obtain ⟨_, sa, hb1, hb2⟩ := bind_ok.1 hb
  simp only [pure_run, Except.ok.injEq, Prod.mk.injEq, true_and] at hb2
  subst hb2
  rw [pushInstr_run] at h11
  cases h11
  exact ⟨sb, sa, cb, hb1, rfl, rfl⟩

/-! ## the code of `row_to_value` -/

theorem splitOn_val : "val".splitOn "." = ["val"] := by rw [splitOn_eq]; decide +kernel

theorem insertLabel_bind_run (h : UInt32) (pos : Nat) (g : Unit → CM Unit) (s : CState) :
    (insertLabel h pos >>= g) s = if h = 0 then .error (.panic "HandleTable::insert with handle 0")
      else g () { s with labels := s.labels ++ [(h, pos)] } := by
  unfold insertLabel
  by_cases h0 : h = 0 <;> simp [h0, bind_run]

theorem ite_error_eq_ok {ε α : Type} {c : Prop} [Decidable c] {e : ε} {x : Except ε α} {r : α} :
    (if c then .error e else x) = Except.ok r ↔ ¬c ∧ x = .ok r := by
  split <;> simp [*]

def rtvBytes : List UInt8 :=
  [op.readLocalVar, 0, 0, 0, 0, op.ret, op.pop, op.pop, op.scalarNil, op.ret]

/-- **`compileFunction` on `row_to_value(_key, val) { return val }`, from a clean context**:
    ten bytes `ReadLocalVar 0; Return; Pop; Pop; ScalarNil; Return` are appended, the handle of
    the function is labelled with the position where they start (then the two card labels) -/
theorem compileFunction_rtv {f : FunctionIr} (hargs : f.arguments = ["_key", "val"])
    (hcards : f.cards = rtvCards) {s s' : CState} (hs : Clean s)
    (h : compileFunction f s = .ok ((), s')) :
    s'.bytecode = s.bytecode ++ rtvBytes.toArray ∧
    s'.labels = s.labels ++ [(f.handle, s.bytecode.size), (indexHandle f.functionIndex [0], s.bytecode.size),
      (indexHandle f.functionIndex [0, 0], s.bytecode.size)] := by
  obtain ⟨fid, loc, dep⟩ := hs
  have hfind : List.find? (fun i => (([⟨"val", 1, false⟩, ⟨"_key", 1, false⟩] : List Local)[i]?.getD
      ⟨"", 0, false⟩).name == "val") (List.range 2).reverse = some 0 := by decide
  -- symbolic execution; the three labels are the only steps whose failure the literals do not decide
  -- (`↓`: the label lemma has to see a bind before `bind_run` does)
  simp [compileFunction, ↓insertLabel_bind_run, ite_error_eq_ok, bind_run, hfind, map_run, scopeBegin,
    processFunction, hargs, hcards, rtvCards, addLocals, addLocal, validateVarName, addLocalUnchecked,
    processFunctionCards, popSub, pushSub, processCard, cardLabel, fid, loc, dep, unCode, withSub, readVarCard,
    splitOn_val, resolveVar, curDepth, readLocalVar, pushInstr, curTrace, emitU32, emitBytes, readProps, unOp,
    scopeEnd] at h
  obtain ⟨_, _, _, rfl⟩ := h
  exact ⟨by show s.bytecode ++ _ = _; congr 1, rfl⟩

theorem find_three (c1 c2 h : UInt32) (n : Nat) (L : List (UInt32 × Nat)) :
    List.find? (fun q => q.1 == h) ((c2, n) :: (c1, n) :: (h, n) :: L) = some (h, n) := by
  simp only [List.find?_cons, beq_self_eq_true]
  split
  · next e => rw [eq_of_beq e]
  · split
    · next e => rw [eq_of_beq e]
    · rfl

/-- **(the layout of every program compiled with the generated standard library)** the stream ends
    with `std.row_to_value`; the bytecode ends with its ten bytes and the final `Exit`; and the
    label table maps its handle to the position of those bytes — unconditionally: the function is
    compiled last, so the only labels inserted after its own are those of its two cards, at the
    same position (later insertions win in the label table). -/
theorem compile_rowToValue_layout {m : Module} {limit : Nat} {p : Program}
    (h : compile m Gen.stdlib limit = .ok p) :
    ∃ (unit : Array FunctionIr) (pre : List FunctionIr) (f : FunctionIr) (B : Array UInt8),
      intoIrStream m Gen.stdlib limit = .ok unit ∧ unit.toList = pre ++ [f] ∧ pre ≠ [] ∧
      f.name = "row_to_value" ∧ f.ns = ["std"] ∧ f.arguments = ["_key", "val"] ∧ f.cards = rtvCards ∧
      p.bytecode = (B ++ rtvBytes.toArray).push op.exit ∧
      p.labels.find? (fun q => q.1 == f.handle) = some (f.handle, B.size) := by
  obtain ⟨unit, sf, hC, rfl⟩ := compile_run h
  obtain ⟨pre, f, hu, hpre, hn, hns, hargs, hcards⟩ := stream_last hC.ir
  obtain ⟨sb, sa, cb, hcf, hbc, hlab⟩ := compileUnit_last hC.run hu hpre
  obtain ⟨hb, hl⟩ := compileFunction_rtv hargs hcards cb hcf
  refine ⟨unit, pre, f, sb.bytecode, hC.ir, hu, hpre, hn, hns, hargs, hcards, ?_, ?_⟩
  · show sf.bytecode = _
    rw [hbc, hb]
  · show (resolveLog sf.labels).find? _ = _
    rw [resolveLog_find, hlab, hl]
    generalize indexHandle f.functionIndex [0] = c1
    generalize indexHandle f.functionIndex [0, 0] = c2
    rw [List.reverse_append]
    simp only [List.reverse_cons, List.reverse_nil, List.nil_append, List.cons_append]
    exact find_three _ _ _ _ _

end Cao.Compiler
