import CaoProofs.Lemmas.CrossLemmas
/-!
# One instruction keeps the call stack below the running frame, whatever its outcome (C18)

`step_keeps_below`: one instruction, also when it fails, keeps the frames below the running one
(`s.frames.dropLast <+: s'.frames`).  All instructions but `CallFunction` and `Return` are handled by the
`Pres` logic for relations that only look at the call stack (`Cross.SameFrames`; the relation is
`KeepBelow G`: "if the return addresses were good they still are, and the frames below the running one are
still there, below the running one"); `CallFunction` by `callScript_cases`, `Return` by `go_ret` (it pops ONE
frame, and that is the only way the call stack shrinks).  `Lemmas/NoPanicExec.lean` lifts this to the
dispatch loop (`exec_stack` and, in this namespace, its projection `exec_frames`); there the second relation,
`FrEq G` ("the call stack is the same"), is what `run_function` and the re-entry callback keep.
-/
namespace Cao.FramePrefix
open Cao Cao.Vm Cao.Cross

/-! ## two relations on states that only look at the call stack -/

def KeepBelow (G : Nat → Prop) (s s' : VmState) : Prop :=
  Good G s.frames → Good G s'.frames ∧ s.frames.dropLast <+: s'.frames.dropLast

instance (G : Nat → Prop) : SameFrames (KeepBelow G) where
  refl _ h := ⟨h, List.prefix_refl _⟩
  trans h1 h2 h := ⟨(h2 (h1 h).1).1, List.IsPrefix.trans (h1 h).2 (h2 (h1 h).1).2⟩
  of_frames he h := by rw [he]; exact ⟨h, List.prefix_refl _⟩

def FrEq (G : Nat → Prop) (s s' : VmState) : Prop := Good G s.frames → s'.frames = s.frames

instance (G : Nat → Prop) : SameFrames (FrEq G) where
  refl _ _ := rfl
  trans h1 h2 h := by
    have e1 := h1 h
    have e2 := h2 (by rw [e1]; exact h)
    rw [e2, e1]
  of_frames he _ := he

/-! ## one instruction -/

variable {G : Nat → Prop}

/-- `push_call_frame` rewrites the running frame and pushes one on top of it -/
theorem callScript_keepBelow (p : Prog) (src ip : Nat) (l : UInt32) (ar : Nat) (c : Option Nat) (hip : G ip) :
    Pres (KeepBelow G) (step.callScript p src ip l ar c) := by
  refine Pres.intro fun s hg => ?_
  refine callScript_cases p src ip l ar c s (fun _ => ⟨hg, List.prefix_refl _⟩) (fun _ _ _ => ⟨hg, List.prefix_refl _⟩)
    fun fr r _ _ => ⟨fun f hf => ?_, by rw [List.dropLast_concat]; exact List.prefix_append _ _⟩
  simp only [List.mem_append, List.mem_singleton] at hf
  rcases hf with (hf | rfl) | rfl
  · exact hg f (List.dropLast_subset _ hf)
  · exact hip
  · exact hip

/-- `Return` pops one frame (or none, when it fails on an empty call stack) -/
theorem ret_keeps_below (s : VmState) : s.frames.dropLast <+: (Upv.Instr.ret.go s).2.frames := by
  rw [go_ret]
  cases hl : s.frames.getLast? with
  | none => exact List.dropLast_prefix _
  | some fr =>
    dsimp only
    cases hc : s.frames.dropLast.getLast? with
    | none => exact List.prefix_refl _
    | some caller =>
      dsimp only
      split <;> exact List.prefix_refl _

/-- **one instruction, whatever its outcome, keeps the frames below the running one** — at a good address,
    from a call stack with good return addresses, with a re-entry callback that does -/
theorem step_keeps_below (p : Prog) (hc : Cfi p G) (re : Reenter) (hre : ∀ f, Pres (KeepBelow G) (re f))
    (src : Nat) (hsrc : G src) (s : VmState) (hg : Good G s.frames) :
    s.frames.dropLast <+: ((step p re src).go s).2.frames := by
  by_cases h2 : p.bytecode.getD src 0 = Compiler.op.ret
  · rw [Upv.step_ret (p := p) (re := re) (src := src) h2]
    exact ret_keeps_below s
  · exact List.IsPrefix.trans ((pres_step_of p re hre src
      (fun h1 h' ar c => callScript_keepBelow p src (src + 1) h' ar c
        (hc.seq src 1 hsrc (by rw [h1]; rfl) (by rw [h1]; decide)))
      (fun h => absurd h h2)).rel s hg).2 (List.dropLast_prefix _)

/-! ## non-vacuity -/

/-- `KeepBelow` relates a state to the one `push_call_frame` produces, not to one with a frame popped -/
example : KeepBelow (fun _ => True) { VmState.fresh {} with frames := [⟨0, 0, 0, none⟩] }
    { VmState.fresh {} with frames := [⟨0, 5, 0, none⟩, ⟨1, 5, 0, none⟩] } :=
  fun _ => ⟨fun _ _ => trivial, ⟨[⟨0, 5, 0, none⟩], rfl⟩⟩

end Cao.FramePrefix
