import CaoProofs.Lemmas.CaptureOpsPlain
import CaoProofs.Lemmas.CaptureOpsCtl
import CaoProofs.Lemmas.CaptureOpsCall
import CaoProofs.Lemmas.CaptureReg
/-!
# One instruction keeps the capture invariant (stage A of `Props/C04c.lean`): `st_step`

The case distinction over the opcode: `plainOps` (`CaptureOpsPlain.lean`), the control opcodes (`CaptureOpsCtl.lean`,
`CaptureOpsCall.lean`), `RegisterUpvalue` (`st_op_registerUpvalue` below, the instance of `st_regUp` of
`CaptureReg.lean` outside of a `Closure` tail).
-/
namespace Cao.Vm
open Cao.Gc Cao.C02

variable {p : Prog} {G : Nat → Prop} {lvl cnt : Nat → Nat} {E : ErrKind → Prop} [ErrClass E]
  {re : Reenter} {W0 : List (Option Nat × Nat)} {fs0 : List Frame} {l : Frame} {src : Nat}

theorem st_op_registerUpvalue (hs : CapStatic p G lvl cnt) (hsrc : G src)
    (hop : p.bytecode.getD src 0 = Compiler.op.registerUpvalue) :
    St (InvX p lvl none (W0 ++ [(l.closure, lvl src)]) (fs0 ++ [l])) (step p re src)
      (StepQ p lvl W0 fs0 l src) E := by
  have h := st_regUp (p := p) (lvl := lvl) (E := E) (re := re) (W0 := W0) (fs0 := fs0) (l := l) (src := src)
    (n := lvl src) (x := none) (a := 0) (hd0 := 0) (k := 0) hop (hs.reg src hsrc hop) (.inl rfl)
  refine st_conseq h (fun s hs' => ⟨hs', fun hx => by cases hx⟩) (fun ctl s' hq => ?_) (fun _ h => h)
  obtain ⟨h1, h2, h3, _⟩ := hq
  refine StepQ.ord h1 h3 ?_
  rw [h2]
  exact hs.fall hsrc hop

/-- **one instruction of the normal phase**: it keeps the invariant, moves to a position of the
same level (or calls / returns / starts a closure), and raises only errors of the class `E`, given a
callback that does; at `E := NoCap` that is: neither capture assertion -/
theorem st_step (hs : CapStatic p G lvl cnt) (hc : Cfi p G) (hsrc : G src) (hroot : RootedIn W0 fs0)
    (hre : ReSpecS re (InvX p lvl none (W0 ++ [(l.closure, lvl src)]) (fs0 ++ [l])) E) :
    St (InvX p lvl none (W0 ++ [(l.closure, lvl src)]) (fs0 ++ [l])) (step p re src)
      (StepQ p lvl W0 fs0 l src) E := by
  rcases op_cases (p.bytecode.getD src 0) with hop | (h | h | h | h | h | h | h | h | h | h) | hst
  · exact st_op_plain hs hsrc hre hop
  · exact st_op_gotoIfTrue hs hsrc h
  · exact st_op_gotoIfFalse hs hsrc h
  · exact st_op_goto hs hsrc h
  · exact st_op_callFunction hs hsrc hre h
  · exact st_op_ret hroot h
  · exact st_op_exit h
  · exact st_op_functionPointer hs hsrc h
  · exact st_op_closure hs hsrc h
  · exact st_op_popTable hs hsrc h
  · exact st_op_registerUpvalue hs hsrc h
  · exact (hc.valid src hsrc (spanOf_none_of_not_stepOps _ hst)).elim

end Cao.Vm
