import CaoProofs.Props.C10
import CaoProofs.Lemmas.WfUpvalues
import CaoProofs.Lemmas.SplitOn
/-!
# C10b — the upvalue-count clause of the bytecode checker (`checkUp`), and `compile_wf`

`Props/C10.lean` proves every clause of `Bytecode.wfReason` for compiled programs except `checkUp`
(hypothesis `UpvaluesChecked` of `compile_wf_partial`).  This file proves that clause:

* compiler side (`Lemmas/WfUpvalues.lean`): the whole bytecode of a compiled unit is *level code*
  `UpT bc log 0 0 size` (`compileUnit_level`), the closure rule being `closure_region_upvalues`;
* checker side (here): `level_checked` — level code passes `checkUp`, provided the handles of the
  `Closure` instructions are not used by labels at other positions (`ClosureHandlesDistinct`);
* together: `compile_upvalues_checked`, and with it `compile_wf` (no `UpvaluesChecked` hypothesis).

`ClosureHandlesDistinct` cannot be dropped with this method: the checker finds the body of a closure by
looking its 32-bit handle up in the resolved label table, where a later label with the same handle
wins (`compile_upvalues_checked_Full` is left as a `def`).
-/
namespace Cao.C10b
open Cao Cao.Compiler Cao.Compiler.Wf Cao.Bytecode Cao.C10

/-! ## the label log of a compilation -/

/-- the label insertion log of the compilation (`[]` if it fails); the program's label table is
`resolveLog` of it (a later label with the same handle wins) -/
def labelLog (m std : Module) (limit : Nat) : List (UInt32 × Nat) :=
  match intoIrStream m std limit with
  | .error _ => []
  | .ok unit =>
    match (compileUnit unit).run {} with
    | .error _ => []
    | .ok (_, s) => s.labels

/-- **no-collision hypothesis**: the handle of a `Closure` instruction is not the handle of a label at
another position (all log entries with that handle agree on the position).  Handles are 32-bit hashes,
and the checker (like the interpreter) finds the body of a closure by looking its handle up in the label
table, where the last insertion wins. -/
def ClosureHandlesDistinct (m std : Module) (limit : Nat) (p : Program) : Prop :=
  ∀ c, IsInstr p c op.closure → ∀ l1 ∈ labelLog m std limit, ∀ l2 ∈ labelLog m std limit,
    l1.1 = UInt32.ofNat (rdU32 p.bytecode (c + 1)) → l2.1 = l1.1 → l2.2 = l1.2

/-- a simpler sufficient condition: the whole log is functional (same handle, same position).  It is
too strong for programs with `Repeat` cards, whose label is inserted three times at different
positions (by the card itself and by its two hidden `ScalarInt` cards). -/
def LabelHandlesDistinct (m std : Module) (limit : Nat) : Prop :=
  ∀ l1 ∈ labelLog m std limit, ∀ l2 ∈ labelLog m std limit, l2.1 = l1.1 → l2.2 = l1.2

theorem LabelHandlesDistinct.closure {m std : Module} {limit : Nat} (h : LabelHandlesDistinct m std limit)
    (p : Program) : ClosureHandlesDistinct m std limit p :=
  fun _ _ l1 h1 l2 h2 _ e => h l1 h1 l2 h2 e

theorem labelLog_eq {m std : Module} {limit : Nat} {unit : Array FunctionIr} {sF : CState}
    (h : CompileRun m std limit unit sF) : labelLog m std limit = sF.labels := by
  unfold labelLog
  rw [h.ir]
  simp only [h.run]

theorem compile_labels {m std : Module} {limit : Nat} {p : Program} (h : compile m std limit = .ok p) :
    p.labels = resolveLog (labelLog m std limit) := by
  obtain ⟨unit, s, hC, rfl⟩ := compile_run h
  rw [labelLog_eq hC]
  rfl

/-! ## the checker's view -/

abbrev Reg := Nat × Nat × Nat

/-- the region the checker computes for the `Closure` instruction at `pos` -/
def regionAt (p : Program) (pos : Nat) : Option Reg :=
  match p.labels.find? (fun l => l.1 == UInt32.ofNat (rdU32 p.bytecode (pos + 1))) with
  | some (_, start) => some (start, pos, wfReason.count p 256 (pos + 9) 0)
  | none => none

theorem regionAt_snd {p : Program} {pos : Nat} {r : Reg} (h : regionAt p pos = some r) : r.2.1 = pos := by
  unfold regionAt at h
  split at h
  · simp only [Option.some.injEq] at h; rw [← h]
  · cases h

theorem mem_regionsOf {p : Program} {instrs : List (Nat × UInt8)} {r : Reg} :
    r ∈ regionsOf p instrs ↔ ∃ pos, (pos, op.closure) ∈ instrs ∧ regionAt p pos = some r := by
  unfold regionsOf
  rw [List.mem_filterMap]
  constructor
  · rintro ⟨⟨pos, o⟩, hx, hr⟩
    dsimp only at hr
    split at hr
    · rename_i ho
      have ho' : o = op.closure := by simpa using ho
      subst ho'
      exact ⟨pos, hx, hr⟩
    · cases hr
  · rintro ⟨pos, hx, hr⟩
    refine ⟨(pos, op.closure), hx, ?_⟩
    dsimp only
    rw [if_pos (by simp)]
    exact hr

theorem count_ge (p : Program) (n : Nat) : ∀ (m fuel at_ k : Nat), Pairs p.bytecode n m at_ → m ≤ fuel →
    k + m ≤ wfReason.count p fuel at_ k
  | 0, 0, _, _, _, _ => Nat.le_refl _
  | 0, f+1, at_, k, _, _ => by
    rw [wfReason.count]
    split
    · exact Nat.le_trans (Nat.le_succ _) (count_ge p n 0 f (at_ + 4) (k + 1) trivial (Nat.zero_le _))
    · exact Nat.le_refl _
  | m+1, 0, _, _, _, hf => by omega
  | m+1, f+1, at_, k, h, hf => by
    rw [wfReason.count, if_pos (by simp [h.1, h.2.1])]
    have := count_ge p n m f (at_ + 4) (k + 1) h.2.2.2 (by omega)
    omega

/-! ## the innermost region -/

def pick (best : Option Reg) (r : Reg) : Option Reg :=
  match best with
  | none => some r
  | some b => if r.2.1 - r.1 < b.2.1 - b.1 then some r else some b

theorem enclosingOf_eq (p : Program) (instrs : List (Nat × UInt8)) (pos : Nat) :
    enclosingOf p instrs pos =
      ((regionsOf p instrs).filter (fun r => r.1 ≤ pos && pos < r.2.1)).foldl pick none := rfl

theorem foldl_pick_some : ∀ (l : List Reg) (b : Reg), ∃ r0, l.foldl pick (some b) = some r0 ∧
    (r0 = b ∨ r0 ∈ l) ∧ r0.2.1 - r0.1 ≤ b.2.1 - b.1 ∧ ∀ x ∈ l, r0.2.1 - r0.1 ≤ x.2.1 - x.1
  | [], b => ⟨b, rfl, .inl rfl, Nat.le_refl _, fun _ h => by cases h⟩
  | y :: ys, b => by
    simp only [List.foldl_cons, pick]
    split
    · rename_i hlt
      obtain ⟨r0, h1, h2, h3, h4⟩ := foldl_pick_some ys y
      refine ⟨r0, h1, ?_, by omega, fun x hx => ?_⟩
      · rcases h2 with h2 | h2
        · exact .inr (by rw [h2]; exact List.mem_cons_self ..)
        · exact .inr (List.mem_cons_of_mem _ h2)
      · rcases List.mem_cons.1 hx with rfl | hx
        · exact h3
        · exact h4 x hx
    · rename_i hge
      obtain ⟨r0, h1, h2, h3, h4⟩ := foldl_pick_some ys b
      refine ⟨r0, h1, ?_, h3, fun x hx => ?_⟩
      · rcases h2 with h2 | h2
        · exact .inl h2
        · exact .inr (List.mem_cons_of_mem _ h2)
      · rcases List.mem_cons.1 hx with rfl | hx
        · omega
        · exact h4 x hx

theorem foldl_pick_none {l : List Reg} {q : Reg} (hq : q ∈ l) :
    ∃ r0, l.foldl pick none = some r0 ∧ r0 ∈ l ∧ ∀ x ∈ l, r0.2.1 - r0.1 ≤ x.2.1 - x.1 := by
  cases l with
  | nil => cases hq
  | cons y ys =>
    obtain ⟨r0, h1, h2, h3, h4⟩ := foldl_pick_some ys y
    refine ⟨r0, h1, ?_, fun x hx => ?_⟩
    · rcases h2 with h2 | h2
      · rw [h2]; exact List.mem_cons_self ..
      · exact List.mem_cons_of_mem _ h2
    · rcases List.mem_cons.1 hx with rfl | hx
      · exact h3
      · exact h4 x hx

/-! ## the three shapes of `checkUp` -/

theorem checkUp_other {p : Program} {instrs : List (Nat × UInt8)} {pos : Nat} {o : UInt8}
    (h1 : isUpAcc o = false) (h2 : o ≠ op.registerUpvalue) : checkUpOf p instrs (pos, o) = none := by
  simp only [isUpAcc] at h1
  simp only [checkUpOf, h1, Bool.false_eq_true, if_false]
  rw [if_neg]
  simp [h2]

theorem checkUp_acc {p : Program} {instrs : List (Nat × UInt8)} {pos : Nat} {o : UInt8} {q : Reg}
    (h1 : isUpAcc o = true) (hq : enclosingOf p instrs pos = some q)
    (hlt : rdU32 p.bytecode (pos + 1) < q.2.2) : checkUpOf p instrs (pos, o) = none := by
  simp only [isUpAcc] at h1
  simp only [checkUpOf, h1, if_true, hq, hlt]

theorem checkUp_reg {p : Program} {instrs : List (Nat × UInt8)} {pos : Nat}
    (h : p.bytecode.getD (pos + 2) 0 = 0 →
      ∃ q, enclosingOf p instrs pos = some q ∧ (p.bytecode.getD (pos + 1) 0).toNat < q.2.2) :
    checkUpOf p instrs (pos, op.registerUpvalue) = none := by
  have h1 : (op.registerUpvalue == op.setUpvalue || op.registerUpvalue == op.readUpvalue) = false := by decide
  simp only [checkUpOf, h1, Bool.false_eq_true, if_false]
  split
  · rename_i hc
    simp only [beq_self_eq_true, Bool.true_and, beq_iff_eq] at hc
    obtain ⟨q, hq, hlt⟩ := h hc
    simp only [hq, hlt, if_true]
  · rfl

/-! ## level code passes the check -/

/-- what connects the checker's tables to the compiler's label log -/
structure Setup (p : Program) (instrs : List (Nat × UInt8)) (L : List (UInt32 × Nat)) : Prop where
  mem : ∀ pos o, (pos, o) ∈ instrs ↔ IsInstr p pos o
  lab : ∀ c, IsInstr p c op.closure → ∀ st, (UInt32.ofNat (rdU32 p.bytecode (c + 1)), st) ∈ L →
    regionAt p c = some (st, c, wfReason.count p 256 (c + 9) 0)

/-- the enclosing closure of a range: `none` at top level (no upvalues), else a region of the checker
that contains the range and registers at least `n` upvalues -/
def ParOK (R : List Reg) (n a b : Nat) : Option Reg → Prop
  | none => n = 0
  | some q => q ∈ R ∧ q.1 ≤ a ∧ b ≤ q.2.1 ∧ n ≤ q.2.2

/-- every region whose `Closure` instruction is not in the range `[a, b)` is disjoint from the range,
or contains it and is the enclosing region or a longer one -/
def Ctx (R : List Reg) (bc : Array UInt8) (a b : Nat) (par : Option Reg) : Prop :=
  ∀ r ∈ R, ¬ (Tiled bc a r.2.1 ∧ r.2.1 < b) →
    (r.2.1 ≤ a ∨ b ≤ r.1) ∨ (r.1 ≤ a ∧ b ≤ r.2.1 ∧ ∃ q, par = some q ∧ (r = q ∨ q.2.1 - q.1 < r.2.1 - r.1))

theorem ParOK.suffix {R : List Reg} {n a a' b : Nat} {par : Option Reg} (hp : ParOK R n a b par) (h : a ≤ a') :
    ParOK R n a' b par := by
  cases par with
  | none => exact hp
  | some q => exact ⟨hp.1, Nat.le_trans hp.2.1 h, hp.2.2.1, hp.2.2.2⟩

/-- `hcut`: the regions whose `Closure` instruction lies in the part cut off end there -/
theorem Ctx.suffix {R : List Reg} {bc : Array UInt8} {a a' b : Nat} {par : Option Reg} (hc : Ctx R bc a b par)
    (h : a ≤ a')
    (hcut : ∀ r ∈ R, Tiled bc a r.2.1 → r.2.1 < b → ¬ (Tiled bc a' r.2.1 ∧ r.2.1 < b) → r.2.1 ≤ a') :
    Ctx R bc a' b par := by
  intro r hr hnot
  by_cases h0 : Tiled bc a r.2.1 ∧ r.2.1 < b
  · exact .inl (.inl (hcut r hr h0.1 h0.2 hnot))
  · rcases hc r hr h0 with hd | ⟨c1, c2, c3⟩
    · exact .inl (by omega)
    · exact .inr ⟨by omega, c2, c3⟩

section
variable {p : Program} {instrs : List (Nat × UInt8)} {L : List (UInt32 × Nat)}

/-- a region whose `Closure` instruction is in a level's range starts inside the range, after a `Goto` -/
theorem Setup.in_range (S : Setup p instrs L) {n a b : Nat} (T : UpT p.bytecode L n a b)
    {r : Reg} (hr : r ∈ regionsOf p instrs) (ht : Tiled p.bytecode a r.2.1) (hlt : r.2.1 < b) : a + 5 ≤ r.1 ∧ r.1 ≤ r.2.1 := by
  obtain ⟨c, hc, hrc⟩ := mem_regionsOf.1 hr
  have e := regionAt_snd hrc
  subst e
  have hi := (S.mem _ _).1 hc
  obtain ⟨a', h1, h2, h3⟩ := T.closure_label r.2.1 ht hlt hi.2.2.symm
  have := S.lab r.2.1 hi _ h3
  rw [hrc] at this
  simp only [Option.some.injEq] at this
  rw [this]
  exact ⟨by simp only; omega, by simp only; omega⟩

theorem Setup.region_instr (S : Setup p instrs L) {r : Reg} (hr : r ∈ regionsOf p instrs) :
    IsInstr p r.2.1 op.closure := by
  obtain ⟨c, hcm, hrc⟩ := mem_regionsOf.1 hr
  rw [regionAt_snd hrc]
  exact (S.mem _ _).1 hcm

theorem not_closure {x : Nat} {o : UInt8} (hi : IsInstr p x op.closure) (h : p.bytecode.getD x 0 = o)
    (hne : o ≠ op.closure) : False := hne (by rw [← h]; exact hi.2.2.symm)

theorem region_unique {r r' : Reg} (hr : r ∈ regionsOf p instrs) (hr' : r' ∈ regionsOf p instrs)
    (h : r.2.1 = r'.2.1) : r = r' := by
  obtain ⟨c, _, hrc⟩ := mem_regionsOf.1 hr
  obtain ⟨c', _, hrc'⟩ := mem_regionsOf.1 hr'
  have e := regionAt_snd hrc
  have e' := regionAt_snd hrc'
  rw [← e, h, e'] at hrc
  rw [hrc] at hrc'
  exact Option.some.inj hrc'

/-- a position at a level's own nesting depth: the innermost region around it is the enclosing one -/
theorem own_level {n a b pos : Nat} {par : Option Reg} (hp : ParOK (regionsOf p instrs) n a b par)
    (hc : Ctx (regionsOf p instrs) p.bytecode a b par) (h1 : a ≤ pos) (h2 : pos < b)
    (hin : ∀ r ∈ regionsOf p instrs, Tiled p.bytecode a r.2.1 → r.2.1 < b → ¬ (r.1 ≤ pos ∧ pos < r.2.1))
    {x : Nat} (hx : x < n) : ∃ q, enclosingOf p instrs pos = some q ∧ x < q.2.2 := by
  cases par with
  | none => simp only [ParOK] at hp; omega
  | some q =>
    obtain ⟨q1, q2, q3, q4⟩ := hp
    have hqc : q ∈ (regionsOf p instrs).filter (fun r => r.1 ≤ pos && pos < r.2.1) := by
      rw [List.mem_filter]
      refine ⟨q1, ?_⟩
      simp only [Bool.and_eq_true, decide_eq_true_eq]
      omega
    obtain ⟨r0, e0, m0, min0⟩ := foldl_pick_none hqc
    refine ⟨r0, by rw [enclosingOf_eq]; exact e0, ?_⟩
    have hle := min0 q hqc
    rw [List.mem_filter] at m0
    obtain ⟨m1, m2⟩ := m0
    simp only [Bool.and_eq_true, decide_eq_true_eq] at m2
    have : r0 = q := by
      by_cases hr : Tiled p.bytecode a r0.2.1 ∧ r0.2.1 < b
      · exact absurd m2 (hin r0 m1 hr.1 hr.2)
      · rcases hc r0 m1 hr with hd | ⟨_, _, q', hq', hor⟩
        · omega
        · cases hq'
          rcases hor with h | h
          · exact h
          · omega
    rw [this]; omega

/-- **level code passes `checkUp`** -/
theorem level_checked (S : Setup p instrs L) {n a b : Nat} (T : UpT p.bytecode L n a b) :
    Start p.bytecode a → b ≤ p.bytecode.size → ∀ par, ParOK (regionsOf p instrs) n a b par →
    Ctx (regionsOf p instrs) p.bytecode a b par →
    ∀ pos, Tiled p.bytecode a pos → pos < b → checkUpOf p instrs (pos, p.bytecode.getD pos 0) = none := by
  induction T with
  | nil n a => intro _ _ _ _ _ pos ht hlt; have := ht.le; omega
  | @plain n a k b hs hcp hu ht ih =>
    intro ha hb par hp hc pos htp hlt
    have T0 : UpT p.bytecode L n a b := .plain hs hcp hu ht
    have hk := span_pos hs
    have hle := ht.le
    cases htp with
    | nil =>
      -- the instruction itself
      cases hacc : isUpAcc (p.bytecode.getD a 0) with
      | false =>
        refine checkUp_other hacc ?_
        intro h; rw [h] at hcp; exact absurd hcp (by decide)
      | true =>
        obtain ⟨q, hq, hlt'⟩ := own_level hp hc (Nat.le_refl a) (by omega)
          (fun r hr ht' hl' => by have := S.in_range T0 hr ht' hl'; omega) (hu hacc)
        exact checkUp_acc hacc hq hlt'
    | @cons _ k' _ hs' ht' =>
      rw [hs] at hs'; cases hs'
      refine ih (ha.trans (.single hs)) hb par (hp.suffix (by omega)) (hc.suffix (by omega) ?_) pos ht' hlt
      intro r hr h0 h0b hnot
      -- the region of the instruction at `a` itself: impossible, it is not a `Closure`
      have : r.2.1 = a := by
        rcases h0 with _ | ⟨hs'', ht''⟩
        · rfl
        · rw [hs] at hs''; cases hs''
          exact absurd ⟨ht'', h0b⟩ hnot
      have hi := S.region_instr hr
      rw [this] at hi
      rw [← hi.2.2] at hcp
      exact absurd hcp (by decide)
  | @clos n m a c b hg hbody hcl hl hm hpairs htail ihb iht =>
    intro ha hb par hp hc pos htp hlt
    have T0 : UpT p.bytecode L n a b := .clos hg hbody hcl hl hm hpairs htail
    have hble := hbody.le
    have htle := htail.le
    have tb := hbody.tiled
    have tp := hpairs.tiled
    have sg : Gen.spanOf (p.bytecode.getD a 0) = some 5 := by rw [hg]; decide
    have sc : Gen.spanOf (p.bytecode.getD c 0) = some 9 := by rw [hcl]; decide
    have ha5 : Start p.bytecode (a + 5) := ha.trans (.single sg)
    have hc0 : Start p.bytecode c := ha5.trans tb
    have he : Start p.bytecode (c + 9 + 4 * m) := (hc0.trans (.single sc)).trans tp
    -- the region of this closure
    have hic : IsInstr p c op.closure := ⟨hc0, by omega, hcl.symm⟩
    have hreg := S.lab c hic _ hl
    have hcnt : m ≤ wfReason.count p 256 (c + 9) 0 := by
      have := count_ge p n m 256 (c + 9) 0 hpairs (by omega); omega
    have hrm : (a + 5, c, wfReason.count p 256 (c + 9) 0) ∈ regionsOf p instrs :=
      mem_regionsOf.2 ⟨c, (S.mem _ _).2 hic, hreg⟩
    -- regions of closures in the tail start in the tail
    have tail_start : ∀ r ∈ regionsOf p instrs, Tiled p.bytecode (c + 9 + 4 * m) r.2.1 → r.2.1 < b →
        c + 9 + 4 * m + 5 ≤ r.1 := fun r hr ht' hl' => (S.in_range htail hr ht' hl').1
    rcases Tiled.locate sg tb sc tp htp with rfl | ⟨hpos, hposc⟩ | rfl | ⟨hpos, hpose⟩ | hpos
    · -- the `Goto`
      rw [hg]; exact checkUp_other (by decide) (by decide)
    · -- inside the body: one level deeper, enclosed by this closure's region
      refine ihb ha5 (by omega) (some (a + 5, c, wfReason.count p 256 (c + 9) 0))
        ⟨hrm, Nat.le_refl _, Nat.le_refl _, hcnt⟩ ?_ pos hpos hposc
      intro r hr hnot
      by_cases h0 : Tiled p.bytecode a r.2.1 ∧ r.2.1 < b
      · rcases Tiled.locate sg tb sc tp h0.1 with h | ⟨h, h'⟩ | h | ⟨h, h'⟩ | h
        · -- `r`'s closure instruction would be the `Goto`
          have hi := S.region_instr hr
          rw [h] at hi
          exact (not_closure hi hg (by decide)).elim
        · exact absurd ⟨h, h'⟩ hnot
        · -- this closure's own region
          have := region_unique hr hrm h
          refine .inr ⟨by rw [this]; exact Nat.le_refl _, by rw [this]; exact Nat.le_refl _, _, rfl, .inl this⟩
        · -- in the registrations: not a `Closure`
          have hi := S.region_instr hr
          rcases hpairs.starts h h' with h'' | ⟨h'', _⟩
          · exact (not_closure hi h'' (by decide)).elim
          · exact (not_closure hi h'' (by decide)).elim
        · -- a closure of the tail
          have := tail_start r hr h h0.2
          exact .inl (.inr (by omega))
      · rcases hc r hr h0 with hd | ⟨c1, c2, q, hq, hor⟩
        · exact .inl (by omega)
        · refine .inr ⟨by omega, by omega, _, rfl, .inr ?_⟩
          simp only
          omega
    · -- the `Closure` instruction
      rw [hcl]; exact checkUp_other (by decide) (by decide)
    · -- the registrations: this level's own depth
      rcases hpairs.starts hpos hpose with h | ⟨h, hnl⟩
      · rw [h]; exact checkUp_other (by decide) (by decide)
      · rw [h]
        refine checkUp_reg fun hz => ?_
        have hpa : a ≤ pos := by have := hpos.le; omega
        refine own_level hp hc hpa hlt (fun r hr ht' hl' => ?_) (hnl hz)
        rcases Tiled.locate sg tb sc tp ht' with h | ⟨h, h'⟩ | h | ⟨h, h'⟩ | h
        · omega
        · have := hpos.le; omega
        · have := hpos.le; omega
        · have hi := S.region_instr hr
          rcases hpairs.starts h h' with h'' | ⟨h'', _⟩
          · exact (not_closure hi h'' (by decide)).elim
          · exact (not_closure hi h'' (by decide)).elim
        · have := tail_start r hr h hl'
          omega
    · -- the tail: same level
      refine iht he hb par (hp.suffix (by omega)) (hc.suffix (by omega) ?_) pos hpos hlt
      intro r hr h0 h0b hnot
      rcases Tiled.locate sg tb sc tp h0 with h | ⟨h, h'⟩ | h | ⟨h, h'⟩ | h
      · omega
      · omega
      · omega
      · omega
      · exact absurd ⟨h, h0b⟩ hnot
end

/-! ## the theorems -/

/-- **the decomposition lemma**: the checker's upvalue clause follows from the level structure of the
bytecode — the per-closure facts packed in `UpT` — and the no-collision hypothesis on the closure
handles in the label log -/
theorem upvaluesChecked_of_level {p : Program} {log : List (UInt32 × Nat)}
    (hl : p.labels = resolveLog log) (T : UpT p.bytecode log 0 0 p.bytecode.size)
    (hd : ∀ c, IsInstr p c op.closure → ∀ l1 ∈ log, ∀ l2 ∈ log,
      l1.1 = UInt32.ofNat (rdU32 p.bytecode (c + 1)) → l2.1 = l1.1 → l2.2 = l1.2) :
    UpvaluesChecked p := by
  intro instrs hdec
  obtain ⟨_, hmem, _⟩ := decodeAll_tiles hdec
  have S : Setup p instrs log := by
    refine ⟨fun pos o => hmem (pos, o), fun c hc st hst => ?_⟩
    unfold regionAt
    rw [hl, resolveLog_find_of_unique hst (fun l2 h2 e2 => hd c hc _ hst l2 h2 rfl e2)]
  rw [List.findSome?_eq_none_iff]
  rintro ⟨pos, o⟩ hx
  obtain ⟨h1, h2, h3⟩ := (S.mem pos o).1 hx
  rw [h3]
  refine level_checked S T (.nil _) (Nat.le_refl _) none rfl ?_ pos h1 h2
  intro r hr hnot
  have hi := S.region_instr hr
  exact absurd ⟨hi.1, hi.2.1⟩ hnot

/-- **`compile_upvalues_checked`**: the `checkUp` clause of the checker holds for every compiled
program whose closure handles do not collide with other label handles -/
theorem compile_upvalues_checked {m std : Module} {limit : Nat} {p : Program}
    (h : compile m std limit = .ok p) (hd : ClosureHandlesDistinct m std limit p) : UpvaluesChecked p := by
  obtain ⟨unit, s, hC, rfl⟩ := compile_run h
  exact upvaluesChecked_of_level rfl (compileUnit_level hC.run) (labelLog_eq hC ▸ hd)

/-- **`compile_wf`**: every compiled program is accepted by the checker `Bytecode.wfReason` —
no `UpvaluesChecked` hypothesis.  Hypotheses: the sizes fit the 32-bit operands, no function pointer
refers to the (unlabelled) entry function (`C10.entry_ref_not_wf`), and the closure handles do not
collide with other label handles. -/
theorem compile_wf {m std : Module} {limit : Nat} {p : Program} (h : compile m std limit = .ok p)
    (hsz : p.bytecode.size < 2 ^ 31) (hdata : p.data.size < 2 ^ 32) (hentry : NoEntryRef m std limit p)
    (hd : ClosureHandlesDistinct m std limit p) : Bytecode.WF p :=
  compile_wf_partial h hsz hdata hentry (compile_upvalues_checked h hd)

/-- the statement without the collision hypothesis (not proved; it is false whenever two label
handles — 32-bit hashes — of a compilation collide at a closure, which the model cannot exclude) -/
def compile_upvalues_checked_Full : Prop :=
  ∀ (m std : Module) (limit : Nat) (p : Program), compile m std limit = .ok p → UpvaluesChecked p

/-! ## non-vacuity -/

/-- an executable sufficient condition for the hypotheses of `compile_wf` (with the empty standard
library): the program compiles, is small, contains no `FunctionPointer` instruction, and the handles of
its label log are pairwise different -/
def hypsOK (m : Module) : Bool :=
  match compile m (Module.mk [] [] []) with
  | .error _ => false
  | .ok p =>
    decide (p.bytecode.size < 2 ^ 31) && decide (p.data.size < 2 ^ 32) &&
    (match decodeAll p.bytecode (p.bytecode.size + 1) 0 [] with
     | .ok l => l.all (fun x => x.2 != op.functionPointer)
     | .error _ => false) &&
    decide (((labelLog m (Module.mk [] [] []) Gen.recursionLimit).map (·.1)).Pairwise (· ≠ ·))

theorem functional_of_pairwise : ∀ (log : List (UInt32 × Nat)), (log.map (·.1)).Pairwise (· ≠ ·) →
    ∀ l1 ∈ log, ∀ l2 ∈ log, l2.1 = l1.1 → l2.2 = l1.2
  | [], _, l1, h1, _, _, _ => by cases h1
  | x :: xs, hp, l1, h1, l2, h2, e => by
    rw [List.map_cons, List.pairwise_cons] at hp
    rcases List.mem_cons.1 h1 with g1 | g1 <;> rcases List.mem_cons.1 h2 with g2 | g2
    · rw [g1, g2]
    · rw [g1] at e; exact absurd e.symm (hp.1 _ (List.mem_map.2 ⟨l2, g2, rfl⟩))
    · rw [g2] at e; exact absurd e (hp.1 _ (List.mem_map.2 ⟨l1, g1, rfl⟩))
    · exact functional_of_pairwise xs hp.2 l1 g1 l2 g2 e

theorem hypsOK_sound {m : Module} (h : hypsOK m = true) :
    ∃ p, compile m (Module.mk [] [] []) = .ok p ∧ p.bytecode.size < 2 ^ 31 ∧ p.data.size < 2 ^ 32 ∧
      NoEntryRef m (Module.mk [] [] []) Gen.recursionLimit p ∧
      ClosureHandlesDistinct m (Module.mk [] [] []) Gen.recursionLimit p := by
  unfold hypsOK at h
  split at h
  · cases h
  · rename_i p hp
    simp only [Bool.and_eq_true, decide_eq_true_eq] at h
    obtain ⟨⟨⟨h1, h2⟩, h3⟩, h4⟩ := h
    refine ⟨p, hp, h1, h2, ?_, (LabelHandlesDistinct.closure (functional_of_pairwise _ h4) p)⟩
    intro unit _ pos hi
    exfalso
    obtain ⟨l, hl, hmem, _⟩ := compile_decodes hp
    rw [hl] at h3
    have := List.all_eq_true.1 h3 _ ((hmem _ _).2 hi)
    simp at this

/-- the same for an arbitrary standard library, with function pointers allowed as long as none carries
the handle `mainH` of the entry function; `r` and `log` are the result and the label log of the compilation
(arguments, so that both can be replaced by their `splitOn`-free twins before the kernel evaluates the check) -/
def hypsCheck (mainH : UInt32) (r : Except CErr Program) (log : List (UInt32 × Nat)) : Bool :=
  match r with
  | .error _ => false
  | .ok p =>
    decide (p.bytecode.size < 2 ^ 31) && decide (p.data.size < 2 ^ 32) &&
    (match decodeAll p.bytecode (p.bytecode.size + 1) 0 [] with
     | .ok l => l.all (fun x => x.2 != op.functionPointer || UInt32.ofNat (Bytecode.rdU32 p.bytecode (x.1 + 1)) != mainH)
     | .error _ => false) &&
    decide ((log.map (·.1)).Pairwise (· ≠ ·))

/-- `hypsCheck` with the entry handle of the stream gives the hypotheses of `compile_wf`, and the stronger
`LabelHandlesDistinct` (from which the no-collision hypotheses on function and pointer handles follow as well) -/
theorem hypsCheck_sound {m std : Module} {limit : Nat} {unit : Array FunctionIr}
    (hu : intoIrStream m std limit = .ok unit)
    (h : hypsCheck unit[0]!.handle (compile m std limit) (labelLog m std limit) = true) :
    ∃ p, compile m std limit = .ok p ∧ p.bytecode.size < 2 ^ 31 ∧ p.data.size < 2 ^ 32 ∧
      NoEntryRef m std limit p ∧ ClosureHandlesDistinct m std limit p ∧ LabelHandlesDistinct m std limit := by
  unfold hypsCheck at h
  split at h
  · cases h
  · rename_i p hp
    simp only [Bool.and_eq_true, decide_eq_true_eq] at h
    obtain ⟨⟨⟨h1, h2⟩, h3⟩, h4⟩ := h
    have hl := functional_of_pairwise _ h4
    refine ⟨p, hp, h1, h2, fun unit' hu' pos hi => ?_, LabelHandlesDistinct.closure hl p, hl⟩
    obtain rfl : unit' = unit := Except.ok.inj (hu'.symm.trans hu)
    obtain ⟨l, hl', hmem, _⟩ := compile_decodes hp
    rw [hl'] at h3
    simpa using List.all_eq_true.1 h3 _ ((hmem _ _).2 hi)

/-! ### a compiled two-level closure

`String.splitOn` (used by `ReadVar`/`SetVar`) is defined by well-founded recursion and does not reduce
in the kernel; the compilation of the example is therefore first rewritten into a `splitOn`-free twin
(`unitT`, obtained by unfolding the compiler on the example's cards and rewriting the card compilers that
split a name into their twins `readVarCardT`, `setVarTargetT` of `Lemmas/SplitOn.lean`), which
`decide +kernel` then evaluates. -/

/-- main sets a local `x`; a closure creates a closure that reads `x`: the inner closure captures
an upvalue of the outer one (`RegisterUpvalue 0 0`), which captures main's local (`RegisterUpvalue 0 1`) -/
def mainCards : List Card := [.setVar "x" (.scalarInt 1), .closure [] [.closure [] [.readVar "x"]]]
def twoLevel : Module := Module.mk [] [("main", ⟨[], mainCards⟩)] []
def stdE : Module := Module.mk [] [] []

def mainIr : FunctionIr :=
  { functionIndex := 0, name := "main", arguments := [], cards := mainCards, ns := [], imports := [],
    handle := Hash.handleFromU64 (UInt64.ofNat 0) }

theorem twoLevel_ir : intoIrStream twoLevel stdE Gen.recursionLimit = .ok #[mainIr] := by rfl

def mainT : {A : CM Unit // processFunctionCards 0 mainCards = A} :=
  ⟨_, by
    simp only [mainCards, processFunctionCards, processCard, compileSubexprFrom, setVarCode, readVarCardT.2,
      setVarTargetT.2]
    rfl⟩

def unitT : {A : CM Unit // compileUnit #[mainIr] = A} :=
  ⟨_, by
    have h0 : (#[mainIr])[0]! = mainIr := rfl
    have hc : mainIr.cards = mainCards := rfl
    simp only [compileUnit, h0, processFunction, hc, mainT.2]; rfl⟩

def finish (r : Except CErr (Unit × CState)) : Except CErr Program :=
  match r with
  | .error e => .error e
  | .ok ((), s) => .ok (programOf s)

def labelsOf (r : Except CErr (Unit × CState)) : List (UInt32 × Nat) :=
  match r with
  | .error _ => []
  | .ok (_, s) => s.labels

theorem compile_eq_finish {m std : Module} {limit : Nat} {unit : Array FunctionIr}
    (hu : intoIrStream m std limit = .ok unit) : compile m std limit = finish ((compileUnit unit).run {}) := by
  unfold compile
  rw [hu]
  rfl

theorem labelLog_eq_labelsOf {m std : Module} {limit : Nat} {unit : Array FunctionIr}
    (hu : intoIrStream m std limit = .ok unit) : labelLog m std limit = labelsOf ((compileUnit unit).run {}) := by
  unfold labelLog
  rw [hu]
  rfl

theorem compile_twin : compile twoLevel stdE = finish (unitT.1.run {}) := by
  rw [← unitT.2]
  exact compile_eq_finish twoLevel_ir

theorem labelLog_twin : labelLog twoLevel stdE Gen.recursionLimit = labelsOf (unitT.1.run {}) := by
  rw [← unitT.2]
  exact labelLog_eq_labelsOf twoLevel_ir

/-- the compiled two-level closure: the inner body (level 2) reads upvalue 0 of its closure, which
registers one non-local upvalue (index 0 of the outer closure); the outer closure registers one local -/
theorem twoLevel_bytes : (match compile twoLevel stdE with
    | .ok p => p.bytecode.toList
    | .error _ => []) =
    [op.scalarInt, 1, 0, 0, 0, 0, 0, 0, 0, op.setLocalVar, 0, 0, 0, 0,
     op.goto, 46, 0, 0, 0,
       op.goto, 31, 0, 0, 0,
         op.readUpvalue, 0, 0, 0, 0, op.scalarNil, op.ret,
       op.closure, 146, 227, 129, 49, 0, 0, 0, 0, op.copyLast, op.registerUpvalue, 0, 0,
       op.scalarNil, op.ret,
     op.closure, 210, 71, 104, 244, 0, 0, 0, 0, op.copyLast, op.registerUpvalue, 0, 1,
     op.closeUpvalue, op.exit, op.exit] := by
  rw [compile_twin]
  decide +kernel

theorem twoLevel_hyps : hypsOK twoLevel = true := by
  unfold hypsOK
  rw [show Module.mk [] [] [] = stdE from rfl, compile_twin, labelLog_twin]
  decide +kernel

/-- `compile_wf` applies to the two-level closure -/
theorem twoLevel_wf : ∃ p, compile twoLevel stdE = .ok p ∧ Bytecode.WF p := by
  obtain ⟨p, h, h1, h2, h3, h4⟩ := hypsOK_sound twoLevel_hyps
  exact ⟨p, h, compile_wf h h1 h2 h3 h4⟩

theorem twoLevel_level : ∃ s, (compileUnit #[mainIr]).run {} = .ok ((), s) ∧
    UpT s.bytecode s.labels 0 0 s.bytecode.size := by
  have h : (match unitT.1.run {} with | .ok _ => true | .error _ => false) = true := by decide +kernel
  rw [← unitT.2] at h
  split at h
  · rename_i x hx
    obtain ⟨⟨⟩, s⟩ := x
    exact ⟨s, hx, compileUnit_level hx⟩
  · cases h

/-- the checker accepts it (by evaluation, independently of the theorem) -/
example : okWF twoLevel = true := by
  unfold okWF
  rw [show Module.mk [] [] [] = stdE from rfl, compile_twin]
  decide +kernel

/-- a `Repeat` card inserts its label three times at different positions: the stronger hypothesis
`LabelHandlesDistinct` fails for such programs, `ClosureHandlesDistinct` holds (there is no closure) -/
def repeatProg : Module := Module.mk [] [("main", ⟨[], [.repeat none (.scalarInt 2) .scalarNil]⟩)] []

example : (labelLog repeatProg stdE Gen.recursionLimit).map (·.2) = [0, 0, 14, 44, 45, 72] ∧
    ((labelLog repeatProg stdE Gen.recursionLimit).map (·.1)).take 3 =
      [3787022137, 835574601, 3787022137] := by decide +kernel

end Cao.C10b
