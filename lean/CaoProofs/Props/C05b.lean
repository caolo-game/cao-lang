import CaoProofs.Lemmas.RunInv
import CaoProofs.Lemmas.SchedEq
/-!
# C05 (continued) — the memory accounting invariant holds along whole runs

`Props/C05.lean` proves that `Inv` (ledger exact ∧ within the limit ∧ unique addresses ∧ fresh
`next` ∧ threshold ok) is preserved by the single allocation primitives. Here it is lifted to one
instruction (success *and* failure), host functions, the dispatch loop / `run_function` for every
amount of fuel (`exec p gas` with a smaller `gas` is a prefix of the run with a larger one, so this
covers every instruction boundary inside a run, including nested runs started by natives), `Vm::run`
whatever the outcome, and every state the host can reach from a fresh VM (`Reachable`; the limit is
the *configured* one: no run changes it).

No hypothesis on the program is needed (it need not be well-formed bytecode). The table operand of
every `tableInsert` the interpreter performs is on the value stack or guarded at that moment, which
is what `C05.tableInsert_inv` needs.
-/
namespace Cao.C05b
open Cao Cao.Vm Cao.Gc Cao.C02 Cao.C05 Cao.RunInv Cao.SchedSim

/-! ## 1. one instruction, natives, the loop, `run` -/

def ReenterInv (reenter : Reenter) : Prop :=
  ∀ (f : Val) (s : VmState), Inv s → Inv ((reenter f).run.run s).2

theorem reenterInv_iff (reenter : Reenter) : ReenterInv reenter ↔ ∀ f, Pres InvR (reenter f) :=
  ⟨fun h f => Pres.intro (fun s hi => h f s hi), fun h f s hi => (h f).rel s hi⟩

/-- **every instruction preserves the accounting invariant** — for every program, address and
    invariant-preserving callback, whether the instruction succeeds or raises an error -/
theorem step_inv (p : Prog) (reenter : Reenter) (hre : ReenterInv reenter) (src : Nat) (s : VmState)
    (h : Inv s) : Inv ((step p reenter src).run.run s).2 :=
  (pres_step p reenter ((reenterInv_iff reenter).mp hre) src).rel s h

/-- every host function (stdlib natives and the test family) preserves it, on success and on
    failure -/
theorem callNative_inv (reenter : Reenter) (hre : ReenterInv reenter) (hd : UInt32) (s : VmState)
    (h : Inv s) : Inv ((callNative reenter hd).run.run s).2 :=
  (pres_callNative reenter ((reenterInv_iff reenter).mp hre) hd).rel s h

/-- **the dispatch loop and `run_function` preserve it**, for every amount of fuel and every
    outcome -/
theorem exec_inv (p : Prog) (gas : Nat) (t : Task) (s : VmState) (h : Inv s) :
    Inv (exec p gas t s).1 := exec_invR p gas t s h

theorem reenterOf_inv (p : Prog) (gas : Nat) : ReenterInv (reenterOf p gas) :=
  (reenterInv_iff _).mpr (fun f => pres_liftRun (fun s => exec_invR p gas (.call f) s))

/-- **`Vm::run` preserves it**, whether the program exits, fails or times out -/
theorem run_inv (p : Prog) (n : Nat) (s : VmState) (h : Inv s) : Inv (run p n s).1 :=
  run_invR p n s h

theorem run_limit (p : Prog) (n : Nat) (s : VmState) : (run p n s).1.mem.limit = s.mem.limit :=
  RunInv.run_limit p n s

theorem exec_limit (p : Prog) (gas : Nat) (t : Task) (s : VmState) :
    (exec p gas t s).1.mem.limit = s.mem.limit :=
  exec_pres (R := SameLimit) p gas t s

/-! ## 2. the property, in its own words -/

/-- the states a host can bring a VM with configuration `c` into: create it, run programs
    (with any budget; the run may fail), clear it, install a forced-collection schedule -/
inductive Reachable (c : Config) : VmState → Prop
  | fresh : Reachable c (VmState.fresh c)
  | run {s : VmState} (p : Prog) (n : Nat) : Reachable c s → Reachable c (Vm.run p n s).1
  | clear {s : VmState} : Reachable c s → Reachable c (Vm.clear s)
  | sched {s : VmState} (sch : Sched) (i : Nat) :
      Reachable c s → Reachable c { s with sched := sch, allocIndex := i }

theorem reachable_inv {c : Config} {s : VmState} (h : Reachable c s) :
    Inv s ∧ s.mem.limit = c.memLimit := by
  induction h with
  | fresh => exact ⟨fresh_inv c, rfl⟩
  | run p n _ ih => exact ⟨run_inv p n _ ih.1, (run_limit p n _).trans ih.2⟩
  | clear _ ih => exact ⟨clear_inv _ ih.1, ih.2⟩
  | @sched s0 sch i _ ih => exact ⟨inv_of_same (s := s0) rfl rfl ih.1, ih.2⟩

/-- **the accounted heap usage equals the memory of the objects currently allocated**, in every
    reachable state -/
theorem accounted_exact_always {c : Config} {s : VmState} (h : Reachable c s) :
    s.mem.allocated = (s.heap.objs.map (fun q => Heap.chargeOf q.2)).sum :=
  (reachable_inv h).1.ledger

/-- **and never exceeds the configured limit** -/
theorem never_above_limit_always {c : Config} {s : VmState} (h : Reachable c s) :
    s.mem.allocated ≤ c.memLimit := by
  have := reachable_inv h
  rw [← this.2]; exact this.1.within

theorem outstanding_le_limit {c : Config} {s : VmState} (h : Reachable c s) :
    (s.heap.objs.map (fun q => Heap.chargeOf q.2)).sum ≤ c.memLimit := by
  rw [← accounted_exact_always h]; exact never_above_limit_always h

/-- **clearing the VM returns the accounted usage to zero** (and releases every object) -/
theorem clear_returns_to_zero {c : Config} {s : VmState} (h : Reachable c s) :
    (clear s).mem.allocated = 0 ∧ (clear s).heap.objs = [] :=
  ⟨clear_zero s (reachable_inv h).1.ledger, rfl⟩

/-- also in the middle of a run: after any number of dispatched instructions (fuel `gas`), from
    a reachable state in which the run was started -/
theorem accounted_exact_during_run {c : Config} {s : VmState} (h : Reachable c s) (p : Prog)
    (gas : Nat) (t : Task) :
    let s' := (exec p gas t s).1
    s'.mem.allocated = (s'.heap.objs.map (fun q => Heap.chargeOf q.2)).sum ∧
    s'.mem.allocated ≤ c.memLimit := by
  have hi := exec_inv p gas t s (reachable_inv h).1
  have hl := exec_limit p gas t s
  refine ⟨hi.ledger, ?_⟩
  rw [← (reachable_inv h).2, ← hl]; exact hi.within

/-! ## 3. non-vacuity -/

/-- `t = {}; G0 = t; {} ; pop; exit` -/
def prog1 : Prog :=
  { bytecode := #[31, 17, 0, 0, 0, 0, 31, 16, 10], data := #[], labels := [], varNames := [], trace := [] }

def small : Config := { memLimit := 1000, stackSize := 4, callStackSize := 4, maxInstr := 10 }
/-- one table costs 424 bytes: the second one does not fit while the first is a global -/
def tight : Config := { memLimit := 500, stackSize := 4, callStackSize := 4, maxInstr := 10 }

private def errName (r : VmState × Option RunErr) : Option String := r.2.map (·.kind.name)

example : errName (run prog1 10 (VmState.fresh small)) = none ∧
    (run prog1 10 (VmState.fresh small)).1.mem.allocated = 848 ∧
    (run prog1 10 (VmState.fresh small)).1.heap.objs.map (·.1) = [1, 2] := by decide +kernel

example : errName (run prog1 10 (VmState.fresh tight)) = some "OutOfMemory" ∧
    (run prog1 10 (VmState.fresh tight)).1.mem.allocated = 424 ∧
    (run prog1 10 (VmState.fresh tight)).1.heap.objs.map (·.1) = [1] := by decide +kernel

/-- a second run on the same VM, under a schedule that forces a collection at every allocation:
    the garbage table of the first run is reclaimed -/
example : (run prog1 10 { (run prog1 10 (VmState.fresh small)).1 with sched := .every, allocIndex := 0 }).1.mem.allocated = 848 ∧
    (run prog1 10 { (run prog1 10 (VmState.fresh small)).1 with sched := .every, allocIndex := 0 }).1.heap.objs.map (·.1) = [3, 4] := by
  decide +kernel

example : Reachable small (clear (run prog1 10 (VmState.fresh small)).1) :=
  .clear (.run prog1 10 .fresh)

example : (clear (run prog1 10 (VmState.fresh small)).1).mem.allocated = 0 :=
  (clear_returns_to_zero (.run prog1 10 .fresh)).1

example : ReenterInv (reenterOf prog1 5) := reenterOf_inv prog1 5


/-! ## 4. C02 — schedule independence of whole runs

`C02.schedule_independence_Full` (every program, every start state with a balanced ledger) is
**false**; what is proved instead:

* `schedule_independence_Full_false` — a kernel-checked counter-example (ill-formed bytecode that
  drops a captured slot with `AppendTable` — `pop_n` keeps the slot — and then reads the stale slot
  through the still open upvalue; the witness that moved the stack pointer back up with
  `ClearStack` is gone with the repair of `clear_until`: `clearStack_witness_repaired`);
* the allocation layer at full strength (same address / same `OutOfMemory` outcome, related states);
* `schedule_independence_of_stepSim` — a reduction of whole runs to single instructions and host
  functions, whose premises are not established anywhere (for no program, for no host function);
  `Props/C02b.lean` proves the run theorem by another route (run-time checks, `SafeRun`);
* `schedule_independence_simple` — unconditional for programs over the instruction fragment
  `simpleOps` (tables are created, shared, dropped, collected; allocations may fail).
-/

/-- the witness used before the repair of `clear_until`: `X = {}; T = {}; 7; f = fn@22/0; f()`
    where `f` is `T[7] = X` (pops three values, the slots keep them) `; {} ; pop ; ClearStack ; pop ;
    len`: inside `f` the frame starts at slot 3 but only 0 values are left, so the old `ClearStack`
    moved the stack pointer *up* to 3 and resurrected the stale reference to `T` in slot 1, which a
    collection forced by the allocation in between had freed (`len` saw 0 entries) or not (1 entry) -/
def clearStackProg : Prog :=
  { bytecode := #[31, 31, 5, 7,0,0,0,0,0,0,0, 37, 9,0,0,0, 0,0,0,0, 11, 10,
                  33, 31, 16, 21, 16, 34, 10],
    data := #[], labels := [(9, 22)], varNames := [], trace := [] }

def staleCfg : Config := { memLimit := 100000, stackSize := 8, callStackSize := 8, maxInstr := 100 }

/-- with the repaired `clear_until` (`ClearStack` only truncates) that program does not see the
    stale slot any more: the same result under both schedules (`len` of `nil`) -/
theorem clearStack_witness_repaired :
    (run clearStackProg 100 { VmState.fresh staleCfg with sched := .every }).1.stack.contents =
    (run clearStackProg 100 { VmState.fresh staleCfg with sched := .none }).1.stack.contents ∧
    (run clearStackProg 100 { VmState.fresh staleCfg with sched := .none }).1.stack.contents = [.int 0] := by
  decide +kernel

/-- `7; T = {}; c = closure@36/0; dup; RegisterUpvalue 1 local` (the closure captures slot 1, which
    holds `T`) `; G0 = c; T.append(7)` (`AppendTable` pops two values with `pop_n`: the slots keep
    them, slot 1 is now above the height and still captured) `; G0()` where the closure is
    `{} ; pop ; ReadUpvalue 0 ; len`: the open upvalue reads the stale slot 1 and brings back the
    reference to `T`, which the collection forced by the allocation in between has freed (`len`
    sees 0 entries) or not (1 entry) -/
def staleProg : Prog :=
  { bytecode := #[5, 7,0,0,0,0,0,0,0, 31, 42, 9,0,0,0, 0,0,0,0, 9, 45, 1, 1, 17, 0,0,0,0, 40,
                  18, 0,0,0,0, 11, 10,
                  31, 16, 44, 0,0,0,0, 34, 10],
    data := #[], labels := [(9, 36)], varNames := [], trace := [] }

example : (run staleProg 100 { VmState.fresh staleCfg with sched := .every }).1.stack.contents = [.int 0] ∧
    (run staleProg 100 { VmState.fresh staleCfg with sched := .none }).1.stack.contents = [.int 1] := by
  decide +kernel

/-- **the statement at the end of `Props/C02.lean` does not hold for arbitrary bytecode** -/
theorem schedule_independence_Full_false : ¬ C02.schedule_independence_Full := by
  intro h
  have h1 := (h staleProg 100 (VmState.fresh staleCfg) .every .none rfl List.nodup_nil
    (fun _ hq => by cases hq)).1.stack
  have h2 := congrArg VStack.contents h1
  revert h2
  decide +kernel

/-- the outcome of one allocation does not depend on the schedule (nor on garbage, nor on the
    threshold): with `p` bytes pending it succeeds iff live size + pending + request fit -/
theorem alloc_outcome_schedule_independent (c p : Nat) {s t : VmState} (h : SchedEq s t)
    (l₁ : LedgerP s p) (l₂ : LedgerP t p) :
    ((allocBytes c).run.run t).1 = ((allocBytes c).run.run s).1 := by
  rw [allocBytes_run, allocBytes_run]
  exact (allocPure_sim c p h.core l₁ l₂).1

theorem initTable_schedule_independent {s t : VmState} (h : SchedEq s t) :
    (initTable.run.run t).1 = (initTable.run.run s).1 ∧
    SchedEq (initTable.run.run s).2 (initTable.run.run t).2 := initTable_sim h

theorem initString_schedule_independent (b : List UInt8) {s t : VmState} (h : SchedEq s t) :
    ((initString b).run.run t).1 = ((initString b).run.run s).1 ∧
    SchedEq ((initString b).run.run s).2 ((initString b).run.run t).2 := initString_sim b h

theorem initSimple_schedule_independent (o : Obj) (hk : Heap.children o = [])
    (ho : Heap.chargeOf o = Heap.objCharge) {s t : VmState} (h : SchedEq s t) :
    ((initSimple o).run.run t).1 = ((initSimple o).run.run s).1 ∧
    SchedEq ((initSimple o).run.run s).2 ((initSimple o).run.run t).2 := initSimple_sim o hk ho h

/-- the conclusion of `C02.schedule_independence_Full` for one program, budget and start state -/
def ScheduleIndependent (p : Prog) (n : Nat) (s : VmState) : Prop :=
  ∀ (sch₁ sch₂ : Sched),
    ObsEq (run p n { s with sched := sch₁ }).1 (run p n { s with sched := sch₂ }).1 ∧
    ((run p n { s with sched := sch₁ }).2.map (fun e => (e.kind.name, e.at_))) =
      ((run p n { s with sched := sch₂ }).2.map (fun e => (e.kind.name, e.at_))) ∧
    (run p n { s with sched := sch₁ }).1.hostLog = (run p n { s with sched := sch₂ }).1.hostLog

theorem scheduleIndependent_of_run_sim (p : Prog) (n : Nat) (s : VmState) (hi : Inv s)
    (hrun : ∀ {s t : VmState}, SchedEq s t → s.guards = [] →
      (run p n t).2 = (run p n s).2 ∧ SchedEq (run p n s).1 (run p n t).1)
    (hg : s.guards = []) : ScheduleIndependent p n s := by
  intro sch₁ sch₂
  have h0 : SchedEq { s with sched := sch₁ } { s with sched := sch₂ } := by
    have := schedEq_sched s hi sch₁ sch₂ s.allocIndex s.allocIndex
    exact this
  obtain ⟨e, hs⟩ := hrun h0 hg
  exact ⟨hs.obsEq, by rw [e], hs.core.hostLog.symm⟩

/-- **schedule independence of whole runs, reduced to single instructions.** The premises
    `StepSim p`, `NatSim` are not established anywhere; `C02b.schedule_independence` does not go
    through this theorem. -/
theorem schedule_independence_of_stepSim (p : Prog) (hstep : StepSim p) (hnat : NatSim) (n : Nat)
    (s : VmState) (hi : Inv s) (hg : s.guards = []) : ScheduleIndependent p n s :=
  scheduleIndependent_of_run_sim p n s hi (fun h hg => run_sim p hstep hnat n h hg) hg

/-- **unconditional for programs over the simple fragment** -/
theorem schedule_independence_simple (p : Prog) (hp : SimpleProg p) (n : Nat) (s : VmState)
    (hi : Inv s) (hg : s.guards = []) : ScheduleIndependent p n s :=
  scheduleIndependent_of_run_sim p n s hi
    (fun h hg => run_sim_any p (stepSimAny_simple p hp) n h hg) hg

theorem reachable_guards {c : Config} {s : VmState} (h : Reachable c s) : s.guards = [] := by
  induction h with
  | fresh => rfl
  | @run s0 p n _ ih =>
    unfold Vm.run
    split
    · exact ih
    · dsimp only
      split <;> exact ih
  | clear _ _ => rfl
  | sched _ _ _ ih => exact ih

theorem schedule_independence_simple_reachable (p : Prog) (hp : SimpleProg p) (n : Nat)
    {c : Config} {s : VmState} (h : Reachable c s) : ScheduleIndependent p n s :=
  schedule_independence_simple p hp n s (reachable_inv h).1 (reachable_guards h)

/-- the handles of the host functions that iterate over a table while calling back into the
    script (they keep the entries of the table as they were when the iteration started) -/
def iterHandles : List UInt32 := [hName "__min", hName "__max", hName "__sort"]

/-- the program cannot name these host functions: as a `CallNative` operand, through a string of
    its data section, through a function value that is already in the heap -/
def NoIterNatives (p : Prog) (s : VmState) : Prop :=
  (∀ i, UInt32.ofNat (rdU32 p.bytecode i) ∉ iterHandles) ∧
  (∀ i name, readStr p.data i = some name → Hash.handleFromBytes name ∉ iterHandles) ∧
  (∀ a h, s.heap.get a = some (.native h) → h ∉ iterHandles)

/-- at every instruction boundary of the run (the prefixes of the run by fuel, under any
    schedule), no call frame starts above the stack height and no open upvalue points above it —
    so upvalues never read stale slots (true for compiler output; `staleProg` violates the second
    part).  The first part was needed for the old `clear_until`, with which `ClearStack` / `Return`
    moved the stack pointer upwards over stale slots; it is kept (it is harmless). -/
def StackSafeRun (p : Prog) (n : Nat) (s : VmState) : Prop :=
  ∀ (sch : Sched) (gas : Nat),
    let s' := (exec p gas (.loop 0) (started n { s with sched := sch })).1
    (∀ f ∈ s'.frames, f.stackOffset ≤ s'.stack.count) ∧
    (∀ a i, s'.heap.get a = some (.upvalue (.stack i)) → i < s'.stack.count)

/-- the instruction at `src` does not read or expose a stale stack slot in state `s` -/
def StepOk (p : Prog) (src : Nat) (s : VmState) : Prop :=
  ((p.bytecode.getD src 0 = Compiler.op.clearStack ∨ p.bytecode.getD src 0 = Compiler.op.ret) →
    ∀ f, s.frames.getLast? = some f → f.stackOffset ≤ s.stack.count) ∧
  (∀ a i, s.heap.get a = some (.upvalue (.stack i)) → i < s.stack.count)

/-- **The simulation step at full strength**: proved in `Props/C02b.lean`
    (`C02b.step_obsEq_Full_holds`, from `SchedFull.step_sim_upv`: all 47 instructions); in this file
    for the fragment only (`step_obsEq_partial`). -/
def step_obsEq_Full : Prop :=
  ∀ (p : Prog) (re₁ re₂ : Reenter), ReSim re₁ re₂ →
    (∀ (hd : UInt32) (s t : VmState), SchedEq s t →
      ResEq ((callNative re₁ hd).go s) ((callNative re₂ hd).go t)) →
    ∀ (src : Nat), src < p.bytecode.size → ∀ (s t : VmState), SchedEq s t → StepOk p src s →
      ResEq ((step p re₁ src).go s) ((step p re₂ src).go t)

/-- **the simulation step for the fragment** `simpleOps`: any two callbacks, the two states
    possibly under different forcing schedules -/
theorem step_obsEq_partial (p : Prog) (hp : SimpleProg p) (re₁ re₂ : Reenter) (src : Nat)
    (hsrc : src < p.bytecode.size) {s₁ s₂ : VmState} (h : SchedEq s₁ s₂) :
    ((step p re₂ src).run.run s₂).1 = ((step p re₁ src).run.run s₁).1 ∧
    SchedEq ((step p re₁ src).run.run s₁).2 ((step p re₂ src).run.run s₂).2 ∧
    ObsEq ((step p re₁ src).run.run s₁).2 ((step p re₂ src).run.run s₂).2 :=
  have h := stepSimAny_simple p hp re₁ re₂ src hsrc s₁ s₂ h
  ⟨h.1, h.2, h.2.obsEq⟩

/-- **The corrected full statement — not proved in this form.** The two side conditions exclude
    the ways in which the model (like the Rust) lets an unrooted reference come back: (a) moving
    the stack pointer upwards over stale slots (`StackSafeRun`), (b) a callback that shrinks the
    table a host function is iterating over (`NoIterNatives` excludes these host functions
    altogether). Whole runs of every program, with all instructions and all host functions, are
    proved schedule independent in `Props/C02b.lean` under a side condition of another form
    (`C02b.SafeRun`: the interpreter that checks every instruction for stale slots and every
    callback of an iterating host function agrees with `run`; `C02b.schedule_independence`).
    Missing here is that `StackSafeRun` and `NoIterNatives` imply `SafeRun`. The instructions
    that compare or hash deep values (`ownD`: arithmetic, comparisons, truthiness, table keys)
    are covered because `own` does not depend on its fuel once it is adequate (the fuel is
    `heap.objs.length + 1`, which counts garbage and therefore depends on the schedule:
    `SchedFull.Core.ownD_eq`). -/
def schedule_independence_Corrected_Full : Prop :=
  ∀ (p : Prog) (n : Nat) (s : VmState), Inv s → s.guards = [] → StackSafeRun p n s →
    NoIterNatives p s → ScheduleIndependent p n s

/-! ### non-vacuity -/

/-- `{} ; pop ; {} ; dup ; pop ; len ; exit` -/
def simpleProg : Prog :=
  { bytecode := #[31, 16, 31, 9, 16, 34, 10], data := #[], labels := [], varNames := [], trace := [] }

theorem simpleProg_simple : SimpleProg simpleProg := by
  intro i hi
  have h : ∀ j, j < 7 → simpleProg.bytecode.getD j 0 ∈ simpleOps := by decide
  exact h i hi

example : SimpleProg simpleProg := simpleProg_simple

example : ScheduleIndependent simpleProg 20 (VmState.fresh tight) :=
  schedule_independence_simple_reachable simpleProg simpleProg_simple 20 (c := tight) .fresh

/-- under the tight limit the second table only fits because the first one is collected: the run
    succeeds under every schedule, with different numbers of collections -/
example : errName (run simpleProg 20 { VmState.fresh tight with sched := .every }) = none ∧
    errName (run simpleProg 20 { VmState.fresh tight with sched := .none }) = none ∧
    (run simpleProg 20 { VmState.fresh tight with sched := .none }).1.gcRuns = 3 ∧
    (run simpleProg 20 { VmState.fresh tight with sched := .every }).1.gcRuns = 4 ∧
    (run simpleProg 20 { VmState.fresh tight with sched := .every }).1.stack.contents = [.int 0] := by
  decide +kernel

end Cao.C05b
