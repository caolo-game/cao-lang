import CaoModel.OVal
/-!
# C19 — equality, hashing and ordering of runtime values

The operations (`veq`, `vhash`, `vcmp`, `vlt`, `asBool`, in
`CaoModel/OVal.lean`) are the code-shaped models of `Value::eq`, `Hash for Value`,
`Value::partial_cmp` and `Value::as_bool`, tied to `value.rs` / `cao_lang_object.rs` by the
`val` correspondence engine. They are defined on `OVal`, the tree obtained by unfolding the heap
graph below an acyclic runtime value. Everything about reals is stated for an arbitrary
`F : F64Ops` under the explicit IEEE-754 laws `LawfulF64 F`.

## Totality (termination without error on acyclic values)
`veq`, `hashInto`/`vhash`, `vcmp`, `vlt`, `vle`, `asBool`, `toF64`, `toI64` are Lean functions
defined by structural recursion on the finite tree `OVal` with plain (non-`Option`, non-`Except`)
result types: they return a value for every input and depend on nothing but their arguments
(and `F`), so there is nothing to prove at this level — it is definitional. The substantive part
of "comparing, hashing or testing the truthiness of any acyclic value terminates without error"
is that the heap graph below an acyclic `Val` unfolds into such a finite tree (and that the
Rust recursion follows it); the unfolding is `own` / `ownD` of `CaoModel/Heap.lean`, its theory
(`Owns`, the induction principle `own_induct`, that the default fuel suffices) is in
`CaoProofs/Lemmas/SerdeOwn.lean`, and the correspondence with the Rust recursion is checked
differentially by the `val` engine, not here.
-/
namespace Cao.C19
open Cao Cao.OVal

variable {F : F64Ops}

/-! ## domains -/

mutual
  /-- values on which `==` is reflexive (`veq_refl`; the converse is not proved): no NaN, no function
      values, recursively -/
  def eqDom (F : F64Ops) : OVal → Bool
    | .nil => true
    | .int _ => true
    | .real r => !F.isNaN r
    | .str _ => true
    | .table es => eqDomL F es
    | .fn _ _ => false
    | .native _ => false
    | .closure _ _ => false
  def eqDomL (F : F64Ops) : List (OVal × OVal) → Bool
    | [] => true
    | (k, v) :: r => eqDom F k && eqDom F v && eqDomL F r
end

mutual
  /-- no real that compares equal to zero anywhere inside (signed zeros are `==` but have
      different bit patterns, hence different hashes) -/
  def noZero (F : F64Ops) : OVal → Bool
    | .real r => !F.eq r (F.ofNat 0)
    | .table es => noZeroL F es
    | _ => true
  def noZeroL (F : F64Ops) : List (OVal × OVal) → Bool
    | [] => true
    | (k, v) :: r => noZero F k && noZero F v && noZeroL F r
end

/-! ## `==` is an equivalence relation -/

mutual
  theorem veq_refl (hF : LawfulF64 F) : ∀ (a : OVal), eqDom F a = true → veq F a a = true
    | .nil, _ => by simp [veq]
    | .int _, _ => by simp [veq]
    | .real r, h => by
        simp only [eqDom, Bool.not_eq_true'] at h
        simp only [veq]; exact hF.eq_refl r h
    | .str _, _ => by simp [veq]
    | .table es, h => by
        simp only [eqDom] at h
        simp only [veq, BEq.rfl, Bool.true_and]; exact veqL_refl hF es h
    | .fn _ _, h => by simp [eqDom] at h
    | .native _, h => by simp [eqDom] at h
    | .closure _ _, h => by simp [eqDom] at h
  theorem veqL_refl (hF : LawfulF64 F) : ∀ (es : List (OVal × OVal)), eqDomL F es = true → veqL F es es = true
    | [], _ => by simp [veqL]
    | (k, v) :: r, h => by
        simp only [eqDomL, Bool.and_eq_true] at h
        simp only [veqL, Bool.and_eq_true]
        exact ⟨⟨veq_refl hF k h.1.1, veq_refl hF v h.1.2⟩, veqL_refl hF r h.2⟩
end

mutual
  theorem veq_symm (hF : LawfulF64 F) : ∀ (a b : OVal), veq F a b = veq F b a
    | .nil, b => by cases b <;> simp [veq]
    | .int x, b => by cases b <;> simp [veq, Bool.beq_comm]
    | .real x, b => by cases b <;> simp [veq, hF.eq_symm x]
    | .str x, b => by cases b <;> simp [veq, Bool.beq_comm]
    | .table x, b => by
        cases b <;> simp [veq]
        rename_i y
        rw [veqL_symm hF x y, Bool.beq_comm]
    | .fn _ _, b => by cases b <;> simp [veq]
    | .native _, b => by cases b <;> simp [veq]
    | .closure _ _, b => by cases b <;> simp [veq]
  theorem veqL_symm (hF : LawfulF64 F) : ∀ (a b : List (OVal × OVal)), veqL F a b = veqL F b a
    | [], [] => by simp [veqL]
    | [], _ :: _ => by simp [veqL]
    | _ :: _, [] => by simp [veqL]
    | (k, v) :: r, (k', v') :: r' => by
        simp only [veqL]
        rw [veq_symm hF k k', veq_symm hF v v', veqL_symm hF r r']
end


mutual
  theorem veq_trans (hF : LawfulF64 F) : ∀ (a b c : OVal), veq F a b = true → veq F b c = true → veq F a c = true
    | .nil, b, c, h1, h2 => by cases b <;> simp [veq] at h1; exact h2
    | .int x, b, c, h1, h2 => by cases b <;> simp [veq] at h1; subst h1; exact h2
    | .real x, b, c, h1, h2 => by
        cases b <;> simp [veq] at h1
        cases c <;> simp [veq] at h2 ⊢
        exact hF.eq_trans _ _ _ h1 h2
    | .str x, b, c, h1, h2 => by cases b <;> simp [veq] at h1; subst h1; exact h2
    | .table x, b, c, h1, h2 => by
        cases b <;> simp [veq] at h1
        cases c <;> simp [veq] at h2 ⊢
        exact ⟨h1.1.trans h2.1, veqL_trans hF x _ _ h1.1 h1.2 h2.2⟩
    | .fn _ _, b, c, h1, h2 => by cases b <;> simp [veq] at h1
    | .native _, b, c, h1, h2 => by cases b <;> simp [veq] at h1
    | .closure _ _, b, c, h1, h2 => by cases b <;> simp [veq] at h1
  theorem veqL_trans (hF : LawfulF64 F) : ∀ (a b c : List (OVal × OVal)), a.length = b.length →
      veqL F a b = true → veqL F b c = true → veqL F a c = true
    | [], _, _, _, _, _ => by simp [veqL]
    | _ :: _, [], _, hl, _, _ => by simp at hl
    | _ :: _, _ :: _, [], _, _, _ => by simp [veqL]
    | (k, v) :: r, (k', v') :: r', (k'', v'') :: r'', hl, h1, h2 => by
        simp only [veqL, Bool.and_eq_true] at h1 h2 ⊢
        simp only [List.length_cons, Nat.add_right_cancel_iff] at hl
        exact ⟨⟨veq_trans hF k k' k'' h1.1.1 h2.1.1, veq_trans hF v v' v'' h1.1.2 h2.1.2⟩,
          veqL_trans hF r r' r'' hl h1.2 h2.2⟩
end


/-- **C19 (equivalence)**: on nil, integers, non-NaN reals, strings and tables of such, `==` is
    an equivalence relation (symmetry and transitivity hold on all values). -/
theorem veq_equivalence (hF : LawfulF64 F) :
    (∀ a, eqDom F a = true → veq F a a = true) ∧
    (∀ a b, veq F a b = true → veq F b a = true) ∧
    (∀ a b c, veq F a b = true → veq F b c = true → veq F a c = true) :=
  ⟨veq_refl hF, fun a b h => by rw [veq_symm hF]; exact h, veq_trans hF⟩

/-! ## `==` implies structural equality when no ±0 is involved -/

mutual
  theorem veq_eq_of_noZero (hF : LawfulF64 F) : ∀ (a b : OVal), noZero F a = true → veq F a b = true → a = b
    | .nil, b, _, h => by cases b <;> simp [veq] at h ⊢
    | .int x, b, _, h => by cases b <;> simp [veq] at h ⊢; exact h
    | .real x, b, hz, h => by
        cases b <;> simp [veq] at h ⊢
        simp only [noZero, Bool.not_eq_true'] at hz
        exact hF.eq_bits _ _ h hz
    | .str x, b, _, h => by cases b <;> simp [veq] at h ⊢; exact h
    | .table x, b, hz, h => by
        cases b <;> simp [veq] at h ⊢
        simp only [noZero] at hz
        exact veqL_eq_of_noZero hF x _ hz h.1 h.2
    | .fn _ _, b, _, h => by cases b <;> simp [veq] at h
    | .native _, b, _, h => by cases b <;> simp [veq] at h
    | .closure _ _, b, _, h => by cases b <;> simp [veq] at h
  theorem veqL_eq_of_noZero (hF : LawfulF64 F) : ∀ (a b : List (OVal × OVal)), noZeroL F a = true →
      a.length = b.length → veqL F a b = true → a = b
    | [], [], _, _, _ => rfl
    | [], _ :: _, _, hl, _ => by simp at hl
    | _ :: _, [], _, hl, _ => by simp at hl
    | (k, v) :: r, (k', v') :: r', hz, hl, h => by
        simp only [veqL, Bool.and_eq_true] at h
        simp only [noZeroL, Bool.and_eq_true] at hz
        simp only [List.length_cons, Nat.add_right_cancel_iff] at hl
        rw [veq_eq_of_noZero hF k k' hz.1.1 h.1.1, veq_eq_of_noZero hF v v' hz.1.2 h.1.2,
          veqL_eq_of_noZero hF r r' hz.2 hl h.2]
end


/-! ## ordering -/

private def Cast.swap : Cast → Cast
  | .reals a b => .reals b a
  | .ints a b => .ints b a
  | .other => .other

private theorem castMatch_swap (a b : OVal) : castMatch F b a = Cast.swap (castMatch F a b) := by
  unfold castMatch
  rw [Bool.or_comm (isFloat b), Bool.or_comm (isInt b)]
  split
  · rfl
  · split <;> rfl

/-- `<` spelled out per coercion class -/
theorem vlt_eq (a b : OVal) : vlt F a b = match castMatch F a b with
    | .reals x y => F.lt x y
    | .ints x y => decide (x.toInt < y.toInt)
    | .other => isObj a && isObj b && !veq F a b && decide (a.len < b.len) := by
  unfold vlt vcmp
  cases castMatch F a b with
  | reals x y =>
    simp only
    cases F.lt x y <;> cases F.eq x y <;> cases F.lt y x <;> rfl
  | ints x y =>
    simp only
    rcases Int.lt_trichotomy x.toInt y.toInt with h | h | h
    · simp [Int.compare_eq_lt.2 h, h]
    · simp [h]
    · simp [Int.compare_eq_gt.2 h, Int.lt_asymm h]
  | other =>
    simp only
    cases isObj a <;> cases isObj b <;> cases veq F a b <;> simp
    rcases Nat.lt_trichotomy a.len b.len with h | h | h
    · simp [Nat.compare_eq_lt.2 h, h]
    · simp [h]
    · simp [Nat.compare_eq_gt.2 h, Nat.lt_asymm h]


theorem vlt_asymm (hF : LawfulF64 F) (a b : OVal) (h : vlt F a b = true) : vlt F b a = false := by
  rw [vlt_eq] at h ⊢
  rw [castMatch_swap]
  cases hc : castMatch F a b with
  | reals x y =>
    simp only [hc, Cast.swap] at h ⊢
    exact hF.lt_asymm _ _ h
  | ints x y =>
    simp only [hc, Cast.swap, decide_eq_true_eq, decide_eq_false_iff_not] at h ⊢
    omega
  | other =>
    simp only [hc, Cast.swap, Bool.and_eq_true, decide_eq_true_eq] at h ⊢
    have : ¬ b.len < a.len := by omega
    simp [this]

theorem vlt_irrefl (hF : LawfulF64 F) (a : OVal) : vlt F a a = false := by
  cases h : vlt F a a with
  | false => rfl
  | true => have := vlt_asymm hF a a h; rw [h] at this; exact this

/-! ## numeric order facts -/

def realCmp (F : F64Ops) (x y : UInt64) : Option Ordering :=
  if F.lt x y then some .lt else if F.eq x y then some .eq else if F.lt y x then some .gt else none

theorem vcmp_real_real (x y : UInt64) : vcmp F (.real x) (.real y) = realCmp F x y := rfl

theorem vcmp_int_int (a b : Int64) : vcmp F (.int a) (.int b) = some (compare a.toInt b.toInt) := rfl

/-- if either side is a real, both are coerced to reals -/
theorem vcmp_coerce_real (a b : OVal) (h : (isFloat a || isFloat b) = true) :
    vcmp F a b = realCmp F (toF64 F a) (toF64 F b) := by
  simp only [vcmp, castMatch, h, if_true, realCmp]

/-- else if either side is an integer, both are coerced to integers -/
theorem vcmp_coerce_int (a b : OVal) (hf : (isFloat a || isFloat b) = false)
    (h : (isInt a || isInt b) = true) :
    vcmp F a b = some (compare (toI64 F a).toInt (toI64 F b).toInt) := by
  simp [vcmp, castMatch, h, hf]

/-- else two objects: equal, or ordered by length -/
theorem vcmp_obj_obj (a b : OVal) (ha : isObj a = true) (hb : isObj b = true) :
    vcmp F a b = if veq F a b then some .eq
      else if a.len = b.len then none else some (compare a.len b.len) := by
  have hf : (isFloat a || isFloat b) = false := by
    cases a <;> cases b <;> simp [isObj] at ha hb <;> rfl
  have hi : (isInt a || isInt b) = false := by
    cases a <;> cases b <;> simp [isObj] at ha hb <;> rfl
  simp only [vcmp, castMatch, hf, hi, ha, hb]
  simp only [Bool.false_eq_true, if_false, Bool.and_self, if_true]
  split
  · rfl
  · rcases Nat.lt_trichotomy a.len b.len with h | h | h
    · simp [Nat.compare_eq_lt.2 h, Nat.ne_of_lt h]
    · simp [h]
    · simp [Nat.compare_eq_gt.2 h, Nat.ne_of_gt h]

/-- everything else is nil against nil or against an object (string, table or function value,
    `isObj`), and unordered -/
theorem vcmp_other (a b : OVal) (hf : (isFloat a || isFloat b) = false)
    (hi : (isInt a || isInt b) = false) (ho : (isObj a && isObj b) = false) :
    vcmp F a b = none := by
  simp [vcmp, castMatch, hf, hi, ho]


/-! ### two reals: `lt / eq / gt / none` exactly according to `F.lt` / `F.eq` -/

theorem realCmp_lt (x y : UInt64) : realCmp F x y = some .lt ↔ F.lt x y = true := by
  unfold realCmp
  cases F.lt x y <;> cases F.eq x y <;> cases F.lt y x <;> simp

theorem realCmp_eq (hF : LawfulF64 F) (x y : UInt64) : realCmp F x y = some .eq ↔ F.eq x y = true := by
  unfold realCmp
  have := hF.eq_not_lt x y
  cases h1 : F.lt x y <;> cases h2 : F.eq x y <;> cases F.lt y x <;> simp_all

theorem realCmp_gt (hF : LawfulF64 F) (x y : UInt64) : realCmp F x y = some .gt ↔ F.lt y x = true := by
  unfold realCmp
  have h1 := hF.lt_asymm x y
  have h2 := hF.eq_not_lt y x
  have h3 := hF.eq_symm x y
  cases h4 : F.lt x y <;> cases h5 : F.eq x y <;> cases h6 : F.lt y x <;> simp_all

/-- unordered exactly when one side is NaN -/
theorem realCmp_none (hF : LawfulF64 F) (x y : UInt64) :
    realCmp F x y = none ↔ (F.isNaN x = true ∨ F.isNaN y = true) := by
  unfold realCmp
  constructor
  · intro h
    cases hx : F.isNaN x
    · cases hy : F.isNaN y
      · rcases hF.total x y hx hy with h1 | h1 | h1
        · simp [h1] at h
        · simp [h1] at h; split at h <;> simp at h
        · simp [h1] at h; split at h <;> (try split at h) <;> simp at h
      · simp
    · simp
  · rintro (h | h)
    · simp [hF.lt_nan_l x y h, hF.eq_nan x y h, hF.lt_nan_r y x h]
    · simp [hF.lt_nan_r x y h, hF.eq_symm x y, hF.eq_nan y x h, hF.lt_nan_l y x h]

/-! ### integers and reals mix freely; nil counts as 0, a string / table as its length -/

theorem vcmp_int_real (i : Int64) (r : UInt64) :
    vcmp F (.int i) (.real r) = vcmp F (.real (F.ofInt i)) (.real r) := rfl
theorem vcmp_real_int (r : UInt64) (i : Int64) :
    vcmp F (.real r) (.int i) = vcmp F (.real r) (.real (F.ofInt i)) := rfl
theorem vcmp_nil_int (i : Int64) : vcmp F .nil (.int i) = vcmp F (.int 0) (.int i) := rfl
theorem vcmp_int_nil (i : Int64) : vcmp F (.int i) .nil = vcmp F (.int i) (.int 0) := rfl
theorem vcmp_nil_real (r : UInt64) : vcmp F .nil (.real r) = vcmp F (.real (F.ofNat 0)) (.real r) := rfl
theorem vcmp_real_nil (r : UInt64) : vcmp F (.real r) .nil = vcmp F (.real r) (.real (F.ofNat 0)) := rfl
theorem vcmp_str_int (s : List UInt8) (i : Int64) :
    vcmp F (.str s) (.int i) = vcmp F (.int (Int64.ofNat s.length)) (.int i) := rfl
theorem vcmp_int_str (i : Int64) (s : List UInt8) :
    vcmp F (.int i) (.str s) = vcmp F (.int i) (.int (Int64.ofNat s.length)) := rfl
theorem vcmp_table_int (es : List (OVal × OVal)) (i : Int64) :
    vcmp F (.table es) (.int i) = vcmp F (.int (Int64.ofNat es.length)) (.int i) := rfl
theorem vcmp_int_table (i : Int64) (es : List (OVal × OVal)) :
    vcmp F (.int i) (.table es) = vcmp F (.int i) (.int (Int64.ofNat es.length)) := rfl
theorem vcmp_str_real (s : List UInt8) (r : UInt64) :
    vcmp F (.str s) (.real r) = vcmp F (.real (F.ofNat s.length)) (.real r) := rfl
theorem vcmp_real_str (r : UInt64) (s : List UInt8) :
    vcmp F (.real r) (.str s) = vcmp F (.real r) (.real (F.ofNat s.length)) := rfl
theorem vcmp_table_real (es : List (OVal × OVal)) (r : UInt64) :
    vcmp F (.table es) (.real r) = vcmp F (.real (F.ofNat es.length)) (.real r) := rfl
theorem vcmp_real_table (r : UInt64) (es : List (OVal × OVal)) :
    vcmp F (.real r) (.table es) = vcmp F (.real r) (.real (F.ofNat es.length)) := rfl

/-- two strings: equal by content, else ordered by length, else unordered -/
theorem vcmp_str_str (s t : List UInt8) :
    vcmp F (.str s) (.str t) = if s = t then some .eq
      else if s.length = t.length then none else some (compare s.length t.length) := by
  rw [vcmp_obj_obj _ _ rfl rfl]
  by_cases h : s = t <;> simp [h, veq, len] <;> rfl

/-- two tables: equal by content (`veq`), else ordered by length, else unordered -/
theorem vcmp_table_table (s t : List (OVal × OVal)) :
    vcmp F (.table s) (.table t) = if veq F (.table s) (.table t) then some .eq
      else if s.length = t.length then none else some (compare s.length t.length) := by
  rw [vcmp_obj_obj _ _ rfl rfl]
  cases h : veq F (.table s) (.table t) <;> simp [len] <;> rfl

theorem vlt_int_int (a b : Int64) : vlt F (.int a) (.int b) = decide (a.toInt < b.toInt) := by
  rw [vlt_eq]; rfl

theorem vlt_real_real (x y : UInt64) : vlt F (.real x) (.real y) = F.lt x y := by
  rw [vlt_eq]; rfl

theorem vcmp_nil_nil : vcmp F .nil .nil = none := rfl

/-! ## the ordering never contradicts equality -/

/-- equal values compare `eq` (two nils are equal but unordered) -/
theorem veq_vcmp (hF : LawfulF64 F) (a b : OVal) (h : veq F a b = true) :
    (a = .nil ∧ b = .nil ∧ vcmp F a b = none) ∨ vcmp F a b = some .eq := by
  cases a <;> cases b <;> (try (simp [veq] at h; done))
  · exact .inl ⟨rfl, rfl, rfl⟩
  · right
    simp only [veq, beq_iff_eq] at h
    rw [vcmp_int_int, h, Int.compare_eq_eq.2 rfl]
  · right
    simp only [veq] at h
    rw [vcmp_real_real]; exact (realCmp_eq hF _ _).2 h
  · right
    simp only [veq, beq_iff_eq] at h
    rw [vcmp_str_str]; simp [h]
  · right
    rw [vcmp_table_table]; simp [h]

theorem veq_not_lt (hF : LawfulF64 F) (a b : OVal) (h : veq F a b = true) :
    vlt F a b = false ∧ vlt F b a = false := by
  have key : ∀ a b, veq F a b = true → vlt F a b = false := by
    intro a b h
    unfold vlt
    rcases veq_vcmp hF a b h with ⟨_, _, h'⟩ | h' <;> rw [h'] <;> rfl
  exact ⟨key a b h, key b a (by rw [veq_symm hF]; exact h)⟩

/-- equal non-nil values are `<=` both ways -/
theorem veq_vle (hF : LawfulF64 F) (a b : OVal) (h : veq F a b = true) (hn : a ≠ .nil) :
    vle F a b = true ∧ vle F b a = true := by
  have key : ∀ a b, veq F a b = true → a ≠ .nil → vle F a b = true := by
    intro a b h hn
    unfold vle
    rcases veq_vcmp hF a b h with ⟨h', _, _⟩ | h'
    · exact absurd h' hn
    · rw [h']
  refine ⟨key a b h hn, key b a (by rw [veq_symm hF]; exact h) ?_⟩
  intro hb; subst hb
  cases a <;> simp [veq] at h
  exact hn rfl

/-! ## equal values hash equally (signed zero excepted) -/

theorem veq_hashInto (hF : LawfulF64 F) (a b : OVal) (hz : noZero F a = true)
    (h : veq F a b = true) (s : UInt64) : hashInto s a = hashInto s b := by
  rw [veq_eq_of_noZero hF a b hz h]

theorem veq_hashIntoL (hF : LawfulF64 F) (a b : List (OVal × OVal)) (hz : noZeroL F a = true)
    (hl : a.length = b.length) (h : veqL F a b = true) (s : UInt64) :
    hashIntoL s a = hashIntoL s b := by
  rw [veqL_eq_of_noZero hF a b hz hl h]

theorem veq_hash (hF : LawfulF64 F) (a b : OVal) (hz : noZero F a = true)
    (h : veq F a b = true) : vhash a = vhash b := by
  unfold vhash; rw [veq_hashInto hF a b hz h]

/-! ## `==` versus structural equality (table keys) -/

theorem veq_iff_eq (hF : LawfulF64 F) (a b : OVal) (hd : eqDom F a = true) (hz : noZero F a = true) :
    veq F a b = true ↔ a = b :=
  ⟨veq_eq_of_noZero hF a b hz, fun e => e ▸ veq_refl hF a hd⟩

/-- plain keys: nil, integers, strings, and reals that are neither NaN nor zero -/
def plainKey (F : F64Ops) : OVal → Bool
  | .nil | .int _ | .str _ => true
  | .real r => !F.isNaN r && !F.eq r (F.ofNat 0)
  | _ => false

theorem veq_iff_eq_on_keys (hF : LawfulF64 F) (a b : OVal) (hk : plainKey F a = true) :
    veq F a b = true ↔ a = b := by
  apply veq_iff_eq hF a b <;> cases a <;> simp_all [plainKey, eqDom, noZero]


/-! ## non-vacuity: a small lawful `F64Ops` with one NaN and two zeros -/

/-- value denoted by a toy "double": the bit patterns `0` and `1` are the two zeros
    (`+0.0`, `-0.0`), every other pattern `n` denotes the number `n` -/
def toyVal (b : UInt64) : Nat := if b.toNat = 1 then 0 else b.toNat

/-- the single NaN pattern of the toy instance -/
def toyNaN (b : UInt64) : Bool := decide (b.toNat = 18446744073709551615)

def toyOfNat (n : Nat) : UInt64 := UInt64.ofNat (if n = 0 then 0 else min (n + 1) 1000)

/-- toy doubles: the pattern `b` denotes the natural `toyVal b`, with a NaN and a signed zero; the
    conversion `toyOfNat` from integers is `n ↦ n + 1` for `n > 0`, clamped at 1000; the arithmetic
    operations are irrelevant to C19 -/
def toyF64 : F64Ops where
  add a _ := a
  sub a _ := a
  mul a _ := a
  div a _ := a
  lt a b := !toyNaN a && !toyNaN b && decide (toyVal a < toyVal b)
  eq a b := !toyNaN a && !toyNaN b && decide (toyVal a = toyVal b)
  isNaN := toyNaN
  ofInt i := toyOfNat i.toInt.toNat
  ofNat := toyOfNat
  toInt _ := 0

private theorem toyOfNat_toNat (n : Nat) :
    (toyOfNat n).toNat = if n = 0 then 0 else min (n + 1) 1000 := by
  unfold toyOfNat
  rw [UInt64.toNat_ofNat']
  apply Nat.mod_eq_of_lt
  split <;> omega

private theorem toyVal_ofNat (n : Nat) :
    toyVal (toyOfNat n) = if n = 0 then 0 else min (n + 1) 1000 := by
  unfold toyVal
  rw [toyOfNat_toNat]
  split <;> split <;> omega

private theorem toyNaN_ofNat (n : Nat) : toyNaN (toyOfNat n) = false := by
  unfold toyNaN
  rw [toyOfNat_toNat]
  simp only [decide_eq_false_iff_not]
  split <;> omega

theorem toyF64_lawful : LawfulF64 toyF64 where
  eq_refl a h := by simp_all [toyF64]
  eq_symm a b := by
    simp only [toyF64]
    cases toyNaN a <;> cases toyNaN b <;> simp [eq_comm]
  eq_trans a b c h1 h2 := by
    simp only [toyF64, Bool.and_eq_true, Bool.not_eq_true', decide_eq_true_eq] at *
    exact ⟨⟨h1.1.1, h2.1.2⟩, h1.2.trans h2.2⟩
  eq_nan a b h := by simp_all [toyF64]
  lt_nan_l a b h := by simp_all [toyF64]
  lt_nan_r a b h := by simp_all [toyF64]
  lt_irrefl a := by simp [toyF64]
  lt_asymm a b h := by
    simp only [toyF64, Bool.and_eq_true, Bool.not_eq_true', decide_eq_true_eq,
      Bool.and_eq_false_iff, Bool.not_eq_false', decide_eq_false_iff_not] at *
    right; omega
  lt_trans a b c h1 h2 := by
    simp only [toyF64, Bool.and_eq_true, Bool.not_eq_true', decide_eq_true_eq] at *
    exact ⟨⟨h1.1.1, h2.1.2⟩, by omega⟩
  eq_not_lt a b h := by
    simp only [toyF64, Bool.and_eq_true, Bool.not_eq_true', decide_eq_true_eq,
      Bool.and_eq_false_iff, Bool.not_eq_false', decide_eq_false_iff_not] at *
    right; omega
  total a b ha hb := by
    simp only [toyF64] at ha hb
    simp only [toyF64, ha, hb, Bool.not_false, Bool.true_and, decide_eq_true_eq]
    omega
  lt_eq_l a b c h := by
    simp only [toyF64, Bool.and_eq_true, Bool.not_eq_true', decide_eq_true_eq] at h
    simp only [toyF64, h.1.1, h.1.2, h.2]
  lt_eq_r a b c h := by
    simp only [toyF64, Bool.and_eq_true, Bool.not_eq_true', decide_eq_true_eq] at h
    simp only [toyF64, h.1.1, h.1.2, h.2]
  eq_bits a b h hz := by
    simp only [toyF64, Bool.and_eq_true, Bool.not_eq_true', decide_eq_true_eq] at h
    simp only [toyF64, h.1.1, toyNaN_ofNat, toyVal_ofNat, Bool.not_false, Bool.true_and,
      if_true, decide_eq_false_iff_not] at hz
    apply UInt64.toNat_inj.1
    have h2 := h.2
    unfold toyVal at h2 hz
    split at h2 <;> split at h2 <;> split at hz <;> omega
  ofInt_notNaN i := toyNaN_ofNat _
  ofNat_notNaN n := toyNaN_ofNat _
  ofInt_mono i j h := by
    simp only [toyF64, toyNaN_ofNat, toyVal_ofNat, Bool.not_false, Bool.true_and,
      decide_eq_false_iff_not]
    split <;> split <;> omega
  ofNat_mono m n h := by
    simp only [toyF64, toyNaN_ofNat, toyVal_ofNat, Bool.not_false, Bool.true_and,
      decide_eq_false_iff_not]
    split <;> split <;> omega


/-- a nested table with a real, strings, integers and nil inside -/
def sampleTable : OVal :=
  .table [(.int 1, .str [104, 105]), (.real 5, .table [(.nil, .int (-2))]), (.str [], .nil)]

/-- the same content, built independently (a different heap object in the runtime) -/
def sampleTable' : OVal :=
  .table ([(.int (3 - 2), .str ([104] ++ [105]))] ++
    [(.real (2 + 3), .table [(.nil, .int (0 - 2))]), (.str [], .nil)])

example : eqDom toyF64 sampleTable = true ∧ noZero toyF64 sampleTable = true := by decide
example : veq toyF64 sampleTable sampleTable' = true := by decide
example : vhash sampleTable = vhash sampleTable' :=
  veq_hash toyF64_lawful _ _ (by decide) (by decide)
example : sampleTable = sampleTable' :=
  (veq_iff_eq toyF64_lawful _ _ (by decide) (by decide)).1 (by decide)


/-! ## further concrete facts (for every `F`) -/

/-- function values are never equal, not even to themselves -/
example : veq F (.fn 1 0) (.fn 1 0) = false ∧ veq F (.native 3) (.native 3) = false ∧
    veq F (.closure 1 0) (.closure 1 0) = false := ⟨rfl, rfl, rfl⟩
/-- mixed kinds are never equal -/
example (r : UInt64) : veq F (.int 1) (.real r) = false := rfl
/-- two nils are equal, unordered, and not even `<=` -/
example : veq F .nil .nil = true ∧ vcmp F .nil .nil = none ∧ vle F .nil .nil = false :=
  ⟨rfl, rfl, rfl⟩
/-- two different strings of the same length are unordered -/
example : vcmp F (.str [1]) (.str [2]) = none := by rw [vcmp_str_str]; decide
/-- the `zip` loop alone accepts a proper prefix: the length test in `veq` is needed -/
example (x : OVal × OVal) : veqL F [x] [] = true := by cases x; rfl

/-- the signed-zero exception of `veq_hash` is necessary: the two zeros of `toyF64` are `==`
    but hash differently; NaN is outside `eqDom` and not `==` to itself -/
example : veq toyF64 (.real 0) (.real 1) = true ∧ vhash (.real 0) ≠ vhash (.real 1) := by decide
example : eqDom toyF64 (.real 18446744073709551615) = false ∧
    veq toyF64 (.real 18446744073709551615) (.real 18446744073709551615) = false := by decide

/-- kinds mix freely in the ordering: `2 < 5.0` (`toyF64` converts the integer 2 to the pattern 3,
    so the comparison made is 3 < 5), `nil < 1`, `"abc" < 4`, `{…3 entries…} > 2.0` -/
example : vlt toyF64 (.int 2) (.real 5) = true ∧ vlt toyF64 .nil (.int 1) = true ∧
    vlt toyF64 (.str [97, 98, 99]) (.int 4) = true ∧
    vcmp toyF64 sampleTable (.real 2) = some .gt := by decide

end Cao.C19
