import CaoProofs.Lemmas.CaptureInv
import CaoProofs.Lemmas.CapCheckDef
import CaoProofs.Props.C04
/-!
# Soundness of the executable checker `capStaticB` (`Lemmas/CapCheckDef.lean`) for `CapStatic` (stage C of `Props/C04c.lean`)

How `capStaticB p` finds regions, levels and counts is said in `Lemmas/CapCheckDef.lean`. With them it evaluates
the fields of `CapStatic` and nothing else (`capStaticB_iff`), so its soundness (`capStaticB_sound`) does not
depend on how the regions were found.

The instruction starts are those of C04: `Props/C04.lean` is imported for `C04.instrs` (the checker's list
`capInstrs` is that list, `capInstrs_eq`) and `C04.Start`, the set `G` at which `CapStatic` is stated.
-/
namespace Cao.C04c
open Cao Cao.Compiler Cao.Bytecode Cao.Vm Cao.C04

theorem capInstrs_eq (p : Program) : capInstrs p = instrs p := rfl

/-- what `chkInstr` evaluates: the six fields of `CapStatic` that speak of an instruction start, at `src`
    (`lastLvl` and `entryLvl` are tested by `capStaticB` itself) -/
theorem chkInstr_iff {p : Program} {lv ct : Nat → Nat} {src : Nat} :
    chkInstr p lv ct src = true ↔
      (∀ sp, Gen.spanOf (p.bytecode.getD src 0) = some sp → p.bytecode.getD src 0 ≠ op.exit →
        p.bytecode.getD src 0 ≠ op.goto → p.bytecode.getD src 0 ≠ op.ret → lv (src + sp) = lv src) ∧
      ((p.bytecode.getD src 0 = op.goto ∨ p.bytecode.getD src 0 = op.gotoIfTrue ∨
        p.bytecode.getD src 0 = op.gotoIfFalse) → lv (Vm.rdU32 p.bytecode (src + 1)) = lv src) ∧
      (p.bytecode.getD src 0 = op.registerUpvalue → p.bytecode.getD (src + 2) 0 = 0 →
        (p.bytecode.getD (src + 1) 0).toNat < lv src) ∧
      (p.bytecode.getD src 0 = op.closure →
        (∀ e, p.labels.find? (fun l => l.1 == UInt32.ofNat (Vm.rdU32 p.bytecode (src + 1))) = some e →
          lv e.2 ≤ ct src) ∧
        ∀ k, k < ct src → p.bytecode.getD (src + 9 + 4 * k) 0 = op.copyLast ∧
          p.bytecode.getD (src + 9 + 4 * k + 1) 0 = op.registerUpvalue) ∧
      (p.bytecode.getD src 0 = op.functionPointer →
        ∀ e, p.labels.find? (fun l => l.1 == UInt32.ofNat (Vm.rdU32 p.bytecode (src + 1))) = some e →
          lv e.2 = 0) := by
  simp only [chkInstr]
  cases Gen.spanOf (p.bytecode.getD src 0) <;>
    cases p.labels.find? (fun l => l.1 == UInt32.ofNat (Vm.rdU32 p.bytecode (src + 1))) <;>
    simp only [Bool.or_eq_true, Bool.and_eq_true, Bool.or_true, Bool.true_and, Bool.not_or, Bool.not_and,
      Bool.not_eq_eq_eq_not, Bool.not_true, beq_iff_eq, beq_eq_false_iff_ne, decide_eq_true_eq, List.all_eq_true,
      List.mem_range, ne_eq, Decidable.or_iff_not_imp_left, Decidable.not_not, not_imp, not_and, and_imp,
      Option.some.injEq, forall_eq', reduceCtorEq, false_implies, implies_true, true_and, and_true, and_assoc]

/-- **the checker decides `CapStatic`** for its own level and count functions -/
theorem capStaticB_iff {p : Program} : capStaticB p = true ↔
    CapStatic (Prog.ofProgram p) (Start p) (lvlOf (regionsOf p)) (cntOf p.bytecode) := by
  have hall : (∀ x ∈ capInstrs p, chkInstr p (lvlOf (regionsOf p)) (cntOf p.bytecode) x.1 = true) ↔
      ∀ src, Start p src → chkInstr p (lvlOf (regionsOf p)) (cntOf p.bytecode) src = true :=
    ⟨fun h src hs => by obtain ⟨x, hx, rfl⟩ := List.mem_map.1 hs; exact h x hx,
     fun h x hx => h x.1 (List.mem_map.2 ⟨x, hx, rfl⟩)⟩
  unfold capStaticB
  simp only [Bool.and_eq_true, beq_iff_eq, List.all_eq_true, hall]
  constructor
  · rintro ⟨⟨h, hlast⟩, h0⟩
    exact ⟨fun src sp hs => (chkInstr_iff.1 (h src hs)).1 sp, fun src hs => (chkInstr_iff.1 (h src hs)).2.1,
      fun src hs => (chkInstr_iff.1 (h src hs)).2.2.1, fun c hs ho => ((chkInstr_iff.1 (h c hs)).2.2.2.1 ho).1,
      fun c k hs ho => ((chkInstr_iff.1 (h c hs)).2.2.2.1 ho).2 k, fun x hs => (chkInstr_iff.1 (h x hs)).2.2.2.2,
      hlast, h0⟩
  · intro h
    exact ⟨⟨fun src hs => chkInstr_iff.2 ⟨fun sp => h.seq src sp hs, h.jump src hs, h.reg src hs,
      fun ho => ⟨h.closLabel src hs ho, fun k => h.pairs src k hs ho⟩, h.fnLabel src hs⟩, h.lastLvl⟩, h.entryLvl⟩

/-- **soundness of the checker** -/
theorem capStaticB_sound {p : Program} (h : capStaticB p = true) :
    ∃ lvl cnt, CapStatic (Prog.ofProgram p) (Start p) lvl cnt :=
  ⟨_, _, capStaticB_iff.1 h⟩

/-! ## the level function only depends on which regions a position lies in

For the level fields (`seq`, `jump`, `fnLabel`, `lastLvl`, `entryLvl`) of a compiled program it suffices to show
that the two ends of every control-flow edge (fall-through, jump) lie in the same closure regions, and that
function labels, the entry point and the final `Exit` lie in none. (`reg`, `closLabel`, `pairs` come from
`Lemmas/CaptureStatic.lean`.) -/

def inRegion (r : Nat × Nat × Nat) (pos : Nat) : Bool := decide (r.1 ≤ pos) && decide (pos < r.2.1)

theorem lvlOf_congr {rs : List (Nat × Nat × Nat)} {x y : Nat}
    (h : ∀ r ∈ rs, inRegion r x = inRegion r y) : lvlOf rs x = lvlOf rs y := by
  unfold lvlOf
  have : rs.filter (fun r => decide (r.1 ≤ x) && decide (x < r.2.1)) =
      rs.filter (fun r => decide (r.1 ≤ y) && decide (y < r.2.1)) :=
    List.filter_congr (fun r hr => h r hr)
  rw [this]

theorem lvlOf_outside {rs : List (Nat × Nat × Nat)} {x : Nat} (h : ∀ r ∈ rs, inRegion r x = false) :
    lvlOf rs x = 0 := by
  unfold lvlOf
  have : rs.filter (fun r => decide (r.1 ≤ x) && decide (x < r.2.1)) = [] :=
    List.filter_eq_nil_iff.2 (fun r hr => by have := h r hr; unfold inRegion at this; simp [this])
  rw [this]
  rfl

theorem capStaticB_sound' {p : Program} (h : capStaticB p = true) :
    ∃ G lvl cnt, CapStatic (Prog.ofProgram p) G lvl cnt :=
  ⟨_, _, _, capStaticB_iff.1 h⟩

end Cao.C04c
