import CaoProofs.Lemmas.CMPrims
import CaoProofs.Lemmas.Flatten
import CaoModel.CardOps
/-!
# Trace entries of the compiler: where they point and which opcode they label (C15)

A Hoare-style triple `Tr` for `CM` actions. It tracks the position (`curIndices`) before and after the action and says:
every trace entry the action adds carries the current `ns`/`curFunction`, an index list allowed by the specification
`S`, and labels a byte of the *final* bytecode of the action that `S` allows for that index list; every located error
carries the current `ns`/`curFunction` and an index list allowed by `S`. Later writes are appends or patches of jump
operands, which are never trace keys: the pending operand "holes" are tracked in the triple.

`Seg` is the triple for the whole unit; the last part relates the stream of `intoIrStream` to the module tree.
-/
namespace Cao.Compiler
open Cao

/-! ## the specification of an action and the relation between its initial and final state -/

/-- what an action may put into the trace table / into an error location:
`op l o` — a trace entry with index list `l` may label opcode `o`;
`loc k l` — an error of kind `k` may be located at `l` -/
structure Spec where
  op : List Nat → UInt8 → Prop
  loc : CErrKind → List Nat → Prop

structure SubSpec (S S' : Spec) : Prop where
  op : ∀ l o, S.op l o → S'.op l o
  loc : ∀ k l, S.loc k l → S'.loc k l

theorem SubSpec.refl (S : Spec) : SubSpec S S := ⟨fun _ _ h => h, fun _ _ h => h⟩

theorem SubSpec.trans {S S' S'' : Spec} (h1 : SubSpec S S') (h2 : SubSpec S' S'') : SubSpec S S'' :=
  ⟨fun l o h => h2.op l o (h1.op l o h), fun k l h => h2.loc k l (h1.loc k l h)⟩

/-- `s'` is reached from `s` by appending bytes, patching bytes that are not keys of the trace
entries after the first `n0`, and appending trace entries that label allowed opcodes in `s'` -/
structure RelG (n0 : Nat) (G : Trace → UInt8 → Prop) (s s' : CState) : Prop where
  size_le : s.bytecode.size ≤ s'.bytecode.size
  keep : ∀ e ∈ s.trace.drop n0, s'.bytecode[e.1]? = s.bytecode[e.1]?
  trace : ∃ t, s'.trace = s.trace ++ t ∧ ∀ e ∈ t, s.bytecode.size ≤ e.1 ∧ e.1 < s'.bytecode.size ∧
    ∃ o, s'.bytecode[e.1]? = some o ∧ G e.2 o

theorem RelG.refl (n0 : Nat) (G : Trace → UInt8 → Prop) (s : CState) : RelG n0 G s s :=
  ⟨Nat.le_refl _, fun _ _ => rfl, [], by simp, by simp⟩

theorem RelG.of_eq {n0 : Nat} {G : Trace → UInt8 → Prop} {s s' : CState}
    (hb : s'.bytecode = s.bytecode) (ht : s'.trace = s.trace) : RelG n0 G s s' :=
  ⟨by rw [hb]; exact Nat.le_refl _, fun _ _ => by rw [hb], [], by simp [ht], by simp⟩

theorem RelG.mono {n0 : Nat} {G G' : Trace → UInt8 → Prop} {s s' : CState} (h : RelG n0 G s s')
    (hg : ∀ t o, G t o → G' t o) : RelG n0 G' s s' := by
  obtain ⟨a, b, t, c, d⟩ := h
  refine ⟨a, b, t, c, fun e he => ?_⟩
  obtain ⟨h1, h2, o, h3, h4⟩ := d e he
  exact ⟨h1, h2, o, h3, hg _ _ h4⟩

theorem RelG.trans {n0 : Nat} {G : Trace → UInt8 → Prop} {s s1 s2 : CState} (hl : n0 ≤ s.trace.length)
    (h1 : RelG n0 G s s1) (h2 : RelG n0 G s1 s2) : RelG n0 G s s2 := by
  obtain ⟨a1, b1, t1, c1, d1⟩ := h1
  obtain ⟨a2, b2, t2, c2, d2⟩ := h2
  have hd : s1.trace.drop n0 = s.trace.drop n0 ++ t1 := by rw [c1]; exact List.drop_append_of_le_length hl
  refine ⟨Nat.le_trans a1 a2, fun e he => ?_, t1 ++ t2, by rw [c2, c1, List.append_assoc], ?_⟩
  · rw [b2 e (by rw [hd]; exact List.mem_append_left _ he), b1 e he]
  · intro e he
    rcases List.mem_append.1 he with he | he
    · obtain ⟨x1, x2, o, x3, x4⟩ := d1 e he
      refine ⟨x1, by omega, o, ?_, x4⟩
      rw [b2 e (by rw [hd]; exact List.mem_append_right _ he), x3]
    · obtain ⟨x1, x2, o, x3, x4⟩ := d2 e he
      exact ⟨by omega, x2, o, x3, x4⟩

/-- the trace entries after the first `n0` have keys inside the bytecode, and none of them lies in
one of the pending 4-byte operand holes `hs` -/
structure Safe (n0 : Nat) (hs : List Nat) (s : CState) : Prop where
  len : n0 ≤ s.trace.length
  keys : ∀ e ∈ s.trace.drop n0, e.1 < s.bytecode.size
  holes : ∀ h ∈ hs, h + 4 ≤ s.bytecode.size ∧ ∀ e ∈ s.trace.drop n0, e.1 < h ∨ h + 4 ≤ e.1

theorem Safe.step {n0 : Nat} {hs : List Nat} {G : Trace → UInt8 → Prop} {s s' : CState}
    (h : Safe n0 hs s) (r : RelG n0 G s s') : Safe n0 hs s' := by
  obtain ⟨a, b, t, c, d⟩ := r
  have hd : s'.trace.drop n0 = s.trace.drop n0 ++ t := by rw [c]; exact List.drop_append_of_le_length h.len
  refine ⟨by rw [c, List.length_append]; have := h.len; omega, fun e he => ?_, fun x hx => ?_⟩
  · rw [hd] at he
    rcases List.mem_append.1 he with he | he
    · have := h.keys e he; omega
    · exact (d e he).2.1
  · obtain ⟨x1, x2⟩ := h.holes x hx
    refine ⟨by omega, fun e he => ?_⟩
    rw [hd] at he
    rcases List.mem_append.1 he with he | he
    · exact x2 e he
    · have := (d e he).1; omega

theorem Safe.weaken {n0 : Nat} {hs hs' : List Nat} {s : CState} (h : Safe n0 hs s)
    (hsub : ∀ x ∈ hs', x ∈ hs) : Safe n0 hs' s :=
  ⟨h.len, h.keys, fun x hx => h.holes x (hsub x hx)⟩

structure Rel (n0 : Nat) (S : Spec) (s s' : CState) : Prop where
  ns : s'.ns = s.ns
  fn : s'.curFunction = s.curFunction
  rel : RelG n0 (fun t o => t.ns = s.ns ∧ t.function = s.curFunction ∧ S.op t.indices o) s s'

theorem Rel.refl (n0 : Nat) (S : Spec) (s : CState) : Rel n0 S s s := ⟨rfl, rfl, RelG.refl _ _ _⟩

theorem Rel.trans {n0 : Nat} {S : Spec} {s s1 s2 : CState} (hl : n0 ≤ s.trace.length)
    (h1 : Rel n0 S s s1) (h2 : Rel n0 S s1 s2) : Rel n0 S s s2 := by
  refine ⟨h2.ns.trans h1.ns, h2.fn.trans h1.fn, RelG.trans hl h1.rel ?_⟩
  have := h2.rel
  rw [h1.ns, h1.fn] at this
  exact this

theorem Rel.mono {n0 : Nat} {S S' : Spec} {s s' : CState} (h : Rel n0 S s s') (hs : SubSpec S S') :
    Rel n0 S' s s' :=
  ⟨h.ns, h.fn, h.rel.mono fun _ o ⟨a, b, c⟩ => ⟨a, b, hs.op _ o c⟩⟩

/-- precondition: position `p`, optionally known bytecode size `z`, pending holes `hs` -/
structure Pre (n0 : Nat) (z : Option Nat) (hs : List Nat) (p : List Nat) (s : CState) : Prop where
  idx : s.curIndices = p
  size : ∀ n, z = some n → s.bytecode.size = n
  safe : Safe n0 hs s

/-- from a state at position `p` (`Pre`), a successful run of `m` ends at position `q` in a `Rel`-related state, and a
located error points into the current function, at an index list `S` allows; the first `n0` trace entries are not
looked at -/
structure Tr {α : Type} (n0 : Nat) (S : Spec) (z : Option Nat) (hs : List Nat) (p q : List Nat)
    (m : CM α) : Prop where
  ok : ∀ s a s', m s = .ok (a, s') → Pre n0 z hs p s → Rel n0 S s s' ∧ s'.curIndices = q
  err : ∀ s k o, m s = .error (.err k o) → Pre n0 z hs p s →
    ∃ t, o = some t ∧ t.ns = s.ns ∧ t.function = s.curFunction ∧ S.loc k t.indices

theorem Tr.mono_spec {α : Type} {n0 : Nat} {S S' : Spec} {z : Option Nat} {hs p q} {m : CM α}
    (h : Tr n0 S z hs p q m) (hS : SubSpec S S') : Tr n0 S' z hs p q m :=
  ⟨fun s a s' hr hp => ⟨((h.ok s a s' hr hp).1).mono hS, (h.ok s a s' hr hp).2⟩,
   fun s k t hr hp => by
    obtain ⟨t', e, a, b, c⟩ := h.err s k t hr hp
    exact ⟨t', e, a, b, hS.loc _ _ c⟩⟩

theorem Tr.weaken {α : Type} {n0 : Nat} {S : Spec} {z : Option Nat} {hs hs' p q} {m : CM α}
    (h : Tr n0 S none hs' p q m) (hsub : ∀ x ∈ hs', x ∈ hs) : Tr n0 S z hs p q m :=
  ⟨fun s a s' hr hp => h.ok s a s' hr ⟨hp.idx, (fun _ hn => nomatch hn), hp.safe.weaken hsub⟩,
   fun s k t hr hp => h.err s k t hr ⟨hp.idx, (fun _ hn => nomatch hn), hp.safe.weaken hsub⟩⟩

theorem tr_bind {α β : Type} {n0 : Nat} {S : Spec} {z : Option Nat} {hs p q r} {m : CM α} {f : α → CM β}
    (hm : Tr n0 S z hs p q m) (hf : ∀ a, Tr n0 S none hs q r (f a)) : Tr n0 S z hs p r (m >>= f) := by
  constructor
  · intro s b s'' h hp
    obtain ⟨a, s', h1, h2⟩ := bind_ok.1 h
    obtain ⟨r1, q1⟩ := hm.ok s a s' h1 hp
    obtain ⟨r2, q2⟩ := (hf a).ok s' b s'' h2 ⟨q1, (fun _ hn => nomatch hn), hp.safe.step r1.rel⟩
    exact ⟨Rel.trans hp.safe.len r1 r2, q2⟩
  · intro s k t h hp
    rcases bind_err.1 h with h | ⟨a, s', h1, h2⟩
    · exact hm.err s k t h hp
    · obtain ⟨r1, q1⟩ := hm.ok s a s' h1 hp
      obtain ⟨t', e, x1, x2, x3⟩ := (hf a).err s' k t h2 ⟨q1, (fun _ hn => nomatch hn), hp.safe.step r1.rel⟩
      exact ⟨t', e, x1.trans r1.ns, x2.trans r1.fn, x3⟩

theorem tr_seq {β : Type} {n0 : Nat} {S : Spec} {z : Option Nat} {hs p q r} {m : CM Unit} {n : CM β}
    (hm : Tr n0 S z hs p q m) (hn : Tr n0 S none hs q r n) : Tr n0 S z hs p r (m >>= fun _ => n) :=
  tr_bind hm fun _ => hn

theorem tr_pure {α : Type} {n0 : Nat} {S : Spec} {z : Option Nat} {hs p} {a : α} :
    Tr n0 S z hs p p (pure a : CM α) := by
  constructor
  · intro s b s' hr hp
    simp only [pure_run, Except.ok.injEq, Prod.mk.injEq] at hr
    obtain ⟨_, rfl⟩ := hr
    exact ⟨Rel.refl _ _ _, hp.idx⟩
  · intro s k t hr; simp at hr

theorem tr_get {n0 : Nat} {S : Spec} {z : Option Nat} {hs p} : Tr n0 S z hs p p (get : CM CState) := by
  constructor
  · intro s b s' hr hp
    simp only [get_run, Except.ok.injEq, Prod.mk.injEq] at hr
    obtain ⟨_, rfl⟩ := hr
    exact ⟨Rel.refl _ _ _, hp.idx⟩
  · intro s k t hr; simp at hr

theorem tr_get_bind {β : Type} {n0 : Nat} {S : Spec} {z : Option Nat} {hs p q} {f : CState → CM β}
    (hf : ∀ st, Tr n0 S (some st.bytecode.size) hs p q (f st)) : Tr n0 S z hs p q (get >>= f) := by
  constructor
  · intro s b s'' h hp
    obtain ⟨a, s', h1, h2⟩ := bind_ok.1 h
    simp only [get_run, Except.ok.injEq, Prod.mk.injEq] at h1
    obtain ⟨rfl, rfl⟩ := h1
    exact (hf s).ok s b s'' h2 ⟨hp.idx, fun _ hn => by cases hn; rfl, hp.safe⟩
  · intro s k t h hp
    rcases bind_err.1 h with h | ⟨a, s', h1, h2⟩
    · simp at h
    · simp only [get_run, Except.ok.injEq, Prod.mk.injEq] at h1
      obtain ⟨rfl, rfl⟩ := h1
      exact (hf s).err s k t h2 ⟨hp.idx, fun _ hn => by cases hn; rfl, hp.safe⟩

theorem tr_modify {n0 : Nat} {S : Spec} {z : Option Nat} {hs p q} {f : CState → CState}
    (h : ∀ s, Pre n0 z hs p s → Rel n0 S s (f s) ∧ (f s).curIndices = q) :
    Tr n0 S z hs p q (modify f : CM Unit) := by
  constructor
  · intro s b s' hr hp
    simp only [modify_run, Except.ok.injEq, Prod.mk.injEq] at hr
    obtain ⟨_, rfl⟩ := hr
    exact h s hp
  · intro s k t hr; simp at hr

theorem tr_modify_other {n0 : Nat} {S : Spec} {z : Option Nat} {hs p} {f : CState → CState}
    (hb : ∀ s, (f s).bytecode = s.bytecode) (ht : ∀ s, (f s).trace = s.trace)
    (hn : ∀ s, (f s).ns = s.ns) (hf : ∀ s, (f s).curFunction = s.curFunction)
    (hi : ∀ s, (f s).curIndices = s.curIndices) : Tr n0 S z hs p p (modify f : CM Unit) :=
  tr_modify fun s hp => ⟨⟨hn s, hf s, RelG.of_eq (hb s) (ht s)⟩, (hi s).trans hp.idx⟩

theorem tr_panic {α : Type} {n0 : Nat} {S : Spec} {z : Option Nat} {hs p q} {w : String} :
    Tr n0 S z hs p q (throw (.panic w) : CM α) := by
  constructor
  · intro s b s' hr; simp at hr
  · intro s k t hr; simp at hr

theorem tr_fail {α : Type} {n0 : Nat} {S : Spec} {z : Option Nat} {hs p q} {e : CErrKind}
    (h : S.loc e p) : Tr n0 S z hs p q (fail e : CM α) := by
  constructor
  · intro s b s' hr; simp at hr
  · intro s k t hr hp
    simp only [fail_run, Except.error.injEq, CErr.err.injEq] at hr
    obtain ⟨rfl, rfl⟩ := hr
    exact ⟨_, rfl, rfl, rfl, by rw [hp.idx]; exact h⟩

theorem tr_fail_bind {α β : Type} {n0 : Nat} {S : Spec} {z : Option Nat} {hs p q} {e : CErrKind}
    {f : α → CM β} (h : S.loc e p) : Tr n0 S z hs p q ((fail e : CM α) >>= f) := by
  constructor
  · intro s b s' hr
    obtain ⟨a, s1, h1, _⟩ := bind_ok.1 hr
    simp at h1
  · intro s k t hr hp
    rcases bind_err.1 hr with h1 | ⟨a, s', h1, _⟩
    · exact (tr_fail (q := q) (α := α) h).err s k t h1 hp
    · simp at h1

theorem tr_ite {α : Type} {n0 : Nat} {S : Spec} {z : Option Nat} {hs p q} {c : Prop} [Decidable c]
    {x y : CM α} (hy : Tr n0 S z hs p q y) (hx : Tr n0 S z hs p q x) :
    Tr n0 S z hs p q (if c then x else y) := by
  split <;> assumption

/-! ## side conditions -/

structure Ops (S : Spec) (p : List Nat) (L : List UInt8) : Prop where
  h : ∀ o ∈ L, S.op p o

structure Locs (S : Spec) (p : List Nat) (K : List CErrKind) : Prop where
  h : ∀ k ∈ K, S.loc k p

theorem Ops.sub {S : Spec} {p : List Nat} {L L' : List UInt8} (h : Ops S p L) (hs : ∀ o ∈ L', o ∈ L) :
    Ops S p L' := ⟨fun o ho => h.h o (hs o ho)⟩

theorem Ops.one {S : Spec} {p : List Nat} {L : List UInt8} (h : Ops S p L) (o : UInt8)
    (ho : o ∈ L := by decide) : Ops S p [o] := h.sub fun _ hx => List.mem_singleton.1 hx ▸ ho

theorem Locs.sub {S : Spec} {p : List Nat} {K K' : List CErrKind} (h : Locs S p K) (hs : ∀ o ∈ K', o ∈ K) :
    Locs S p K' := ⟨fun o ho => h.h o (hs o ho)⟩

/-! ## primitives -/

theorem tr_fail_bind' {α β : Type} {n0 : Nat} {S : Spec} {z : Option Nat} {hs p q} {e : CErrKind}
    {f : α → CM β} (h : Locs S p [e]) : Tr n0 S z hs p q ((fail e : CM α) >>= f) :=
  tr_fail_bind (h.h e (by simp))

theorem RelG.append {n0 : Nat} {G : Trace → UInt8 → Prop} {s s' : CState} {bs : Array UInt8}
    (hk : ∀ e ∈ s.trace.drop n0, e.1 < s.bytecode.size)
    (hb : s'.bytecode = s.bytecode ++ bs) (ht : s'.trace = s.trace) : RelG n0 G s s' := by
  refine ⟨by rw [hb]; simp, fun e he => ?_, [], by simp [ht], by simp⟩
  rw [hb, Array.getElem?_append_left (hk e he)]

theorem tr_quiet {α : Type} {n0 : Nat} {S : Spec} {z : Option Nat} {hs p} {m : CM α}
    (hok : ∀ s a s', m s = .ok (a, s') → s'.bytecode = s.bytecode ∧ s'.trace = s.trace ∧ s'.ns = s.ns ∧
      s'.curFunction = s.curFunction ∧ s'.curIndices = s.curIndices)
    (herr : ∀ s k o, m s = .error (.err k o) → o = some (traceOf s) ∧ S.loc k p) : Tr n0 S z hs p p m := by
  constructor
  · intro s a s' hr hp
    obtain ⟨hb, ht, h1, h2, h3⟩ := hok s a s' hr
    exact ⟨⟨h1, h2, RelG.of_eq hb ht⟩, h3.trans hp.idx⟩
  · intro s k o hr hp
    obtain ⟨rfl, hL⟩ := herr s k o hr
    exact ⟨_, rfl, rfl, rfl, by rw [show (traceOf s).indices = p from hp.idx]; exact hL⟩

theorem tr_append {α : Type} {n0 : Nat} {S : Spec} {z : Option Nat} {hs p} {m : CM α}
    (h : ∀ s, ∃ a s' bs, m s = .ok (a, s') ∧ s'.bytecode = s.bytecode ++ bs ∧ s'.trace = s.trace ∧ s'.ns = s.ns ∧
      s'.curFunction = s.curFunction ∧ s'.curIndices = s.curIndices) : Tr n0 S z hs p p m := by
  constructor
  · intro s a s' hr hp
    obtain ⟨a', s'', bs, hm, hb, ht, h1, h2, h3⟩ := h s
    rw [hm] at hr
    obtain ⟨_, rfl⟩ := Prod.mk.inj (Except.ok.inj hr)
    exact ⟨⟨h1, h2, RelG.append hp.safe.keys hb ht⟩, h3.trans hp.idx⟩
  · intro s k o hr
    obtain ⟨a', s'', bs, hm, _⟩ := h s
    rw [hm] at hr; cases hr

theorem Reads.tr {α : Type} {n0 : Nat} {S : Spec} {z : Option Nat} {hs p} {g : CState → Except CErrKind α}
    {m : CM α} (h : Reads g m) (hL : ∀ s k, g s = .error k → S.loc k p) : Tr n0 S z hs p p m :=
  tr_quiet (fun s a s' hr => by obtain ⟨_, rfl⟩ := h.ok hr; exact ⟨rfl, rfl, rfl, rfl, rfl⟩)
    (fun s k o hr => by obtain ⟨k', hk, he⟩ := h.err hr; cases he; exact ⟨rfl, hL s _ hk⟩)

theorem emitBytes_tr {n0 : Nat} {S : Spec} {z : Option Nat} {hs p} (bs : List UInt8) :
    Tr n0 S z hs p p (emitBytes bs) :=
  tr_append fun s => ⟨_, _, _, emitBytes_run bs s, rfl, rfl, rfl, rfl, rfl⟩

theorem emitU32_tr {n0 : Nat} {S : Spec} {z : Option Nat} {hs p} (x : Nat) :
    Tr n0 S z hs p p (emitU32 x) := emitBytes_tr _

/-- reserving a 4-byte operand at a known position `n`: the continuation may patch it -/
theorem tr_hole_bind {β : Type} {n0 : Nat} {S : Spec} {n : Nat} {hs p q} {x : Nat} {f : Unit → CM β}
    (hf : ∀ u, Tr n0 S none (n :: hs) p q (f u)) : Tr n0 S (some n) hs p q (emitU32 x >>= f) := by
  have key : ∀ s u s', emitU32 x s = .ok (u, s') → Pre n0 (some n) hs p s →
      Pre n0 none (n :: hs) p s' := by
    intro s u s' h1 hp
    obtain ⟨r1, q1⟩ := (emitU32_tr (S := S) x).ok s u s' h1 hp
    refine ⟨q1, (fun _ hn => nomatch hn), ?_⟩
    have hsafe := hp.safe.step r1.rel
    refine ⟨hsafe.len, hsafe.keys, fun h hh => ?_⟩
    rcases List.mem_cons.1 hh with rfl | hh
    · have hsz := hp.size _ rfl
      simp only [emitU32, emitBytes, modify_run, Except.ok.injEq, Prod.mk.injEq] at h1
      obtain ⟨_, rfl⟩ := h1
      dsimp only
      refine ⟨?_, fun e he => .inl ?_⟩
      · rw [foldl_push_eq]; simp [Bytecode.le32_length, hsz]
      · rw [← hsz]; exact hp.safe.keys e he
    · exact hsafe.holes h hh
  constructor
  · intro s b s'' h hp
    obtain ⟨a, s', h1, h2⟩ := bind_ok.1 h
    obtain ⟨r1, _⟩ := (emitU32_tr (S := S) x).ok s a s' h1 hp
    obtain ⟨r2, q2⟩ := (hf a).ok s' b s'' h2 (key s a s' h1 hp)
    exact ⟨Rel.trans hp.safe.len r1 r2, q2⟩
  · intro s k t h hp
    rcases bind_err.1 h with h | ⟨a, s', h1, h2⟩
    · exact (emitU32_tr (S := S) x).err s k t h hp
    · obtain ⟨r1, _⟩ := (emitU32_tr (S := S) x).ok s a s' h1 hp
      obtain ⟨t', e, x1, x2, x3⟩ := (hf a).err s' k t h2 (key s a s' h1 hp)
      exact ⟨t', e, x1.trans r1.ns, x2.trans r1.fn, x3⟩

theorem curTrace_tr {n0 : Nat} {S : Spec} {z : Option Nat} {hs p} : Tr n0 S z hs p p curTrace :=
  tr_get_bind fun _ => tr_pure

theorem pushInstr_tr {n0 : Nat} {S : Spec} {z : Option Nat} {hs p} {o : UInt8} (h : Ops S p [o]) :
    Tr n0 S z hs p p (pushInstr o) := by
  constructor
  · intro s a s' hr hp
    rw [pushInstr_run] at hr
    simp only [Except.ok.injEq, Prod.mk.injEq] at hr
    obtain ⟨_, rfl⟩ := hr
    refine ⟨⟨rfl, rfl, by simp, fun e he => ?_, [_], rfl, ?_⟩, hp.idx⟩
    · dsimp only
      rw [Array.push_eq_append, Array.getElem?_append_left (hp.safe.keys e he)]
    · intro e he
      simp only [List.mem_singleton] at he
      subst he
      refine ⟨Nat.le_refl _, by simp, o, by simp, rfl, rfl, ?_⟩
      rw [show (traceOf s).indices = p from hp.idx]; exact h.h o (by simp)
  · intro s k t hr; rw [pushInstr_run] at hr; cases hr

theorem pushSub_tr {n0 : Nat} {S : Spec} {z : Option Nat} {hs p} (i : Nat) :
    Tr n0 S z hs p (p ++ [i]) (pushSub i) := by
  unfold pushSub
  exact tr_modify fun s hp => ⟨⟨rfl, rfl, RelG.of_eq rfl rfl⟩, by dsimp only; rw [hp.idx]⟩

theorem popSub_tr' {n0 : Nat} {S : Spec} {z : Option Nat} {hs p} :
    Tr n0 S z hs p p.dropLast popSub := by
  unfold popSub
  exact tr_modify fun s hp => ⟨⟨rfl, rfl, RelG.of_eq rfl rfl⟩, by dsimp only; rw [hp.idx]⟩

theorem popSub_tr {n0 : Nat} {S : Spec} {z : Option Nat} {hs p} {i : Nat} :
    Tr n0 S z hs (p ++ [i]) p popSub := by
  have := popSub_tr' (n0 := n0) (S := S) (z := z) (hs := hs) (p := p ++ [i])
  simpa using this

theorem insertLabel_tr {n0 : Nat} {S : Spec} {z : Option Nat} {hs p} (h : UInt32) (pos : Nat) :
    Tr n0 S z hs p p (insertLabel h pos) :=
  tr_quiet (fun s a s' hr => by
      rw [insertLabel_run] at hr; split at hr <;> cases hr; exact ⟨rfl, rfl, rfl, rfl, rfl⟩)
    (fun s k o hr => by rw [insertLabel_run] at hr; split at hr <;> cases hr)

theorem patchI32_tr {n0 : Nat} {S : Spec} {z : Option Nat} {hs p} {at_ : Nat} (v : Nat) (h : at_ ∈ hs) :
    Tr n0 S z hs p p (patchI32 at_ v) := by
  rw [patchI32_eq]
  exact tr_modify fun s hp => ⟨⟨rfl, rfl, Nat.le_of_eq (patched_size ..).symm,
    fun e he => patched_getElem? _ _ _ ((hp.safe.holes at_ h).2 e he), [], (List.append_nil _).symm,
    fun _ hp => nomatch hp⟩, hp.idx⟩

theorem scopeBegin_tr {n0 : Nat} {S : Spec} {z : Option Nat} {hs p} : Tr n0 S z hs p p scopeBegin :=
  tr_modify_other (fun _ => rfl) (fun _ => rfl) (fun _ => rfl) (fun _ => rfl) (fun _ => rfl)

theorem scopeEnd_tr {n0 : Nat} {S : Spec} {z : Option Nat} {hs p} : Tr n0 S z hs p p scopeEnd :=
  tr_append fun s => ⟨_, _, _, scopeEnd_run s, rfl, rfl, rfl, rfl, rfl⟩

theorem addLocalUnchecked_tr {n0 : Nat} {S : Spec} {z : Option Nat} {hs p} (n : String)
    (hL : Locs S p [.tooManyLocals]) : Tr n0 S z hs p p (addLocalUnchecked n) :=
  tr_quiet (fun s a s' hr => by
      rw [addLocalUnchecked_run] at hr; split at hr <;> cases hr; exact ⟨rfl, rfl, rfl, rfl, rfl⟩)
    (fun s k o hr => by
      rw [addLocalUnchecked_run] at hr; split at hr <;> cases hr; exact ⟨rfl, hL.h _ (by simp)⟩)

theorem addLocal_tr {n0 : Nat} {S : Spec} {z : Option Nat} {hs p} (n : String)
    (hL : Locs S p [.emptyVariable, .tooManyLocals]) : Tr n0 S z hs p p (addLocal n) :=
  tr_bind ((validateVarName_reads n).tr fun _ k hk => by
      split at hk <;> cases hk; exact hL.h _ (by simp)) fun _ =>
    addLocalUnchecked_tr n (hL.sub (by decide))

theorem resolveVar_tr {n0 : Nat} {S : Spec} {z : Option Nat} {hs p} (n : String)
    (hL : Locs S p [.emptyVariable, .tooManyUpvalues]) : Tr n0 S z hs p p (resolveVar n) :=
  tr_quiet (fun s a s' hr => by
      obtain ⟨L, U, rfl⟩ := (resolveVar_ok hr).1.rest; exact ⟨rfl, rfl, rfl, rfl, rfl⟩)
    (fun s k o hr => by rcases resolveVar_err hr with h | h <;> cases h <;> exact ⟨rfl, hL.h _ (by simp)⟩)

theorem readLocalVar_tr {n0 : Nat} {S : Spec} {z : Option Nat} {hs p} (i : Nat)
    (hO : Ops S p [op.readLocalVar]) : Tr n0 S z hs p p (readLocalVar i) := tr_seq (pushInstr_tr hO) (emitU32_tr i)
theorem writeLocalVar_tr {n0 : Nat} {S : Spec} {z : Option Nat} {hs p} (i : Nat)
    (hO : Ops S p [op.setLocalVar]) : Tr n0 S z hs p p (writeLocalVar i) := tr_seq (pushInstr_tr hO) (emitU32_tr i)
theorem readUpvalue_tr {n0 : Nat} {S : Spec} {z : Option Nat} {hs p} (i : Nat)
    (hO : Ops S p [op.readUpvalue]) : Tr n0 S z hs p p (readUpvalue i) := tr_seq (pushInstr_tr hO) (emitU32_tr i)
theorem writeUpvalue_tr {n0 : Nat} {S : Spec} {z : Option Nat} {hs p} (i : Nat)
    (hO : Ops S p [op.setUpvalue]) : Tr n0 S z hs p p (writeUpvalue i) := tr_seq (pushInstr_tr hO) (emitU32_tr i)

theorem pushStr_tr {n0 : Nat} {S : Spec} {z : Option Nat} {hs p} (x : String) :
    Tr n0 S z hs p p (pushStr x) :=
  tr_append fun s => ⟨_, _, _, pushStr_run x s, rfl, rfl, rfl, rfl, rfl⟩

theorem globalId_tr {n0 : Nat} {S : Spec} {z : Option Nat} {hs p} (x : String) :
    Tr n0 S z hs p p (globalId x) :=
  tr_quiet (fun s a s' hr => by
      rcases globalId_cases x s with ⟨_, h⟩ | ⟨_, id, s1, s2, h, h1, h2⟩ <;> rw [h] at hr <;> cases hr
      rcases h1 with ⟨_, _, _, rfl⟩ | ⟨_, _, rfl⟩ <;> rcases h2 with ⟨_, rfl⟩ | ⟨_, rfl⟩ <;>
        exact ⟨rfl, rfl, rfl, rfl, rfl⟩)
    (fun s k o hr => by
      rcases globalId_cases x s with ⟨_, h⟩ | ⟨_, id, s1, s2, h, _⟩ <;> rw [h] at hr <;> cases hr)

theorem readProps_tr {n0 : Nat} {S : Spec} {hs p} (hO : Ops S p [op.stringLiteral, op.getProperty]) :
    ∀ ps z, Tr n0 S z hs p p (readProps ps)
  | [], _ => tr_pure
  | x :: ps, _ => tr_ite (readProps_tr hO ps _) <| tr_seq (pushInstr_tr (hO.one op.stringLiteral)) <|
      tr_seq (pushStr_tr x) <| tr_seq (pushInstr_tr (hO.one op.getProperty)) (readProps_tr hO ps none)

def readVarOps : List UInt8 :=
  [op.readLocalVar, op.readUpvalue, op.readGlobalVar, op.stringLiteral, op.getProperty]

theorem readVarCard_tr {n0 : Nat} {S : Spec} {z : Option Nat} {hs p} (x : String)
    (hO : Ops S p readVarOps) (hL : Locs S p [.emptyVariable, .tooManyUpvalues]) :
    Tr n0 S z hs p p (readVarCard x) := by
  have props := fun ps => readProps_tr (n0 := n0) (hs := hs) (hO.sub (by decide)) ps none
  unfold readVarCard
  exact tr_bind (resolveVar_tr _ hL) fun v =>
    match v with
    | .local_ i => tr_seq (readLocalVar_tr i (hO.one op.readLocalVar)) (props _)
    | .upvalue i => tr_seq (readUpvalue_tr i (hO.one op.readUpvalue)) (props _)
    | .global => tr_bind (globalId_tr _) fun _ => tr_seq (pushInstr_tr (hO.one op.readGlobalVar)) <|
        tr_seq (emitU32_tr _) (props _)

theorem resolveFunction_tr {n0 : Nat} {S : Spec} {z : Option Nat} {hs p} (x : String)
    (hL : Locs S p [.superLimitReached, .invalidJump]) : Tr n0 S z hs p p (resolveFunction x) :=
  (resolveFunction_reads x).tr fun _ _ hk => by
    rcases resolveWith_error_kind hk with rfl | rfl <;> exact hL.h _ (by simp)

theorem encodeJump_tr {n0 : Nat} {S : Spec} {z : Option Nat} {hs p} (x : String)
    (hL : Locs S p [.superLimitReached, .invalidJump]) : Tr n0 S z hs p p (encodeJump x) :=
  tr_bind (resolveFunction_tr x hL) fun (_, _) => tr_seq (emitBytes_tr _) (emitBytes_tr _)

/-! ### the combinators of `processCard` -/

theorem cardLabel_tr {n0 : Nat} {S : Spec} {z : Option Nat} {hs p} : Tr n0 S z hs p p cardLabel :=
  tr_get_bind fun _ => insertLabel_tr _ _

theorem withSub_tr {n0 : Nat} {S : Spec} {z : Option Nat} {hs p} {i : Nat} {m : CM Unit}
    (hm : ∀ z hs, Tr n0 S z hs (p ++ [i]) (p ++ [i]) m) : Tr n0 S z hs p p (withSub i m) :=
  tr_seq (pushSub_tr i) <| tr_seq (hm _ _) popSub_tr

theorem encodeIfThen_tr {n0 : Nat} {S : Spec} {z : Option Nat} {hs p} {skip : UInt8} {m : CM Unit}
    (hm : ∀ z hs, Tr n0 S z hs p p m) (hO : Ops S p [skip]) : Tr n0 S z hs p p (encodeIfThen skip m) :=
  tr_seq (pushInstr_tr hO) <| tr_get_bind fun _ => tr_hole_bind fun _ => tr_seq (hm _ _) <|
  tr_get_bind fun _ => patchI32_tr _ (List.mem_cons_self ..)

theorem addLocals_tr {n0 : Nat} {S : Spec} {hs p} (hL : Locs S p [.emptyVariable, .tooManyLocals]) :
    ∀ ps z, Tr n0 S z hs p p (addLocals ps)
  | [], _ => tr_pure
  | x :: ps, _ => tr_bind (addLocal_tr x hL) fun _ => addLocals_tr hL ps none

theorem emitUpvalues_tr {n0 : Nat} {S : Spec} {hs p} (hO : Ops S p [op.copyLast, op.registerUpvalue]) :
    ∀ ups z, Tr n0 S z hs p p (emitUpvalues ups)
  | [], _ => tr_pure
  | (_, _) :: rest, _ => tr_seq (pushInstr_tr (hO.one _)) <| tr_seq (pushInstr_tr (hO.one _)) <|
      tr_seq (emitBytes_tr _) (emitUpvalues_tr hO rest none)

theorem scalarIntCode_tr {n0 : Nat} {S : Spec} {z : Option Nat} {hs p} (i : Int64)
    (hO : Ops S p [op.scalarInt]) : Tr n0 S z hs p p (scalarIntCode i) :=
  tr_seq (pushInstr_tr hO) (emitBytes_tr _)

theorem processScalarInt_tr {n0 : Nat} {S : Spec} {z : Option Nat} {hs p} (i : Int64)
    (hO : Ops S p [op.scalarInt]) : Tr n0 S z hs p p (processScalarInt i) :=
  tr_seq cardLabel_tr (scalarIntCode_tr i hO)

theorem bindLoopVar_tr {n0 : Nat} {S : Spec} {z : Option Nat} {hs p} (n : Option String) (src : Nat)
    (hO : Ops S p [op.readLocalVar, op.setLocalVar]) (hL : Locs S p [.emptyVariable, .tooManyLocals]) :
    Tr n0 S z hs p p (bindLoopVar n src) :=
  match n with
  | none => tr_pure
  | some v => tr_bind (addLocal_tr v hL) fun _ =>
      tr_seq (readLocalVar_tr src (hO.one _)) (writeLocalVar_tr _ (hO.one _))

def forEachOps : List UInt8 :=
  [op.beginForEach, op.forEach, op.gotoIfFalse, op.readLocalVar, op.setLocalVar, op.goto]

theorem forEachCode_tr {n0 : Nat} {S : Spec} {z : Option Nat} {hs p} {i kk v : Option String}
    {it body : CM Unit} (h1 : ∀ z hs, Tr n0 S z hs (p ++ [0]) (p ++ [0]) it)
    (h2 : ∀ z hs, Tr n0 S z hs (p ++ [1]) (p ++ [1]) body)
    (hO : Ops S p forEachOps) (hL : Locs S p [.emptyVariable, .tooManyLocals]) :
    Tr n0 S z hs p p (forEachCode i kk v it body) :=
  have hl : Locs S p [.tooManyLocals] := hL.sub (by decide)
  have e := fun x => emitU32_tr (n0 := n0) (S := S) (z := none) (hs := hs) (p := p) x
  tr_seq (withSub_tr h1) <| tr_seq scopeBegin_tr <|
  tr_bind (addLocalUnchecked_tr _ hl) fun _ => tr_bind (addLocalUnchecked_tr _ hl) fun _ =>
  tr_bind (addLocalUnchecked_tr _ hl) fun _ => tr_bind (addLocalUnchecked_tr _ hl) fun _ =>
  tr_bind (addLocalUnchecked_tr _ hl) fun _ =>
  tr_seq (pushInstr_tr (hO.one _)) <| tr_seq (e _) <| tr_seq (e _) <| tr_seq (e _) <| tr_seq (e _) <| tr_seq (e _) <|
  tr_get_bind fun _ => tr_seq (pushInstr_tr (hO.one _)) <|
  tr_seq (emitU32_tr _) <| tr_seq (e _) <| tr_seq (e _) <| tr_seq (e _) <| tr_seq (e _) <|
  tr_seq (encodeIfThen_tr (fun _ _ => tr_seq scopeBegin_tr <|
    tr_seq (bindLoopVar_tr _ _ (hO.sub (by decide)) hL) <| tr_seq (bindLoopVar_tr _ _ (hO.sub (by decide)) hL) <|
    tr_seq (bindLoopVar_tr _ _ (hO.sub (by decide)) hL) <| tr_seq (withSub_tr h2) <| tr_seq scopeEnd_tr <|
    tr_seq (pushInstr_tr (hO.one _)) (emitU32_tr _)) (hO.one _)) scopeEnd_tr

def whileChildOps : List UInt8 := [op.gotoIfFalse, op.goto]

theorem whileCode_tr {n0 : Nat} {S : Spec} {z : Option Nat} {hs p} {c b : CM Unit}
    (h1 : ∀ z hs, Tr n0 S z hs (p ++ [0]) (p ++ [0]) c)
    (h2 : ∀ z hs, Tr n0 S z hs (p ++ [1]) (p ++ [1]) b)
    (hO1 : Ops S (p ++ [1]) whileChildOps) : Tr n0 S z hs p p (whileCode c b) :=
  tr_get_bind fun _ => tr_seq (withSub_tr h1) <| tr_seq (pushSub_tr 1) <|
  tr_seq (encodeIfThen_tr (fun _ _ => tr_seq scopeBegin_tr <| tr_seq (h2 _ _) <| tr_seq scopeEnd_tr <|
    tr_seq (pushInstr_tr (hO1.one _)) (emitU32_tr _)) (hO1.one _)) popSub_tr

def repeatOps : List UInt8 :=
  [op.setLocalVar, op.scalarInt, op.readLocalVar, op.less, op.gotoIfFalse, op.add, op.goto]

theorem repeatCode_tr {n0 : Nat} {S : Spec} {z : Option Nat} {hs p} {i : Option String} {n b : CM Unit}
    (h1 : ∀ z hs, Tr n0 S z hs (p ++ [0]) (p ++ [0]) n)
    (h2 : ∀ z hs, Tr n0 S z hs (p ++ [1]) (p ++ [1]) b)
    (hO : Ops S p repeatOps) (hL : Locs S p [.emptyVariable, .tooManyLocals]) :
    Tr n0 S z hs p p (repeatCode i n b) :=
  have hl : Locs S p [.tooManyLocals] := hL.sub (by decide)
  have hw := fun i => writeLocalVar_tr (n0 := n0) (z := none) (hs := hs) i (hO.one op.setLocalVar)
  have hr := fun (hs : List Nat) i => readLocalVar_tr (n0 := n0) (z := none) (hs := hs) i (hO.one op.readLocalVar)
  tr_seq (withSub_tr h1) <| tr_seq scopeBegin_tr <|
  tr_bind (addLocalUnchecked_tr _ hl) fun _ => tr_bind (addLocalUnchecked_tr _ hl) fun _ =>
  tr_seq (hw _) <| tr_seq (processScalarInt_tr 0 (hO.one _)) <| tr_seq (hw _) <|
  tr_get_bind fun _ => tr_seq (readLocalVar_tr _ (hO.one _)) <| tr_seq (hr _ _) <| tr_seq (pushInstr_tr (hO.one _)) <|
  tr_seq (encodeIfThen_tr (fun _ _ => tr_seq scopeBegin_tr <|
    tr_seq (bindLoopVar_tr _ _ (hO.sub (by decide)) hL) <| tr_seq (withSub_tr h2) <| tr_seq scopeEnd_tr <|
    tr_seq (processScalarInt_tr 1 (hO.one _)) <| tr_seq (readLocalVar_tr _ (hO.one _)) <|
    tr_seq (pushInstr_tr (hO.one _)) <| tr_seq (writeLocalVar_tr _ (hO.one _)) <|
    tr_seq (pushInstr_tr (hO.one _)) (emitU32_tr _)) (hO.one _)) scopeEnd_tr

def setVarOps : List UInt8 :=
  [op.setLocalVar, op.setUpvalue, op.readLocalVar, op.readUpvalue, op.readGlobalVar, op.stringLiteral,
   op.getProperty, op.setProperty]

theorem setVarTarget_tr {n0 : Nat} {S : Spec} {z : Option Nat} {hs p} (n : String)
    (hO : Ops S p setVarOps) (hL : Locs S p [.emptyVariable, .tooManyLocals, .tooManyUpvalues]) :
    Tr n0 S z hs p p (setVarTarget n) := by
  rw [setVarTarget_eq]
  exact tr_ite
    (tr_seq (readVarCard_tr _ (hO.sub (by decide)) (hL.sub (by decide))) <|
      tr_seq (pushInstr_tr (hO.one _)) <| tr_seq (pushStr_tr _) (pushInstr_tr (hO.one _)))
    (tr_bind (resolveVar_tr n (hL.sub (by decide))) fun v =>
      match v with
      | .local_ i => writeLocalVar_tr i (hO.one _)
      | .global => tr_bind (addLocal_tr n (hL.sub (by decide))) fun _ => writeLocalVar_tr _ (hO.one _)
      | .upvalue i => writeUpvalue_tr i (hO.one _))

theorem setVarCode_tr {n0 : Nat} {S : Spec} {z : Option Nat} {hs p} {n : String} {v : CM Unit}
    (h : ∀ z hs, Tr n0 S z hs (p ++ [0]) (p ++ [0]) v)
    (hO : Ops S p setVarOps) (hL : Locs S p [.emptyVariable, .tooManyLocals, .tooManyUpvalues]) :
    Tr n0 S z hs p p (setVarCode n v) :=
  tr_seq (withSub_tr h) (setVarTarget_tr n hO hL)

theorem setGlobalVarCode_tr {n0 : Nat} {S : Spec} {z : Option Nat} {hs p} {n : String} {v : CM Unit}
    (h : ∀ z hs, Tr n0 S z hs (p ++ [0]) (p ++ [0]) v)
    (hO : Ops S p [op.setGlobalVar]) (hL : Locs S p [.emptyVariable]) :
    Tr n0 S z hs p p (setGlobalVarCode n v) :=
  tr_seq (withSub_tr h) <| tr_seq (pushInstr_tr hO) <|
  tr_ite (tr_bind (globalId_tr n) fun _ => emitU32_tr _) (tr_fail_bind' hL)

theorem ifCode_tr {n0 : Nat} {S : Spec} {z : Option Nat} {hs p} {skip : UInt8} {c b : CM Unit}
    (h1 : ∀ z hs, Tr n0 S z hs (p ++ [0]) (p ++ [0]) c)
    (h2 : ∀ z hs, Tr n0 S z hs (p ++ [1]) (p ++ [1]) b)
    (hO1 : Ops S (p ++ [1]) [skip]) : Tr n0 S z hs p p (ifCode skip c b) :=
  tr_seq (withSub_tr h1) <| tr_seq (pushSub_tr 1) <| tr_seq (encodeIfThen_tr h2 hO1) popSub_tr

theorem callCode_tr {n0 : Nat} {S : Spec} {z : Option Nat} {hs p} {n : String} {a : CM Unit}
    (h : ∀ z hs, Tr n0 S z hs p p a) (hO : Ops S p [op.functionPointer, op.callFunction])
    (hL : Locs S p [.superLimitReached, .invalidJump]) : Tr n0 S z hs p p (callCode n a) :=
  tr_seq (h _ _) <| tr_seq (pushInstr_tr (hO.one _)) <| tr_seq (encodeJump_tr n hL) (pushInstr_tr (hO.one _))

theorem callNativeCode_tr {n0 : Nat} {S : Spec} {z : Option Nat} {hs p} {n : String} {a : CM Unit}
    (h : ∀ z hs, Tr n0 S z hs p p a) (hO : Ops S p [op.callNative]) :
    Tr n0 S z hs p p (callNativeCode n a) :=
  tr_seq (h _ _) <| tr_seq (pushInstr_tr hO) (emitBytes_tr _)

theorem compileBegin_tr {n0 : Nat} {S : Spec} {z : Option Nat} {hs p} : Tr n0 S z hs p p compileBegin :=
  tr_modify_other (fun _ => rfl) (fun _ => rfl) (fun _ => rfl) (fun _ => rfl) (fun _ => rfl)
theorem compileEnd_tr {n0 : Nat} {S : Spec} {z : Option Nat} {hs p} : Tr n0 S z hs p p compileEnd :=
  tr_modify_other (fun _ => rfl) (fun _ => rfl) (fun _ => rfl) (fun _ => rfl) (fun _ => rfl)

def closureOps : List UInt8 :=
  [op.goto, op.scalarNil, op.ret, op.closure, op.copyLast, op.registerUpvalue]

theorem closureCode_tr {n0 : Nat} {S : Spec} {z : Option Nat} {hs p} {args : List String} {b : CM Unit}
    (h : ∀ z hs, Tr n0 S z hs p p b) (hO : Ops S p closureOps)
    (hL : Locs S p [.emptyVariable, .tooManyLocals]) : Tr n0 S z hs p p (closureCode args b) :=
  tr_seq (pushInstr_tr (hO.one _)) <| tr_get_bind fun _ => tr_hole_bind fun _ => tr_seq compileBegin_tr <|
  tr_get_bind fun _ => tr_seq (insertLabel_tr _ _) <| tr_seq scopeBegin_tr <|
  tr_seq (addLocals_tr hL _ _) <| tr_seq (h _ _) <| tr_seq scopeEnd_tr <|
  tr_seq (pushInstr_tr (hO.one _)) <| tr_seq (pushInstr_tr (hO.one _)) <| tr_get_bind fun _ =>
  tr_seq (patchI32_tr _ (List.mem_cons_self ..)) <| tr_seq (pushInstr_tr (hO.one _)) <|
  tr_seq (emitBytes_tr _) <| tr_seq (emitU32_tr _) <| tr_get_bind fun _ =>
  tr_seq (emitUpvalues_tr (hO.sub (by decide)) _ _) compileEnd_tr

def arrayOps : List UInt8 :=
  [op.initTable, op.setLocalVar, op.readLocalVar, op.scalarNil, op.appendTable]

theorem arrayCode_tr {n0 : Nat} {S : Spec} {z : Option Nat} {hs p} {items : Nat → CM Unit}
    (h : ∀ tv z hs, Tr n0 S z hs p p (items tv)) (hO : Ops S p arrayOps)
    (hL : Locs S p [.tooManyLocals]) : Tr n0 S z hs p p (arrayCode items) :=
  tr_seq (pushInstr_tr (hO.one _)) <| tr_bind (addLocalUnchecked_tr _ hL) fun tv =>
  tr_seq (writeLocalVar_tr _ (hO.one _)) <| tr_seq (h tv _ _) (readLocalVar_tr _ (hO.one _))

theorem unCode_tr {n0 : Nat} {S : Spec} {z : Option Nat} {hs p} {u : UnKind} {c : CM Unit}
    (h : ∀ z hs, Tr n0 S z hs (p ++ [0]) (p ++ [0]) c) (hO : Ops S p [unOp u]) :
    Tr n0 S z hs p p (unCode u c) :=
  tr_seq (withSub_tr h) (pushInstr_tr hO)

theorem dynamicCallCode_tr {n0 : Nat} {S : Spec} {z : Option Nat} {hs p} {a f : CM Unit}
    (h1 : ∀ z hs, Tr n0 S z hs p p a) (h2 : ∀ z hs, Tr n0 S z hs (p ++ [0]) (p ++ [0]) f)
    (hO : Ops S p [op.callFunction]) : Tr n0 S z hs p p (dynamicCallCode a f) :=
  tr_seq (h1 _ _) <| tr_seq (withSub_tr h2) (pushInstr_tr hO)

def ifElseChildOps : List UInt8 := [op.gotoIfFalse, op.goto]

theorem ifElseCode_tr {n0 : Nat} {S : Spec} {z : Option Nat} {hs p} {c t e : CM Unit}
    (h1 : ∀ z hs, Tr n0 S z hs (p ++ [0]) (p ++ [0]) c)
    (h2 : ∀ z hs, Tr n0 S z hs (p ++ [1]) (p ++ [1]) t)
    (h3 : ∀ z hs, Tr n0 S z hs (p ++ [2]) (p ++ [2]) e)
    (hO1 : Ops S (p ++ [1]) ifElseChildOps) : Tr n0 S z hs p p (ifElseCode c t e) := by
  rw [ifElseCode_flat]
  exact tr_seq (withSub_tr h1) <| tr_seq (pushSub_tr 1) <| tr_seq (pushInstr_tr (hO1.one _)) <|
    tr_get_bind fun _ => tr_hole_bind fun _ => tr_seq (h2 _ _) <| tr_seq (pushInstr_tr (hO1.one _)) <|
    tr_get_bind fun _ => tr_hole_bind fun _ => tr_get_bind fun _ =>
    tr_seq (patchI32_tr _ (List.mem_cons_of_mem _ (List.mem_cons_self ..))) <| tr_seq popSub_tr <|
    tr_seq (withSub_tr h3) <| tr_get_bind fun _ => patchI32_tr _ (List.mem_cons_self ..)

def binOwnOps : BinKind → List UInt8
  | .while | .ifTrue | .ifFalse => []
  | k => [binOp k]

def binChildOps : BinKind → List UInt8
  | .while => whileChildOps
  | .ifTrue => [op.gotoIfFalse]
  | .ifFalse => [op.gotoIfTrue]
  | _ => []

theorem binCode_tr {n0 : Nat} {S : Spec} {z : Option Nat} {hs p} {bk : BinKind} {a b : CM Unit}
    (h1 : ∀ z hs, Tr n0 S z hs (p ++ [0]) (p ++ [0]) a)
    (h2 : ∀ z hs, Tr n0 S z hs (p ++ [1]) (p ++ [1]) b)
    (hO : Ops S p (binOwnOps bk)) (hO1 : Ops S (p ++ [1]) (binChildOps bk)) :
    Tr n0 S z hs p p (binCode bk a b) := by
  unfold binCode
  split
  · exact whileCode_tr h1 h2 hO1
  · exact ifCode_tr h1 h2 hO1
  · exact ifCode_tr h1 h2 hO1
  · rename_i k hw hf ht
    have hk : binOwnOps bk = [binOp bk] := by cases bk <;> simp_all [binOwnOps]
    rw [hk] at hO
    exact tr_seq (withSub_tr h1) <| tr_seq (withSub_tr h2) (pushInstr_tr hO)

def triOwnOps : TriKind → List UInt8
  | .ifElse => []
  | .setProperty => [op.setProperty]

def triChildOps : TriKind → List UInt8
  | .ifElse => ifElseChildOps
  | .setProperty => []

theorem triCode_tr {n0 : Nat} {S : Spec} {z : Option Nat} {hs p} {tk : TriKind} {a b c : CM Unit}
    (h1 : ∀ z hs, Tr n0 S z hs (p ++ [0]) (p ++ [0]) a)
    (h2 : ∀ z hs, Tr n0 S z hs (p ++ [1]) (p ++ [1]) b)
    (h3 : ∀ z hs, Tr n0 S z hs (p ++ [2]) (p ++ [2]) c)
    (hO : Ops S p (triOwnOps tk)) (hO1 : Ops S (p ++ [1]) (triChildOps tk)) :
    Tr n0 S z hs p p (triCode tk a b c) := by
  unfold triCode
  split
  · exact ifElseCode_tr h1 h2 h3 hO1
  · exact tr_seq (withSub_tr h1) <| tr_seq (withSub_tr h2) <| tr_seq (withSub_tr h3) (pushInstr_tr hO)

/-! ## which opcodes a card labels -/

/-- a list that holds the opcodes the arm of `processCard` for `d` emits (through `pushInstr`) while the
position is the index of `d` itself (an upper bound) -/
def ownOps : Card → List UInt8
  | .bin k _ _ => binOwnOps k
  | .un k _ => [unOp k]
  | .tri k _ _ _ => triOwnOps k
  | .scalarNil => [op.scalarNil]
  | .createTable => [op.initTable]
  | .abort => [op.exit]
  | .scalarInt _ => [op.scalarInt]
  | .scalarFloat _ => [op.scalarFloat]
  | .stringLiteral _ => [op.stringLiteral]
  | .comment _ => []
  | .function _ => [op.functionPointer]
  | .nativeFunction _ => [op.nativeFunctionPointer]
  | .readVar _ => readVarOps
  | .setVar _ _ => setVarOps
  | .setGlobalVar _ _ => [op.setGlobalVar]
  | .callNative _ _ => [op.callNative]
  | .call _ _ => [op.functionPointer, op.callFunction]
  | .repeat _ _ _ => repeatOps
  | .forEach _ _ _ _ _ => forEachOps
  | .composite _ _ => []
  | .dynamicCall _ _ => [op.callFunction]
  | .array _ => arrayOps
  | .closure _ _ => closureOps

/-- the opcodes that the arm for `d` emits while the position is the index of `d`'s child `i`
(the conditional / backward jumps of `While`, `IfTrue`, `IfFalse`, `IfElse` are emitted after
`push_sub(1)`, i.e. they are labelled with the index of the *body* child) -/
def childOps : Card → Nat → List UInt8
  | .bin k _ _, 1 => binChildOps k
  | .tri k _ _ _, 1 => triChildOps k
  | _, _ => []

/-- opcode `o` may be labelled with the sub-card of `c` at path `suf`: it is one of the sub-card's
own opcodes, or one of those its parent emits under the child's index -/
def Attr (c : Card) (suf : List Nat) (o : UInt8) : Prop :=
  (∃ d, c.getPath suf = some d ∧ o ∈ ownOps d) ∨
  (∃ pre i par, suf = pre ++ [i] ∧ c.getPath pre = some par ∧ o ∈ childOps par i)

def cardSpec (idx : List Nat) (c : Card) : Spec where
  op l o := ∃ suf d, l = idx ++ suf ∧ c.getPath suf = some d ∧ Attr c suf o
  loc _ l := ∃ suf d, l = idx ++ suf ∧ c.getPath suf = some d

theorem cardSpec_ops (idx : List Nat) (c : Card) : Ops (cardSpec idx c) idx (ownOps c) :=
  ⟨fun o ho => ⟨[], c, by simp, rfl, .inl ⟨c, rfl, ho⟩⟩⟩

theorem cardSpec_locs (idx : List Nat) (c : Card) (K : List CErrKind) : Locs (cardSpec idx c) idx K :=
  ⟨fun _ _ => ⟨[], c, by simp, rfl⟩⟩

theorem getPath_cons_of_getChild {c a : Card} {i : Nat} (h : c.getChild i = some a) (suf : List Nat) :
    c.getPath (i :: suf) = a.getPath suf := by
  simp [Card.getPath, h]

theorem cardSpec_childOps {idx : List Nat} {c a : Card} {i : Nat} (h : c.getChild i = some a) :
    Ops (cardSpec idx c) (idx ++ [i]) (childOps c i) :=
  ⟨fun o ho => ⟨[i], a, rfl, by rw [getPath_cons_of_getChild h]; rfl,
    .inr ⟨[], i, c, rfl, rfl, ho⟩⟩⟩

theorem cardSpec_child {idx : List Nat} {c a : Card} {i : Nat} (h : c.getChild i = some a) :
    SubSpec (cardSpec (idx ++ [i]) a) (cardSpec idx c) := by
  constructor
  · rintro l o ⟨suf, d, rfl, hd, hat⟩
    refine ⟨i :: suf, d, by simp, by rw [getPath_cons_of_getChild h]; exact hd, ?_⟩
    rcases hat with ⟨d', h1, h2⟩ | ⟨pre, j, par, h1, h2, h3⟩
    · exact .inl ⟨d', by rw [getPath_cons_of_getChild h]; exact h1, h2⟩
    · exact .inr ⟨i :: pre, j, par, by simp [h1], by rw [getPath_cons_of_getChild h]; exact h2, h3⟩
  · rintro k l ⟨suf, d, rfl, hd⟩
    exact ⟨i :: suf, d, by simp, by rw [getPath_cons_of_getChild h]; exact hd⟩

theorem ih_child {c a : Card} {i : Nat} (hc : c.getChild i = some a)
    (ih : ∀ n0 idx z hs, Tr n0 (cardSpec idx a) z hs idx idx (processCard a)) {n0 : Nat} {idx : List Nat} :
    ∀ z hs, Tr n0 (cardSpec idx c) z hs (idx ++ [i]) (idx ++ [i]) (processCard a) :=
  fun z hs => (ih n0 (idx ++ [i]) z hs).mono_spec (cardSpec_child hc)

theorem subSpec_cons {S : Spec} {idx : List Nat} {i : Nat} {c : Card} {cs : List Card}
    (hsub : ∀ j a, (c :: cs)[j]? = some a → SubSpec (cardSpec (idx ++ [i + j]) a) S) :
    SubSpec (cardSpec (idx ++ [i]) c) S ∧ ∀ j a, cs[j]? = some a → SubSpec (cardSpec (idx ++ [i + 1 + j]) a) S :=
  ⟨by simpa using hsub 0 c (by simp), fun j a hj => by
    have := hsub (j + 1) a (by simpa using hj)
    rwa [show i + (j + 1) = i + 1 + j by omega] at this⟩

mutual
theorem processCard_tr : ∀ (c : Card) (n0 : Nat) (idx : List Nat) (z : Option Nat) (hs : List Nat),
    Tr n0 (cardSpec idx c) z hs idx idx (processCard c)
  | .composite _ cards, n0, idx, _, hs => tr_seq cardLabel_tr <| compileSubexprFrom_tr 0 cards n0 _ idx _ hs
      fun j a hj => cardSpec_child (by simpa [Card.getChild] using hj)
  | .forEach _ _ _ it body, _, _, _, _ => tr_seq cardLabel_tr <|
      forEachCode_tr (ih_child rfl (processCard_tr it)) (ih_child rfl (processCard_tr body))
        (cardSpec_ops _ _) (cardSpec_locs _ _ _)
  | .repeat _ n body, _, _, _, _ => tr_seq cardLabel_tr <|
      repeatCode_tr (ih_child rfl (processCard_tr n)) (ih_child rfl (processCard_tr body))
        (cardSpec_ops _ _) (cardSpec_locs _ _ _)
  | .readVar _, _, _, _, _ => tr_seq cardLabel_tr <| readVarCard_tr _ (cardSpec_ops _ _) (cardSpec_locs _ _ _)
  | .setVar _ value, _, _, _, _ => tr_seq cardLabel_tr <|
      setVarCode_tr (ih_child rfl (processCard_tr value)) (cardSpec_ops _ _) (cardSpec_locs _ _ _)
  | .setGlobalVar _ value, _, _, _, _ => tr_seq cardLabel_tr <|
      setGlobalVarCode_tr (ih_child rfl (processCard_tr value)) (cardSpec_ops _ _) (cardSpec_locs _ _ _)
  | .call _ args, n0, idx, _, _ => tr_seq cardLabel_tr <| callCode_tr
      (fun z hs => compileSubexprFrom_tr 0 args n0 _ idx z hs fun j a hj =>
        cardSpec_child (by simpa [Card.getChild] using hj))
      (cardSpec_ops _ _) (cardSpec_locs _ _ _)
  | .stringLiteral s, idx, _, _, _ => tr_seq cardLabel_tr <|
      tr_seq (pushInstr_tr (cardSpec_ops _ (.stringLiteral s))) (pushStr_tr s)
  | .callNative _ args, n0, idx, _, _ => tr_seq cardLabel_tr <| callNativeCode_tr
      (fun z hs => compileSubexprFrom_tr 0 args n0 _ idx z hs fun j a hj =>
        cardSpec_child (by simpa [Card.getChild] using hj))
      (cardSpec_ops _ _)
  | .scalarInt _, _, _, _, _ => tr_seq cardLabel_tr <| scalarIntCode_tr _ (cardSpec_ops _ _)
  | .scalarFloat b, _, _, _, _ => tr_seq cardLabel_tr <|
      tr_seq (pushInstr_tr (cardSpec_ops _ (.scalarFloat b))) (emitBytes_tr _)
  | .function name, _, _, _, _ => tr_seq cardLabel_tr <|
      tr_seq (pushInstr_tr (cardSpec_ops _ (.function name))) (encodeJump_tr name (cardSpec_locs _ _ _))
  | .closure _ cards, n0, idx, _, _ => tr_seq cardLabel_tr <| closureCode_tr
      (fun z hs => compileSubexprFrom_tr 0 cards n0 _ idx z hs fun j a hj =>
        cardSpec_child (by simpa [Card.getChild] using hj))
      (cardSpec_ops _ _) (cardSpec_locs _ _ _)
  | .nativeFunction name, _, _, _, _ => tr_seq cardLabel_tr <|
      tr_seq (pushInstr_tr (cardSpec_ops _ (.nativeFunction name))) (pushStr_tr name)
  | .array cards, n0, idx, _, _ => tr_seq cardLabel_tr <| arrayCode_tr
      (fun tv z hs => processArrayItems_tr tv 0 cards n0 _ idx z hs
        (fun j a hj => cardSpec_child (by simpa [Card.getChild] using hj))
        ((cardSpec_ops idx (.array cards)).sub (by simp [ownOps, arrayOps])))
      (cardSpec_ops _ _) (cardSpec_locs _ _ _)
  | .un _ c, _, _, _, _ => tr_seq cardLabel_tr <| unCode_tr (ih_child rfl (processCard_tr c)) (cardSpec_ops _ _)
  | .bin _ a b, _, _, _, _ => tr_seq cardLabel_tr <|
      binCode_tr (ih_child rfl (processCard_tr a)) (ih_child rfl (processCard_tr b))
        (cardSpec_ops _ _) (cardSpec_childOps (a := b) rfl)
  | .tri _ a b c, _, _, _, _ => tr_seq cardLabel_tr <|
      triCode_tr (ih_child rfl (processCard_tr a)) (ih_child rfl (processCard_tr b))
        (ih_child rfl (processCard_tr c)) (cardSpec_ops _ _) (cardSpec_childOps (a := b) rfl)
  | .dynamicCall args f, n0, idx, _, _ => tr_seq cardLabel_tr <| dynamicCallCode_tr
      (fun z hs => compileSubexprFrom_tr 1 args n0 _ idx z hs fun j a hj =>
        cardSpec_child (by rw [Nat.add_comm]; simpa [Card.getChild] using hj))
      (ih_child rfl (processCard_tr f)) (cardSpec_ops _ _)
  | .scalarNil, _, _, _, _ => tr_seq cardLabel_tr <| pushInstr_tr (cardSpec_ops _ .scalarNil)
  | .abort, _, _, _, _ => tr_seq cardLabel_tr <| pushInstr_tr (cardSpec_ops _ .abort)
  | .createTable, _, _, _, _ => tr_seq cardLabel_tr <| pushInstr_tr (cardSpec_ops _ .createTable)
  | .comment _, _, _, _, _ => tr_seq cardLabel_tr tr_pure
theorem processArrayItems_tr (tv : Nat) : ∀ (i : Nat) (cs : List Card) (n0 : Nat) (S : Spec) (idx : List Nat)
    (z : Option Nat) (hs : List Nat), (∀ j a, cs[j]? = some a → SubSpec (cardSpec (idx ++ [i + j]) a) S) →
    Ops S idx [op.scalarNil, op.readLocalVar, op.appendTable] → Tr n0 S z hs idx idx (processArrayItems tv i cs)
  | _, [], _, _, _, _, _, _, _ => tr_pure
  | i, c :: cs, n0, S, idx, _, hs, hsub, hO => tr_seq (pushInstr_tr (hO.one _)) <|
      tr_seq (withSub_tr fun z hs => (processCard_tr c n0 (idx ++ [i]) z hs).mono_spec (subSpec_cons hsub).1) <|
      tr_seq (readLocalVar_tr _ (hO.one _)) <| tr_seq (pushInstr_tr (hO.one _)) <|
      processArrayItems_tr tv (i + 1) cs n0 S idx none hs (subSpec_cons hsub).2 hO
theorem compileSubexprFrom_tr : ∀ (i : Nat) (cs : List Card) (n0 : Nat) (S : Spec) (idx : List Nat)
    (z : Option Nat) (hs : List Nat), (∀ j a, cs[j]? = some a → SubSpec (cardSpec (idx ++ [i + j]) a) S) →
    Tr n0 S z hs idx idx (compileSubexprFrom i cs)
  | _, [], _, _, _, _, _, _ => tr_pure
  | i, c :: cs, n0, S, idx, _, hs, hsub =>
      tr_seq (withSub_tr fun z hs => (processCard_tr c n0 (idx ++ [i]) z hs).mono_spec (subSpec_cons hsub).1) <|
      compileSubexprFrom_tr (i + 1) cs n0 S idx none hs (subSpec_cons hsub).2
end

/-! ## a whole function, the whole unit -/

/-- the opcodes of the implicit function epilogues (`ScalarNil; Return` at the end of a function,
`Exit` after `main` and at the very end of the program); `fnSpec` allows each at every `EpiloguePos` -/
def epilogueOps : List UInt8 := [op.scalarNil, op.ret, op.exit]

/-- the position after the loop over the top-level cards -/
def lastIdx (p : List Nat) : Nat → List Card → List Nat
  | _, [] => p
  | ic, _ :: cs => lastIdx [ic] (ic + 1) cs

theorem lastIdx_length {p : List Nat} (hp : p.length ≤ 1) : ∀ ic cs, (lastIdx p ic cs).length ≤ 1
  | _, [] => hp
  | ic, _ :: cs => lastIdx_length (p := [ic]) (by simp) (ic + 1) cs

theorem lastIdx_eq (p : List Nat) : ∀ (ic : Nat) (cs : List Card),
    lastIdx p ic cs = if cs = [] then p else [ic + cs.length - 1]
  | _, [] => rfl
  | ic, c :: cs => by
    rw [lastIdx, lastIdx_eq [ic] (ic + 1) cs]
    cases cs with
    | nil => simp
    | cons d ds => simp only [reduceCtorEq, if_false, List.length_cons]; congr 1; omega

/-- the index lists of the implicit epilogue instructions of a function with top-level cards
`cards`: one past the last card (the `Exit` after `main`), or the position after the loop over the
cards (index of the last card; `[]` when a function other than `main` has none) -/
def EpiloguePos (cards : List Card) (l : List Nat) : Prop :=
  l = [cards.length] ∨ l = lastIdx [] 0 cards

theorem EpiloguePos.length_le {cards : List Card} {l : List Nat} (h : EpiloguePos cards l) :
    l.length ≤ 1 := by
  rcases h with rfl | rfl
  · simp
  · exact lastIdx_length (by simp) _ _

/-- the positions at which the arguments of a function are bound: `[0]` for `main`, `[]` otherwise -/
def HeaderPos (l : List Nat) : Prop := l = [0] ∨ l = []

theorem HeaderPos.length_le {l : List Nat} (h : HeaderPos l) : l.length ≤ 1 := by
  rcases h with rfl | rfl <;> simp

/-- the specification of the code of one function with top-level cards `cards`:
an index list `i :: suf` designates the sub-card at `suf` of the `i`-th card; the epilogue
instructions (`EpiloguePos`) and the errors raised while binding the function's arguments
(`HeaderPos`) are labelled with an index list of length `≤ 1` that need not designate a card -/
def fnSpec (cards : List Card) : Spec where
  op l o := (∃ i suf c d, l = i :: suf ∧ cards[i]? = some c ∧ c.getPath suf = some d ∧ Attr c suf o) ∨
    (EpiloguePos cards l ∧ o ∈ epilogueOps)
  loc k l := (∃ i suf c d, l = i :: suf ∧ cards[i]? = some c ∧ c.getPath suf = some d) ∨
    (HeaderPos l ∧ k ∈ [CErrKind.emptyVariable, CErrKind.tooManyLocals])

theorem fnSpec_card {cards : List Card} {i : Nat} {c : Card} (h : cards[i]? = some c) :
    SubSpec (cardSpec [i] c) (fnSpec cards) := by
  constructor
  · rintro l o ⟨suf, d, rfl, hd, hat⟩
    exact .inl ⟨i, suf, c, d, rfl, h, hd, hat⟩
  · rintro k l ⟨suf, d, rfl, hd⟩
    exact .inl ⟨i, suf, c, d, rfl, h, hd⟩

theorem fnSpec_epilogue (cards : List Card) {p : List Nat} (hp : EpiloguePos cards p) :
    Ops (fnSpec cards) p epilogueOps := ⟨fun _ ho => .inr ⟨hp, ho⟩⟩

theorem fnSpec_header (cards : List Card) {p : List Nat} (hp : HeaderPos p) :
    Locs (fnSpec cards) p [.emptyVariable, .tooManyLocals] := ⟨fun _ hk => .inr ⟨hp, hk⟩⟩

theorem processFunctionCards_tr {n0 : Nat} {cards : List Card} {hs : List Nat} :
    ∀ (cs : List Card) (ic : Nat) (p : List Nat) (z : Option Nat), p.length ≤ 1 →
      (∀ j a, cs[j]? = some a → cards[ic + j]? = some a) →
      Tr n0 (fnSpec cards) z hs p (lastIdx p ic cs) (processFunctionCards ic cs)
  | [], ic, p, z, _, _ => by unfold processFunctionCards; exact tr_pure
  | c :: cs, ic, p, z, hp, hc => by
    unfold processFunctionCards
    have hd : p.dropLast = [] := by
      match p, hp with
      | [], _ => rfl
      | [_], _ => rfl
    refine tr_bind popSub_tr' fun _ => ?_
    rw [hd]
    refine tr_bind (pushSub_tr ic) fun _ => ?_
    refine tr_bind ((processCard_tr c n0 [ic] none hs).mono_spec
      (fnSpec_card (by simpa using hc 0 c rfl))) fun _ => ?_
    exact processFunctionCards_tr cs (ic + 1) [ic] none (by simp) (fun j a hj => by
      have := hc (j + 1) a (by simpa using hj)
      rwa [show ic + (j + 1) = ic + 1 + j by omega] at this)

/-- `processFunction` after its `modify` -/
def fnBody (f : FunctionIr) : CM Unit := do
  addLocals f.arguments.reverse
  processFunctionCards 0 f.cards

theorem fnBody_tr {n0 : Nat} {f : FunctionIr} {z : Option Nat} {hs p : List Nat} (hp : HeaderPos p) :
    Tr n0 (fnSpec f.cards) z hs p (lastIdx p 0 f.cards) (fnBody f) := by
  unfold fnBody
  exact tr_bind (addLocals_tr (fnSpec_header _ hp) _ _) fun _ =>
    processFunctionCards_tr f.cards 0 p none hp.length_le (fun j a hj => by simpa using hj)

def UnitOp (fs : List FunctionIr) (t : Trace) (o : UInt8) : Prop :=
  ∃ f ∈ fs, t.ns = f.ns ∧ t.function = f.functionIndex ∧ (fnSpec f.cards).op t.indices o

def UnitLoc (fs : List FunctionIr) (k : CErrKind) (t : Trace) : Prop :=
  ∃ f ∈ fs, t.ns = f.ns ∧ t.function = f.functionIndex ∧ (fnSpec f.cards).loc k t.indices

/-- unit-level triple: arbitrary state assertions, no holes, all trace entries count -/
structure Seg {α : Type} (G : Trace → UInt8 → Prop) (E : CErrKind → Trace → Prop)
    (P Q : CState → Prop) (m : CM α) : Prop where
  ok : ∀ s a s', m s = .ok (a, s') → Safe 0 [] s → P s → RelG 0 G s s' ∧ Q s'
  err : ∀ s k o, m s = .error (.err k o) → Safe 0 [] s → P s → ∃ t, o = some t ∧ E k t

theorem seg_bind {α β : Type} {G E} {P Q R : CState → Prop} {m : CM α} {f : α → CM β}
    (hm : Seg G E P Q m) (hf : ∀ a, Seg G E Q R (f a)) : Seg G E P R (m >>= f) := by
  constructor
  · intro s b s'' h hs hp
    obtain ⟨a, s', h1, h2⟩ := bind_ok.1 h
    obtain ⟨r1, q1⟩ := hm.ok s a s' h1 hs hp
    obtain ⟨r2, q2⟩ := (hf a).ok s' b s'' h2 (hs.step r1) q1
    exact ⟨RelG.trans (Nat.zero_le _) r1 r2, q2⟩
  · intro s k t h hs hp
    rcases bind_err.1 h with h | ⟨a, s', h1, h2⟩
    · exact hm.err s k t h hs hp
    · obtain ⟨r1, q1⟩ := hm.ok s a s' h1 hs hp
      exact (hf a).err s' k t h2 (hs.step r1) q1

theorem seg_pre {α : Type} {G E} {P P' Q : CState → Prop} {m : CM α} (hm : Seg G E P Q m)
    (h : ∀ s, P' s → P s) : Seg G E P' Q m :=
  ⟨fun s a s' hr hs hp => hm.ok s a s' hr hs (h s hp), fun s k t hr hs hp => hm.err s k t hr hs (h s hp)⟩

theorem seg_post {α : Type} {G E} {P Q Q' : CState → Prop} {m : CM α} (hm : Seg G E P Q m)
    (h : ∀ s, Q s → Q' s) : Seg G E P Q' m :=
  ⟨fun s a s' hr hs hp => ⟨(hm.ok s a s' hr hs hp).1, h _ (hm.ok s a s' hr hs hp).2⟩, hm.err⟩

theorem seg_exists {α ι : Type} {G E} {P : ι → CState → Prop} {Q : CState → Prop} {m : CM α}
    (hm : ∀ x, Seg G E (P x) Q m) : Seg G E (fun s => ∃ x, P x s) Q m :=
  ⟨fun s a s' hr hs ⟨x, hp⟩ => (hm x).ok s a s' hr hs hp,
   fun s k t hr hs ⟨x, hp⟩ => (hm x).err s k t hr hs hp⟩

theorem seg_pure {α : Type} {G E} {P : CState → Prop} {a : α} : Seg G E P P (pure a : CM α) := by
  constructor
  · intro s b s' hr _ hp
    simp only [pure_run, Except.ok.injEq, Prod.mk.injEq] at hr
    obtain ⟨_, rfl⟩ := hr
    exact ⟨RelG.refl _ _ _, hp⟩
  · intro s k t hr; simp at hr

theorem seg_modify {G E} {P Q : CState → Prop} {g : CState → CState}
    (hb : ∀ s, (g s).bytecode = s.bytecode) (ht : ∀ s, (g s).trace = s.trace)
    (h : ∀ s, P s → Q (g s)) : Seg G E P Q (modify g : CM Unit) := by
  constructor
  · intro s b s' hr _ hp
    simp only [modify_run, Except.ok.injEq, Prod.mk.injEq] at hr
    obtain ⟨_, rfl⟩ := hr
    exact ⟨RelG.of_eq (hb s) (ht s), h s hp⟩
  · intro s k t hr; simp at hr

theorem seg_get_bind {β : Type} {G E} {P Q : CState → Prop} {f : CState → CM β}
    (hf : ∀ st, Seg G E P Q (f st)) : Seg G E P Q (get >>= f) := by
  constructor
  · intro s b s'' h hs hp
    obtain ⟨a, s', h1, h2⟩ := bind_ok.1 h
    simp only [get_run, Except.ok.injEq, Prod.mk.injEq] at h1
    obtain ⟨rfl, rfl⟩ := h1
    exact (hf s).ok s b s'' h2 hs hp
  · intro s k t h hs hp
    rcases bind_err.1 h with h | ⟨a, s', h1, h2⟩
    · simp at h
    · simp only [get_run, Except.ok.injEq, Prod.mk.injEq] at h1
      obtain ⟨rfl, rfl⟩ := h1
      exact (hf s).err s k t h2 hs hp

def At (ns : List String) (fn : Nat) (p : List Nat) (s : CState) : Prop :=
  s.ns = ns ∧ s.curFunction = fn ∧ s.curIndices = p

def AtF (fn : Nat) (p : List Nat) (s : CState) : Prop := s.curFunction = fn ∧ s.curIndices = p

theorem Tr.seg {α : Type} {S : Spec} {p q : List Nat} {m : CM α} (h : Tr 0 S none [] p q m)
    {G : Trace → UInt8 → Prop} {E : CErrKind → Trace → Prop} {ns : List String} {fn : Nat}
    (hG : ∀ t o, t.ns = ns → t.function = fn → S.op t.indices o → G t o)
    (hE : ∀ k t, t.ns = ns → t.function = fn → S.loc k t.indices → E k t) :
    Seg G E (At ns fn p) (At ns fn q) m := by
  constructor
  · intro s a s' hr hs ⟨h1, h2, h3⟩
    obtain ⟨r, hq⟩ := h.ok s a s' hr ⟨h3, (fun _ hn => nomatch hn), hs⟩
    refine ⟨r.rel.mono fun t o ⟨x1, x2, x3⟩ => hG t o (x1.trans h1) (x2.trans h2) x3, ?_, ?_, hq⟩
    · exact r.ns.trans h1
    · exact r.fn.trans h2
  · intro s k t hr hs ⟨h1, h2, h3⟩
    obtain ⟨t', e, x1, x2, x3⟩ := h.err s k t hr ⟨h3, (fun _ hn => nomatch hn), hs⟩
    exact ⟨t', e, hE k t' (x1.trans h1) (x2.trans h2) x3⟩

def silentSpec : Spec := ⟨fun _ _ => False, fun _ _ => False⟩

theorem Tr.seg_silent {α : Type} {p q : List Nat} {m : CM α} (h : Tr 0 silentSpec none [] p q m)
    {G : Trace → UInt8 → Prop} {E : CErrKind → Trace → Prop} {fn : Nat} :
    Seg G E (AtF fn p) (AtF fn q) m := by
  constructor
  · intro s a s' hr hs ⟨h2, h3⟩
    obtain ⟨r, hq⟩ := h.ok s a s' hr ⟨h3, (fun _ hn => nomatch hn), hs⟩
    exact ⟨r.rel.mono fun t o ⟨_, _, x3⟩ => x3.elim, r.fn.trans h2, hq⟩
  · intro s k t hr hs ⟨h2, h3⟩
    obtain ⟨_, _, _, _, hf⟩ := h.err s k t hr ⟨h3, (fun _ hn => nomatch hn), hs⟩
    exact hf.elim

/-- where a located error of `compileUnit` may point: the dummy location of the initial state
(`EmptyProgram`, `DuplicateName` are raised before any function is entered), or into a function -/
def UnitErr (fs : List FunctionIr) (k : CErrKind) (t : Trace) : Prop :=
  (t = { ns := [], function := 0, indices := [] } ∧ (k = .emptyProgram ∨ k = .duplicateName)) ∨
  UnitLoc fs k t

theorem Tr.seg_fn {α : Type} {fs : List FunctionIr} {f : FunctionIr} (hf : f ∈ fs) {p q : List Nat}
    {m : CM α} (h : Tr 0 (fnSpec f.cards) none [] p q m) :
    Seg (UnitOp fs) (UnitErr fs) (At f.ns f.functionIndex p) (At f.ns f.functionIndex q) m :=
  h.seg (fun _ _ h1 h2 h3 => ⟨f, hf, h1, h2, h3⟩) (fun _ _ h1 h2 h3 => .inr ⟨f, hf, h1, h2, h3⟩)

theorem processFunction_seg {fs : List FunctionIr} {f : FunctionIr} (hf : f ∈ fs)
    {p : List Nat} (hp : HeaderPos p) :
    Seg (UnitOp fs) (UnitErr fs) (AtF f.functionIndex p)
      (At f.ns f.functionIndex (lastIdx p 0 f.cards)) (processFunction f) := by
  have : processFunction f = (do
      modify fun s => { s with ns := f.ns, imports := f.imports, fnHandle := f.handle }
      fnBody f) := rfl
  rw [this]
  refine seg_bind (Q := At f.ns f.functionIndex p)
    (seg_modify (fun _ => rfl) (fun _ => rfl) fun s ⟨h1, h2⟩ => ⟨rfl, h1, h2⟩) fun _ => ?_
  exact (fnBody_tr (n0 := 0) (z := none) (hs := []) hp).seg_fn hf

def PosOK (fs : List FunctionIr) (s : CState) : Prop :=
  ∃ x : FunctionIr × List Nat, (x.1 ∈ fs ∧ EpiloguePos x.1.cards x.2) ∧ At x.1.ns x.1.functionIndex x.2 s

theorem At.posOK {fs : List FunctionIr} {f : FunctionIr} {p : List Nat} {s : CState} (hf : f ∈ fs)
    (hp : EpiloguePos f.cards p) (h : At f.ns f.functionIndex p s) : PosOK fs s := ⟨(f, p), ⟨hf, hp⟩, h⟩

theorem epilogue_seg {fs : List FunctionIr} {f : FunctionIr} (hf : f ∈ fs)
    {p : List Nat} (hp : EpiloguePos f.cards p) {o : UInt8} (ho : o ∈ epilogueOps) :
    Seg (UnitOp fs) (UnitErr fs) (At f.ns f.functionIndex p) (At f.ns f.functionIndex p) (pushInstr o) :=
  (pushInstr_tr (n0 := 0) (z := none) (hs := []) (S := fnSpec f.cards)
      ((fnSpec_epilogue f.cards hp).sub (by simpa using ho))).seg_fn hf

theorem scopeEnd_seg {fs : List FunctionIr} {f : FunctionIr} (hf : f ∈ fs) {p : List Nat} :
    Seg (UnitOp fs) (UnitErr fs) (At f.ns f.functionIndex p) (At f.ns f.functionIndex p) scopeEnd :=
  (scopeEnd_tr (n0 := 0) (z := none) (hs := []) (S := fnSpec f.cards)).seg_fn hf

theorem compileFunction_seg {fs : List FunctionIr} {f : FunctionIr} (hf : f ∈ fs) {P : CState → Prop} :
    Seg (UnitOp fs) (UnitErr fs) P (PosOK fs) (compileFunction f) := by
  unfold compileFunction
  refine seg_bind (Q := AtF f.functionIndex [])
    (seg_modify (fun _ => rfl) (fun _ => rfl) fun s _ => ⟨rfl, rfl⟩) fun _ => ?_
  refine seg_get_bind fun st => ?_
  refine seg_bind (insertLabel_tr (n0 := 0) (z := none) (hs := []) _ _).seg_silent fun _ => ?_
  refine seg_bind (scopeBegin_tr (n0 := 0) (z := none) (hs := [])).seg_silent fun _ => ?_
  refine seg_bind (processFunction_seg hf (p := []) (.inr rfl)) fun _ => ?_
  have hl : EpiloguePos f.cards (lastIdx [] 0 f.cards) := .inr rfl
  refine seg_bind (scopeEnd_seg hf) fun _ => ?_
  refine seg_bind (epilogue_seg hf hl (by decide)) fun _ => ?_
  exact seg_post (epilogue_seg hf hl (by decide)) fun s h => h.posOK hf hl

theorem compileFunctions_seg {fs : List FunctionIr} :
    ∀ (l : List FunctionIr), (∀ f ∈ l, f ∈ fs) →
      Seg (UnitOp fs) (UnitErr fs) (PosOK fs) (PosOK fs) (compileFunctions l)
  | [], _ => by unfold compileFunctions; exact seg_pure
  | f :: l, h => by
    unfold compileFunctions
    exact seg_bind (compileFunction_seg (h f (List.mem_cons_self ..))) fun _ =>
      compileFunctions_seg l fun g hg => h g (List.mem_cons_of_mem _ hg)

/-- `addFunctions` only raises `DuplicateName`, at the dummy location of the initial state -/
def dupSpec : Spec := ⟨fun _ _ => False, fun k l => k = .duplicateName ∧ l = []⟩

theorem addFunction_tr {n0 : Nat} {z : Option Nat} {hs : List Nat} (f : FunctionIr) :
    Tr n0 dupSpec z hs [] [] (addFunction f) := by
  have hL : Locs dupSpec [] [.duplicateName] := ⟨fun k hk => ⟨by simpa using hk, rfl⟩⟩
  exact tr_get_bind fun _ => tr_ite
    (tr_modify_other (fun _ => rfl) (fun _ => rfl) (fun _ => rfl) (fun _ => rfl) (fun _ => rfl)) (tr_fail_bind' hL)

theorem addFunctions_tr {n0 : Nat} {hs : List Nat} : ∀ (l : List FunctionIr) (z : Option Nat),
    Tr n0 dupSpec z hs [] [] (addFunctions l)
  | [], _ => tr_pure
  | f :: l, _ => tr_seq (addFunction_tr f) (addFunctions_tr l none)

theorem addFunctions_seg {fs : List FunctionIr} (l : List FunctionIr) :
    Seg (UnitOp fs) (UnitErr fs) (At [] 0 []) (At [] 0 []) (addFunctions l) :=
  (addFunctions_tr (n0 := 0) (hs := []) l none).seg (fun _ _ _ _ h => h.elim)
    (fun k t h1 h2 h3 => .inl ⟨by
      obtain ⟨ns, fn, ix⟩ := t
      obtain ⟨_, h4⟩ := h3
      simp only at h1 h2 h4
      subst h1 h2 h4
      rfl, .inr h3.1⟩)

theorem getElem!_mem_of_ne {unit : Array FunctionIr} (h : unit.isEmpty = false) : unit[0]! ∈ unit.toList := by
  have hs : 0 < unit.size := by
    cases unit with
    | mk l => cases l <;> simp_all
  rw [getElem!_pos unit 0 hs]
  exact Array.getElem_mem_toList ..

/-- the whole of `Compiler::compile` -/
theorem compileUnit_seg (unit : Array FunctionIr) :
    Seg (UnitOp unit.toList) (UnitErr unit.toList) (At [] 0 []) (fun _ => True) (compileUnit unit) := by
  unfold compileUnit
  by_cases hemp : unit.isEmpty = true
  · -- `EmptyProgram`
    simp only [hemp, if_true]
    constructor
    · intro s a s' hr
      obtain ⟨_, _, h1, _⟩ := bind_ok.1 hr
      simp at h1
    · intro s k t hr _ ⟨h1, h2, h3⟩
      rcases bind_err.1 hr with h | ⟨_, _, h, _⟩
      · simp only [fail_run, Except.error.injEq, CErr.err.injEq] at h
        obtain ⟨rfl, rfl⟩ := h
        exact ⟨_, rfl, .inl ⟨by rw [h1, h2, h3], .inl rfl⟩⟩
      · simp at h
  · have hne : unit.isEmpty = false := by simpa using hemp
    have hmain := getElem!_mem_of_ne hne
    simp only [hne, Bool.false_eq_true, if_false]
    refine seg_bind (addFunctions_seg _) fun _ => ?_
    refine seg_bind (Q := AtF unit[0]!.functionIndex [0])
      (seg_modify (fun _ => rfl) (fun _ => rfl) fun s _ => ⟨rfl, rfl⟩) fun _ => ?_
    refine seg_bind (scopeBegin_tr (n0 := 0) (z := none) (hs := [])).seg_silent fun _ => ?_
    refine seg_bind (processFunction_seg hmain (p := [0]) (.inl rfl)) fun _ => ?_
    refine seg_bind (Q := At unit[0]!.ns unit[0]!.functionIndex [unit[0]!.cards.length])
      (seg_modify (fun _ => rfl) (fun _ => rfl) fun s ⟨h1, _, _⟩ => ⟨h1, rfl, rfl⟩) fun _ => ?_
    refine seg_bind (scopeEnd_seg hmain) fun _ => ?_
    refine seg_bind (Q := PosOK unit.toList) ?_ fun _ => ?_
    · -- the implicit `Exit` after `main`, labelled with the index one past the last card
      have hO : Ops (fnSpec unit[0]!.cards) [unit[0]!.cards.length] [op.exit] :=
        (fnSpec_epilogue _ (.inl rfl)).sub (by decide)
      have : Tr 0 (fnSpec unit[0]!.cards) none [] [unit[0]!.cards.length] [unit[0]!.cards.length]
          (processCard .abort) := tr_seq cardLabel_tr (pushInstr_tr hO)
      exact seg_post (this.seg_fn hmain) fun s h => h.posOK hmain (.inl rfl)
    refine seg_bind (compileFunctions_seg _ fun f hf => List.mem_of_mem_drop hf) fun _ => ?_
    refine seg_bind (Q := PosOK unit.toList)
      (seg_modify (fun _ => rfl) (fun _ => rfl) fun s ⟨x, hx, h1, h2, h3⟩ => ⟨x, hx, h1, h2, h3⟩) fun _ => ?_
    refine seg_exists (Q := fun _ => True) fun x => ?_
    by_cases hx : x.1 ∈ unit.toList ∧ EpiloguePos x.1.cards x.2
    · exact seg_post (seg_pre (epilogue_seg hx.1 hx.2 (o := op.exit) (by decide)) fun s h => h.2)
        fun _ _ => trivial
    · exact ⟨fun s a s' _ _ h => absurd h.1 hx, fun s k t _ _ h => absurd h.1 hx⟩

end Cao.Compiler

/-! ## the flattened function stream and the source module -/

namespace Cao

/-- follow the submodule names `ns` from `m` (the first submodule with that name, as
`ensureInvariants` guarantees that sibling names are unique) -/
def Module.descend : Module → List String → Option Module
  | m, [] => some m
  | m, n :: ns =>
    match m.submodules.find? (fun p => p.1 == n) with
    | none => none
    | some p => p.2.descend ns

end Cao

namespace Cao.Compiler
open Cao

/-- `f` is the flattened form of a function of a module reachable from `m`; `pre` is the namespace
of `m` itself -/
def FnIn (m : Module) (pre : List String) (f : FunctionIr) : Prop :=
  ∃ path sub, f.ns = pre ++ path ∧ m.descend path = some sub ∧
    ∃ name fn, sub.functions[f.functionIndex]? = some (name, fn) ∧ fn.cards = f.cards

theorem mem_fnEntries {ns : List String} {imports : List (String × String)} {f : FunctionIr} :
    ∀ (fns : List (String × Func)) (i : Nat), f ∈ fnEntries ns imports fns i →
      f.ns = ns ∧ ∃ j name fn, fns[j]? = some (name, fn) ∧ f.functionIndex = i + j ∧ fn.cards = f.cards
  | [], _, h => nomatch h
  | (name, fn) :: rest, i, h => by
    rcases List.mem_cons.1 h with rfl | h
    · exact ⟨rfl, 0, name, fn, rfl, rfl, rfl⟩
    · obtain ⟨x1, j, n', fn', x2, x3, x4⟩ := mem_fnEntries rest (i + 1) h
      exact ⟨x1, j + 1, n', fn', by simpa using x2, by omega, x4⟩

theorem find?_of_mem_nodup : ∀ (l : List (String × Module)) (n : String) (s : Module),
    dupNames (l.map (·.1)) = false → (n, s) ∈ l → l.find? (fun p => p.1 == n) = some (n, s)
  | [], _, _, _, h => nomatch h
  | x :: r, n, s, hd, h => by
    simp only [List.map_cons, dupNames, Bool.or_eq_false_iff] at hd
    rcases List.mem_cons.1 h with rfl | h
    · simp
    · have hne : (x.1 == n) = false := by
        apply beq_false_of_ne
        rintro rfl
        have : x.1 ∈ r.map (·.1) := List.mem_map.2 ⟨_, h, rfl⟩
        simp [this] at hd
      rw [List.find?_cons, hne]
      exact find?_of_mem_nodup r n s hd.2 h

theorem entries_fnIn_all :
    (∀ m ns, anyMod (fun _ m => dupMods m) m ns = false → ∀ f ∈ entries m ns, FnIn m ns f) ∧
    (∀ subs ns, anyModSubs (fun _ m => dupMods m) subs ns = false →
      ∀ f ∈ entriesSubs subs ns, ∃ name s, (name, s) ∈ subs ∧ FnIn s (ns ++ [name]) f) := by
  apply Module.tree_induct
  · intro subs fns imps ih ns hd f hf
    simp only [anyMod, Bool.or_eq_false_iff] at hd
    rcases List.mem_append.1 hf with hf | hf
    · obtain ⟨x1, j, name, fn, x2, x3, x4⟩ := mem_fnEntries fns 0 hf
      exact ⟨[], _, by simp [x1], rfl, name, fn, by simpa [Module.functions, x3] using x2, x4⟩
    · obtain ⟨name, s, hmem, path, sub, y1, y2, y3⟩ := ih ns hd.2 f hf
      refine ⟨name :: path, sub, by simp [y1], ?_, y3⟩
      simp only [Module.descend, Module.submodules, find?_of_mem_nodup subs name s hd.1 hmem]
      exact y2
  · intro ns _ f hf; nomatch hf
  · intro name s rest ih1 ih2 ns hd f hf
    simp only [anyModSubs, Bool.or_eq_false_iff] at hd
    rcases List.mem_append.1 hf with hf | hf
    · exact ⟨name, s, List.mem_cons_self .., ih1 _ hd.1 f hf⟩
    · obtain ⟨n', s', hm, hfn⟩ := ih2 ns hd.2 f hf
      exact ⟨n', s', List.mem_cons_of_mem _ hm, hfn⟩

example (m std : Module) : withStd m std = Module.mk (m.submodules ++ [("std", std)]) m.functions m.imports := rfl

/-- `f` is the flattened form of function number `f.functionIndex` of the module at path `f.ns` -/
def FnAt (m : Module) (f : FunctionIr) : Prop :=
  ∃ sub, m.descend f.ns = some sub ∧
    ∃ name fn, sub.functions[f.functionIndex]? = some (name, fn) ∧ fn.cards = f.cards

/-- every function of the stream produced by `intoIrStream` is a function of the source module
(with `std`); numbering the walk and moving `main` to the front change neither where an entry comes from nor
its cards -/
theorem intoIrStream_spec {m std : Module} {limit : Nat} {unit : Array FunctionIr}
    (h : intoIrStream m std limit = .ok unit) : ∀ f ∈ unit.toList, FnAt (withStd m std) f := by
  obtain ⟨hdup, _, mainIdx, hmain, rfl⟩ := (intoIrStream_ok_iff m std limit unit).1 h
  intro f hf
  have hf := (irStream_perm (mainIdx_lt hmain)).mem_iff.1 hf
  have hm := List.mem_map_of_mem (f := fun f : FunctionIr => (f.ns, f.functionIndex, f.cards)) hf
  rw [withHandles_map _ fun _ _ => rfl] at hm
  obtain ⟨g, hg, e⟩ := List.mem_map.1 hm
  simp only [Prod.mk.injEq] at e
  obtain ⟨path, sub, x1, x2, x3⟩ := entries_fnIn_all.1 _ [] hdup g hg
  rw [e.1, List.nil_append] at x1
  rw [e.2.1, e.2.2] at x3
  exact ⟨sub, by rw [x1]; exact x2, x3⟩

end Cao.Compiler
