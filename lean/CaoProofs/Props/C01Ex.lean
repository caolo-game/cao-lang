import CaoProofs.Props.C01E
import CaoProofs.Lemmas.SplitOn
/-!
# C01: concrete programs of the fragments

For each fragment a program to which its theorem applies, with the outcome of both sides: checked by the
kernel for F0 and F1 (`exF0_correct`, `exF1_correct`), shown by evaluation (`showBoth`) where variables are
read or assigned. `findingCondLocal`, `exWhileScope` and `exDeep` are programs outside the theorems: a
disagreement of the two sides, a scoped local read after its loop, a call depth beyond the capacity
hypotheses.
-/
namespace Cao.C01
open Cao Cao.Vm Cao.Sim Cao.Compiler

/-! ## F0 and F1: programs without variables, checked by the kernel -/

/-- the empty standard library used in the examples (`Gen.stdlib` is large) -/
def stdE : Module := Module.mk [] [] []

/-- F0: `g0 = 1 + 2; g1 = (3 < 2.5) xor !nil` -/
def exF0 : Module := Module.mk [] [("main", { arguments := [], cards := [
  .setGlobalVar "g0" (.bin .add (.scalarInt 1) (.scalarInt 2)),
  .setGlobalVar "g1" (.bin .xor (.bin .less (.scalarInt 3) (.scalarFloat 0x4004000000000000)) (.un .not .scalarNil))] })] []

/-- what a compiled example must satisfy for the theorems to apply with the default VM (the size bounds),
    and what the VM then computes: no error and the given globals -/
def exampleOk (m : Module) (budget : Nat) (vmGlobals : List Val) : Bool :=
  match compile m stdE with
  | .ok p =>
    decide (p.bytecode.size < 4294967296) && decide (p.varIds.length < 4294967296) &&
    decide (p.bytecode.size < budget) &&
    decide ((Vm.run (Prog.ofProgram p) budget (VmState.fresh {})).1.globals = vmGlobals) &&
    (Vm.run (Prog.ofProgram p) budget (VmState.fresh {})).2.isNone
  | .error _ => false

theorem exF0_inF0 : InF0 exF0 = true := by decide +kernel
theorem exF0_names : handlesDistinct (snamess (mainCards exF0)) = true := by decide +kernel
theorem exF0_sem : (Sem.run exF0 stdE 10).result = "ok" ∧
    (Sem.run exF0 stdE 10).globals = [("g0", .int 3), ("g1", .int 1)] := by decide +kernel
theorem exF0_vm : exampleOk exF0 1000 [.int 3, .int 1] = true := by decide +kernel

/-- all hypotheses of `compile_correct_F0` hold for `exF0` with the default VM configuration -/
theorem exF0_correct : ∃ p, compile exF0 stdE = .ok p ∧
    Agree p ["g0", "g1"] (Vm.run (Prog.ofProgram p) 1000 (VmState.fresh {})) (Sem.run exF0 stdE 10) := by
  have h := exF0_vm
  unfold exampleOk at h
  rcases hc : compile exF0 stdE with _ | p
  · rw [hc] at h; cases h
  · rw [hc] at h
    simp only [Bool.and_eq_true, decide_eq_true_eq] at h
    obtain ⟨⟨⟨⟨h1, h2⟩, h3⟩, _⟩, _⟩ := h
    exact ⟨p, rfl, compile_correct_F0 exF0 stdE Gen.recursionLimit 10 1000 {} p exF0_inF0 exF0_names hc h1 h2 h3
      (by decide +kernel) (by decide +kernel) exF0_sem.1⟩

/-- F1 (jumps in both directions, no variable reads):
    `if 1 < 2 { g0 = 10 } else { g0 = 20 }; iftrue nil { g1 = 1 }; while 0.0 { g1 = 2 }; g2 = 5` -/
def exF1 : Module := Module.mk [] [("main", { arguments := [], cards := [
  .tri .ifElse (.bin .less (.scalarInt 1) (.scalarInt 2))
    (.setGlobalVar "g0" (.scalarInt 10)) (.setGlobalVar "g0" (.scalarInt 20)),
  .bin .ifTrue .scalarNil (.setGlobalVar "g1" (.scalarInt 1)),
  .bin .while (.scalarFloat 0) (.composite "block" [.setGlobalVar "g1" (.scalarInt 2)]),
  .setGlobalVar "g2" (.scalarInt 5)] })] []

theorem exF1_inF1 : InF1 exF1 = true := by decide +kernel
theorem exF1_names : handlesDistinct (snamess (mainCards exF1)) = true := by decide +kernel
theorem exF1_sem : (Sem.run exF1 stdE 10).result = "ok" ∧
    (Sem.run exF1 stdE 10).globals = [("g0", .int 10), ("g2", .int 5)] := by decide +kernel
theorem exF1_vm : exampleOk exF1 1000 [.int 10, .nil, .int 5] = true := by decide +kernel

/-- all hypotheses of `compile_correct_F1` hold for `exF1` with the default VM configuration -/
theorem exF1_correct : ∃ p, compile exF1 stdE = .ok p ∧ ∃ budget, ∀ maxInstr, budget ≤ maxInstr →
    Agree p ["g0", "g0", "g1", "g1", "g2"] (Vm.run (Prog.ofProgram p) maxInstr (VmState.fresh {}))
      (Sem.run exF1 stdE 10) := by
  have h := exF1_vm
  unfold exampleOk at h
  rcases hc : compile exF1 stdE with _ | p
  · rw [hc] at h; cases h
  · rw [hc] at h
    simp only [Bool.and_eq_true, decide_eq_true_eq] at h
    obtain ⟨⟨⟨⟨h1, h2⟩, h3⟩, _⟩, _⟩ := h
    exact ⟨p, rfl, compile_correct_F1 exF1 stdE Gen.recursionLimit 10 {} p exF1_inF1 exF1_names hc h1 h2
      (by decide +kernel) (by decide +kernel) exF1_sem.1⟩

/-! ## a disagreement between the reference semantics and compiler + VM (finding) -/

/-- `iftrue nil { x = 1 }; y = 2; out = y` — the branch is not taken, so the local `x` never gets
    its stack slot, but the compiler has numbered it: `y` is compiled as local 1 and
    `SetLocalVar 1` on a stack of height 0 fails. -/
def findingCondLocal : Module := Module.mk [] [("main", { arguments := [], cards := [
  .bin .ifTrue .scalarNil (.setVar "x" (.scalarInt 1)),
  .setVar "y" (.scalarInt 2),
  .setGlobalVar "out" (.readVar "y")] })] []

/-- both sides of a program, as the drivers print them -/
def showBoth (m : Module) : String :=
  let o := Sem.run m stdE 1000
  let semS := o.result ++ " " ++ toString (o.globals.map (fun p => (p.1, p.2.toTok)))
  match compile m stdE with
  | .ok p =>
    let (s, e) := Vm.run (Prog.ofProgram p) 10000 (VmState.fresh {})
    "SEM: " ++ semS ++ " | VM: " ++ vmResult e ++ " " ++ toString (s.globals.map Val.toTok)
  | .error _ => "SEM: " ++ semS ++ " | compile error"

/- (`String.splitOn`, used by `SetVar`/`ReadVar` on both sides, is defined by well-founded recursion and
   does not reduce in the kernel, so this is an evaluation, not a `decide` proof)
   expected: "SEM: ok [(out, i2)] | VM: err:VarNotFound []" -/
#eval showBoth findingCondLocal

/-! ### a program that reads variables and loops

Again because of `String.splitOn`, membership in the fragment is proved with `simp` and the equations
`simpleName_i`, `simpleName_a` instead of `decide`, and the two sides are shown by evaluation. -/

theorem splitOn_i : ("i" : String).splitOn "." = ["i"] := by rw [splitOn_eq]; decide +kernel

theorem simpleName_i : simpleName "i" = true := by
  unfold simpleName
  rw [splitOn_i]
  decide

/-- a real loop: `i = 0; while i < 3 { i = i + 1 }` -/
def exLoop : Module := Module.mk [] [("main", { arguments := [], cards := [
  .setGlobalVar "i" (.scalarInt 0),
  .bin .while (.bin .less (.readVar "i") (.scalarInt 3))
    (.setGlobalVar "i" (.bin .add (.readVar "i") (.scalarInt 1)))] })] []

theorem exLoop_inF1 : InF1 exLoop = true := by
  have hm : mainFn exLoop = some { arguments := [], cards := [
      .setGlobalVar "i" (.scalarInt 0),
      .bin .while (.bin .less (.readVar "i") (.scalarInt 3))
        (.setGlobalVar "i" (.bin .add (.readVar "i") (.scalarInt 1)))] } := by rfl
  unfold InF1
  rw [hm]
  simp [isStmts, isStmt, isExpr, isValOp, simpleName_i]

/- expected: "SEM: ok [(i, i3)] | VM: ok [i3]" -/
#eval showBoth exLoop

/-! ### an example with locals -/

theorem splitOn_a : ("a" : String).splitOn "." = ["a"] := by rw [splitOn_eq]; decide +kernel

theorem simpleName_a : simpleName "a" = true := by
  unfold simpleName; rw [splitOn_a]; decide

/-- `a = 0; i = 0; while i < 4 { a = a + i; i = i + 1 }; sum = a` with locals `a`, `i` -/
def exLocals : Module := Module.mk [] [("main", { arguments := [], cards := [
  .setVar "a" (.scalarInt 0),
  .setVar "i" (.scalarInt 0),
  .bin .while (.bin .less (.readVar "i") (.scalarInt 4)) (.composite "b" [
    .setVar "a" (.bin .add (.readVar "a") (.readVar "i")),
    .setVar "i" (.bin .add (.readVar "i") (.scalarInt 1))]),
  .setGlobalVar "sum" (.readVar "a")] })] []

theorem exLocals_inF2 : InF2 exLocals = true := by
  have hm : mainFn exLocals = some { arguments := [], cards := [
      .setVar "a" (.scalarInt 0),
      .setVar "i" (.scalarInt 0),
      .bin .while (.bin .less (.readVar "i") (.scalarInt 4)) (.composite "b" [
        .setVar "a" (.bin .add (.readVar "a") (.readVar "i")),
        .setVar "i" (.bin .add (.readVar "i") (.scalarInt 1))]),
      .setGlobalVar "sum" (.readVar "a")] } := by rfl
  have l1 : lidx [] "a" = none := by decide
  have l2 : lidx [("a", 1)] "i" = none := by decide
  have l3 : lidx [("a", 1), ("i", 1)] "a" = some 0 := by decide
  have l4 : lidx [("a", 1), ("i", 1)] "i" = some 1 := by decide
  unfold InF2
  rw [hm]
  simp [isTops, declOf, isStmtL, isStmtsL, isExpr, isValOp, simpleName_a, simpleName_i, l1, l2, l3, l4]

/- expected: "SEM: ok [(sum, i6)] | VM: ok [i6]" -/
#eval showBoth exLocals

/-! ### `While` bodies are scoped on both sides

The compiler (as repaired in /repo) pops the locals declared in a `While` body at the end of every
iteration, and `Sem.exec` runs the body in a fresh scope that is dropped after each iteration: a local
declared in the body is not visible after the loop on either side (the read of `x` below is a read of a
global that was never written). The program is outside F2 (it declares a local in a loop body; that is
F3) and is only evaluated here. -/

/-- `i = 0; while i < 1 { x = 5; i = i + 1 }; out = x` -/
def exWhileScope : Module := Module.mk [] [("main", { arguments := [], cards := [
  .setGlobalVar "i" (.scalarInt 0),
  .bin .while (.bin .less (.readVar "i") (.scalarInt 1)) (.composite "b" [
    .setVar "x" (.scalarInt 5),
    .setGlobalVar "i" (.bin .add (.readVar "i") (.scalarInt 1))]),
  .setGlobalVar "out" (.readVar "x")] })] []

/- expected: "SEM: unspecified:read of a global that was never written [(i, i1)] | VM: err:VarNotFound [i1]" -/
#eval showBoth exWhileScope

/-! ### an example: a local declared in the loop body (shown by evaluation) -/

/-- `i = 0; a = 0; while i < 3 { t = i * 2; a = a + t; i = i + 1 }; out = a`
    (`i`, `a` function-level locals, `t` a local of the loop body) -/
def exScoped : Module := Module.mk [] [("main", { arguments := [], cards := [
  .setVar "i" (.scalarInt 0),
  .setVar "a" (.scalarInt 0),
  .bin .while (.bin .less (.readVar "i") (.scalarInt 3)) (.composite "b" [
    .setVar "t" (.bin .mul (.readVar "i") (.scalarInt 2)),
    .setVar "a" (.bin .add (.readVar "a") (.readVar "t")),
    .setVar "i" (.bin .add (.readVar "i") (.scalarInt 1))]),
  .setGlobalVar "out" (.readVar "a")] })] []

theorem splitOn_t : ("t" : String).splitOn "." = ["t"] := by rw [splitOn_eq]; decide +kernel

theorem simpleName_t : simpleName "t" = true := by
  unfold simpleName; rw [splitOn_t]; decide

theorem exScoped_inF3 : InF3 exScoped = true := by
  have hm : mainFn exScoped = some { arguments := [], cards := [
      .setVar "i" (.scalarInt 0),
      .setVar "a" (.scalarInt 0),
      .bin .while (.bin .less (.readVar "i") (.scalarInt 3)) (.composite "b" [
        .setVar "t" (.bin .mul (.readVar "i") (.scalarInt 2)),
        .setVar "a" (.bin .add (.readVar "a") (.readVar "t")),
        .setVar "i" (.bin .add (.readVar "i") (.scalarInt 1))]),
      .setGlobalVar "out" (.readVar "a")] } := by rfl
  have l1 : lidx [] "i" = none := by decide
  have l2 : lidx [("i", 1)] "a" = none := by decide
  have l3 : lidx [("i", 1), ("a", 1)] "t" = none := by decide
  have l4 : lidx [("i", 1), ("a", 1), ("t", 2)] "a" = some 1 := by decide
  have l5 : lidx [("i", 1), ("a", 1), ("t", 2)] "i" = some 0 := by decide
  unfold InF3
  rw [hm]
  simp [isBlock, declOf, isStmtS, isVal, isCall, isExpr, isValOp, simpleName_a, simpleName_i, simpleName_t,
    l1, l2, l3, l4, l5]

/- expected: "SEM: ok [(out, i6)] | VM: ok [i6]" -/
#eval showBoth exScoped

/-! ### an example: `Repeat` with a loop variable that the body assigns, and without a loop variable -/

/-- `a = 0; repeat i 3 { a = a + i; i = 10 }; repeat 2 { a = a + 100 }; out = a`: the assignment to
    the loop variable `i` in the body does not change the number of iterations (`out = 0+1+2+200`) -/
def exRepeat : Module := Module.mk [] [("main", { arguments := [], cards := [
  .setVar "a" (.scalarInt 0),
  .repeat (some "i") (.scalarInt 3) (.composite "b" [
    .setVar "a" (.bin .add (.readVar "a") (.readVar "i")),
    .setVar "i" (.scalarInt 10)]),
  .repeat none (.scalarInt 2) (.composite "b" [
    .setVar "a" (.bin .add (.readVar "a") (.scalarInt 100))]),
  .setGlobalVar "out" (.readVar "a")] })] []

theorem exRepeat_inF4 : InF4 exRepeat = true := by
  have hm : mainFn exRepeat = some { arguments := [], cards := [
      .setVar "a" (.scalarInt 0),
      .repeat (some "i") (.scalarInt 3) (.composite "b" [
        .setVar "a" (.bin .add (.readVar "a") (.readVar "i")),
        .setVar "i" (.scalarInt 10)]),
      .repeat none (.scalarInt 2) (.composite "b" [
        .setVar "a" (.bin .add (.readVar "a") (.scalarInt 100))]),
      .setGlobalVar "out" (.readVar "a")] } := by rfl
  have l1 : lidx [] "a" = none := by decide
  have l2 : lidx [("a", 1), ("", 2), ("", 2), ("i", 3)] "a" = some 0 := by decide
  have l3 : lidx [("a", 1), ("", 2), ("", 2), ("i", 3)] "i" = some 3 := by decide
  have l4 : lidx [("a", 1), ("", 2), ("", 2)] "a" = some 0 := by decide
  unfold InF4
  rw [hm]
  simp [isBlock, declOf, isStmtS, isVal, isCall, isExpr, isValOp, simpleName_a, simpleName_i, optName, repCtx, F4,
    l1, l2, l3, l4]

/- expected: "SEM: ok [(out, i203)] | VM: ok [i203]" -/
#eval showBoth exRepeat

/-! ### an example: parameters, recursion, `Return` inside `Repeat` and `If`

  ```
  fn add1(a)  { return a + 1 }
  fn fact(i)  { if i < 1 { return 1 }; t = fact(i - 1); return t * i }
  fn find(a)  { repeat i a { if i == 3 { return i } }; return 99 }
  fn sub(a,i) { return a - i }
  main        { a = add1(1); out = a; out2 = fact(4); out3 = find(10); out4 = sub(5, 3) }
  ```
  `sub(5, 3)` is `-2` on both sides: the first supplied argument is bound to the LAST declared parameter. -/

def exAdd1 : Func := { arguments := ["a"], cards := [.un .ret (.bin .add (.readVar "a") (.scalarInt 1))] }
def exFact : Func := { arguments := ["i"], cards := [
    .bin .ifTrue (.bin .less (.readVar "i") (.scalarInt 1)) (.un .ret (.scalarInt 1)),
    .setVar "t" (.call "fact" [.bin .sub (.readVar "i") (.scalarInt 1)]),
    .un .ret (.bin .mul (.readVar "t") (.readVar "i"))] }
def exFind : Func := { arguments := ["a"], cards := [
    .repeat (some "i") (.readVar "a") (.composite "b" [
      .bin .ifTrue (.bin .equals (.readVar "i") (.scalarInt 3)) (.un .ret (.readVar "i"))]),
    .un .ret (.scalarInt 99)] }
def exSub : Func := { arguments := ["a", "i"], cards := [.un .ret (.bin .sub (.readVar "a") (.readVar "i"))] }
def exMain : Func := { arguments := [], cards := [
    .setVar "a" (.call "add1" [.scalarInt 1]),
    .setGlobalVar "out" (.readVar "a"),
    .setGlobalVar "out2" (.call "fact" [.scalarInt 4]),
    .setGlobalVar "out3" (.call "find" [.scalarInt 10]),
    .setGlobalVar "out4" (.call "sub" [.scalarInt 5, .scalarInt 3])] }
def exCalls : Module := Module.mk [] [("main", exMain), ("add1", exAdd1), ("fact", exFact), ("find", exFind), ("sub", exSub)] []
def exFt : Feat := { rep := true, ret := true, fns := [("add1", exAdd1), ("fact", exFact), ("find", exFind), ("sub", exSub)] }
theorem exFt_eq : ft5 exCalls = exFt := by rfl
theorem exL1 : exFt.lookup "add1" = some exAdd1 := by rfl
theorem exL2 : exFt.lookup "fact" = some exFact := by rfl
theorem exL3 : exFt.lookup "find" = some exFind := by rfl
theorem exL4 : exFt.lookup "sub" = some exSub := by rfl
theorem exRet : exFt.ret = true := rfl
theorem exRep : exFt.rep = true := rfl
theorem exLi1 : lidx [("i", 1)] "t" = none := by decide
theorem exLi2 : lidx [] "a" = none := by decide
theorem exLi3 : lidx [("a", 1)] "a" = some 0 := by decide
theorem exOk1 : fnOk exFt exAdd1 = true := by
  simp [fnOk, argCtx, exAdd1, isBlock, declOf, isStmtS, isVal, isCall, isExpr, isValOp,
    simpleName_a, exRet]
theorem exOk2 : fnOk exFt exFact = true := by
  simp [fnOk, argCtx, exFact, isBlock, declOf, isStmtS, isVal, isCall, isExprs, isExpr, isValOp, exL2,
    simpleName_i, simpleName_t, exRet, exLi1]
theorem exOk3 : fnOk exFt exFind = true := by
  simp [fnOk, argCtx, exFind, isBlock, declOf, isStmtS, isVal, isCall, isExpr, isValOp,
    simpleName_a, simpleName_i, optName, exRet, exRep]
theorem exOk4 : fnOk exFt exSub = true := by
  simp [fnOk, argCtx, exSub, isBlock, declOf, isStmtS, isVal, isCall, isExpr, isValOp,
    simpleName_a, simpleName_i, exRet]
theorem exOk0 : isBlock exFt 1 [] exMain.cards = true := by
  simp [exMain, isBlock, declOf, isStmtS, isVal, isCall, isExprs, isExpr, exL1, exL2, exL3, exL4,
    simpleName_a, exLi2]
  exact ⟨rfl, rfl, rfl, rfl⟩

theorem exCalls_inF5 : InF5 exCalls = true := by
  have hm : mainFn exCalls = some exMain := by rfl
  unfold InF5
  rw [hm, exFt_eq]
  have hfns : exFt.fns = [("add1", exAdd1), ("fact", exFact), ("find", exFind), ("sub", exSub)] := rfl
  have ha : exMain.arguments = [] := rfl
  simp [hfns, ha, exOk0, exOk1, exOk2, exOk3, exOk4]

/- expected: "SEM: ok [(out, i2), (out2, i24), (out3, i3), (out4, i-2)] | VM: ok [i2, i24, i3, i-2]" -/
#eval showBoth exCalls

/-- the remaining hypotheses of `compile_correct_F5` for `exCalls` with the default configuration
    (by evaluation: the hashes and `String.splitOn` do not reduce in the kernel) -/
def exCallsHyps : String :=
  let cfg : Config := {}
  let lab := rawLabels exCalls stdE 128
  let fn := lab.all (fun q => lab.all (fun q' => !(fnHandles exCalls stdE 128).contains q'.1 || q.1 != q'.1 || q.2 == q'.2))
  let k := semCalls exCalls stdE 1000
  match compile exCalls stdE 128 with
  | .ok p =>
    s!"handlesDistinct={handlesDistinct (allNames exCalls)} labelsFunctional={fn} " ++
    s!"bytes={p.bytecode.size} vars={p.varIds.length} semCalls={k} frameNeed={frameNeed exCalls} " ++
    s!"calls={decide (k + 1 ≤ cfg.callStackSize)} stack={decide ((k + 1) * frameNeed exCalls < cfg.stackSize)} " ++
    s!"mem={decide (Heap.objCharge ≤ cfg.memLimit)}"
  | .error _ => "compile error"

#eval exCallsHyps

/-! ### the capacity hypotheses are needed

  `d(i) = if i < 1 { return 0 }; t = d(i - 1); return t + 1` called with 300: the reference semantics
  (call limit `Sem.callLimit`) finishes, the VM overflows its call stack (default `callStackSize`). -/

def exDeep (n : Int64) : Module := Module.mk [] [
  ("main", { arguments := [], cards := [.setGlobalVar "out" (.call "d" [.scalarInt n])] }),
  ("d", { arguments := ["i"], cards := [
    .bin .ifTrue (.bin .less (.readVar "i") (.scalarInt 1)) (.un .ret (.scalarInt 0)),
    .setVar "t" (.call "d" [.bin .sub (.readVar "i") (.scalarInt 1)]),
    .un .ret (.bin .add (.readVar "t") (.scalarInt 1))] })] []

/- expected: "SEM: ok [(out, i50)] | VM: ok [i50]" and "SEM: ok [(out, i300)] | VM: err:Stackoverflow []" -/
#eval showBoth (exDeep 50)
#eval showBoth (exDeep 300)
/- expected: (256, 256, 301): `semCalls + 1 ≤ callStackSize` fails for `exDeep 300` -/
#eval ((({} : Vm.Config).callStackSize), (({} : Vm.Config).stackSize), semCalls (exDeep 300) stdE 1000)

end Cao.C01
