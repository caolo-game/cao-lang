import CaoProofs.Lemmas.AddrShift
import CaoProofs.Lemmas.VmFrame
import CaoProofs.Lemmas.VmPrims
/-!
# Equivariance of the interpreter: one two-run logic

Two maps of the machine state change nothing that the interpreter can see: `shiftS δ` renames every heap address
(`Lemmas/AddrShift.lean`), `VmState.shift ε` adds `ε` units of budget. They commute; `sh2 δ ε` is their composition.

`Eqv Esc f g m₁ m₂`: `m₂` on the machine `f s` does what `m₁` does on `s` (the final state is mapped by the state map
`f`, the result by `g`) unless `m₁` ends in an error of the escape class `Esc`, about which nothing is claimed (with
more budget a run that timed out goes on). The structural rules hold for every `f`; the escape class shows at handlers
only (`eqv_tryCatch`: a handler has to pass an escaping error on as an escaping error). Two corners have names of
their own: `SimA δ g` is `Eqv` for `shiftS δ = sh2 δ 0` and the empty class (`simA_iff`), `Sim ε` is `Eqv` for
`(·.shift ε) = sh2 0 ε` and the class `Fatal` (`sim_iff`).

For `f = sh2 δ ε` and any class the tactic `eqv_auto` walks two copies of a program in step, with one lemma per
primitive computation of `CaoModel/Vm.lean`. The walks of the host functions and of `step`, and the lifting to `exec`
and `run`, are in `Lemmas/EquivarianceRun.lean`.
-/
namespace Cao.Vm
open Cao

/-! ## the two state maps -/

def VmState.shift (δ : Nat) (s : VmState) : VmState := { s with remaining := s.remaining + δ }

section shift
variable (δ : Nat) (s : VmState)
@[simp] theorem shift_stack : (s.shift δ).stack = s.stack := rfl
@[simp] theorem shift_frames : (s.shift δ).frames = s.frames := rfl
@[simp] theorem shift_frameCap : (s.shift δ).frameCap = s.frameCap := rfl
@[simp] theorem shift_globals : (s.shift δ).globals = s.globals := rfl
@[simp] theorem shift_heap : (s.shift δ).heap = s.heap := rfl
@[simp] theorem shift_mem : (s.shift δ).mem = s.mem := rfl
@[simp] theorem shift_guards : (s.shift δ).guards = s.guards := rfl
@[simp] theorem shift_openUpvalues : (s.shift δ).openUpvalues = s.openUpvalues := rfl
@[simp] theorem shift_hostLog : (s.shift δ).hostLog = s.hostLog := rfl
@[simp] theorem shift_dispatches : (s.shift δ).dispatches = s.dispatches := rfl
@[simp] theorem shift_gcRuns : (s.shift δ).gcRuns = s.gcRuns := rfl
@[simp] theorem shift_sched : (s.shift δ).sched = s.sched := rfl
@[simp] theorem shift_allocIndex : (s.shift δ).allocIndex = s.allocIndex := rfl
@[simp] theorem shift_forcedGcs : (s.shift δ).forcedGcs = s.forcedGcs := rfl
theorem shift_remaining : (s.shift δ).remaining = s.remaining + δ := rfl
end shift

section
variable {δ : Nat}
theorem gc_shift (s : VmState) : gc (s.shift δ) = (gc s).shift δ := rfl
end

def sh2 (δ ε : Nat) (s : VmState) : VmState := (shiftS δ s).shift ε

section sh2
variable (δ ε : Nat) (s : VmState)
@[simp] theorem sh2_stack : (sh2 δ ε s).stack = shiftStack δ s.stack := rfl
@[simp] theorem sh2_frames : (sh2 δ ε s).frames = s.frames.map (shiftFrame δ) := rfl
@[simp] theorem sh2_frameCap : (sh2 δ ε s).frameCap = s.frameCap := rfl
@[simp] theorem sh2_globals : (sh2 δ ε s).globals = s.globals.map (shiftV δ) := rfl
@[simp] theorem sh2_heap : (sh2 δ ε s).heap = shiftHeap δ s.heap := rfl
@[simp] theorem sh2_mem : (sh2 δ ε s).mem = s.mem := rfl
@[simp] theorem sh2_guards : (sh2 δ ε s).guards = s.guards.map (· + δ) := rfl
@[simp] theorem sh2_openUpvalues : (sh2 δ ε s).openUpvalues = s.openUpvalues.map (· + δ) := rfl
@[simp] theorem sh2_hostLog : (sh2 δ ε s).hostLog = s.hostLog := rfl
@[simp] theorem sh2_dispatches : (sh2 δ ε s).dispatches = s.dispatches := rfl
@[simp] theorem sh2_gcRuns : (sh2 δ ε s).gcRuns = s.gcRuns := rfl
@[simp] theorem sh2_sched : (sh2 δ ε s).sched = s.sched := rfl
@[simp] theorem sh2_allocIndex : (sh2 δ ε s).allocIndex = s.allocIndex := rfl
@[simp] theorem sh2_forcedGcs : (sh2 δ ε s).forcedGcs = s.forcedGcs := rfl
theorem sh2_remaining : (sh2 δ ε s).remaining = s.remaining + ε := rfl

theorem gc_sh2 : gc (sh2 δ ε s) = sh2 δ ε (gc s) :=
  (gc_shift (shiftS δ s)).trans (congrArg (·.shift ε) (gc_shiftA δ s))

theorem sh2_zero_left : sh2 0 ε s = s.shift ε := congrArg (·.shift ε) (shiftS_zero s)
end sh2

/-! ## the logic -/

/-- `m₂` on the machine `f s` does what `m₁` does on `s` (state mapped by `f`, result by `g`), unless `m₁`
    ends in an error of the class `Esc` -/
structure Eqv {α : Type} (Esc : ErrKind → Prop) (f : VmState → VmState) (g : α → α) (m₁ m₂ : M α) : Prop where
  sim : ∀ s, (∀ e, (m₁.go s).1 = .error e → ¬ Esc e) →
    m₂.go (f s) = (Except.map g (m₁.go s).1, f (m₁.go s).2)

/-- the result map on the state of a `for` loop -/
def stepMap {σ : Type} (g : σ → σ) : ForInStep σ → ForInStep σ
  | .done b => .done (g b)
  | .yield b => .yield (g b)

@[simp] theorem stepMap_yield {σ : Type} (g : σ → σ) (b : σ) : stepMap g (.yield b) = .yield (g b) := rfl
@[simp] theorem stepMap_done {σ : Type} (g : σ → σ) (b : σ) : stepMap g (.done b) = .done (g b) := rfl

section logic
variable {Esc : ErrKind → Prop} {f : VmState → VmState} {α β : Type}

theorem eqv_pure (g : α → α) (a : α) : Eqv Esc f g (pure a : M α) (pure (g a)) := ⟨fun _ _ => rfl⟩
theorem eqv_pure_id (a : α) : Eqv Esc f id (pure a : M α) (pure a) := ⟨fun _ _ => rfl⟩
theorem eqv_pure_of {g : α → α} {a b : α} (h : b = g a) : Eqv Esc f g (pure a : M α) (pure b) := by
  subst h; exact eqv_pure g a
theorem eqv_throwE (g : α → α) (e : ErrKind) : Eqv Esc f g (throwE e : M α) (throwE e) := ⟨fun _ _ => rfl⟩
theorem eqv_throw (g : α → α) (e : ErrKind) : Eqv Esc f g (throw e : M α) (throw e) := ⟨fun _ _ => rfl⟩
theorem eqv_get : Eqv Esc f f (get : M VmState) get := ⟨fun _ _ => rfl⟩
theorem eqv_set {x₁ x₂ : VmState} (h : x₂ = f x₁) : Eqv Esc f id (set x₁ : M PUnit) (set x₂) :=
  ⟨fun _ _ => by subst h; rfl⟩
theorem eqv_modify {f₁ f₂ : VmState → VmState} (h : ∀ s, f₂ (f s) = f (f₁ s)) :
    Eqv Esc f id (modify f₁ : M PUnit) (modify f₂) :=
  ⟨fun s _ => by simp only [go_modify, h]; rfl⟩

theorem eqv_bind {g : α → α} {g' : β → β} {m₁ m₂ : M α} {f₁ f₂ : α → M β} (hm : Eqv Esc f g m₁ m₂)
    (hf : ∀ a, Eqv Esc f g' (f₁ a) (f₂ (g a))) : Eqv Esc f g' (m₁ >>= f₁) (m₂ >>= f₂) := by
  constructor
  intro s hs
  rw [go_bind] at hs ⊢
  rw [go_bind]
  rcases hgo : m₁.go s with ⟨r, s'⟩
  rw [hgo] at hs
  cases r with
  | error e =>
    rw [hm.sim s (by rw [hgo]; intro e' he'; cases he'; exact hs e rfl), hgo]; rfl
  | ok a =>
    rw [hm.sim s (by rw [hgo]; intro e' he'; cases he'), hgo]
    exact (hf a).sim s' hs

theorem eqv_throwE_bind {g' : β → β} (e : ErrKind) (f₁ f₂ : α → M β) :
    Eqv Esc f g' (throwE e >>= f₁) (throwE e >>= f₂) := ⟨fun _ _ => rfl⟩

theorem eqv_get_bind {g' : β → β} {f₁ f₂ : VmState → M β} (hf : ∀ s, Eqv Esc f g' (f₁ s) (f₂ (f s))) :
    Eqv Esc f g' (get >>= f₁) (get >>= f₂) := eqv_bind eqv_get hf

theorem eqv_ite' {g : α → α} {c₁ c₂ : Prop} {i₁ : Decidable c₁} {i₂ : Decidable c₂} {a₁ a₂ b₁ b₂ : M α}
    (hc : c₁ ↔ c₂) (ha : Eqv Esc f g a₁ a₂) (hb : Eqv Esc f g b₁ b₂) :
    Eqv Esc f g (@ite _ c₁ i₁ a₁ b₁) (@ite _ c₂ i₂ a₂ b₂) := by
  by_cases h : c₁
  · rw [if_pos h, if_pos (hc.1 h)]; exact ha
  · rw [if_neg h, if_neg (fun h' => h (hc.2 h'))]; exact hb

theorem eqv_ite {g : α → α} {c : Prop} {i₁ i₂ : Decidable c} {a₁ a₂ b₁ b₂ : M α} (ha : Eqv Esc f g a₁ a₂)
    (hb : Eqv Esc f g b₁ b₂) : Eqv Esc f g (@ite _ c i₁ a₁ b₁) (@ite _ c i₂ a₂ b₂) :=
  eqv_ite' Iff.rfl ha hb

theorem eqv_forIn {γ σ : Type} (gx : γ → γ) (gσ : σ → σ) (l : List γ) (init : σ)
    (f₁ f₂ : γ → σ → M (ForInStep σ))
    (hf : ∀ x b, Eqv Esc f (stepMap gσ) (f₁ x b) (f₂ (gx x) (gσ b))) :
    Eqv Esc f gσ (forIn l init f₁) (forIn (l.map gx) (gσ init) f₂) := by
  induction l generalizing init with
  | nil => rw [List.map_nil, List.forIn_nil, List.forIn_nil]; exact eqv_pure _ _
  | cons x xs ih =>
    rw [List.map_cons, List.forIn_cons, List.forIn_cons]
    refine eqv_bind (hf x init) (fun r => ?_)
    cases r with
    | done b => exact eqv_pure _ _
    | yield b => exact ih b

theorem eqv_forIn_mergeSort {γ σ : Type} (gx : γ → γ) (gσ : σ → σ) (l : List γ) (c₁ c₂ : γ → γ → Bool)
    (init : σ) (f₁ f₂ : γ → σ → M (ForInStep σ)) (hc : ∀ a b, c₁ a b = c₂ (gx a) (gx b))
    (hf : ∀ x b, Eqv Esc f (stepMap gσ) (f₁ x b) (f₂ (gx x) (gσ b))) :
    Eqv Esc f gσ (forIn (l.mergeSort c₁) init f₁) (forIn ((l.map gx).mergeSort c₂) (gσ init) f₂) := by
  rw [← List.map_mergeSort (fun a _ b _ => hc a b)]
  exact eqv_forIn gx gσ _ init f₁ f₂ hf

/-- `try … catch`: nothing is claimed about the body when it ends in an error of the class `Esc'`, so the
    handler must turn such an error into an error that escapes -/
theorem eqv_tryCatch {Esc' : ErrKind → Prop} {g : α → α} {m₁ m₂ : M α} {h₁ h₂ : ErrKind → M α}
    (hm : Eqv Esc' f g m₁ m₂) (hh : ∀ e, Eqv Esc f g (h₁ e) (h₂ e))
    (hesc : ∀ e, Esc' e → ∀ s, ∃ e', ((h₁ e).go s).1 = .error e' ∧ Esc e') :
    Eqv Esc f g (tryCatch m₁ h₁) (tryCatch m₂ h₂) := by
  constructor
  intro s hs
  rw [go_tryCatch] at hs ⊢
  rw [go_tryCatch]
  rcases hgo : m₁.go s with ⟨r, s'⟩
  rw [hgo] at hs
  cases r with
  | ok a => rw [hm.sim s (by rw [hgo]; intro e' he'; cases he'), hgo]; rfl
  | error e =>
    have hne : ¬ Esc' e := fun he => let ⟨e', he', hf'⟩ := hesc e he s'; hs e' he' hf'
    rw [hm.sim s (by rw [hgo]; intro e' he'; cases he'; exact hne), hgo]
    exact (hh e).sim s' hs

theorem eqv_liftRun {δ : Nat} {r₁ r₂ : VmState → VmState × Except RunErr (Option Val)}
    (h : ∀ s, (∀ e, (r₁ s).2 = .error e → ¬ Esc e.kind) → r₂ (f s) = (f (r₁ s).1, mapRes δ (r₁ s).2)) :
    Eqv Esc f (shiftV δ) (liftRun r₁) (liftRun r₂) := by
  constructor
  intro s hs
  rw [liftRun_go] at hs ⊢
  rw [liftRun_go, h s (fun e he => hs e.kind (by revert he; rcases r₁ s with ⟨s', r⟩; intro he; subst he; rfl))]
  rcases r₁ s with ⟨s', (e | (_ | v))⟩ <;> rfl

end logic

theorem eqv_forIn_sh {Esc : ErrKind → Prop} {δ ε : Nat} {γ σ : Type} [ShiftState σ] (gx : γ → γ) (l : List γ)
    (init init' : σ) (f₁ f₂ : γ → σ → M (ForInStep σ)) (hi : init' = ShiftState.sh δ init)
    (hf : ∀ x b, Eqv Esc (sh2 δ ε) (stepMap (ShiftState.sh δ)) (f₁ x b) (f₂ (gx x) (ShiftState.sh δ b))) :
    Eqv Esc (sh2 δ ε) (ShiftState.sh δ) (forIn l init f₁) (forIn (l.map gx) init' f₂) := by
  subst hi
  exact eqv_forIn gx (ShiftState.sh δ) l init f₁ f₂ hf

/-! ## the two corners -/

structure Sim {α : Type} (δ : Nat) (m₁ m₂ : M α) : Prop where
  sim : ∀ s, (∀ e, (m₁.go s).1 = .error e → ¬ Fatal e) →
    m₂.go (s.shift δ) = ((m₁.go s).1, (m₁.go s).2.shift δ)

/-- errors carry no addresses: only a returned value is mapped, by `g` -/
structure SimA {α : Type} (δ : Nat) (g : α → α) (m₁ m₂ : M α) : Prop where
  sim : ∀ s, m₂.go (shiftS δ s) = (Except.map g (m₁.go s).1, shiftS δ (m₁.go s).2)

section corners
variable {δ : Nat} {α : Type}

theorem simA_iff {g : α → α} {m₁ m₂ : M α} : SimA δ g m₁ m₂ ↔ Eqv (fun _ => False) (sh2 δ 0) g m₁ m₂ :=
  ⟨fun h => ⟨fun s _ => h.sim s⟩, fun h => ⟨fun s => h.sim s (fun _ _ => id)⟩⟩

theorem sim_iff {m₁ m₂ : M α} : Sim δ m₁ m₂ ↔ Eqv Fatal (sh2 0 δ) id m₁ m₂ := by
  have e : sh2 0 δ = (·.shift δ) := funext (sh2_zero_left δ)
  rw [e]
  constructor
  · intro h; constructor; intro s hs; rw [h.sim s hs]; cases (m₁.go s).1 <;> rfl
  · intro h; constructor; intro s hs; rw [h.sim s hs]; cases (m₁.go s).1 <;> rfl

theorem SimA.congr_map {g g' : α → α} {m₁ m₂ : M α} (h : SimA δ g m₁ m₂) (hg : ∀ a, g a = g' a) :
    SimA δ g' m₁ m₂ := by
  have : g = g' := funext hg
  subst this; exact h

theorem sima_ite' {g : α → α} {c₁ c₂ : Prop} {i₁ : Decidable c₁} {i₂ : Decidable c₂} {a₁ a₂ b₁ b₂ : M α}
    (hc : c₁ ↔ c₂) (ha : SimA δ g a₁ a₂) (hb : SimA δ g b₁ b₂) :
    SimA δ g (@ite _ c₁ i₁ a₁ b₁) (@ite _ c₂ i₂ a₂ b₂) :=
  simA_iff.2 (eqv_ite' hc (simA_iff.1 ha) (simA_iff.1 hb))

theorem sima_forIn_id {γ σ : Type} (gx : γ → γ) (l : List γ) (init : σ)
    (f₁ f₂ : γ → σ → M (ForInStep σ)) (hf : ∀ x b, SimA δ id (f₁ x b) (f₂ (gx x) b)) :
    SimA δ id (forIn l init f₁) (forIn (l.map gx) init f₂) :=
  simA_iff.2 (eqv_forIn gx id l init f₁ f₂ fun x b =>
    simA_iff.1 ((hf x b).congr_map fun r => by cases r <;> rfl))

end corners

/-! ## automation -/

open Lean Elab Tactic Meta in
/-- the major premise that keeps a stuck `match` / `casesOn` / recursor application from reducing -/
partial def eqvStuck (e : Expr) : MetaM (Option Expr) := do
  let e ← whnfCore e
  let fn := e.getAppFn
  let args := e.getAppArgs
  match fn with
  | .const n lvls =>
    if (← getMatcherInfo? n).isSome then
      let ci ← getConstInfo n
      let v ← instantiateValueLevelParams ci lvls
      eqvStuck (v.beta args)
    else
      match (← getEnv).find? n with
      | some (.recInfo rv) =>
        let idx := rv.getMajorIdx
        if h : idx < args.size then
          let major ← whnfCore args[idx]
          match ← eqvStuck major with
          | some b => return some b
          | none => return some major
        else return none
      | _ =>
        let sparse := match n with
          | .str _ x => x.startsWith "_sparseCasesOn"
          | _ => false
        if sparse || (← isAuxDef n) then
          let ci ← getConstInfo n
          unless ci.hasValue do return none
          let v ← instantiateValueLevelParams ci lvls
          eqvStuck (v.beta args)
        else return none
  | _ => return none

open Lean Elab Tactic Meta in
/-- strip projections: `x.2.1 ↦ x` -/
partial def eqvBase (e : Expr) : MetaM Expr := do
  match e with
  | .proj _ _ b => eqvBase b
  | .mdata _ b => eqvBase b
  | _ =>
    if let .const n _ := e.getAppFn then
      if let some info ← getProjectionFnInfo? n then
        if e.getAppNumArgs == info.numParams + 1 then
          return ← eqvBase e.appArg!
    return e

open Lean Elab Tactic Meta in
/-- `eqv_split after t`: the first computation is a `match` blocked by a term `b`. Case split on `b`
    (after generalising it everywhere in the goal when it is not a variable), so that both computations
    reduce. This needs the second computation to be blocked by a term that contains `b` (its image under
    the renaming, rewritten inwards): while it is not, or `b` is a projection of a tuple that `t` reduces,
    run `t` instead. -/
elab "eqv_split" " after " t:tactic : tactic => withMainContext do
  let g ← getMainGoal
  let ty ← instantiateMVars (← g.getType)
  let args := ty.getAppArgs
  unless ty.getAppFn.isConstOf ``Eqv && args.size == 6 do
    throwError "eqv_split: not an Eqv goal"
  let m₁ := args[4]!
  let .const n _ := m₁.getAppFn | throwError "eqv_split: the head is not a `match`"
  let some _ ← getMatcherInfo? n | throwError "eqv_split: the head is not a `match`"
  let some b ← withReducible (eqvStuck m₁) | throwError "eqv_split: nothing to split"
  let b ← eqvBase b
  let b₂ ← withReducible (eqvStuck args[5]!)
  if (← isConstructorApp b) || !(b₂.any fun e => (e.find? (· == b)).isSome) then
    try evalTactic t; return
    catch _ => pure ()
  if b.isFVar then
    let subgoals ← g.cases b.fvarId!
    replaceMainGoal (subgoals.toList.map (·.mvarId))
  else
    let (xs, g') ← g.generalize #[{ expr := b }]
    let subgoals ← g'.cases xs[0]!
    replaceMainGoal (subgoals.toList.map (·.mvarId))

/-- closes goals `Eqv Esc (sh2 δ ε) _ prim prim'` for the primitives; extended by `macro_rules` below -/
syntax "eqv_prim" : tactic

/-- rewrite the renaming inwards (fails when there is nothing to rewrite) -/
macro "eqv_norm" : tactic => `(tactic|
  simp -iota only [id_eq, sh_nat, sh_punit, sh_val, sh_prod, sh_prod_fst, sh_prod_snd, sh_list, stepMap_yield,
    shiftV_obj, shiftV_boolVal, shiftV_ite, shiftE_mk, shiftE_fst, shiftE_snd, shiftObj_table, shiftObj_closure,
    shiftObj_upvalue, shiftT_mk, shiftT_fst, shiftT_snd_fst, shiftT_snd_snd, shiftFrame_stackOffset,
    shiftFrame_closure, shiftStack_count, shiftStack_data, sh2_stack, sh2_frames, sh2_frameCap,
    sh2_globals, sh2_heap, sh2_mem, sh2_guards, sh2_openUpvalues, sh2_hostLog, sh2_dispatches, sh2_gcRuns,
    sh2_sched, sh2_allocIndex, sh2_forcedGcs,
    gc_sh2, get_shiftHeap, set_shiftHeap_upv, ownD_shiftA, toI64_shift, findEntry_shift,
    tableAppendKey_shift, isTable_shift, upvalueSlot_shift, find?_upvalueSlot_shift, push_shiftStack,
    pop_shiftStack, popWOffset_shiftStack, set_shiftStack, get_shiftStack, last_shiftStack, peekLast_shiftStack,
    clearUntil_shiftStack, getD_map_shiftV, getD_map_shiftV', getD_map_shiftE, getD_cons_shiftE, erase_map_add,
    set_map_shiftV, setGlobal_shift, Option.map_some, Option.map_none, Option.isSome_map, List.map_cons, List.map_nil,
    List.map_append, ← List.map_dropLast, List.length_map, List.isEmpty_map, List.getLast?_map,
    List.getElem?_map])

/-- the side goals `x' = shift x` of the rules -/
macro "eqv_side" : tactic => `(tactic| first | with_reducible rfl | rfl | (eqv_norm <;> rfl))

/-- apply a rule if the heads of the computations are literally those of the rule, and close the equations
    between the arguments that it leaves -/
macro "eqv_rule " r:term : tactic => `(tactic| ((with_reducible apply $r) <;> eqv_side))

/-- One rule of the logic, chosen by the form of the first computation. Trying a rule that does not apply
    takes time in proportion to the goal, so the rules for what can be large (a continuation, a `bind`, an `if`,
    a `match`) come first. The second computation is rewritten (`eqv_norm`) only where a rule needs it: before a case
    split, in the equations that the rules leave, and where an `if` tests conditions that differ. -/
macro "eqv_step" : tactic => `(tactic| first
  | intro _
  | with_reducible exact eqv_throwE_bind _ _ _
  | with_reducible apply eqv_bind
  | with_reducible apply eqv_ite
  | m_head
  | eqv_split after eqv_norm
  | with_reducible exact eqv_pure_id _
  | with_reducible exact eqv_pure _ _
  | with_reducible exact eqv_throwE _ _
  | with_reducible exact eqv_throw _ _
  -- the result map is still unknown, and the continuation will not determine it
  | with_reducible exact eqv_throwE id _
  | with_reducible exact eqv_throw id _
  | with_reducible exact eqv_get
  | eqv_prim
  | eqv_rule eqv_pure_of
  -- equations between machine states: computing both sides is the slow way
  | ((with_reducible apply eqv_set); first | (eqv_norm <;> rfl) | rfl)
  | ((with_reducible apply eqv_modify); intro _; first | (eqv_norm <;> rfl) | rfl)
  | ((with_reducible apply eqv_forIn_sh); (rfl); intro _ _)
  | with_reducible exact (‹∀ f : Val, Eqv _ _ _ ((_ : Val → M Val) f) ((_ : Val → M Val) (shiftV _ f))›) _
  | with_reducible assumption
  | eqv_norm
  | apply eqv_ite)

macro "eqv_auto" : tactic => `(tactic| repeat' eqv_step)

/-! ## the primitives

Where a primitive takes a value, the lemma leaves the argument of the second run a variable `v'` with
the hypothesis `v' = shiftV δ v` (closed by `eqv_side`), so that it applies whatever form `v'` has. -/

section prims
variable {Esc : ErrKind → Prop} {δ ε : Nat}

theorem eqv_push {v v' : Val} (h : v' = shiftV δ v) : Eqv Esc (sh2 δ ε) id (push v) (push v') := by
  subst h; unfold push; eqv_auto
theorem eqv_pop : Eqv Esc (sh2 δ ε) (shiftV δ) pop pop := by unfold pop; eqv_auto
theorem eqv_peek (n : Nat) : Eqv Esc (sh2 δ ε) (shiftV δ) (peek n) (peek n) := by unfold peek; eqv_auto
theorem eqv_popN (n : Nat) : Eqv Esc (sh2 δ ε) id (popN n) (popN n) := by unfold popN; eqv_auto
theorem eqv_curFrame : Eqv Esc (sh2 δ ε) (shiftFrame δ) curFrame curFrame := by unfold curFrame; eqv_auto
theorem eqv_writeLocal {a b : Nat} {v v' : Val} (h : v' = shiftV δ v) :
    Eqv Esc (sh2 δ ε) id (writeLocal a b v) (writeLocal a b v') := by
  subst h; unfold writeLocal; eqv_auto
theorem eqv_readLocal (a b : Nat) : Eqv Esc (sh2 δ ε) (shiftV δ) (readLocal a b) (readLocal a b) := by
  unfold readLocal; eqv_auto
theorem eqv_keyOf (v : Val) : Eqv Esc (sh2 δ ε) id (keyOf v) (keyOf (shiftV δ v)) := by unfold keyOf; eqv_auto
theorem eqv_getTable {v v' : Val} (h : v' = shiftV δ v) :
    Eqv Esc (sh2 δ ε) (shiftT δ) (getTable v) (getTable v') := by
  subst h; unfold getTable; eqv_auto
/-- the table test of `ForEach`, from its equation: `<|>` needs no rule of its own -/
theorem eqv_getTableOr {v v' : Val} (h : v' = shiftV δ v) (e : ErrKind) :
    Eqv Esc (sh2 δ ε) (List.map (shiftE δ)) ((do let (_, _, es) ← getTable v; pure es) <|> throwE e)
      ((do let (_, _, es) ← getTable v'; pure es) <|> throwE e) := by
  subst h
  refine ⟨fun s _ => ?_⟩
  rw [go_getTableOr, go_getTableOr, sh2_heap, isTable_shift]
  cases isTable s.heap v <;> rfl

theorem eqv_tableGet {es es' : List (Val × Val)} {k k' : Val} (he : es' = es.map (shiftE δ))
    (hk : k' = shiftV δ k) : Eqv Esc (sh2 δ ε) (shiftV δ) (tableGet es k) (tableGet es' k') := by
  subst he; subst hk; unfold tableGet; eqv_auto
  apply eqv_pure_of
  cases findEntry _ es _ <;> rfl
theorem eqv_deallocBytes (c : Nat) : Eqv Esc (sh2 δ ε) id (deallocBytes c) (deallocBytes c) := by
  unfold deallocBytes; eqv_auto
theorem eqv_newObject {o o' : Obj} (h : o' = shiftObj δ o) :
    Eqv Esc (sh2 δ ε) (· + δ) (newObject o) (newObject o') := by
  subst h; unfold newObject
  refine eqv_get_bind (fun s => eqv_bind (g := id) (eqv_set ?_) (fun _ => eqv_pure _ _))
  simp only [sh2, VmState.shift, shiftS, shiftHeap, List.map_append, List.map_cons, List.map_nil, shiftP_mk,
    Nat.add_right_comm]
theorem eqv_dropGuard {a a' : Nat} (h : a' = a + δ) : Eqv Esc (sh2 δ ε) id (dropGuard a) (dropGuard a') := by
  subst h; unfold dropGuard; eqv_auto
theorem eqv_readUpvalueLoc {a a' : Nat} (h : a' = a + δ) :
    Eqv Esc (sh2 δ ε) (shiftV δ) (readUpvalueLoc a) (readUpvalueLoc a') := by
  subst h; unfold readUpvalueLoc; eqv_auto
theorem eqv_writeUpvalueLoc {a a' : Nat} {v v' : Val} (ha : a' = a + δ) (hv : v' = shiftV δ v) :
    Eqv Esc (sh2 δ ε) id (writeUpvalueLoc a v) (writeUpvalueLoc a' v') := by
  subst ha; subst hv; unfold writeUpvalueLoc; eqv_auto
theorem eqv_guardVal {v v' : Val} (h : v' = shiftV δ v) : Eqv Esc (sh2 δ ε) id (guardVal v) (guardVal v') := by
  subst h; unfold guardVal; eqv_auto
theorem eqv_unguardVal {v v' : Val} (h : v' = shiftV δ v) :
    Eqv Esc (sh2 δ ε) id (unguardVal v) (unguardVal v') := by
  subst h
  cases v
  case obj a => exact eqv_dropGuard rfl
  all_goals exact eqv_pure_id _
theorem eqv_allocBytes (c : Nat) : Eqv Esc (sh2 δ ε) id (allocBytes c) (allocBytes c) := by
  unfold allocBytes; eqv_auto

local macro_rules | `(tactic| eqv_prim) => `(tactic| first
  | eqv_rule eqv_push | eqv_rule eqv_pop | eqv_rule eqv_peek | eqv_rule eqv_getTable
  | eqv_rule eqv_writeLocal | eqv_rule eqv_curFrame | eqv_rule eqv_popN | eqv_rule eqv_readLocal
  | eqv_rule eqv_deallocBytes | eqv_rule eqv_allocBytes | eqv_rule eqv_tableGet
  | eqv_rule eqv_newObject | eqv_rule eqv_dropGuard | eqv_rule eqv_readUpvalueLoc
  | eqv_rule eqv_writeUpvalueLoc | eqv_rule eqv_guardVal | eqv_rule eqv_unguardVal)

theorem eqv_guardRows {es es' : List (Val × Val)} (h : es' = es.map (shiftE δ)) :
    Eqv Esc (sh2 δ ε) id (guardRows es) (guardRows es') := by
  subst h; unfold guardRows; eqv_auto
theorem eqv_unguardRows {es es' : List (Val × Val)} (h : es' = es.map (shiftE δ)) :
    Eqv Esc (sh2 δ ε) id (unguardRows es) (unguardRows es') := by
  subst h; unfold unguardRows; eqv_auto

/-- the handler of `init_table` frees what was charged and passes the error on, escaping or not -/
theorem eqv_initTable : Eqv Esc (sh2 δ ε) (· + δ) initTable initTable := by
  unfold initTable
  refine eqv_bind (g := id) (eqv_allocBytes _) (fun _ => eqv_bind (g := id) ?_ (fun _ => eqv_newObject rfl))
  exact eqv_tryCatch (eqv_allocBytes _) (fun e => by eqv_auto) (fun e he s => ⟨e, rfl, he⟩)
theorem eqv_initString (b : List UInt8) : Eqv Esc (sh2 δ ε) (· + δ) (initString b) (initString b) := by
  unfold initString
  refine eqv_bind (g := id) (eqv_allocBytes _) (fun _ => eqv_bind (g := id) ?_ (fun _ => eqv_newObject rfl))
  exact eqv_tryCatch (eqv_allocBytes _) (fun e => by eqv_auto) (fun e he s => ⟨e, rfl, he⟩)
theorem eqv_initSimple {o o' : Obj} (h : o' = shiftObj δ o) :
    Eqv Esc (sh2 δ ε) (· + δ) (initSimple o) (initSimple o') := by
  subst h; unfold initSimple; eqv_auto

theorem eqv_setHeap {a a' : Nat} {o o' : Obj} (ha : a' = a + δ) (ho : o' = shiftObj δ o) :
    Eqv Esc (sh2 δ ε) id (modify fun s => { s with heap := s.heap.set a o })
      (modify fun s => { s with heap := s.heap.set a' o' }) := by
  subst ha; subst ho
  refine eqv_modify (fun s => ?_)
  simp only [sh2, VmState.shift, shiftS, set_shiftHeap]

local macro_rules | `(tactic| eqv_prim) => `(tactic| first
  | eqv_rule eqv_initTable | eqv_rule eqv_initString | eqv_rule eqv_setHeap | eqv_rule eqv_initSimple
  | eqv_rule eqv_guardRows | eqv_rule eqv_unguardRows)

theorem eqv_tableInsert {a a' : Nat} {k k' v v' : Val} (ha : a' = a + δ) (hk : k' = shiftV δ k)
    (hv : v' = shiftV δ v) : Eqv Esc (sh2 δ ε) id (tableInsert a k v) (tableInsert a' k' v') := by
  subst ha; subst hk; subst hv
  unfold tableInsert
  eqv_auto
  apply eqv_setHeap rfl
  simp only [shiftObj_table, List.map_map]
  congr 1
  apply List.map_congr_left
  intro e _
  simp only [Function.comp, shiftE_fst, ownD_shiftA]
  split <;> rfl

theorem closeUpvalues_go_sh2 (top : Nat) (s : VmState) : ∀ (l : List Nat) (h : Heap),
    closeUpvalues.go top (sh2 δ ε s) (l.map (· + δ)) (shiftHeap δ h) =
      ((closeUpvalues.go top s l h).1.map (· + δ), shiftHeap δ (closeUpvalues.go top s l h).2) := by
  intro l
  induction l with
  | nil => intro h; rfl
  | cons a rest ih =>
    intro h
    simp only [List.map_cons]
    unfold closeUpvalues.go
    simp only [upvalueSlot_shift]
    cases upvalueSlot h a with
    | none => rfl
    | some i =>
      simp only
      by_cases hi : i < top
      · simp only [hi, if_true, List.map_cons]
      · simp only [hi, if_false, sh2_stack, shiftStack_data, getD_map_shiftV, set_shiftHeap_upv]
        exact ih _

theorem eqv_closeUpvalues (t : Nat) : Eqv Esc (sh2 δ ε) id (closeUpvalues t) (closeUpvalues t) := by
  unfold closeUpvalues
  refine eqv_get_bind (fun s => ?_)
  simp only [sh2_openUpvalues, sh2_heap, closeUpvalues_go_sh2]
  exact eqv_set rfl

theorem eqv_nativeConv (name : String) : Eqv Esc (sh2 δ ε) id (nativeConv name) (nativeConv name) := by
  unfold nativeConv; split <;> eqv_auto

theorem eqv_callScript (p : Prog) (src ip : Nat) (l : UInt32) (ar : Nat) {c c' : Option Nat}
    (h : c' = c.map (· + δ)) :
    Eqv Esc (sh2 δ ε) id (step.callScript p src ip l ar c) (step.callScript p src ip l ar c') := by
  subst h
  unfold step.callScript
  eqv_auto
  all_goals (
    apply eqv_set
    simp only [sh2, VmState.shift, shiftS, List.map_append, List.map_dropLast, List.map_cons, List.map_nil,
      shiftFrame_mk]
    generalize List.getLast? _ = x
    cases x <;> rfl)

end prims

/-- all primitives, those that programs use most first (the rules above are local to their section) -/
macro_rules | `(tactic| eqv_prim) => `(tactic| first
  | eqv_rule eqv_push | eqv_rule eqv_pop | eqv_rule eqv_peek | eqv_rule eqv_getTable
  | eqv_rule eqv_writeLocal | eqv_rule eqv_curFrame | eqv_rule eqv_dropGuard | eqv_rule eqv_tableInsert
  | eqv_rule eqv_getTableOr
  | eqv_rule eqv_initString | eqv_rule eqv_initTable | eqv_rule eqv_initSimple | eqv_rule eqv_popN
  | eqv_rule eqv_readLocal | eqv_rule eqv_setHeap | eqv_rule eqv_tableGet | eqv_rule eqv_callScript
  | eqv_rule eqv_closeUpvalues | eqv_rule eqv_readUpvalueLoc | eqv_rule eqv_writeUpvalueLoc
  | eqv_rule eqv_guardVal | eqv_rule eqv_unguardVal | eqv_rule eqv_guardRows
  | eqv_rule eqv_unguardRows | eqv_rule eqv_nativeConv | eqv_rule eqv_allocBytes
  | eqv_rule eqv_deallocBytes | eqv_rule eqv_newObject)

section
variable {δ : Nat}

theorem sima_keyOf (v : Val) : SimA δ id (keyOf v) (keyOf (shiftV δ v)) := simA_iff.2 (eqv_keyOf v)

theorem sim_keyOf (v : Val) : Sim δ (keyOf v) (keyOf v) := sim_iff.2 (by simpa only [shiftV_zero] using eqv_keyOf (δ := 0) v)

end

end Cao.Vm
