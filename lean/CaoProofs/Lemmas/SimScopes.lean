import CaoProofs.Lemmas.SimLocals
/-!
# Scoped locals (compile side): locals declared in `While` bodies, `Repeat`, static calls as values

A *block* is a list of cards compiled and executed in one scope: its cards are declarations of new
locals (`SetVar` of a name that is not yet a local) or statements. Statements declare nothing;
the body of a `While` (a composite card) is a block of its own, whose locals are popped at the end
of every iteration.

`Feat` says which optional card kinds a fragment has (`Repeat`, `Return`, static calls of given functions in
value positions, `isVal`); `isStmtS`/`isBlock` are the cards and `SCodeS`/`BCodes` their code, for all `Feat` at
once. `repeatCode_emits` is the layout of a `Repeat` card; `scodeS_emits` and `bcodes_emits` read the code of a
statement and of a block off the compilation, by cases on the card.
-/
namespace Cao.Sim
open Cao Cao.Vm

/-- which optional card kinds a fragment contains -/
structure Feat where
  /-- `Repeat` -/
  rep : Bool := false
  /-- `Return` -/
  ret : Bool := false
  /-- the functions that may be called: name and declaration -/
  fns : List (String × Func) := []

def Feat.lookup (ft : Feat) (g : String) : Option Func := (ft.fns.find? (fun p => p.1 == g)).map (·.2)

theorem Feat.mem_of_lookup {ft : Feat} {g : String} {fd : Func} (h : ft.lookup g = some fd) : (g, fd) ∈ ft.fns := by
  unfold Feat.lookup at h
  rcases hfind : ft.fns.find? (fun p => p.1 == g) with _ | q
  · rw [hfind] at h; cases h
  · rw [hfind] at h
    have hqg : q.1 = g := by simpa using List.find?_some hfind
    rw [← hqg, ← Option.some.inj h]
    exact List.mem_of_find?_eq_some hfind

/-- the arguments of a call: expressions -/
def isExprs : List Card → Bool
  | [] => true
  | e :: es => isExpr e && isExprs es

/-- a static call of one of the functions of `ft`, with as many arguments as it has parameters -/
def isCall (ft : Feat) : Card → Bool
  | .call g args =>
    (match ft.lookup g with
      | some fd => fd.arguments.length == args.length
      | none => false) && isExprs args
  | _ => false

/-- value positions (of `SetVar`, `SetGlobalVar`, `Return`): an expression or a static call -/
def isVal (ft : Feat) (e : Card) : Bool := isExpr e || isCall ft e

theorem isVal_cases {ft : Feat} {e : Card} (h : isVal ft e = true) :
    isExpr e = true ∨ ∃ g args, e = .call g args ∧ isCall ft (.call g args) = true := by
  unfold isVal at h
  rcases Bool.or_eq_true_iff.1 h with h | h
  · exact Or.inl h
  · cases e <;> first | (simp [isCall] at h; done) | exact Or.inr ⟨_, _, rfl, h⟩

/-- the locals in scope in the body of `Repeat`: the hidden `n` and counter, then the loop variable -/
def repCtx (d : Int) (L : LCtx) (i : Option String) : LCtx :=
  match i with
  | some v => L ++ [("", d + 1), ("", d + 1)] ++ [(v, d + 2)]
  | none => L ++ [("", d + 1), ("", d + 1)]

def optName : Option String → Bool
  | some v => simpleName v
  | none => true

mutual
  /-- statements at scope depth `d` with the locals `L` in scope (they declare nothing) -/
  def isStmtS (ft : Feat) (d : Int) (L : LCtx) : Card → Bool
    | .setGlobalVar n e => !n.isEmpty && isVal ft e
    | .setVar n e => simpleName n && (lidx L n).isSome && isVal ft e
    | .un .ret e => ft.ret && isVal ft e
    | .bin .ifTrue c b => isExpr c && isStmtS ft d L b
    | .bin .ifFalse c b => isExpr c && isStmtS ft d L b
    | .bin .while c (.composite _ cs) => isExpr c && isBlock ft (d + 1) L cs
    | .repeat i n (.composite _ cs) => ft.rep && isExpr n && optName i && isBlock ft (d + 2) (repCtx d L i) cs
    | .tri .ifElse c t e => isExpr c && isStmtS ft d L t && isStmtS ft d L e
    | .composite _ cs => isStmtsS ft d L cs
    | .comment _ => true
    | _ => false
  def isStmtsS (ft : Feat) (d : Int) (L : LCtx) : List Card → Bool
    | [] => true
    | c :: cs => isStmtS ft d L c && isStmtsS ft d L cs
  /-- the cards of a scope at depth `d` -/
  def isBlock (ft : Feat) (d : Int) (L : LCtx) : List Card → Bool
    | [] => true
    | c :: cs =>
      match declOf L c with
      | some (n, e) => simpleName n && isVal ft e && isBlock ft d (L ++ [(n, d)]) cs
      | none => isStmtS ft d L c && isBlock ft d L cs
end

section code
variable (B : Array UInt8) (F : List (UInt32 × Nat)) (J : Compiler.JumpTable)

def IsRead (pc j : Nat) : Prop := B.getD pc 0 = Compiler.op.readLocalVar ∧ rdU32 B (pc + 1) = j
def IsSet (pc j : Nat) : Prop := B.getD pc 0 = Compiler.op.setLocalVar ∧ rdU32 B (pc + 1) = j

/-- the layout of the loop of `Repeat` around the code `[mb, m2)` of its body, after the code of the count
    (which ends at `m0`); `N = L.length` and `C = L.length + 1` are the slots of the count and of the counter, `kk`
    is the number of locals of the body's scope, `pc'` the end:
```
m0:       SetLocal N ; ScalarInt 0 ; SetLocal C
m0 + 19:  ReadLocal C ; ReadLocal N ; Less ; GotoIfFalse (pc' - 2)
m0 + 35:  [ReadLocal C ; SetLocal (C + 1)]    -- the loop variable, if there is one
mb:       body
m2:       Pop (kk times) ; ScalarInt 1 ; ReadLocal C ; Add ; SetLocal C ; Goto (m0 + 19)
pc' - 2:  Pop ; Pop
``` -/
structure RepLoop (L : LCtx) (i : Option String) (pc' m0 mb m2 kk : Nat) : Prop where
  setN : IsSet B m0 L.length
  zero : ECodeL B F L (.scalarInt 0) (m0 + 5) (m0 + 14)
  setC : IsSet B (m0 + 14) (L.length + 1)
  readC : IsRead B (m0 + 19) (L.length + 1)
  readN : IsRead B (m0 + 24) L.length
  less : B.getD (m0 + 29) 0 = Compiler.op.less
  test : B.getD (m0 + 30) 0 = Compiler.op.gotoIfFalse
  exit : rdU32 B (m0 + 31) = pc' - 2
  bind : match i with
    | some _ => IsRead B (m0 + 35) (L.length + 1) ∧ IsSet B (m0 + 40) (L.length + 2) ∧ mb = m0 + 45
    | none => mb = m0 + 35
  pops : ∀ j, j < kk → B.getD (m2 + j) 0 = Compiler.op.pop
  incOne : ECodeL B F L (.scalarInt 1) (m2 + kk) (m2 + kk + 9)
  incRead : IsRead B (m2 + kk + 9) (L.length + 1)
  incAdd : B.getD (m2 + kk + 14) 0 = Compiler.op.add
  incSet : IsSet B (m2 + kk + 15) (L.length + 1)
  goto : B.getD (m2 + kk + 20) 0 = Compiler.op.goto
  back : rdU32 B (m2 + kk + 21) = m0 + 19
  pop1 : B.getD (pc' - 2) 0 = Compiler.op.pop
  pop2 : B.getD (pc' - 1) 0 = Compiler.op.pop
  endAt : pc' = m2 + kk + 27

variable {B F} in
theorem RepLoop.mb_ge {L : LCtx} {i : Option String} {pc' m0 mb m2 kk : Nat} (h : RepLoop B F L i pc' m0 mb m2 kk) :
    m0 + 35 ≤ mb := by
  have := h.bind
  cases i <;> simp only at this <;> omega

/-- the code of the arguments of a call, left to right -/
def ECodesL (L : LCtx) : List Card → Nat → Nat → Prop
  | [], pc, pc' => pc' = pc
  | e :: es, pc, pc' => ∃ m, ECodeL B F L e pc m ∧ ECodesL L es m pc'

/-- the code of a static call: the arguments, `FunctionPointer handle arity`, `CallFunction` -/
def CCode (L : LCtx) : Card → Nat → Nat → Prop
  | .call g args, pc, pc' => ∃ m h a, ECodesL B F L args pc m ∧ B.getD m 0 = Compiler.op.functionPointer ∧
      Compiler.look J g = some (h, a) ∧ rdU32 B (m + 1) = h.toNat ∧ rdU32 B (m + 5) = a.toNat ∧
      B.getD (m + 9) 0 = Compiler.op.callFunction ∧ pc' = m + 10
  | _, _, _ => False

def VCode (L : LCtx) (e : Card) (pc pc' : Nat) : Prop := ECodeL B F L e pc pc' ∨ CCode B F J L e pc pc'

mutual
  def SCodeS (d : Int) (L : LCtx) : Card → Nat → Nat → Prop
    | .setGlobalVar n e, pc, pc' => ∃ m id, VCode B F J L e pc m ∧ B.getD m 0 = Compiler.op.setGlobalVar ∧
        gidOf F n = some id ∧ rdU32 B (m + 1) = id ∧ pc' = m + 5
    | .setVar n e, pc, pc' => ∃ m i, lidx L n = some i ∧ VCode B F J L e pc m ∧
        B.getD m 0 = Compiler.op.setLocalVar ∧ rdU32 B (m + 1) = i ∧ pc' = m + 5
    | .un .ret e, pc, pc' => ∃ m, VCode B F J L e pc m ∧ B.getD m 0 = Compiler.op.ret ∧ pc' = m + 1
    | .bin .ifTrue c b, pc, pc' => ∃ m, ECodeL B F L c pc m ∧ B.getD m 0 = Compiler.op.gotoIfFalse ∧
        rdU32 B (m + 1) = pc' ∧ SCodeS d L b (m + 5) pc'
    | .bin .ifFalse c b, pc, pc' => ∃ m, ECodeL B F L c pc m ∧ B.getD m 0 = Compiler.op.gotoIfTrue ∧
        rdU32 B (m + 1) = pc' ∧ SCodeS d L b (m + 5) pc'
    | .bin .while c (.composite _ cs), pc, pc' => ∃ m1 m2, ECodeL B F L c pc m1 ∧
        B.getD m1 0 = Compiler.op.gotoIfFalse ∧ rdU32 B (m1 + 1) = pc' ∧ BCodes (d + 1) L cs (m1 + 5) m2 ∧
        (∀ j, j < (blockCtx (d + 1) L cs).length - L.length → B.getD (m2 + j) 0 = Compiler.op.pop) ∧
        B.getD (m2 + ((blockCtx (d + 1) L cs).length - L.length)) 0 = Compiler.op.goto ∧
        rdU32 B (m2 + ((blockCtx (d + 1) L cs).length - L.length) + 1) = pc ∧
        pc' = m2 + ((blockCtx (d + 1) L cs).length - L.length) + 5
    | .repeat i n (.composite _ cs), pc, pc' => ∃ m0 mb m2,
        ECodeL B F L n pc m0 ∧ IsSet B m0 L.length ∧ ECodeL B F L (.scalarInt 0) (m0 + 5) (m0 + 14) ∧
        IsSet B (m0 + 14) (L.length + 1) ∧
        IsRead B (m0 + 19) (L.length + 1) ∧ IsRead B (m0 + 24) L.length ∧
        B.getD (m0 + 29) 0 = Compiler.op.less ∧ B.getD (m0 + 30) 0 = Compiler.op.gotoIfFalse ∧
        rdU32 B (m0 + 31) = pc' - 2 ∧
        (match i with
          | some _ => IsRead B (m0 + 35) (L.length + 1) ∧ IsSet B (m0 + 40) (L.length + 2) ∧ mb = m0 + 45
          | none => mb = m0 + 35) ∧
        BCodes (d + 2) (repCtx d L i) cs mb m2 ∧
        (∀ j, j < (blockCtx (d + 2) (repCtx d L i) cs).length - (L.length + 2) →
          B.getD (m2 + j) 0 = Compiler.op.pop) ∧
        ECodeL B F L (.scalarInt 1) (m2 + ((blockCtx (d + 2) (repCtx d L i) cs).length - (L.length + 2)))
          (m2 + ((blockCtx (d + 2) (repCtx d L i) cs).length - (L.length + 2)) + 9) ∧
        IsRead B (m2 + ((blockCtx (d + 2) (repCtx d L i) cs).length - (L.length + 2)) + 9) (L.length + 1) ∧
        B.getD (m2 + ((blockCtx (d + 2) (repCtx d L i) cs).length - (L.length + 2)) + 14) 0 = Compiler.op.add ∧
        IsSet B (m2 + ((blockCtx (d + 2) (repCtx d L i) cs).length - (L.length + 2)) + 15) (L.length + 1) ∧
        B.getD (m2 + ((blockCtx (d + 2) (repCtx d L i) cs).length - (L.length + 2)) + 20) 0 = Compiler.op.goto ∧
        rdU32 B (m2 + ((blockCtx (d + 2) (repCtx d L i) cs).length - (L.length + 2)) + 21) = m0 + 19 ∧
        B.getD (pc' - 2) 0 = Compiler.op.pop ∧ B.getD (pc' - 1) 0 = Compiler.op.pop ∧
        pc' = m2 + ((blockCtx (d + 2) (repCtx d L i) cs).length - (L.length + 2)) + 27
    | .tri .ifElse c t e, pc, pc' => ∃ m1 m2, ECodeL B F L c pc m1 ∧ B.getD m1 0 = Compiler.op.gotoIfFalse ∧
        rdU32 B (m1 + 1) = m2 + 5 ∧ SCodeS d L t (m1 + 5) m2 ∧ B.getD m2 0 = Compiler.op.goto ∧
        rdU32 B (m2 + 1) = pc' ∧ SCodeS d L e (m2 + 5) pc'
    | .composite _ cs, pc, pc' => SCodesS d L cs pc pc'
    | .comment _, pc, pc' => pc' = pc
    | _, _, _ => False
  def SCodesS (d : Int) (L : LCtx) : List Card → Nat → Nat → Prop
    | [], pc, pc' => pc' = pc
    | c :: cs, pc, pc' => ∃ m, SCodeS d L c pc m ∧ SCodesS d L cs m pc'
  /-- code of the cards of a block at depth `d` -/
  def BCodes (d : Int) (L : LCtx) : List Card → Nat → Nat → Prop
    | [], pc, pc' => pc' = pc
    | c :: cs, pc, pc' =>
      match declOf L c with
      | some (n, e) => ∃ m, VCode B F J L e pc m ∧ B.getD m 0 = Compiler.op.setLocalVar ∧
          rdU32 B (m + 1) = L.length ∧ BCodes d (L ++ [(n, d)]) cs (m + 5) pc'
      | none => ∃ m, SCodeS d L c pc m ∧ BCodes d L cs m pc'
end
end code
end Cao.Sim

namespace Cao.Compiler
open Cao Cao.Sim

theorem curDepth_depthUp_succ (l : List Int) (h : l ≠ []) :
    (depthUp l).getLast?.getD 0 = l.getLast?.getD 0 + 1 := by
  unfold depthUp
  cases hr : l.reverse with
  | nil => simp at hr; exact absurd hr h
  | cons d r =>
    have hl : l = (d :: r).reverse := by rw [← hr, List.reverse_reverse]
    rw [hl]
    simp

theorem resolveSpec_look {jt : JumpTable} {ns : List String} {imports : List (String × String)} {g : String}
    {r : UInt32 × UInt32} (h : look jt g = some r) : resolveSpec jt ns imports g = .ok r := by
  simp [resolveSpec, resolveWith, stepThen, h]

/-- what `Call g args` appends after the code of the arguments -/
theorem callCode_tail {g : String} {s s' : CState} {r : UInt32 × UInt32} (hr : look s.jumpTable g = some r)
    (h : (do pushInstr op.functionPointer; encodeJump g; pushInstr op.callFunction : CM Unit) s = .ok ((), s')) :
    s'.bytecode = ((s.bytecode.push op.functionPointer ++ (le32 r.1).toArray) ++ (le32 r.2).toArray).push op.callFunction ∧
      QL s s' ∧ QV s s' := by
  obtain ⟨_, s1, h1, h⟩ := bind_ok.1 h
  obtain ⟨_, s2, h2, h3⟩ := bind_ok.1 h
  obtain ⟨b1, l1, v1⟩ := pushInstr_ok h1
  obtain ⟨b3, l3, v3⟩ := pushInstr_ok h3
  rw [encodeJump_run, resolveSpec_look (by rw [l1.jt]; exact hr)] at h2
  obtain ⟨h, a⟩ := r
  simp only [Except.ok.injEq, Prod.mk.injEq, true_and] at h2
  subst h2
  refine ⟨by rw [b3]; simp only [b1], l1.trans ⟨l3.locals, l3.fid, l3.depth, l3.jt⟩,
    v1.trans ⟨v3.ids, v3.next, v3.data⟩⟩

theorem call_bytes (a : Array UInt8) (o o2 : UInt8) (xs ys : List UInt8) (hx : xs.length = 4) (hy : ys.length = 4) :
    let arr := ((a.push o ++ xs.toArray) ++ ys.toArray).push o2
    arr.size = a.size + 10 ∧ arr.getD a.size 0 = o ∧
    (∀ i, i < 4 → arr.getD (a.size + 1 + i) 0 = xs.getD i 0) ∧
    (∀ i, i < 4 → arr.getD (a.size + 5 + i) 0 = ys.getD i 0) ∧
    arr.getD (a.size + 9) 0 = o2 ∧ ∀ i, i < a.size → arr[i]? = a[i]? := by
  intro arr
  have e : arr = (a.toList ++ (o :: (xs ++ (ys ++ [o2])))).toArray := by
    apply Array.ext'
    simp [arr]
  have hg : ∀ k, arr.getD (a.size + k) 0 = (o :: (xs ++ (ys ++ [o2]))).getD k 0 := by
    intro k
    rw [e, Array.getD_eq_getD_getElem?, List.getElem?_toArray, List.getElem?_append_right (by simp),
      List.getD_eq_getElem?_getD]
    simp
  refine ⟨by rw [e]; simp [hx, hy], ?_, ?_, ?_, ?_, ?_⟩
  · have := hg 0; simpa using this
  · intro i hi
    have := hg (1 + i)
    rw [← Nat.add_assoc] at this
    rw [this, show 1 + i = i + 1 by omega, List.getD_cons_succ, List.getD_eq_getElem?_getD,
      List.getElem?_append_left (by omega), List.getD_eq_getElem?_getD]
  · intro i hi
    have := hg (5 + i)
    rw [← Nat.add_assoc] at this
    rw [this, show 5 + i = (4 + i) + 1 by omega, List.getD_cons_succ, List.getD_eq_getElem?_getD,
      List.getElem?_append_right (by omega), List.getElem?_append_left (by omega), List.getD_eq_getElem?_getD]
    congr 2; omega
  · have := hg 9
    rw [this, show (9 : Nat) = 8 + 1 by rfl, List.getD_cons_succ, List.getD_eq_getElem?_getD,
      List.getElem?_append_right (by omega), List.getElem?_append_right (by omega)]
    simp [hx, hy]
  · intro i hi
    rw [e, List.getElem?_toArray, List.getElem?_append_left (by simpa using hi)]
    simp

section
variable {B : Array UInt8} {F : List (UInt32 × Nat)} {L : LCtx} {sd : List Int} {J : JumpTable}

theorem callTail_emits {g : String} {r : UInt32 × UInt32} (hr : look J g = some r) :
    Emits B F (Scoped L sd J) (do pushInstr op.functionPointer; encodeJump g; pushInstr op.callFunction)
      (Scoped L sd J)
      (fun p q => B.getD p 0 = op.functionPointer ∧ Vm.rdU32 B (p + 1) = r.1.toNat ∧
        Vm.rdU32 B (p + 5) = r.2.toNat ∧ B.getD (p + 9) 0 = op.callFunction ∧ q = p + 10) where
  tame _ := runs_seq (pushInstr_runs _) <| runs_seq (encodeJump_runs g) (pushInstr_runs _)
  spec s s' h hi hag _ := by
    obtain ⟨bt, lt, _⟩ := callCode_tail (r := r) (by rw [hi.2.2]; exact hr) h
    obtain ⟨c1, c2, c3, c4, c5, _⟩ := call_bytes s.bytecode op.functionPointer op.callFunction (le32 r.1) (le32 r.2)
      (Bytecode.le32_length _) (Bytecode.le32_length _)
    rw [← bt] at c1 c2 c3 c4 c5
    refine ⟨Scoped.qlStable _ _ hi lt, ?_, ?_, ?_, ?_, c1⟩
    · rw [hag.getD (Nat.le_refl _) (by omega)]; exact c2
    · exact Sim.rdU32_eq _ _ _ fun i hi => by rw [hag.getD (by omega) (by omega)]; exact c3 i hi
    · exact Sim.rdU32_eq _ _ _ fun i hi => by rw [hag.getD (by omega) (by omega)]; exact c4 i hi
    · rw [hag.getD (by omega) (by omega)]; exact c5
end

section
variable (B : Array UInt8) (F : List (UInt32 × Nat)) (J : JumpTable) (hB : B.size < 4294967296)
  (hF : ∀ p ∈ F, p.2 < 4294967296) (ft : Feat)
  (hJ : ∀ g fd, ft.lookup g = some fd → ∃ r, look J g = some r) (L : LCtx) (sd : List Int)

include hF in
theorem ecodesL_emits : ∀ (args : List Card), isExprs args = true → ∀ (k : Nat),
    Emits B F (Scoped L sd J) (compileSubexprFrom k args) (Scoped L sd J) (ECodesL B F L args)
  | [], _, _ => by
    simp only [compileSubexprFrom]
    exact Emits.pure _
  | e :: es, he, k => by
    simp only [isExprs, Bool.and_eq_true] at he
    exact walk_compileSubexprFrom.cons k e es Scoped.qlStable Scoped.qlStable (ecodeL_emits B F hF L J sd e he.1)
      (ecodesL_emits es he.2 (k + 1))

include hF hJ in
theorem vcode_emits {e : Card} (he : isVal ft e = true) :
    Emits B F (Scoped L sd J) (processCard e) (Scoped L sd J) (VCode B F J L e) := by
  rcases isVal_cases he with he | ⟨g, args, rfl, hc⟩
  · exact (ecodeL_emits B F hF L J sd e he).imp fun _ _ => Or.inl
  · simp only [isCall, Bool.and_eq_true] at hc
    obtain ⟨r, hr⟩ : ∃ r, look J g = some r := by
      rcases hlk : ft.lookup g with _ | fd
      · rw [hlk] at hc; exact absurd hc.1 (by simp)
      · exact hJ g fd hlk
    simp only [processCard]
    exact (((ecodesL_emits B F J hF L sd args hc.2 0).seq (callTail_emits hr)).after quiet_cardLabel
      Scoped.qlStable).imp fun p q ⟨m, h1, h2, h3, h4, h5, h6⟩ => Or.inr ⟨m, r.1, r.2, h1, h2, hr, h3, h4, h5, h6⟩
end

section
variable {B : Array UInt8} {F : List (UInt32 × Nat)} {L : LCtx} {sd : List Int} {J : JumpTable}

/-- `ScalarInt i`, as the `Repeat` arm emits it for its hidden counter -/
theorem scalarInt_emits (L0 : LCtx) (i : Int64) :
    Emits B F (Scoped L sd J) (processScalarInt i) (Scoped L sd J) (ECodeL B F L0 (.scalarInt i)) :=
  (Emits.instr64 op.scalarInt _ Scoped.qlStable).after quiet_cardLabel Scoped.qlStable

theorem silent_addLocalUnchecked (x : String) {L1 : LCtx} (hL1 : L1 = L ++ [(x, sd.getLast?.getD 0)]) :
    Silent (Scoped L sd J) (addLocalUnchecked x) (fun _ => Scoped L1 sd J) (fun a _ => a = L.length) where
  tame _ := addLocalUnchecked_runs x
  run s a s' r hi := by
    obtain ⟨rfl, b, _, d, hl⟩ := addLocalUnchecked_ok hi.1 r
    have hcd : curDepth s = sd.getLast?.getD 0 := by unfold curDepth; rw [hi.2.1]
    rw [hcd, ← hL1] at hl
    exact ⟨b, ⟨hl, d.trans hi.2.1, by rw [(kp_run (addLocalUnchecked_kp x) r).jt]; exact hi.2.2⟩, rfl⟩

/-- the loop variable of `Repeat`, a new local holding a copy of the local `src` -/
theorem bindLoopVar_emits (i : Option String) (src : Nat) :
    Emits B F (Scoped L sd J) (bindLoopVar i src)
      (Scoped (match i with | some v => L ++ [(v, sd.getLast?.getD 0)] | none => L) sd J)
      (fun p q => match i with
        | some _ => IsRead B p (src % 4294967296) ∧ IsSet B (p + 5) L.length ∧ q = p + 10
        | none => q = p) := by
  cases i with
  | none => exact Emits.pure _
  | some v =>
    refine ⟨fun _ => bindLoopVar_runs _ _, fun s s' r hi hag hv => ?_⟩
    simp only [bindLoopVar] at r
    obtain ⟨x, s1, r1, r⟩ := bind_ok.1 r
    obtain ⟨rfl, b1, _, d1, hl1⟩ := addLocal_ok hi.1 r1
    have hcd : curDepth s = sd.getLast?.getD 0 := by unfold curDepth; rw [hi.2.1]
    rw [hcd] at hl1
    have i1 : Scoped (L ++ [(v, sd.getLast?.getD 0)]) sd J s1 :=
      ⟨hl1, d1.trans hi.2.1, by rw [(kp_run (addLocal_kp v) r1).jt]; exact hi.2.2⟩
    obtain ⟨i2, q, ⟨a1, a2, rfl⟩, b1', b2, b3⟩ :=
      ((Emits.instr32_mod op.readLocalVar src Scoped.qlStable).seq
        (Emits.instr32 op.setLocalVar (x := L.length) (fun _ h => Scoped.lt (L := L ++ [(v, sd.getLast?.getD 0)]) h (by simp))
          Scoped.qlStable)).spec s1 s' r i1 (by rw [b1]; exact hag) hv
    rw [b1] at a1 a2 b1' b2 b3
    exact ⟨i2, ⟨a1, a2⟩, ⟨b1', b2⟩, by omega⟩

/-- `repeatCode` emits the count, the loop (`RepLoop`) and the body inside it. `N` and `C` are two hidden locals of a
    scope of their own around the loop; `L'` are the locals of one iteration (the loop variable, if any, and those
    the body declares). The slots `N` and `C` and the address of the head of the loop are values of the compilation,
    so the code is described for arbitrary values (operands reduced to 32 bits) and the values are put in at the
    end. -/
theorem repeatCode_emits (hB : B.size < 4294967296) (hsd : sd ≠ []) {d : Int} (hd : sd.getLast?.getD 0 = d)
    (hfit : Fit L sd) (hlen : L.length ≤ 255) (i : Option String) {cn cb : CM Unit} {PN PB : Nat → Nat → Prop}
    {L' : LCtx} (hL' : ∀ p ∈ L', p.2 = d + 2)
    (hn : Emits B F (Scoped L sd J) cn (Scoped L sd J) PN)
    (hb : Emits B F (Scoped (repCtx d L i) (depthUp (depthUp sd)) J) cb
      (Scoped (L ++ [("", d + 1), ("", d + 1)] ++ L') (depthUp (depthUp sd)) J) PB) :
    Emits B F (Scoped L sd J) (repeatCode i cn cb) (Scoped L sd J)
      (fun p r => ∃ m0 mb m2, PN p m0 ∧ PB mb m2 ∧ RepLoop B F L i r m0 mb m2 L'.length) := by
  have hd1 : (depthUp sd).getLast?.getD 0 = d + 1 := by rw [curDepth_depthUp_succ _ hsd, hd]
  have hd2 : (depthUp (depthUp sd)).getLast?.getD 0 = d + 2 := by
    rw [curDepth_depthUp_succ _ (depthUp_ne_nil.2 hsd), hd1]; omega
  have hfit2 : Fit (L ++ [("", d + 1), ("", d + 1)]) (depthUp sd) := fun p hp => by
    rcases List.mem_append.1 hp with hp | hp
    · have := hfit p hp; rw [hd] at this; rw [hd1]; omega
    · simp only [List.mem_cons, List.mem_nil_iff, or_false, or_self] at hp
      rw [hd1, hp]; exact Int.le_refl _
  -- `C := C + 1; Goto begin`
  have hInc := fun (C n : Nat) => (scalarInt_emits (B := B) (F := F) (L := L ++ [("", d + 1), ("", d + 1)])
      (sd := depthUp sd) (J := J) L 1).seq
    ((Emits.instr32_mod op.readLocalVar C Scoped.qlStable).seq ((Emits.instr op.add Scoped.qlStable).seq
    ((Emits.instr32_mod op.setLocalVar C Scoped.qlStable).seq (Emits.instr32_mod op.goto n Scoped.qlStable))))
  -- one iteration, in a scope of its own
  have hVar : ∀ C, Emits B F (Scoped (L ++ [("", d + 1), ("", d + 1)]) (depthUp (depthUp sd)) J)
      (bindLoopVar i C) (Scoped (repCtx d L i) (depthUp (depthUp sd)) J) _ := fun C =>
    (bindLoopVar_emits i C).post fun _ h => by cases i <;> simpa only [repCtx, hd2] using h
  have hIter := fun (C n : Nat) => (scopeBegin_scoped.post fun _ h => h.1).seq
    ((hVar C).seq ((hb.withSub 1 Scoped.qlStable Scoped.qlStable).seq
    (((scopeEnd_scoped (new := L') fun p hp => by rw [hd1, hL' p hp]; omega).pre fun _ h => ⟨h, hfit2⟩).seq
    (hInc C n))))
  -- the test, the loop and the end of the outer scope
  have hLoop := fun (N C n : Nat) => (Emits.instr32_mod (B := B) (F := F) op.readLocalVar C Scoped.qlStable).seq
    ((Emits.instr32_mod op.readLocalVar N Scoped.qlStable).seq ((Emits.instr op.less Scoped.qlStable).seq
    ((Emits.encodeIfThen hB op.gotoIfFalse Scoped.qlStable Scoped.qlStable (hIter C n)).seq
    ((scopeEnd_scoped (L := L) (new := [("", d + 1), ("", d + 1)]) (sd := sd) (J := J) fun p hp => by
        simp only [List.mem_cons, List.mem_nil_iff, or_false, or_self] at hp
        rw [hd, hp]; show d < d + 1; omega).pre fun _ h => ⟨h, hfit⟩))))
  -- the hidden locals and their initialisation
  have hAll := (hn.withSub 0 Scoped.qlStable Scoped.qlStable).seq ((scopeBegin_scoped.post fun _ h => h.1).seq
    (Emits.bind (silent_addLocalUnchecked "" rfl) fun N =>
    (Emits.bind (silent_addLocalUnchecked (L1 := L ++ [("", d + 1), ("", d + 1)]) "" (by rw [hd1]; simp)) fun C =>
    (Emits.instr32_mod op.setLocalVar N Scoped.qlStable).seq ((scalarInt_emits L 0).seq
    ((Emits.instr32_mod op.setLocalVar C Scoped.qlStable).seq
    (Emits.bind silent_get fun st => hLoop N C st.bytecode.size))))))
  unfold Compiler.repeatCode
  refine hAll.imp_le ?_
  clear hAll hLoop hIter hVar hInc hn hb
  rintro p r hpr hrB ⟨_, hpn, m0, rfl, N, rfl, _, C, rfl, _, _, ⟨a1, a2, rfl⟩, _, ⟨a3, a4, rfl⟩, _, ⟨a5, a6, rfl⟩,
    st, hst, hle, _, ⟨b1, b2, rfl⟩, _, ⟨b3, b4, rfl⟩, _, ⟨b5, rfl⟩, q7, ⟨c1, c2, _, rfl, mb, hvar, m2, hpb, _,
    ⟨hpops, rfl⟩, _, ⟨e1, e2, rfl⟩, _, ⟨e3, e4, rfl⟩, _, ⟨e5, rfl⟩, _, ⟨e6, e7, rfl⟩, e8, e9, rfl⟩, hp2, rfl⟩
  have hm0 : L.length % 4294967296 = L.length := Nat.mod_eq_of_lt (by omega)
  have hm1 : (L.length + 1) % 4294967296 = L.length + 1 := Nat.mod_eq_of_lt (by omega)
  simp only [Nat.add_assoc, Nat.reduceAdd, List.length_cons, List.length_nil, List.length_append, hm0, hm1] at *
  have hp0 := hp2 0 (by omega)
  have hp1 := hp2 1 (by omega)
  refine ⟨m0, mb, m2, hpn, hpb, {
    setN := ⟨a1, a2⟩, zero := ⟨a3, a4, rfl⟩, setC := ⟨a5, a6⟩
    readC := ⟨b1, b2⟩, readN := ⟨b3, b4⟩, less := b5, test := c1, exit := by rw [c2]; omega
    bind := ?_, pops := hpops
    incOne := ⟨e1, e2, by omega⟩, incRead := ⟨e3, e4⟩, incAdd := e5, incSet := ⟨e6, e7⟩, goto := e8
    back := e9.trans (by rw [hst]; exact Nat.mod_eq_of_lt (by omega))
    pop1 := ?_, pop2 := ?_, endAt := rfl }⟩
  · cases i <;> exact hvar
  · rw [show m2 + (L'.length + 27) - 2 = m2 + (L'.length + (25 + 0)) by omega]; exact hp0
  · rw [show m2 + (L'.length + 27) - 1 = m2 + (L'.length + (25 + 1)) by omega]; exact hp1
end

theorem blockCtx_rep (d : Int) (L : LCtx) (i : Option String) (cs : List Card) :
    ∃ L', blockCtx (d + 2) (repCtx d L i) cs = (L ++ [("", d + 1), ("", d + 1)]) ++ L' ∧
      (∀ p ∈ L', p.2 = d + 2) ∧
      (blockCtx (d + 2) (repCtx d L i) cs).length - (L.length + 2) = L'.length := by
  obtain ⟨new, hnew1, hnew2⟩ := blockCtx_ext (d + 2) cs (repCtx d L i)
  cases i with
  | none => exact ⟨new, hnew1, hnew2, by rw [hnew1]; simp [repCtx]; omega⟩
  | some v =>
    refine ⟨(v, d + 2) :: new, by rw [hnew1]; simp [repCtx], fun p hp => ?_, by rw [hnew1]; simp [repCtx]; omega⟩
    rcases List.mem_cons.1 hp with rfl | hp
    · rfl
    · exact hnew2 p hp

section
variable (B : Array UInt8) (F : List (UInt32 × Nat)) (J : JumpTable) (hB : B.size < 4294967296)
  (hF : ∀ p ∈ F, p.2 < 4294967296) (ft : Feat)
  (hJ : ∀ g fd, ft.lookup g = some fd → ∃ r, look J g = some r)
include hB hF hJ

set_option linter.unusedSectionVars false in
mutual
theorem scodeS_emits {sd : List Int} (hsd : sd ≠ []) {d : Int} (hd : sd.getLast?.getD 0 = d) (L : LCtx) :
    ∀ (c : Card), isStmtS ft d L c = true →
      Emits B F (Scoped L sd J) (processCard c) (Scoped L sd J) (SCodeS B F J d L c)
  | .comment _, _ => by
    simp only [processCard]
    exact (Emits.pure _).after quiet_cardLabel Scoped.qlStable
  | .composite _ cs, hc => by
    simp only [isStmtS] at hc
    simp only [processCard]
    exact (scodesS_emits hsd hd L cs hc 0).after quiet_cardLabel Scoped.qlStable
  | .setGlobalVar x e, hc => by
    simp only [isStmtS, Bool.and_eq_true, Bool.not_eq_true'] at hc
    simp only [processCard]
    exact (Emits.setGlobalVarCode hF hc.1 Scoped.qlStable Scoped.qlStable (vcode_emits B F J hF ft hJ L sd hc.2)).after
      quiet_cardLabel Scoped.qlStable
  | .setVar x e, hc => by
    simp only [isStmtS, Bool.and_eq_true] at hc
    simp only [processCard]
    have := (Emits.setVarCode hc.1.1 (vcode_emits B F J hF ft hJ L sd hc.2)).after quiet_cardLabel Scoped.qlStable
    rcases hli : lidx L x with _ | i
    · rw [hli] at hc; exact absurd hc.1.2 (by simp)
    · simp only [hli] at this
      exact this.imp fun p q ⟨m, h1, h2, h3, h4⟩ => by simp only [SCodeS]; exact ⟨m, i, hli, h1, h2, h3, h4⟩
  | .un .ret e, hc => by
    simp only [isStmtS, Bool.and_eq_true] at hc
    simp only [processCard]
    exact (Emits.unCode .ret Scoped.qlStable Scoped.qlStable (vcode_emits B F J hF ft hJ L sd hc.2)).after
      quiet_cardLabel Scoped.qlStable
  | .bin .ifTrue c b, hc => by
    simp only [isStmtS, Bool.and_eq_true] at hc
    simp only [processCard]
    exact (Emits.ifCode hB op.gotoIfFalse Scoped.qlStable (ecodeL_emits B F hF L J sd c hc.1)
      (scodeS_emits hsd hd L b hc.2)).after quiet_cardLabel Scoped.qlStable
  | .bin .ifFalse c b, hc => by
    simp only [isStmtS, Bool.and_eq_true] at hc
    simp only [processCard]
    exact (Emits.ifCode hB op.gotoIfTrue Scoped.qlStable (ecodeL_emits B F hF L J sd c hc.1)
      (scodeS_emits hsd hd L b hc.2)).after quiet_cardLabel Scoped.qlStable
  | .tri .ifElse c t e, hc => by
    simp only [isStmtS, Bool.and_eq_true] at hc
    simp only [processCard]
    exact (Emits.ifElseCode hB Scoped.qlStable (ecodeL_emits B F hF L J sd c hc.1.1) (scodeS_emits hsd hd L t hc.1.2)
      (scodeS_emits hsd hd L e hc.2)).after quiet_cardLabel Scoped.qlStable
  | .bin .while c (.composite ty cs), hc => by
    simp only [isStmtS, Bool.and_eq_true] at hc
    obtain ⟨new, hnew1, hnew2⟩ := blockCtx_ext (d + 1) cs L
    have hd' : (depthUp sd).getLast?.getD 0 = d + 1 := by rw [curDepth_depthUp_succ _ hsd, hd]
    have hbody := (bcodes_emits walk_compileSubexprFrom (depthUp_ne_nil.2 hsd) hd' cs L hc.2 0).after quiet_cardLabel
      Scoped.qlStable
    rw [hnew1] at hbody
    have hk : (blockCtx (d + 1) L cs).length - L.length = new.length := by rw [hnew1]; simp
    simp only [processCard]
    refine ((Emits.whileCode hB Scoped.qlStable (ecodeL_emits B F hF L J sd c hc.1) scopeBegin_scoped
      (hbody.frame (Fit L sd)) (scopeEnd_scoped fun p hp => by rw [hnew2 p hp, hd]; omega)).after
        quiet_cardLabel Scoped.qlStable).imp ?_
    rintro p r ⟨m1, m2, _, h1, h2, h3, h4, ⟨h5, rfl⟩, h6, h7, h8⟩
    simp only [SCodeS, hk]
    exact ⟨m1, m2, h1, h2, h3, h4, h5, h6, h7, h8⟩
  | .repeat i n (.composite ty cs), hc => by
    simp only [isStmtS, Bool.and_eq_true] at hc
    obtain ⟨L', hctx1, hctx2, hctx3⟩ := blockCtx_rep d L i cs
    have hd2 : (depthUp (depthUp sd)).getLast?.getD 0 = d + 2 := by
      rw [curDepth_depthUp_succ _ (depthUp_ne_nil.2 hsd), curDepth_depthUp_succ _ hsd, hd]; omega
    have hbody := (bcodes_emits walk_compileSubexprFrom (depthUp_ne_nil.2 (depthUp_ne_nil.2 hsd)) hd2 cs _ hc.2 0).after
      quiet_cardLabel Scoped.qlStable
    rw [hctx1] at hbody
    -- that the locals fit the scope and the slots fit a byte is known of the state only
    refine ⟨fun _ => processCard_runs _, fun s s' r hi hag hv => ?_⟩
    simp only [processCard] at r
    obtain ⟨hi', m0, mb, m2, hn, hb, h⟩ := ((repeatCode_emits hB hsd hd hi.fit hi.1.len i hctx2
      (ecodeL_emits B F hF L J sd n hc.1.1.2) hbody).after quiet_cardLabel Scoped.qlStable).spec s s' r hi hag hv
    refine ⟨hi', ?_⟩
    simp only [SCodeS, hctx3]
    exact ⟨m0, mb, m2, hn, h.setN, h.zero, h.setC, h.readC, h.readN, h.less, h.test, h.exit, h.bind, hb, h.pops, h.incOne,
      h.incRead, h.incAdd, h.incSet, h.goto, h.back, h.pop1, h.pop2, h.endAt⟩
  | .bin .while _ (.bin _ _ _), hc | .bin .while _ (.un _ _), hc | .bin .while _ (.tri _ _ _ _), hc
  | .bin .while _ .scalarNil, hc | .bin .while _ .createTable, hc | .bin .while _ .abort, hc
  | .bin .while _ (.scalarInt _), hc | .bin .while _ (.scalarFloat _), hc | .bin .while _ (.stringLiteral _), hc
  | .bin .while _ (.comment _), hc | .bin .while _ (.function _), hc | .bin .while _ (.nativeFunction _), hc
  | .bin .while _ (.readVar _), hc | .bin .while _ (.setVar _ _), hc | .bin .while _ (.setGlobalVar _ _), hc
  | .bin .while _ (.callNative _ _), hc | .bin .while _ (.call _ _), hc | .bin .while _ (.repeat _ _ _), hc
  | .bin .while _ (.forEach _ _ _ _ _), hc | .bin .while _ (.dynamicCall _ _), hc | .bin .while _ (.array _), hc
  | .bin .while _ (.closure _ _), hc
  | .bin .add _ _, hc | .bin .sub _ _, hc | .bin .mul _ _, hc | .bin .div _ _, hc | .bin .less _ _, hc
  | .bin .lessOrEq _ _, hc | .bin .equals _ _, hc | .bin .notEquals _ _, hc | .bin .and _ _, hc
  | .bin .or _ _, hc | .bin .xor _ _, hc | .bin .getProperty _ _, hc | .bin .get _ _, hc
  | .bin .appendTable _ _, hc | .un .not _, hc | .un .len _, hc | .un .popTable _, hc
  | .tri .setProperty _ _ _, hc | .scalarNil, hc | .createTable, hc | .abort, hc | .scalarInt _, hc
  | .scalarFloat _, hc | .stringLiteral _, hc | .function _, hc | .nativeFunction _, hc | .readVar _, hc
  | .callNative _ _, hc | .call _ _, hc | .forEach _ _ _ _ _, hc | .dynamicCall _ _, hc | .array _, hc
  | .closure _ _, hc
  | .repeat _ _ (.bin _ _ _), hc | .repeat _ _ (.un _ _), hc | .repeat _ _ (.tri _ _ _ _), hc
  | .repeat _ _ .scalarNil, hc | .repeat _ _ .createTable, hc | .repeat _ _ .abort, hc
  | .repeat _ _ (.scalarInt _), hc | .repeat _ _ (.scalarFloat _), hc | .repeat _ _ (.stringLiteral _), hc
  | .repeat _ _ (.comment _), hc | .repeat _ _ (.function _), hc | .repeat _ _ (.nativeFunction _), hc
  | .repeat _ _ (.readVar _), hc | .repeat _ _ (.setVar _ _), hc | .repeat _ _ (.setGlobalVar _ _), hc
  | .repeat _ _ (.callNative _ _), hc | .repeat _ _ (.call _ _), hc | .repeat _ _ (.repeat _ _ _), hc
  | .repeat _ _ (.forEach _ _ _ _ _), hc | .repeat _ _ (.dynamicCall _ _), hc | .repeat _ _ (.array _), hc
  | .repeat _ _ (.closure _ _), hc => by
    simp [isStmtS] at hc

theorem scodesS_emits {sd : List Int} (hsd : sd ≠ []) {d : Int} (hd : sd.getLast?.getD 0 = d) (L : LCtx) :
    ∀ (cs : List Card), isStmtsS ft d L cs = true → ∀ (i : Nat),
      Emits B F (Scoped L sd J) (compileSubexprFrom i cs) (Scoped L sd J) (SCodesS B F J d L cs)
  | [], _, _ => by
    simp only [compileSubexprFrom]
    exact Emits.pure _
  | c :: cs, hc, i => by
    simp only [isStmtsS, Bool.and_eq_true] at hc
    exact walk_compileSubexprFrom.cons i c cs Scoped.qlStable Scoped.qlStable (scodeS_emits hsd hd L c hc.1)
      (scodesS_emits hsd hd L cs hc.2 (i + 1))

theorem bcodes_emits {trav : Nat → List Card → CM Unit} (hw : Walk trav) {sd : List Int} (hsd : sd ≠ [])
    {d : Int} (hd : sd.getLast?.getD 0 = d) :
    ∀ (cs : List Card) (L : LCtx), isBlock ft d L cs = true → ∀ (i : Nat),
      Emits B F (Scoped L sd J) (trav i cs) (Scoped (blockCtx d L cs) sd J) (BCodes B F J d L cs)
  | [], L, _, i => by
    rw [hw.nil]
    exact Emits.pure _
  | c :: cs, L, hc, i => by
    simp only [isBlock] at hc
    simp only [blockCtx, BCodes]
    rcases hdecl : declOf L c with _ | ⟨x, e⟩
    · simp only [hdecl, Bool.and_eq_true] at hc ⊢
      exact hw.cons i c cs Scoped.qlStable Scoped.qlStable (scodeS_emits hsd hd L c hc.1) (bcodes_emits hw hsd hd cs L hc.2 (i + 1))
    · simp only [hdecl, Bool.and_eq_true] at hc ⊢
      obtain ⟨rfl, hnone⟩ := declOf_some hdecl
      have h1 := (Emits.setVarCode hc.1.1 (vcode_emits B F J hF ft hJ L sd hc.1.2)).after quiet_cardLabel Scoped.qlStable
      simp only [hnone, hd] at h1
      exact (hw.cons i (.setVar x e) cs Scoped.qlStable Scoped.qlStable h1 (bcodes_emits hw hsd hd cs _ hc.2 (i + 1))).imp
        fun p q ⟨_, ⟨m, h1, h2, h3, rfl⟩, h4⟩ => ⟨m, h1, h2, h3, h4⟩
end

end

/-- what `scodeS_emits` says of a run on a `Repeat` card, given the same of the cards of its body; it holds
    (`repX_all`) -/
def RepX (B : Array UInt8) (F : List (UInt32 × Nat)) (J : JumpTable) (ft : Feat) : Prop :=
  ∀ (d : Int) (L : LCtx) (i : Option String) (n : Card) (ty : String) (cs : List Card),
    (∀ (L' : LCtx) (k : Nat) (s s' : CState), isBlock ft (d + 2) L' cs = true →
      compileSubexprFrom k cs s = .ok ((), s') → LInv s L' → curDepth s = d + 2 → s.scopeDepth ≠ [] →
      s.jumpTable = J → AgreeFrom B s' s.bytecode.size → (∃ t, F = s'.varIds ++ t) →
      LInv s' (blockCtx (d + 2) L' cs) ∧ BCodes B F J (d + 2) L' cs s.bytecode.size s'.bytecode.size) →
    isStmtS ft d L (.repeat i n (.composite ty cs)) = true →
    ∀ (s s' : CState), processCard (.repeat i n (.composite ty cs)) s = .ok ((), s') → LInv s L →
      curDepth s = d → s.scopeDepth ≠ [] → s.jumpTable = J → AgreeFrom B s' s.bytecode.size →
      (∃ t, F = s'.varIds ++ t) →
      LInv s' L ∧ SCodeS B F J d L (.repeat i n (.composite ty cs)) s.bytecode.size s'.bytecode.size

section
variable (B : Array UInt8) (F : List (UInt32 × Nat)) (J : JumpTable) (hB : B.size < 4294967296)
  (hF : ∀ p ∈ F, p.2 < 4294967296) (ft : Feat)

include hB hF in
theorem repX_all (hJ : ∀ g fd, ft.lookup g = some fd → ∃ r, look J g = some r) : RepX B F J ft :=
  fun _ L _ _ _ _ _ hs s s' r hl hd hsd hj hag hv =>
    ((scodeS_emits B F J hB hF ft hJ hsd hd L _ hs).spec s s' r ⟨hl, rfl, hj⟩ hag hv).imp (fun h => h.1) id

variable (hrepX : RepX B F J ft) (hJ : ∀ g fd, ft.lookup g = some fd → ∃ r, look J g = some r)
include hB hF hrepX hJ

set_option linter.unusedSectionVars false in
theorem scodesS_of_compileSubexprFrom (d : Int) (L : LCtx) :
    ∀ (cs : List Card), isStmtsS ft d L cs = true → ∀ (i : Nat) (s s' : CState),
      compileSubexprFrom i cs s = .ok ((), s') → LInv s L → curDepth s = d → s.scopeDepth ≠ [] → s.jumpTable = J →
      AgreeFrom B s' s.bytecode.size → (∃ t, F = s'.varIds ++ t) →
      LInv s' L ∧ SCodesS B F J d L cs s.bytecode.size s'.bytecode.size :=
  fun cs hc i s s' r hl hd hsd hj hag hv =>
    ((scodesS_emits B F J hB hF ft hJ hsd hd L cs hc i).spec s s' r ⟨hl, rfl, hj⟩ hag hv).imp (fun h => h.1) id

set_option linter.unusedSectionVars false in
theorem bcodes_of_compileSubexprFrom (d : Int) :
    ∀ (cs : List Card) (L : LCtx), isBlock ft d L cs = true → ∀ (i : Nat) (s s' : CState),
      compileSubexprFrom i cs s = .ok ((), s') → LInv s L → curDepth s = d → s.scopeDepth ≠ [] → s.jumpTable = J →
      AgreeFrom B s' s.bytecode.size → (∃ t, F = s'.varIds ++ t) →
      LInv s' (blockCtx d L cs) ∧ BCodes B F J d L cs s.bytecode.size s'.bytecode.size :=
  fun cs L hc i s s' r hl hd hsd hj hag hv =>
    ((bcodes_emits B F J hB hF ft hJ walk_compileSubexprFrom hsd hd cs L hc i).spec s s' r ⟨hl, rfl, hj⟩
      hag hv).imp (fun h => h.1) id
end

/-- `compile_mainL` when the cards of `main` are a block of a fragment without callable functions -/
theorem compile_mainS {ft : Feat} (hfns : ft.fns = []) {m std : Module} {limit : Nat} {p : Program}
    (h : compile m std limit = .ok p)
    {i : Nat} {nf : String × Func}
    (hi : m.functions.findIdx? (fun p => p.1 == "main") = some i) (hf : m.functions[i]? = some nf)
    (hargs : nf.2.arguments = []) (hst : isBlock ft 1 [] nf.2.cards = true)
    (hB : p.bytecode.size < 4294967296) (hV : p.varIds.length < 4294967296) :
    ∃ J mainEnd, BCodes p.bytecode p.varIds J 1 [] nf.2.cards 0 mainEnd ∧
      (∀ j, j < (blockCtx 1 [] nf.2.cards).length → p.bytecode.getD (mainEnd + j) 0 = op.pop) ∧
      p.bytecode.getD (mainEnd + (blockCtx 1 [] nf.2.cards).length) 0 = op.exit ∧
      mainEnd + (blockCtx 1 [] nf.2.cards).length < p.bytecode.size ∧
      (∀ a b, a ∈ p.varIds → b ∈ p.varIds → a.2 = b.2 → a = b) := by
  obtain ⟨unit, s, ⟨hunit, hs⟩, rfl⟩ := compile_run h
  obtain ⟨e1, e2⟩ := intoIrStream_main hunit hi hf
  have hinv := compileUnit_vinv hs
  have hF := hinv.id_lt hV
  obtain ⟨new, hnew1, hnew2⟩ := blockCtx_ext 1 unit[0]!.cards []
  rw [List.nil_append] at hnew1
  obtain ⟨_, _, mainEnd, _, c1, c2, c3, c4, _⟩ := compileUnit_mainScoped hs (by rw [e1, hargs]) hnew2
    (hnew1 ▸ bcodes_emits s.bytecode s.varIds (jumpTableOf unit.toList) hB hF ft
      (fun g fd hl => by simp [Feat.lookup, hfns] at hl) walk_processFunctionCards (sd := [1]) (by simp) (d := 1) rfl
      _ [] (by rw [e2, hst]) 0)
  rw [← hnew1, e2] at c2 c3 c4
  rw [e2] at c1
  exact ⟨_, mainEnd, c1, c2, c3, c4, pairwise_inj (f := fun (p : UInt32 × Nat) => p.2) hinv.inj⟩

end Cao.Compiler
