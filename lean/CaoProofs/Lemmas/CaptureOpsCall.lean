import CaoProofs.Lemmas.CaptureInv
/-!
# One instruction keeps the capture invariant: `CallFunction` and `Return`
-/
namespace Cao.Vm
open Cao.Gc Cao.C02

variable {p : Prog} {G : Nat → Prop} {lvl cnt : Nat → Nat} {E : ErrKind → Prop} [ErrClass E]
  {re : Reenter} {W0 : List (Option Nat × Nat)} {fs0 : List Frame} {l : Frame} {src : Nat}

/-- `push_call_frame` + jump to the label -/
theorem st_callScript {ip : Nat} (hlv : lvl ip = lvl src) (label : UInt32) (ar : Nat) (clo : Option Nat) :
    St (fun s => InvX p lvl none (W0 ++ [(l.closure, lvl src)]) (fs0 ++ [l]) s ∧
          ∀ e, p.labels.find? (fun l => l.1 == label) = some e → FrameOk s.heap (lvl e.2) clo)
      (step.callScript p src ip label ar clo) (StepQ p lvl W0 fs0 l src) E := by
  refine st_iff_ho.2 (ho_iff.2 fun s ⟨hs, hclo⟩ => ?_)
  refine callScript_cases p src ip label ar clo s (fun h0 => absurd (hs.frames.symm.trans h0) (by simp))
    (fun _ _ hp => ErrBase.plain hp) fun fr r hfr hr => ?_
  rcases hr with rfl | ⟨e, hfind, rfl⟩
  · exact ErrClass.calm (calm_of_plain rfl)
  have hdl : s.frames.dropLast = fs0 := by rw [hs.frames]; simp
  have hl : fr = l := by rw [hs.frames] at hfr; simpa using hfr.symm
  subst hl
  refine StepQ.call { fr with dst := ip } { src := src, dst := ip, stackOffset := s.stack.count - ar, closure := clo }
    rfl rfl hlv (hs.reframe' rfl (.inr rfl) (by rw [hdl]) (fun w hw => hw) fun w hw c hc => ?_) (hclo _ hfind)
  have := hs.rooted w hw c hc
  rw [mem_fcs_append] at this
  rw [mem_fcs_append, mem_fcs_append]
  rcases this with h1 | h1
  · exact .inl (.inl h1)
  · rw [mem_fcs_singleton] at h1
    exact .inl (.inr (mem_fcs_singleton.2 h1))

theorem st_op_callFunction (hs : CapStatic p G lvl cnt) (hsrc : G src)
    (hre : ReSpecS re (InvX p lvl none (W0 ++ [(l.closure, lvl src)]) (fs0 ++ [l])) E)
    (hop : p.bytecode.getD src 0 = Compiler.op.callFunction) :
    St (InvX p lvl none (W0 ++ [(l.closure, lvl src)]) (fs0 ++ [l])) (step p re src)
      (StepQ p lvl W0 fs0 l src) E := by
  have hlv : lvl (src + 1) = lvl src :=
    hs.fall hsrc hop
  rw [Cross.step_callFunction p re src hop]
  unfold Cross.Instr.callFunction
  refine st_bind (st_inv_iff_kp.2 (kp_prim pop)) fun f => ?_
  split
  · next a =>
    refine st_get_bind (fun s0 hs0 => ?_)
    split
    · -- a host function
      exact st_of_eq hs0 (st_falls hs hsrc (hop ▸ by decide) (hop ▸ by decide) (X := fun _ => True)
        (kp_bind (kp_callNative (fun _ _ => ErrClass.wrap) re (fun f => st_inv_iff_kp.1 (hre f)) _) fun _ =>
          kp_pure (falls_of_op hop 1 rfl (by decide))))
    · next h ar heq =>
      refine st_conseq (st_callScript hlv h ar.toNat none) (fun s hs' => ?_) (fun _ _ h => h) (fun _ h => h)
      subst hs'
      exact ⟨hs0, fun e he => .inl (hs0.heap.fn a h ar heq e he)⟩
    · next h ar ups heq =>
      refine st_conseq (st_callScript hlv h ar.toNat (some a)) (fun s hs' => ?_) (fun _ _ h => h) (fun _ h => h)
      subst hs'
      exact ⟨hs0, fun e he => .inr ⟨a, rfl, h, ar, ups, heq, hs0.heap.clo a h ar ups heq (by simp) e he⟩⟩
    · exact st_throwE (ErrClass.calm (calm_of_plain rfl))
  · exact st_throwE (ErrClass.calm (calm_of_plain rfl))

theorem st_op_ret (hroot : RootedIn W0 fs0)
    (hop : p.bytecode.getD src 0 = Compiler.op.ret) :
    St (InvX p lvl none (W0 ++ [(l.closure, lvl src)]) (fs0 ++ [l])) (step p re src)
      (StepQ p lvl W0 fs0 l src) E := by
  rw [Upv.step_ret p re src hop]
  unfold Upv.Instr.ret
  refine st_get_bind (fun s0 hs0 => ?_)
  have hl : s0.frames.getLast? = some l := by rw [hs0.frames]; simp
  have hdl : s0.frames.dropLast = fs0 := by rw [hs0.frames]; simp
  rw [hl]
  dsimp only
  -- the frame goes; the rest keeps the invariant of the shorter call stack
  refine st_set_bind (st_of_eq (P' := InvX p lvl none W0 fs0)
    (hs0.reframe' rfl (.inr rfl) hdl (fun w hw => List.mem_append_left _ hw) hroot) ?_)
  refine st_conseq (Kp.st (X := fun _ => True)
    (φ := fun ctl => ctl.exit = false ∧ ∃ c, fs0.getLast? = some c ∧ ctl.ip = c.dst) ?_)
    (fun _ h => h) (fun _ _ ⟨hK, hx, hc⟩ => .ret hx hK hc) fun _ h => h
  kp_auto
  rename_i _ hK _ caller heq _
  exact ⟨rfl, caller, hK.frames ▸ heq, rfl⟩

end Cao.Vm
