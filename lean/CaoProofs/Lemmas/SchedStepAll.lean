import CaoProofs.Lemmas.SchedUpvalue
/-!
# Schedule independence: every instruction

`step_sim_upv`: for every program, instruction address and pair of related machine states, one
instruction gives the same next address / exit flag or the same error in both machines and
leaves them related — provided the host functions do (`NatSimAt`) and the instruction does not
read a stale stack slot through an open upvalue (`UpvOk` at `Return` and `CloseUpvalue`, `ReadUpvOk`
at `ReadUpvalue`; no other instruction has a condition). `step_sim` is the same under `StepOk`.
-/
namespace Cao.SchedFull
open Cao Cao.Vm Cao.Gc Cao.C02 Cao.C05 Cao.RunInv Cao.Native

/-- the check in front of the instruction at `src` in state `s`: at `ClearStack` / `Return` the running
    frame starts at or below the stack height (`FrameOk`), `Return` / `CloseUpvalue` do not close an
    upvalue over a slot at or above the stack height, `ReadUpvalue` does not read such a slot.
    `step_sim` does not use the first conjunct (`VStack.clearUntil` only truncates, so no stale slot
    comes into view); `Props/C02c.lean` states the results without it. -/
def StepOk (p : Prog) (src : Nat) (s : VmState) : Prop :=
  ((p.bytecode.getD src 0 = Compiler.op.clearStack ∨ p.bytecode.getD src 0 = Compiler.op.ret) → FrameOk s) ∧
  ((p.bytecode.getD src 0 = Compiler.op.ret ∨ p.bytecode.getD src 0 = Compiler.op.closeUpvalue) → UpvOk s) ∧
  (p.bytecode.getD src 0 = Compiler.op.readUpvalue → ReadUpvOk (rdU32 p.bytecode (src + 1)) s)

/-- the instruction at `src`, started in `s`, calls the host function with handle `hd` -/
def CalledAt (p : Prog) (src : Nat) (s : VmState) (hd : UInt32) : Prop :=
  (p.bytecode.getD src 0 = Compiler.op.callNative ∧ hd = UInt32.ofNat (rdU32 p.bytecode (src + 1))) ∨
  (p.bytecode.getD src 0 = Compiler.op.callFunction ∧
    ∃ a, s.stack.pop.2 = .obj a ∧ s.heap.get a = some (.native hd))

theorem step_sim_upv {c : Cfg} (p : Prog) (re₁ re₂ : Reenter) (src : Nat) {K : Nat → Prop} {s t : VmState}
    (hn : ∀ hd, CalledAt p src s hd → NatSimAt c re₁ re₂ hd) (h : Agree c K s t)
    (hokU : (p.bytecode.getD src 0 = Compiler.op.ret ∨ p.bytecode.getD src 0 = Compiler.op.closeUpvalue) → UpvOk s)
    (hokR : p.bytecode.getD src 0 = Compiler.op.readUpvalue → ReadUpvOk (rdU32 p.bytecode (src + 1)) s) :
    W2 c (step p re₁ src) (step p re₂ src) (QStep c) s t := by
  unfold step
  m_head
  -- InitTable
  refine w2_ite (fun _ => sim_alloc _ allocSim_initTable _ h) ?_
  -- GetProperty
  refine w2_ite (fun _ => ?_) ?_
  · refine w2_bind (w2_pop h fun key s1 t1 _ _ hkey hA1 => ?_)
    refine w2_bind (w2_pop hA1 fun inst s2 t2 _ _ hinst hA2 => ?_)
    refine w2_bind (w2_getTable inst hA2 hinst fun a cap es _ ha hg hes => ?_)
    m_head
    refine w2_bind (w2_tableGet es key hA2 hes hkey fun v hv => ?_)
    exact w2_push_done _ hA2 hv _
  -- SetProperty
  refine w2_ite (fun _ => ?_) ?_
  · have hR := h.toR
    refine w2_bind (w2_peek 0 hR fun key _ hkey => ?_)
    refine w2_bind (w2_peek 1 hR fun inst _ hinst => ?_)
    refine w2_bind (w2_peek 2 hR fun value _ hvalue => ?_)
    refine w2_bind (w2_getTable inst hR hinst fun a cap es _ ha hg hes => ?_)
    m_head
    refine w2_bind (w2_tableInsert a key value hR ha hkey hvalue fun s1 t1 _ hA1 => ?_)
    refine w2_bind (w2_popN 3 hA1 fun s2 t2 _ hA2 => ?_)
    exact w2_done hA2 _
  -- BeginForEach
  refine w2_ite (fun _ => ?_) ?_
  · refine w2_get' ?_
    m_head
    rw [h.stack.1.last]
    have hitem := h.vk_last
    refine w2_bind (w2_getTable _ h hitem fun a cap es _ ha hg hes => ?_)
    refine w2_bind (w2_curFrame h fun f hf _ => ?_)
    m_head
    refine w2_bind (w2_writeLocal _ _ _ h VK.int fun s1 t1 _ hA1 => ?_)
    refine w2_bind (w2_writeLocal _ _ _ hA1 hitem fun s2 t2 _ hA2 => ?_)
    refine w2_bind (w2_writeLocal _ _ _ hA2 VK.nil fun s3 t3 _ hA3 => ?_)
    refine w2_bind (w2_writeLocal _ _ _ hA3 VK.nil fun s4 t4 _ hA4 => ?_)
    refine w2_bind (w2_writeLocal _ _ _ hA4 VK.nil fun s5 t5 _ hA5 => ?_)
    exact w2_done hA5 _
  -- ForEach
  refine w2_ite (fun _ => ?_) ?_
  · m_head
    refine w2_bind (w2_curFrame h fun f hf _ => ?_)
    m_head
    refine w2_bind (w2_readLocal _ _ h fun iv hiv => ?_)
    refine w2_bind (w2_readLocal _ _ h fun objv hobjv => ?_)
    refine w2_get' ?_
    m_head
    rw [h.toI64_eq hiv]
    refine w2_bind (w2_getTableOr objv _ h hobjv fun es hes => ?_)
    m_head
    generalize toI64 s.heap iv = i
    by_cases hc : (0 ≤ i.toInt ∧ i.toInt < es.length)
    · have hd : decide (0 ≤ i.toInt ∧ i.toInt < (es.length : Int)) = true := by simpa using hc
      rw [hd]
      have hmem : es.getD i.toInt.toNat (.nil, .nil) ∈ es := by
        have hlt : i.toInt.toNat < es.length := by omega
        rw [List.getD_eq_getElem?_getD, List.getElem?_eq_getElem hlt]
        exact List.getElem_mem hlt
      have hkv := hes _ hmem
      rcases hg : es.getD i.toInt.toNat (.nil, .nil) with ⟨k, v⟩
      rw [hg] at hkv
      simp only [if_true]
      refine w2_bind (w2_writeLocal _ _ _ h hkv.2 fun s1 t1 _ hA1 => ?_)
      refine w2_bind (w2_writeLocal _ _ _ hA1 hkv.1 fun s2 t2 _ hA2 => ?_)
      refine w2_bind (w2_writeLocal _ _ _ hA2 VK.int fun s3 t3 _ hA3 => ?_)
      refine w2_bind (w2_writeLocal _ _ _ hA3 VK.int fun s4 t4 _ hA4 => ?_)
      exact w2_push_done _ hA4 VK.boolVal _
    · have hd : decide (0 ≤ i.toInt ∧ i.toInt < (es.length : Int)) = false := by simpa using hc
      rw [hd]
      simp only [Bool.false_eq_true, if_false]
      exact w2_push_done _ h VK.boolVal _
  -- GotoIfTrue, GotoIfFalse, Goto
  refine w2_ite (fun _ => sim_gotoIf _ _ h) ?_
  refine w2_ite (fun _ => sim_gotoIf _ _ h) ?_
  refine w2_ite (fun _ => w2_done h _) ?_
  -- SwapLast
  refine w2_ite (fun _ => ?_) ?_
  · refine w2_bind (w2_pop h fun b s1 t1 _ _ hb hA1 => ?_)
    refine w2_bind (w2_pop hA1 fun a s2 t2 _ _ ha hA2 => ?_)
    refine w2_bind (w2_push _ hA2 hb fun s3 t3 _ hA3 => ?_)
    exact w2_push_done _ hA3 ha _
  -- ScalarNil
  refine w2_ite (fun _ => w2_push_done _ h VK.nil _) ?_
  -- ClearStack: `clear_until` only truncates, so nothing stale is exposed wherever the frame starts
  refine w2_ite (fun _ => ?_) ?_
  · refine w2_bind (w2_curFrame h fun f hf _ => ?_)
    m_head
    refine w2_bind (w2_modify ?_)
    exact w2_done (h.stack_change (h.stack.map (fun x => (x.clearUntil f.stackOffset).1)
      (h.stack.1.clearUntil' _).1) (fun v hv => h.vk_stack (mem_clearUntil_contents hv))) _
  -- SetLocalVar
  refine w2_ite (fun _ => ?_) ?_
  · m_head
    refine w2_bind (w2_curFrame h fun f hf _ => ?_)
    m_head
    refine w2_get' ?_
    have e := (h.stack.1.popWOffset f.stackOffset).2
    have hv : VK K (s.stack.popWOffset f.stackOffset).2 := by
      unfold VStack.popWOffset
      split
      · exact VK.nil
      · exact h.vk_pop
    have hA := h.stack_change (h.stack.map (fun x => (x.popWOffset f.stackOffset).1)
        (h.stack.1.popWOffset f.stackOffset).1) (fun v hv => h.vk_stack (mem_popWOffset_contents hv))
    rcases hs : s.stack.popWOffset f.stackOffset with ⟨st, v⟩
    rcases ht : t.stack.popWOffset f.stackOffset with ⟨st', v'⟩
    rw [hs, ht] at e hA
    rw [hs] at hv
    dsimp only at e hv hA ⊢
    subst e
    refine w2_bind (w2_set ?_)
    refine w2_bind (w2_writeLocal _ _ _ hA hv fun s2 t2 _ hA2 => ?_)
    exact w2_done hA2 _
  -- ReadLocalVar
  refine w2_ite (fun _ => ?_) ?_
  · m_head
    refine w2_bind (w2_curFrame h fun f hf _ => ?_)
    m_head
    refine w2_bind (w2_readLocal _ _ h fun v hv => ?_)
    exact w2_push_done _ h hv _
  -- SetGlobalVar
  refine w2_ite (fun _ => ?_) ?_
  · m_head
    refine w2_bind (w2_pop h fun v s1 t1 _ _ hv hA => ?_)
    refine w2_bind (w2_modify ?_)
    dsimp only
    refine w2_done (hA.globals_change (by rw [hA.globals]) fun w hw => ?_) _
    rcases List.mem_or_eq_of_mem_set hw with hw | rfl
    · split at hw
      · rcases List.mem_append.mp hw with hw | hw
        · exact hA.vk_global hw
        · rw [List.eq_of_mem_replicate hw]; exact VK.nil
      · exact hA.vk_global hw
    · exact hv
  -- ReadGlobalVar
  refine w2_ite (fun _ => ?_) ?_
  · m_head
    refine w2_get' ?_
    rw [h.globals]
    cases hg : s.globals[rdU32 p.bytecode (src + 1)]? with
    | none => exact w2_throwE_bind h.rel
    | some v => exact w2_push_done _ h (h.vk_global (List.mem_of_getElem? hg)) _
  -- Pop
  refine w2_ite (fun _ => w2_bind (w2_pop h fun v s1 t1 _ _ hv hA => w2_done hA _)) ?_
  -- CallFunction
  refine w2_ite (fun hop => ?_) ?_
  · refine w2_bind (w2_pop h fun f s1 t1 es1 ef hf hA => ?_)
    cases f with
    | obj a =>
      dsimp only
      have ha : K a := hf a rfl
      refine w2_get' ?_
      rw [hA.agree a ha]
      cases hg : s1.heap.get a with
      | none => exact w2_throwE hA.rel
      | some o =>
        cases o with
        | native hd =>
          have hn' := hn hd (Or.inr ⟨eq_of_beq hop, a, ef.symm, by rw [es1] at hg; exact hg⟩)
          refine w2_bind (w2_mono (hn' K s1 t1 hA) fun _ _ s2 t2 hr => ?_)
          exact w2_pure ⟨rfl, hr⟩
        | fn hd ar => exact sim_callScript p src _ hd ar.toNat none hA (fun _ e => by cases e)
        | closure hd ar ups =>
          exact sim_callScript p src _ hd ar.toNat (some a) hA (fun _ e => by cases e; exact ha)
        | _ => exact w2_throwE hA.rel
    | _ => exact w2_throwE hA.rel
  -- Return
  refine w2_ite (fun hop => ?_) ?_
  · have hok := hokU (Or.inl (eq_of_beq hop))
    refine w2_get' ?_
    rw [h.frames]
    cases hl : s.frames.getLast? with
    | none => exact w2_throwE h.rel
    | some fr =>
      dsimp only
      refine w2_bind (w2_set ?_)
      have hA1 := h.frames_change (fs := s.frames.dropLast) rfl
        fun f hf a ha => h.k_frame (List.dropLast_subset _ hf) ha
      refine w2_bind (w2_closeUpvalues _ hA1 hok fun s2 t2 est efr hA2 => ?_)
      refine w2_get' ?_
      have e := (hA2.stack.1.clearUntil' fr.stackOffset).2
      have hv : VK K (s2.stack.clearUntil fr.stackOffset).2 := hA2.vk_last
      have hA3 := hA2.stack_change (hA2.stack.map (fun x => (x.clearUntil fr.stackOffset).1)
        (hA2.stack.1.clearUntil' _).1) (fun v hv => hA2.vk_stack (mem_clearUntil_contents hv))
      rcases hs : s2.stack.clearUntil fr.stackOffset with ⟨st, v⟩
      rcases ht : t2.stack.clearUntil fr.stackOffset with ⟨st', v'⟩
      rw [hs, ht] at e hA3
      rw [hs] at hv
      dsimp only at e hv hA3 ⊢
      subst e
      refine w2_bind (w2_set ?_)
      generalize ({ s2 with stack := st } : VmState) = s3 at hA3 ⊢
      generalize ({ t2 with stack := st' } : VmState) = t3 at hA3 ⊢
      refine w2_get' ?_
      rw [hA3.frames]
      cases hl2 : s3.frames.getLast? with
      | none => exact w2_throwE hA3.rel
      | some caller => exact w2_push_done _ hA3 hv _
  -- Exit
  refine w2_ite (fun _ => w2_done h _) ?_
  -- CopyLast
  refine w2_ite (fun _ => ?_) ?_
  · refine w2_get' ?_
    rw [h.stack.1.last]
    exact w2_push_done _ h h.vk_last _
  -- NativeFunctionPointer, FunctionPointer, Closure
  refine w2_ite (fun _ => ?_) ?_
  · cases readStr p.data (rdU32 p.bytecode (src + 1)) with
    | none => exact w2_throwE h.rel
    | some name => exact sim_alloc _ (allocSim_initSimple _ rfl rfl) _ h
  refine w2_ite (fun _ => sim_alloc _ (allocSim_initSimple _ rfl rfl) _ h) ?_
  refine w2_ite (fun _ => sim_alloc _ (allocSim_initSimple _ rfl rfl) _ h) ?_
  -- ScalarInt, ScalarFloat
  refine w2_ite (fun _ => w2_push_done _ h VK.int _) ?_
  refine w2_ite (fun _ => w2_push_done _ h VK.real _) ?_
  -- Not
  refine w2_ite (fun _ => ?_) ?_
  · refine w2_bind (w2_pop h fun v s1 t1 _ _ hv hA => ?_)
    refine w2_get' ?_
    m_head
    rw [hA.ownD_eq hv]
    exact w2_push_done _ hA VK.boolVal _
  -- And … LessOrEq
  refine w2_ite (fun _ => ?_) ?_
  · refine w2_bind (w2_pop h fun b s1 t1 _ _ hb hA1 => ?_)
    refine w2_bind (w2_pop hA1 fun a s2 t2 _ _ ha hA2 => ?_)
    refine w2_get' ?_
    m_head
    rw [hA2.ownD_eq ha, hA2.ownD_eq hb]
    -- every branch of the result is a truth value or a number
    have num : ∀ z : OVal, VK K (match z with | .int i => Val.int i | .real r => .real r | _ => .nil) := by
      intro z; cases z <;> first | exact VK.int | exact VK.real | exact VK.nil
    exact w2_push_done _ hA2 (.ite .boolVal <| .ite .boolVal <| .ite .boolVal <| .ite (num _) <| .ite (num _) <|
      .ite (num _) <| .ite (num _) <| .ite .boolVal <| .ite .boolVal <| .ite .boolVal .boolVal) _
  -- StringLiteral
  refine w2_ite (fun _ => ?_) ?_
  · cases readStr p.data (rdU32 p.bytecode (src + 1)) with
    | none => exact w2_throwE h.rel
    | some bytes => exact sim_alloc _ (allocSim_initString _) _ h
  -- CallNative
  refine w2_ite (fun hop => ?_) ?_
  · refine w2_bind (w2_mono (hn _ (Or.inl ⟨eq_of_beq hop, rfl⟩) K s t h) fun _ _ s1 t1 hr => ?_)
    exact w2_pure ⟨rfl, hr⟩
  -- Len
  refine w2_ite (fun _ => ?_) ?_
  · refine w2_bind (w2_pop h fun v s1 t1 _ _ hv hA => ?_)
    refine w2_get' ?_
    m_head
    cases v with
    | obj a =>
      dsimp only
      rw [hA.agree a (hv a rfl)]
      exact w2_push_done _ hA VK.int _
    | _ => exact w2_push_done _ hA VK.int _
  -- NthRow
  refine w2_ite (fun _ => ?_) ?_
  · have hR := h.toR
    refine w2_bind (w2_peek 0 hR fun iv _ hiv => ?_)
    refine w2_bind (w2_peek 1 hR fun inst _ hinst => ?_)
    refine w2_bind (w2_getTable inst hR hinst fun a0 cap0 es _ ha0 hg0 hes => ?_)
    m_head
    cases iv with
    | int i =>
      dsimp only
      by_cases hneg : i.toInt < 0
      · rw [if_pos hneg]
        exact w2_throwE_bind hR.rel
      rw [if_neg hneg]
      have hkv : VK (R s) (es.getD i.toInt.toNat (.nil, .nil)).1 ∧
          VK (R s) (es.getD i.toInt.toNat (.nil, .nil)).2 := by
        by_cases hlt : i.toInt.toNat < es.length
        · have hmem : es.getD i.toInt.toNat (.nil, .nil) ∈ es := by
            rw [List.getD_eq_getElem?_getD, List.getElem?_eq_getElem hlt]
            exact List.getElem_mem hlt
          exact hes _ hmem
        · rw [List.getD_eq_getElem?_getD, List.getElem?_eq_none (by omega)]
          exact ⟨VK.nil, VK.nil⟩
      rcases hgd : es.getD i.toInt.toNat (.nil, .nil) with ⟨k, v0⟩
      rw [hgd] at hkv
      dsimp only at hkv ⊢
      have hv : VK (R s) (if i.toInt.toNat < es.length then v0 else .nil) := .ite hkv.2 .nil
      generalize (if i.toInt.toNat < es.length then v0 else Val.nil) = v at hv ⊢
      refine w2_bind (w2_newRow hR fun row s1 t1 hA1 p1 => ?_)
      refine w2_bind (p1.w2_initString _ hA1 fun ks s2 t2 hA2 p2 => ?_)
      refine w2_bind (p2.w2_initString _ hA2 fun vs s3 t3 hA3 p3 => ?_)
      refine w2_bind (p3.w2_insert hA3 (VK.obj (p3.reach (by simp))) (p3.vk hkv.1) fun s4 t4 hA4 p4 => ?_)
      refine w2_bind (p4.w2_insert hA4 (VK.obj (p4.reach (by simp))) (p4.vk hv) fun s5 t5 hA5 p5 => ?_)
      refine w2_bind (w2_popN 2 hA5 fun s6 t6 e6 hA6 => ?_)
      refine w2_bind (w2_push _ hA6 (VK.obj (p5.reach p5.mem)) fun s7 t7 _ hA7 => ?_)
      refine w2_bind (w2_dropGuard _ hA7 fun s8 t8 _ hA8 => ?_)
      refine w2_bind (w2_dropGuard _ hA8 fun s9 t9 _ hA9 => ?_)
      refine w2_bind (w2_dropGuard _ hA9 fun s10 t10 _ hA10 => ?_)
      exact w2_done hA10 _
    | _ => exact w2_throwE hR.rel
  -- AppendTable
  refine w2_ite (fun _ => ?_) ?_
  · have hR := h.toR
    refine w2_bind (w2_peek 0 hR fun inst _ hinst => ?_)
    refine w2_bind (w2_peek 1 hR fun value _ hvalue => ?_)
    refine w2_bind (w2_getTable inst hR hinst fun a cap es _ ha hg hes => ?_)
    m_head
    refine w2_get' ?_
    m_head
    have e : tableAppendKey t.heap es = tableAppendKey s.heap es := by
      unfold tableAppendKey
      exact tableAppendKey_go_eq hR.toCore (fun e he => (hes e he).1) _ _
    rw [e]
    refine w2_bind (w2_tableInsert a _ value hR ha VK.int hvalue fun s1 t1 _ hA1 => ?_)
    refine w2_bind (w2_popN 2 hA1 fun s2 t2 _ hA2 => ?_)
    exact w2_done hA2 _
  -- PopTable
  refine w2_ite (fun _ => ?_) ?_
  · refine w2_bind (w2_pop h fun inst s1 t1 _ _ hinst hA => ?_)
    refine w2_bind (w2_getTable inst hA hinst fun a cap es _ ha hg hes => ?_)
    m_head
    cases hl : es.getLast? with
    | none =>
      m_head
      exact w2_push_done _ hA VK.nil _
    | some kv =>
      obtain ⟨k, v⟩ := kv
      m_head
      have hmem : (k, v) ∈ es := List.mem_of_getLast? hl
      refine w2_bind (w2_modify ?_)
      have hA1 := hA.set a (.table cap es.dropLast) ha
        (fun b hb => by
          obtain ⟨e, he, hbe⟩ := List.mem_flatMap.mp hb
          have := hes e (List.dropLast_subset _ he)
          simp only [List.mem_cons, List.not_mem_nil, or_false] at hbe
          rcases hbe with hbe | hbe
          · exact this.1 b hbe.symm
          · exact this.2 b hbe.symm)
        (fun o ho => by rw [hg] at ho; cases ho; rfl)
      exact w2_push_done _ hA1 (hes _ hmem).2 _
  -- SetUpvalue
  refine w2_ite (fun _ => ?_) ?_
  · m_head
    refine w2_bind (w2_pop h fun v s1 t1 _ _ hv hA => ?_)
    refine w2_bind (w2_curFrame hA fun f hf hfm => ?_)
    cases hc : f.closure with
    | none => exact w2_throwE_bind hA.rel
    | some cl =>
      dsimp only
      have hcl : K cl := hA.k_frame hfm hc
      refine w2_get' ?_
      rw [hA.agree cl hcl]
      cases hg : s1.heap.get cl with
      | none => exact w2_throwE_bind hA.rel
      | some o =>
        cases o with
        | closure hd ar ups =>
          dsimp only
          cases hu : ups[rdU32 p.bytecode (src + 1)]? with
          | none => exact w2_throwE_bind hA.rel
          | some u =>
            refine w2_bind (w2_writeUpvalueLoc u v hA (hA.k_captured hcl hg hu) hv fun s2 t2 hA2 => ?_)
            exact w2_done hA2 _
        | _ => exact w2_throwE_bind hA.rel
  -- ReadUpvalue
  refine w2_ite (fun hop => ?_) ?_
  · m_head
    refine w2_bind (w2_curFrame h fun f hf hfm => ?_)
    cases hc : f.closure with
    | none => exact w2_throwE_bind h.rel
    | some cl =>
      dsimp only
      have hcl : K cl := h.k_frame hfm hc
      refine w2_get' ?_
      rw [h.agree cl hcl]
      cases hg : s.heap.get cl with
      | none => exact w2_throwE_bind h.rel
      | some o =>
        cases o with
        | closure hd ar ups =>
          dsimp only
          cases hu : ups[rdU32 p.bytecode (src + 1)]? with
          | none => exact w2_throwE_bind h.rel
          | some u =>
            dsimp only
            refine w2_bind (w2_readUpvalueLoc u h (h.k_captured hcl hg hu)
              (fun i hi => hokR (eq_of_beq hop) f cl hd ar ups u i hf hc hg hu hi) fun v hv => ?_)
            exact w2_push_done _ h hv _
        | _ => exact w2_throwE_bind h.rel
  -- RegisterUpvalue
  refine w2_ite (fun _ => ?_) ?_
  · m_head
    refine w2_bind (w2_pop h fun cv s1 t1 _ _ hcv hA => ?_)
    cases cv with
    | obj cl =>
      dsimp only
      have hcl : K cl := hcv cl rfl
      refine w2_get' ?_
      rw [hA.agree cl hcl]
      cases hg : s1.heap.get cl with
      | none => exact w2_throwE hA.rel
      | some o =>
        cases o with
        | closure hd ar ups =>
          dsimp only
          have hgt : t1.heap.get cl = some (.closure hd ar ups) := by rw [hA.agree cl hcl]; exact hg
          have hups : ∀ b, Val.obj b ∈ Heap.children (.closure hd ar ups) → K b :=
            fun b hb => hA.closed cl _ b hcl hg hb
          -- the closure object with one more captured upvalue, itself in `K`
          have hset : ∀ u, K u → Agree c K { s1 with heap := s1.heap.set cl (.closure hd ar (ups ++ [u])) }
              { t1 with heap := t1.heap.set cl (.closure hd ar (ups ++ [u])) } := fun u hku =>
            hA.set cl _ hcl (fun b hb => (closure_kids hb).elim (fun e => e ▸ hku) (hups b))
              (fun o ho => by rw [hg] at ho; cases ho; rfl)
          cases (p.bytecode.getD (src + 1 + 1) 0 != 0) with
          | true =>
            simp only [if_true]
            refine w2_bind (w2_curFrame hA fun f hf _ => ?_)
            refine w2_get' ?_
            rw [hA.stack.count]
            by_cases hslot : f.stackOffset + (p.bytecode.getD (src + 1) 0).toNat ≥ s1.stack.count
            · rw [if_pos hslot]; exact w2_throwE_bind hA.rel
            rw [if_neg hslot]
            refine w2_get' ?_
            generalize f.stackOffset + (p.bytecode.getD (src + 1) 0).toNat = slot
            have efind : t1.openUpvalues.find? (fun a => upvalueSlot t1.heap a == some slot) =
                s1.openUpvalues.find? (fun a => upvalueSlot s1.heap a == some slot) := by
              rw [hA.openUpvalues]
              exact find?_congr' (fun x hx => by rw [upvalueSlot_eq hA.toCore (hA.k_upv hx)])
            rw [efind]
            cases hfind : s1.openUpvalues.find? (fun a => upvalueSlot s1.heap a == some slot) with
            | some u =>
              dsimp only
              refine w2_bind (w2_modify ?_)
              exact w2_done (hset u (hA.k_upv (List.mem_of_find?_eq_some hfind))) _
            | none =>
              dsimp only
              refine w2_bind (w2_initSimple _ rfl rfl hA fun u s2 t2 go1 go2 hA2 => ?_)
              obtain ⟨eu, hgd, hold⟩ := initSimple_facts go1
              obtain ⟨eu', _, hold'⟩ := initSimple_facts go2
              have hne : cl ≠ u := by
                rw [eu]; exact Nat.ne_of_lt (get_lt_next hA.invL.fresh hg)
              have hru : R s2 u := reach_of_guard (by rw [hgd]; exact List.mem_cons_self)
              refine w2_bind (w2_modify ?_)
              -- the closure object was popped before the allocation, which may have freed it in one
              -- machine only: it is overwritten where it still exists
              have hA3 := hA2.set' cl (.closure hd ar (ups ++ [u]))
                (fun hr o ho b hb => by
                  rcases closure_kids hb with rfl | hb
                  · exact hru
                  · have := hold cl o hne ho
                    rw [hg] at this
                    cases this
                    exact Reach.step hr ho hb)
                (fun o ho => by
                  have := hold cl o hne ho
                  rw [hg] at this; cases this; rfl)
                (fun o ho => by
                  have := hold' cl o hne ho
                  rw [hgt] at this; cases this; rfl)
              have epart : t2.openUpvalues.partition (fun a => match upvalueSlot t2.heap a with
                    | some i => decide (i > slot) | none => true) =
                  s2.openUpvalues.partition (fun a => match upvalueSlot s2.heap a with
                    | some i => decide (i > slot) | none => true) := by
                rw [hA2.openUpvalues]
                exact partition_congr' (fun x hx => by
                  rw [upvalueSlot_eq hA2.toCore (reach_of_open hx)])
              refine w2_bind (w2_dropGuard _ (hA3.upvalues_change ?_ ?_) fun s5 t5 _ hA5 => w2_done hA5 _)
              · exact congrArg (fun P => P.1 ++ [u] ++ P.2) epart
              · intro a ha
                simp only [List.mem_append, List.mem_singleton] at ha
                rcases ha with (ha | ha) | ha
                · exact reach_of_open (List.mem_partition.2 (Or.inl ha))
                · rw [ha]; exact hru
                · exact reach_of_open (List.mem_partition.2 (Or.inr ha))
          | false =>
            simp only [Bool.false_eq_true, if_false]
            refine w2_bind (w2_curFrame hA fun f hf hfm => ?_)
            cases hc : f.closure with
            | none => exact w2_throwE_bind hA.rel
            | some outer =>
              dsimp only
              have hko : K outer := hA.k_frame hfm hc
              refine w2_get' ?_
              rw [hA.agree outer hko]
              cases hgo : s1.heap.get outer with
              | none => exact w2_throwE_bind hA.rel
              | some oo =>
                cases oo with
                | closure ohd oar oups =>
                  dsimp only
                  cases hu : oups[(p.bytecode.getD (src + 1) 0).toNat]? with
                  | none => exact w2_throwE_bind hA.rel
                  | some u =>
                    dsimp only
                    refine w2_bind (w2_modify ?_)
                    exact w2_done (hset u (hA.k_captured hko hgo hu)) _
                | _ => exact w2_throwE_bind hA.rel
        | _ => exact w2_throwE hA.rel
    | _ => exact w2_throwE hA.rel
  -- CloseUpvalue
  refine w2_ite (fun hop => ?_) ?_
  · refine w2_get' ?_
    rw [h.stack.count]
    by_cases h0 : (s.stack.count == 0) = true
    · rw [if_pos h0]
      exact w2_throwE_bind h.rel
    · rw [if_neg h0]
      refine w2_bind (w2_closeUpvalues _ h (hokU (Or.inr (eq_of_beq hop))) fun s1 t1 _ _ hA => ?_)
      refine w2_bind (w2_pop hA fun v s2 t2 _ _ _ hA2 => ?_)
      exact w2_done hA2 _
  exact w2_throwE h.rel
theorem step_sim {c : Cfg} (p : Prog) (re₁ re₂ : Reenter) (src : Nat) {K : Nat → Prop} {s t : VmState}
    (hn : ∀ hd, CalledAt p src s hd → NatSimAt c re₁ re₂ hd)
    (h : Agree c K s t) (hok : StepOk p src s) :
    W2 c (step p re₁ src) (step p re₂ src) (QStep c) s t :=
  step_sim_upv p re₁ re₂ src hn h hok.2.1 hok.2.2

end Cao.SchedFull
