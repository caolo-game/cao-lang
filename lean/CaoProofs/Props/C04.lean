import CaoProofs.Lemmas.NoPanicExec
import CaoProofs.Lemmas.NoPanicStep
import CaoProofs.Lemmas.CompilerNoPanic
import CaoProofs.Lemmas.WfDecode
import CaoProofs.Lemmas.WfChecker
import CaoProofs.Props.C05
import CaoProofs.Props.C03
import CaoProofs.Props.C17
import CaoModel.Bytecode
import CaoModel.CardOps
/-!
# C04 — compiling and running are total: errors are values, never crashes

"Compiling and running are total: errors are values, never crashes or hangs."

Termination is by construction (`compile`, `exec`, `run` are structurally recursive functions);
what is proved here is which of the explicit `panic` outcomes of the models are reachable.

A `Bytecode.WF` program has control-flow integrity (`Cfi`, §1): instruction starts (`Start`) are
closed under sequential flow, jumps, labels, and the final `Exit`. So the loop only dispatches at
instruction starts and never on an empty call stack (§2); the panics left are `residualPanics`, and
`WF` alone does not exclude the capture panic (`jumpIntoClosure`).
-/
namespace Cao.C04
open Cao Cao.Vm Cao.Bytecode

/-! ## 1. well-formed bytecode: instruction starts -/

def instrs (p : Compiler.Program) : List (Nat × UInt8) :=
  match decodeAll p.bytecode (p.bytecode.size + 1) 0 [] with
  | .ok l => l
  | .error _ => []

/-- `a` is the address of an instruction of `p` (in the front-to-back decoding) -/
def Start (p : Compiler.Program) (a : Nat) : Prop := a ∈ (instrs p).map (·.1)

instance (p : Compiler.Program) (a : Nat) : Decidable (Start p a) := inferInstanceAs (Decidable (_ ∈ _))

theorem instrs_decoded {p : Compiler.Program} {x : Nat × UInt8} (h : x ∈ instrs p) :
    decodeAll p.bytecode (p.bytecode.size + 1) 0 [] = .ok (instrs p) := by
  unfold instrs at h ⊢
  split at h
  · next l hl => rw [hl]
  · cases h

/-- what the interpreter (and the error trace, C15b) relies on, read off the decidable check
    `wfReason` -/
theorem wf_facts {p : Compiler.Program} (h : WF p) :
    (∃ a, (instrs p).getLast? = some (a, Compiler.op.exit)) ∧
    (∀ a o, (a, o) ∈ instrs p →
      (o = Compiler.op.goto ∨ o = Compiler.op.gotoIfTrue ∨ o = Compiler.op.gotoIfFalse) →
      Start p (Bytecode.rdU32 p.bytecode (a + 1))) ∧
    (∀ lab ∈ p.labels, Start p lab.2) ∧
    (∀ t ∈ p.trace, Start p t.1) ∧
    (∀ a o, (a, o) ∈ instrs p → needsTrace o = true → ∃ t ∈ p.trace, t.1 = a) := by
  obtain ⟨l, hl, hlast, hci, _, hlab, htr, hcomp, _⟩ := (wfReason_none_iff p).1 h
  have hi : instrs p = l := by rw [instrs, hl]
  simp only [Start, hi]
  exact ⟨hlast, fun a o hm => (checkInstrOf_none_iff.1 (hci _ hm)).1, hlab, htr, fun a o hm => hcomp _ hm⟩

/-- **a well-formed program has control-flow integrity**: the facts `step`/`exec` rely on -/
theorem wf_cfi {p : Compiler.Program} (h : WF p) : Cfi (Prog.ofProgram p) (Start p) ∧ Start p 0 := by
  obtain ⟨⟨a, hlast⟩, hjump, hlab, _⟩ := wf_facts h
  have hma := List.mem_of_getLast? hlast
  have hl := instrs_decoded hma
  have hstart : ∀ x, Start p x → ∃ o, (x, o) ∈ instrs p := fun x hx => by
    obtain ⟨⟨_, o⟩, hm, rfl⟩ := List.mem_map.1 hx
    exact ⟨o, hm⟩
  -- the final `Exit` is the byte at `size - 1`
  obtain ⟨spl, hspl, hsize⟩ := (decodeAll_tiles hl).2.2 _ hlast
  obtain rfl : 1 = spl := Option.some.inj hspl
  obtain ⟨hlo, _⟩ := decoded_next hl hma
  have ha : a = p.bytecode.size - 1 := by simp only at hsize; omega
  refine ⟨⟨?_, ?_, ?_, hlab, ?_, ?_⟩, ?_⟩
  · intro src hs
    obtain ⟨o, hm⟩ := hstart src hs
    obtain ⟨ho, _, sp, hsp, _⟩ := decoded_next hl hm
    rw [show (Prog.ofProgram p).bytecode = p.bytecode from rfl, ← ho, hsp]
    simp
  · intro src sp hs hsp hx
    obtain ⟨o, hm⟩ := hstart src hs
    obtain ⟨ho, _, sp', hsp', hle, hnext⟩ := decoded_next hl hm
    rw [show (Prog.ofProgram p).bytecode = p.bytecode from rfl, ← ho] at hsp hx
    obtain rfl : sp' = sp := Option.some.inj (hsp' ▸ hsp)
    -- an instruction that ends at the end of the code is the last one, `Exit`
    rcases Nat.lt_or_eq_of_le hle with hlt | heq
    · exact hnext hlt
    · exact absurd (Prod.mk.inj (decoded_last hl hm hsp heq hlast)).2 hx
  · intro src hs hop
    obtain ⟨o, hm⟩ := hstart src hs
    obtain ⟨ho, _⟩ := decoded_next hl hm
    exact hjump src o hm (ho ▸ hop)
  · exact ha ▸ List.mem_map.2 ⟨_, hma, rfl⟩
  · exact ha ▸ hlo.symm
  · exact decoded_zero hl (by simp only at hsize; omega)


/-! ## 2. running a well-formed program: which panics are left -/

/-- the panic outcomes of the interpreter model that the theorems below do **not** exclude:
    the model's own fuel (only below a native, see `C03.not_gas_suffices_Full`) and the two
    assertions of `RegisterUpvalue` for a non-local capture -/
def residualPanics : List String :=
  ["gas exhausted", "closure not found for capture", "upvalue index out of bounds"]

/-- an error whose root cause (below the `TaskFailure` wrappers of natives) is not a panic, or is
    one of the `residualPanics` -/
def Allowed (e : ErrKind) : Prop := ∀ w, rootCause e = .panic w → w ∈ residualPanics

instance : ExecErr Allowed where
  calm h w hw := absurd hw (h w)
  wrap h := h
  capture w hw := by
    simp only [rootCause, ErrKind.panic.injEq] at hw
    subst hw; decide
  index w hw := by
    simp only [rootCause, ErrKind.panic.injEq] at hw
    subst hw; decide
  gas w hw := by
    simp only [rootCause, ErrKind.panic.injEq] at hw
    subst hw; decide

/-- the return addresses on the call stack are instruction starts (`[]` for a fresh / cleared VM) -/
def GoodFrames (p : Compiler.Program) (s : VmState) : Prop := Good (Start p) s.frames

theorem goodFrames_nil (p : Compiler.Program) (s : VmState) (h : s.frames = []) : GoodFrames p s := by
  intro f hf; rw [h] at hf; cases hf

theorem goodFrames_fresh (p : Compiler.Program) (c : Config) : GoodFrames p (VmState.fresh c) :=
  goodFrames_nil p _ rfl

/-- **control-flow integrity of the loop** (`frames_nonempty` below is the case of `run`), with the
    protected base `B` (`B = []` at top level). In particular the loop never dispatches at a
    non-start (`"invalid opcode"`) and never finds the call stack empty. -/
theorem loop_cfi {p : Compiler.Program} (h : WF p) (gas : Nat) (B : List Frame) (ip : Nat) (s : VmState)
    (hB : BaseExit (Prog.ofProgram p) B) (hg : GoodFrames p s) (hip : Start p ip)
    (hat : AtBase (Prog.ofProgram p) B s.frames ip) :
    ExecPost (fun fs' => B <+: fs' ∧ Good (Start p) fs' ∧ fs' ≠ []) Allowed
      (exec (Prog.ofProgram p) gas (.loop ip) s) :=
  (exec_cfi (E := Allowed) _ (wf_cfi h).1 gas).1 B ip s hB hg hip hat

/-- the same for `run_function` -/
theorem call_cfi {p : Compiler.Program} (h : WF p) (gas : Nat) (f : Val) (s : VmState) (hg : GoodFrames p s) :
    ExecPost (fun fs' => s.frames <+: fs' ∧ Good (Start p) fs') Allowed
      (exec (Prog.ofProgram p) gas (.call f) s) :=
  (exec_cfi (E := Allowed) _ (wf_cfi h).1 gas).2.prefix f s hg

/-- the sharper form: `run_function` pops the call stack back to its entry depth -/
theorem call_cfi_eq {p : Compiler.Program} (h : WF p) (gas : Nat) (f : Val) (s : VmState) (hg : GoodFrames p s) :
    ExecPost (fun fs' => fs' = s.frames ∧ Good (Start p) fs') Allowed
      (exec (Prog.ofProgram p) gas (.call f) s) :=
  (exec_cfi (E := Allowed) _ (wf_cfi h).1 gas).2 f s hg

/-- **`frames_nonempty`** for `run`: the loop `run` starts ends with a non-empty call stack (which
    `run` then truncates), unless it fails -/
theorem frames_nonempty {p : Compiler.Program} (h : WF p) (n : Nat) (s : VmState) (hg : GoodFrames p s) :
    ExecPost (fun fs' => fs' ≠ [] ∧ Good (Start p) fs') Allowed
      (exec (Prog.ofProgram p) (gasFor (started n s) n) (.loop 0) (started n s)) :=
  runLoop_frames (E := Allowed) _ (wf_cfi h).1 (wf_cfi h).2 n s hg

/-- **`run_no_panic_partial`**: `GoodFrames` holds e.g. without frames: fresh, cleared, or after any
    earlier `run` from such a machine. The reported error itself is not the fuel panic. -/
theorem run_no_panic_partial {p : Compiler.Program} (h : WF p) (n : Nat) (s : VmState)
    (hg : GoodFrames p s) (e : RunErr) (he : (run (Prog.ofProgram p) n s).2 = some e) :
    Allowed e.kind ∧ e.kind ≠ .panic "gas exhausted" :=
  ⟨run_cfi (E := Allowed) _ (wf_cfi h).1 (wf_cfi h).2 n s hg e he, C03.gas_suffices_toplevel _ n s e he⟩

/-- **`"invalid opcode"` is unreachable** -/
theorem run_no_invalid_opcode {p : Compiler.Program} (h : WF p) (n : Nat) (s : VmState)
    (hg : GoodFrames p s) (e : RunErr) (he : (run (Prog.ofProgram p) n s).2 = some e) :
    rootCause e.kind ≠ .panic "invalid opcode" := by
  intro hk
  have := (run_no_panic_partial h n s hg e he).1 _ hk
  revert this; decide

/-- **the two "call stack is empty" panics are unreachable** -/
theorem run_no_empty_call_stack {p : Compiler.Program} (h : WF p) (n : Nat) (s : VmState)
    (hg : GoodFrames p s) (e : RunErr) (he : (run (Prog.ofProgram p) n s).2 = some e) :
    rootCause e.kind ≠ .panic "call stack is empty" ∧ rootCause e.kind ≠ .panic "Call stack was empty" := by
  constructor <;> intro hk <;> have := (run_no_panic_partial h n s hg e he).1 _ hk <;> revert this <;> decide

/-- a machine without call frames stays one: the hypothesis `GoodFrames` is an invariant of use -/
theorem run_goodFrames {p : Compiler.Program} (q : Prog) (n : Nat) (s : VmState) (hs : s.frames = []) :
    GoodFrames p (run q n s).1 :=
  goodFrames_nil p _ (C17.run_frames_nil q n s hs)

/-- the statement one would like: no panic at all. In the way: (1) the two capture panics need
    "`RegisterUpvalue` with a non-local flag is only executed in a frame entered through a closure
    call whose closure has enough upvalues" — `wfReason` checks a static half (`checkUp`: such
    instructions lie in a closure-body region and the index is below the number of upvalues the
    region's `Closure` instruction registers), which does not give the dynamic half: frames whose
    code lies in a closure-body region were entered through that closure and the closure object
    carries all its upvalues by then (`jumpIntoClosure` below; `Props/C04c.lean` proves it from the
    stronger static check `capStaticB`: `run_no_capture_panic`);
    (2) the fuel panic below natives is reachable from ill-behaved start states
    (`C03.not_gas_suffices_Full`), so this needs the stack-neutrality assumption on host functions. -/
def run_no_panic_Full : Prop :=
  ∀ (p : Compiler.Program), WF p → ∀ (n : Nat) (c : Config) (e : RunErr),
    (run (Prog.ofProgram p) n (VmState.fresh c)).2 = some e → ∀ w, rootCause e.kind ≠ .panic w


/-! ### `run_no_panic_Full` is false for `WF` as it stands

`Bytecode.WF` is structural: jumps must land on instruction starts, but nothing keeps a jump of
one function from landing inside the body of a closure. The program below does that: `main` jumps
into a closure-body region, creates a closure there and captures a non-local upvalue for it — in a
frame that was not entered through a closure call. The model (like the Rust, which `expect`s)
panics. Compiled programs never contain such a jump, so the capture panics are excluded for them
by a stronger well-formedness predicate (jumps stay inside their function's code region), not by
`WF`. -/

private def t0 : Compiler.Trace := { ns := [], function := 0, indices := [] }

/-- `0: Goto 5; 5 (label 7): Closure 7 0; 14: CopyLast; 15: RegisterUpvalue 0 nonlocal; 18: Exit;
    19: Closure 7 0; 28: CopyLast; 29: RegisterUpvalue 0 local; 32: Exit` -/
def jumpIntoClosure : Compiler.Program :=
  { bytecode := #[28, 5, 0, 0, 0,
                  42, 7, 0, 0, 0, 0, 0, 0, 0,
                  9,
                  45, 0, 0,
                  10,
                  42, 7, 0, 0, 0, 0, 0, 0, 0,
                  9,
                  45, 0, 1,
                  10],
    data := #[], labels := [(7, 5)], varIds := [], varNames := [],
    trace := [(0, t0), (5, t0), (14, t0), (15, t0), (18, t0), (19, t0), (28, t0), (29, t0), (32, t0)] }

theorem jumpIntoClosure_wf : WF jumpIntoClosure := by decide +kernel

private def jumpCheck : Bool :=
  match (run (Prog.ofProgram jumpIntoClosure) 100 (VmState.fresh {})).2 with
  | some e => (match e.kind with | .panic w => w == "closure not found for capture" | _ => false)
  | none => false

private theorem jumpCheck_true : jumpCheck = true := by decide +kernel

/-- a well-formed (but not compiler-generated) program that panics -/
theorem jumpIntoClosure_panics :
    ∃ e, (run (Prog.ofProgram jumpIntoClosure) 100 (VmState.fresh {})).2 = some e ∧
      e.kind = .panic "closure not found for capture" := by
  have h := jumpCheck_true
  unfold jumpCheck at h
  split at h
  · next e he =>
    refine ⟨e, he, ?_⟩
    split at h
    · next w hw => rw [hw]; simp only [beq_iff_eq] at h; rw [h]
    · cases h
  · cases h

theorem not_run_no_panic_Full : ¬ run_no_panic_Full := by
  intro h
  obtain ⟨e, he, hk⟩ := jumpIntoClosure_panics
  exact h jumpIntoClosure jumpIntoClosure_wf 100 {} e he "closure not found for capture" (by rw [hk]; rfl)

/-! ### non-vacuity -/

/-- `ScalarNil; Pop; Exit` -/
def tinyProgram : Compiler.Program :=
  { bytecode := #[7, 16, 10], data := #[], labels := [], varIds := [], varNames := [],
    trace := [(0, t0), (2, t0)] }

example : WF tinyProgram := by decide +kernel
example : Start tinyProgram 0 ∧ Start tinyProgram 1 ∧ Start tinyProgram 2 ∧ ¬ Start tinyProgram 3 := by
  decide +kernel
example : GoodFrames tinyProgram (VmState.fresh {}) := goodFrames_fresh _ _
example : (run (Prog.ofProgram tinyProgram) 10 (VmState.fresh {})).2.isNone = true := by decide +kernel
/-- the hypotheses of `run_no_panic_partial` are satisfiable together with an error outcome -/
example : ∃ e, (run (Prog.ofProgram tinyProgram) 2 (VmState.fresh {})).2 = some e := by
  have : (run (Prog.ofProgram tinyProgram) 2 (VmState.fresh {})).2.isSome = true := by decide +kernel
  exact Option.isSome_iff_exists.1 this


/-! ## 3. which panics one instruction can raise, and when -/

/-- the only panic messages an instruction raises by itself (`Throws` form, any callback) -/
theorem step_panics_only (p : Prog) (re : Reenter) (src : Nat) :
    Throws (fun e => ∀ w, e = .panic w → w ∈ stepPanics) (step p re src) :=
  Cao.Vm.step_panics_only p re src

/-- … and the condition for each: `"call stack is empty"` / `"Call stack was empty"` only if
    `s.frames = []`; `"invalid opcode"` only if the byte at `src` is not in the instruction table;
    the two capture messages only at a `RegisterUpvalue` with flag byte 0 (non-local capture) -/
theorem step_panic_cond (p : Prog) (re : Reenter) (src : Nat) (s s' : VmState) (e : ErrKind)
    (h : (step p re src).go s = (.error e, s')) : PanicCond p src s.frames e :=
  (step_panic_conditions p re src s.frames).err s e s' rfl h

theorem step_empty_stack_only (p : Prog) (re : Reenter) (src : Nat) (s s' : VmState) (e : ErrKind)
    (h : (step p re src).go s = (.error e, s'))
    (he : e = .panic "call stack is empty" ∨ e = .panic "Call stack was empty") : s.frames = [] :=
  (step_panic_cond p re src s s' e h).1 he

theorem step_invalid_opcode_only (p : Prog) (re : Reenter) (src : Nat) (s s' : VmState)
    (h : (step p re src).go s = (.error (.panic "invalid opcode"), s')) :
    Gen.spanOf (p.bytecode.getD src 0) = none :=
  (step_panic_cond p re src s s' _ h).2.1 rfl

theorem step_capture_only (p : Prog) (re : Reenter) (src : Nat) (s s' : VmState) (e : ErrKind)
    (h : (step p re src).go s = (.error e, s'))
    (he : e = .panic "closure not found for capture" ∨ e = .panic "upvalue index out of bounds") :
    p.bytecode.getD src 0 = Compiler.op.registerUpvalue ∧ p.bytecode.getD (src + 2) 0 = 0 :=
  (step_panic_cond p re src s s' e h).2.2.1 he

/-! ## 4. resource errors and type errors are values -/

/-- the value stack holds `cap - 1` values; pushing onto a full one is `Stackoverflow` and leaves
    the machine alone -/
theorem push_full (v : Val) (s : VmState) (h : ¬ s.stack.count + 1 < s.stack.data.length) :
    (push v).go s = (.error .stackoverflow, s) := by
  rw [go_push, if_neg h]

theorem push_fits (v : Val) (s : VmState) (h : s.stack.count + 1 < s.stack.data.length) :
    (push v).go s = (.ok (), { s with stack := { count := s.stack.count + 1, data := s.stack.data.set s.stack.count v } }) := by
  rw [go_push, if_pos h]

/-- a script call on a full call stack is `CallStackOverflow` and leaves the machine alone -/
theorem callScript_full (p : Prog) (src ip : Nat) (l : UInt32) (ar : Nat) (c : Option Nat) (s : VmState)
    (hne : s.frames ≠ []) (har : ar ≤ s.stack.count) (hfull : s.frameCap ≤ s.frames.length) :
    (step.callScript p src ip l ar c).go s = (.error .callStackOverflow, s) := by
  rw [go_callScript, if_neg (mt List.isEmpty_iff.1 hne), if_neg (Nat.not_lt.2 har), if_pos hfull]

theorem run_full (p : Prog) (n : Nat) (s : VmState) (h : s.frames.length ≥ s.frameCap) :
    run p n s = (s, some ⟨.callStackOverflow, 0, []⟩) := run_no_room p n s h

/-- **the allocator fails exactly when the live objects plus the request exceed the limit, and
    then with `OutOfMemory`** (under the ledger invariant of C05) -/
theorem alloc_oom_iff (c : Nat) (s : VmState) (h : C05.Ledger s) :
    (∃ s', (allocBytes c).go s = (.error .outOfMemory, s')) ↔ s.mem.limit < C05.liveCharge s + c := by
  have hiff := C05.alloc_outcome_iff c s h
  rw [run_run_eq_go] at hiff
  rcases hgo : (allocBytes c).go s with ⟨r, s'⟩
  cases r with
  | ok u =>
    have : C05.liveCharge s + c ≤ s.mem.limit := hiff.1 ⟨s', by rw [hgo]⟩
    constructor
    · rintro ⟨s'', hs''⟩; cases hs''
    · intro hlt; omega
  | error e =>
    have he : e = .outOfMemory := Gc.allocPure_err c s e (by rw [← go_allocBytes, hgo])
    subst he
    constructor
    · intro _
      apply Nat.lt_of_not_le
      intro hle
      obtain ⟨s'', hs''⟩ := hiff.2 hle
      rw [hgo] at hs''; cases hs''
    · intro _; exact ⟨s', rfl⟩

/-- calling something that is not an object is `InvalidArgument` (`run_function`) -/
theorem call_non_object (p : Prog) (gas : Nat) (f : Val) (s : VmState) (h : ∀ a, f ≠ .obj a) :
    exec p (gas + 1) (.call f) s = (s, .error ⟨.invalidArgument, 0, s.frames⟩) := by
  rw [exec_call]
  cases f with
  | obj a => exact absurd rfl (h a)
  | nil => rfl
  | int _ => rfl
  | real _ => rfl

/-- calling an object that is not a function (a string, a table, an upvalue, or a dangling address) -/
theorem call_non_function (p : Prog) (gas : Nat) (a : Nat) (s : VmState)
    (h : ∀ o, s.heap.get a = some o → (∀ x, o ≠ .native x) ∧ (∀ x y, o ≠ .fn x y) ∧ (∀ x y z, o ≠ .closure x y z)) :
    exec p (gas + 1) (.call (.obj a)) s = (s, .error ⟨.invalidArgument, 0, s.frames⟩) := by
  rw [exec_call]
  dsimp only
  split
  · next h' hh => exact absurd rfl ((h _ hh).1 _)
  · next hh => exact absurd rfl ((h _ hh).2.1 _ _)
  · next hh => exact absurd rfl ((h _ hh).2.2 _ _ _)
  · rfl

/-- integer arithmetic is total and wraps (two's complement, 64 bit) -/
theorem int_add_wraps (F : F64Ops) (x y : Int64) :
    OVal.arith F .add (.int x) (.int y) = .int (x + y) ∧
    (x + y).toInt = (x.toInt + y.toInt).bmod (2 ^ 64) := ⟨rfl, Int64.toInt_add x y⟩

theorem int_sub_wraps (F : F64Ops) (x y : Int64) :
    OVal.arith F .sub (.int x) (.int y) = .int (x - y) ∧
    (x - y).toInt = (x.toInt - y.toInt).bmod (2 ^ 64) := ⟨rfl, Int64.toInt_sub x y⟩

theorem int_mul_wraps (F : F64Ops) (x y : Int64) :
    OVal.arith F .mul (.int x) (.int y) = .int (x * y) ∧
    (x * y).toInt = (x.toInt * y.toInt).bmod (2 ^ 64) := ⟨rfl, Int64.toInt_mul x y⟩

/-- integer division is a real division of the converted operands — also by zero: a real
    (IEEE infinity or NaN), not an error -/
theorem int_div_is_real (F : F64Ops) (x y : Int64) :
    OVal.arith F .div (.int x) (.int y) = .real (F.div (F.ofInt x) (F.ofInt y)) := rfl

/-- arithmetic on values that are neither numbers nor convertible is `nil` (the VM pushes `nil`) -/
theorem arith_other (F : F64Ops) (op : OVal.ArithOp) (a b : OVal)
    (h : OVal.castMatch F a b = .other) : OVal.arith F op a b = .nil := by
  unfold OVal.arith; rw [h]


/-! ## 5. the compiler

`compile` is a total function (structural recursion, kernel-checked), so "compilation terminates"
is part of the model being accepted. Its outcome is a program, a compilation error `CErr.err`, or
— only where the Rust `HandleTable` asserts a non-zero key — `CErr.panic`. A zero handle is a
1-in-2³² event of the 32-bit hashes (`Hash.handleFromU64 i` for a function index,
`indexHandle f idx` for a card index, the closure handle, `Hash.handleFromBytes name` for a
global variable); the Rust `assert!`s on it, the model reports it as `panic`. -/

open Cao.Compiler in
/-- **the only panic outcomes of `compile` are the two zero-handle assertions** -/
theorem compile_panic_messages (m std : Module) (limit : Nat) (w : String)
    (h : compile m std limit = .error (.panic w)) :
    w = "HandleTable::insert with handle 0" ∨ w = "HandleTable::entry with handle 0" := by
  have := compile_handlePanic m std limit _ h w rfl
  simpa [handlePanics] using this

open Cao.Compiler in
/-- **compiling is total and its errors are values** -/
theorem compile_total (m std : Module) (limit : Nat) :
    (∃ p, compile m std limit = .ok p) ∨ (∃ k loc, compile m std limit = .error (.err k loc)) ∨
    (∃ w, w ∈ handlePanics ∧ compile m std limit = .error (.panic w)) := by
  rcases hc : compile m std limit with e | p
  · cases e with
    | err k loc => exact .inr (.inl ⟨k, loc, rfl⟩)
    | panic w => exact .inr (.inr ⟨w, compile_handlePanic m std limit _ hc w rfl, rfl⟩)
  · exact .inl ⟨p, rfl⟩

open Cao.Compiler in
/-- where the first message comes from: the label table is asked to insert the key 0 — exactly then -/
theorem insertLabel_panic_iff (h : UInt32) (pos : Nat) (s : CState) (w : String) :
    insertLabel h pos s = .error (.panic w) ↔ h = 0 ∧ w = "HandleTable::insert with handle 0" :=
  Cao.Compiler.insertLabel_panic_iff h pos s w

open Cao.Compiler in
/-- where the second message comes from: the name of a global variable hashes to 0 — exactly then -/
theorem globalId_panic_iff (name : String) (s : CState) (w : String) :
    globalId name s = .error (.panic w) ↔
      Hash.handleFromBytes name.toUTF8.toList = 0 ∧ w = "HandleTable::entry with handle 0" :=
  Cao.Compiler.globalId_panic_iff name s w

/-- the full statement for the compiler: a panic outcome exhibits a zero handle *of the program being
    compiled* — the handle of one of its functions, the handle of the index of one of its cards
    (`CardOps`' `walk` enumerates `(function, path)`; the compiler additionally labels the hidden
    `Abort` after `main` at `[main.cards.length]`), the handle of one of its closures, or the hash
    of one of its global-variable names. Proved: `compile_panic_messages` + `insertLabel_panic_iff`
    + `globalId_panic_iff` (a panic is a zero key passed to one of the two tables). Missing: that
    the key passed at that moment, which is computed from the compiler state
    (`curFunction`, `curIndices`, `fnHandle`), belongs to a card of the input — the invariant
    "`(curFunction, curIndices)` is the index of the card being processed" of the trace proofs
    (`Lemmas/TraceLemmas.lean`, `At`/`AtF`) would have to be threaded through the traversal behind
    `compile_handlePanic` (`compileUnit_runs`, `Lemmas/CompilerLemmas.lean`). -/
def compile_no_panic_Full : Prop :=
  ∀ (m std : Module) (limit : Nat) (w : String), Compiler.compile m std limit = .error (.panic w) →
    ∃ unit, Compiler.intoIrStream m std limit = .ok unit ∧
      ((∃ f ∈ unit.toList, f.handle = 0) ∨
       (∃ f ∈ unit.toList, ∃ idx : List Nat,
          (idx = [f.cards.length] ∨ ∃ i c path, f.cards[i]? = some c ∧ (Card.getPath c path).isSome ∧ idx = i :: path) ∧
          (Compiler.indexHandle f.functionIndex idx = 0 ∨
           f.handle ^^^ Hash.handleFromBytes (idx.flatMap (fun i => Compiler.le32 (UInt32.ofNat i)))
             ^^^ Hash.handleFromU64 Compiler.closureMask = 0)) ∨
       (∃ name : String, Hash.handleFromBytes name.toUTF8.toList = 0))

/-- the hypothesis under which the Rust assertions cannot fire, as far as it is proved: no key that
    reaches one of the two tables is 0. (`compile_no_panic_Full` would turn it into a condition on
    the input.) -/
theorem compile_no_panic_of_messages (m std : Module) (limit : Nat)
    (h : ∀ w, w ∈ Compiler.handlePanics → Compiler.compile m std limit ≠ .error (.panic w)) :
    ∀ w, Compiler.compile m std limit ≠ .error (.panic w) := by
  intro w hw
  exact h w (Compiler.compile_handlePanic m std limit _ hw w rfl) hw

/-! ## 6. running is total -/

/-- `run` returns the machine and either nothing (`Ok`) or an error value -/
theorem run_total (p : Prog) (n : Nat) (s : VmState) :
    (∃ s', run p n s = (s', none)) ∨ (∃ s' e, run p n s = (s', some e)) := by
  rcases h : run p n s with ⟨s', r⟩
  cases r with
  | none => exact .inl ⟨s', rfl⟩
  | some e => exact .inr ⟨s', e, rfl⟩

/-- … and never "hangs": at most `n` instructions are dispatched (C03) -/
theorem run_bounded (p : Prog) (n : Nat) (s : VmState) :
    (run p n s).1 = s ∨ (run p n s).1.dispatches + (run p n s).1.remaining ≤ n :=
  C03.budget_bound' p n s

end Cao.C04
