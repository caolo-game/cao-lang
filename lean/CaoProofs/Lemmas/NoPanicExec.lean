import CaoProofs.Lemmas.FramePrefix
/-!
# The call stack under the dispatch loop, `run_function` and `run` (C04, C15b, C18)

`exec_stack` is one instance of the rule of the dispatch loop (`Lemmas/ExecRule.lean`) and says everything the
development knows about the call stack of a run of a program with control-flow integrity, for every outcome:
the loop, started above a protected base `B` (`AtBase`), ends on a call stack that extends `B`; `run_function`
leaves the call stack exactly as it found it; return addresses stay instruction starts and recorded call sites
stay call sites (`Cross.FInv`); an error is in the error class, is reported at an instruction start with the call
stack of the moment of failure, and comes from the budget, the fuel, the end of the code or the instruction at
that address (`Cross.ErrAt`).

Its projections stand below it in this file, each in the namespace of the property it serves: `exec_cfi`/`run_cfi`
(returning runs and the error class, C04), `FramePrefix.exec_frames` (the final state of every run, C18b) and
`Cross.run_located` (the error record, C15b).
-/
namespace Cao.Vm

/-! ## the specifications -/

/-- the error class of a run: additionally the fuel panic of the model -/
class ExecErr (E : ErrKind → Prop) : Prop extends StepErr E where
  gas : E (.panic "gas exhausted")

instance : ExecErr (fun _ : ErrKind => True) where
  calm _ := trivial
  wrap _ := trivial
  capture := trivial
  index := trivial
  gas := trivial

/-- an error that the loop or `run_function` raises itself -/
theorem ExecErr.own {E : ErrKind → Prop} [ExecErr E] {e : ErrKind}
    (h : e.isPlain = true ∨ e = .panic "gas exhausted") : E e := by
  rcases h with h | rfl
  · exact ErrClass.calm (calm_of_plain h)
  · exact ExecErr.gas

/-- outcome of a run of the loop: `Q` for the call stack it returns with, `E` for its error -/
def ExecPost (Q : List Frame → Prop) (E : ErrKind → Prop) (r : VmState × Except RunErr (Option Val)) : Prop :=
  match r.2 with
  | .ok _ => Q r.1.frames
  | .error e => E e.kind

theorem execPost_iff {Q : List Frame → Prop} {E : ErrKind → Prop} {r : VmState × Except RunErr (Option Val)} :
    ExecPost Q E r ↔ OutPost (fun s => Q s.frames) (fun e _ => E e.kind) r := Iff.rfl

/-- where the loop may be: above the protected base `B`, or exactly at it, about to run `Exit` -/
def AtBase (p : Prog) (B fs : List Frame) (ip : Nat) : Prop :=
  (∃ rest, rest ≠ [] ∧ fs = B ++ rest) ∨ (fs = B ∧ B ≠ [] ∧ p.bytecode.getD ip 0 = Compiler.op.exit)

theorem AtBase.prefix {p : Prog} {B fs : List Frame} {ip : Nat} (h : AtBase p B fs ip) : B <+: fs := by
  rcases h with ⟨rest, _, he⟩ | ⟨he, _, _⟩
  · rw [he]; exact List.prefix_append _ _
  · rw [he]; exact List.prefix_refl _

/-- the base is entered only through a return to an `Exit` -/
def BaseExit (p : Prog) (B : List Frame) : Prop :=
  ∀ c, B.getLast? = some c → p.bytecode.getD c.dst 0 = Compiler.op.exit

theorem shape_above {p : Prog} {B rest fs' : List Frame} {ctl : Ctl} (hB : BaseExit p B) (hr : rest ≠ [])
    (h : Shape (B ++ rest) ctl fs') :
    (ctl.exit = true → B <+: fs' ∧ fs' ≠ []) ∧ (ctl.exit = false → AtBase p B fs' ctl.ip) := by
  rw [Shape, List.dropLast_append_of_ne_nil hr] at h
  rcases h with ⟨t, ht, rfl⟩ | ⟨rfl, hne, hx, c, hc, hip⟩
  · refine ⟨fun _ => ⟨⟨rest.dropLast ++ t, by simp⟩, by simp [ht]⟩, fun _ => .inl ⟨rest.dropLast ++ t, by simp [ht], by simp⟩⟩
  · refine ⟨fun h => (by rw [hx] at h; cases h), fun _ => ?_⟩
    by_cases hd : rest.dropLast = []
    · rw [hd, List.append_nil] at hne hc ⊢
      exact .inr ⟨rfl, hne, by rw [hip]; exact hB c hc⟩
    · exact .inl ⟨_, hd, rfl⟩

theorem prefix_dropLast_of_concat {F u : List Frame} (fr : Frame) :
    F <+: (F ++ [fr] ++ u).dropLast := by
  rw [List.append_assoc, List.dropLast_append_of_ne_nil (by simp)]
  exact List.prefix_append _ _

def LoopSpec (G : Nat → Prop) (E : ErrKind → Prop) (p : Prog) (gas : Nat) : Prop :=
  ∀ (B : List Frame) (ip : Nat) (s : VmState), BaseExit p B → Good G s.frames → G ip →
    AtBase p B s.frames ip →
    ExecPost (fun fs' => B <+: fs' ∧ Good G fs' ∧ fs' ≠ []) E (exec p gas (.loop ip) s)

/-- what `run_function` guarantees (since `run_function` pops the call stack back to its entry
    depth: it returns with exactly the call stack it was called on) -/
def CallSpec (G : Nat → Prop) (E : ErrKind → Prop) (p : Prog) (gas : Nat) : Prop :=
  ∀ (f : Val) (s : VmState), Good G s.frames →
    ExecPost (fun fs' => fs' = s.frames ∧ Good G fs') E (exec p gas (.call f) s)

theorem execPost_mono {Q Q' : List Frame → Prop} {E : ErrKind → Prop}
    {r : VmState × Except RunErr (Option Val)} (h : ExecPost Q E r) (hq : ∀ fs, Q fs → Q' fs) :
    ExecPost Q' E r :=
  execPost_iff.2 ((execPost_iff.1 h).mono (fun _ => hq _) fun _ _ he => he)

theorem CallSpec.prefix {G : Nat → Prop} {E : ErrKind → Prop} {p : Prog} {gas : Nat}
    (h : CallSpec G E p gas) (f : Val) (s : VmState) (hg : Good G s.frames) :
    ExecPost (fun fs' => s.frames <+: fs' ∧ Good G fs') E (exec p gas (.call f) s) :=
  execPost_mono (h f s hg) (fun _ h' => ⟨h'.1 ▸ List.prefix_refl _, h'.2⟩)

end Cao.Vm

namespace Cao.Cross
open Cao Cao.Vm

/-- where an error reported by the dispatch loop comes from: the budget, the model's fuel, the end
    of the code, or the instruction at `e.at_` (run with some callback from some state) raised it -/
def ErrAt (p : Prog) (e : RunErr) : Prop :=
  e.kind = .timeout ∨ e.kind = .panic "gas exhausted" ∨
  (e.kind = .unexpectedEndOfInput ∧ p.bytecode.size ≤ e.at_) ∨
  ∃ (re : Reenter) (s s' : VmState), (step p re e.at_).go s = (.error e.kind, s')

theorem finv_true {G : Nat → Prop} {fs : List Frame} : FInv G (fun _ => True) fs ↔ Good G fs :=
  ⟨FInv.good, fun h f hf => ⟨h f hf, trivial⟩⟩

end Cao.Cross

namespace Cao.FramePrefix
open Cao Cao.Vm Cao.Cross

/-- what the loop guarantees for EVERY outcome: the protected base is still there -/
def LoopPre (G : Nat → Prop) (p : Prog) (gas : Nat) : Prop :=
  ∀ (B : List Frame) (ip : Nat) (s : VmState), BaseExit p B → Good G s.frames → G ip →
    AtBase p B s.frames ip → B <+: (exec p gas (.loop ip) s).1.frames

/-- what `run_function` guarantees for EVERY outcome: the call stack is the one it was called on -/
def CallEq (G : Nat → Prop) (p : Prog) (gas : Nat) : Prop :=
  ∀ (f : Val) (s : VmState), Good G s.frames → (exec p gas (.call f) s).1.frames = s.frames

end Cao.FramePrefix

namespace Cao.Vm

/-! ## the dispatch loop and `run_function` -/

open Cross FramePrefix in
/-- **the call stack under the dispatch loop and around `run_function`, and the error record, for every outcome.**
`P` is what is known of the call sites that the frames record (`Cross.FInv`): it holds of every label and of every
`CallFunction` instruction. It is quantified inside, so that the callback is also known at `fun _ => True`, where
`FInv G P` is `Good G`. -/
theorem exec_stack {G : Nat → Prop} {E : ErrKind → Prop} [ExecErr E] (p : Prog) (hc : Cfi p G) (gas : Nat) :
    (∀ (P : Nat → Prop) (B : List Frame) (ip : Nat) (s : VmState), (∀ l ∈ p.labels, P l.2) →
      (∀ a, G a → p.bytecode.getD a 0 = Compiler.op.callFunction → P a) →
      BaseExit p B → FInv G P s.frames → G ip → AtBase p B s.frames ip →
      OutPost (fun s' => B <+: s'.frames ∧ FInv G P s'.frames ∧ s'.frames ≠ [])
        (fun r s' => E r.kind ∧ B <+: s'.frames ∧ FInv G P s'.frames ∧ r.frames = s'.frames ∧ (G 0 → G r.at_) ∧
          ErrAt p r)
        (exec p gas (.loop ip) s)) ∧
    (∀ (P : Nat → Prop) (f : Val) (s : VmState), (∀ l ∈ p.labels, P l.2) →
      (∀ a, G a → p.bytecode.getD a 0 = Compiler.op.callFunction → P a) → FInv G P s.frames →
      OutPost (fun s' => s'.frames = s.frames)
        (fun r s' => E r.kind ∧ s'.frames = s.frames ∧ FInv G P r.frames ∧ (G 0 → G r.at_))
        (exec p gas (.call f) s)) := by
  have key := exec_rule p (ι := (Nat → Prop) × List Frame) (κ := (Nat → Prop) × List Frame)
    (Pre := fun i ip s => ((∀ l ∈ p.labels, i.1 l.2) ∧
      ∀ a, G a → p.bytecode.getD a 0 = Compiler.op.callFunction → i.1 a) ∧
      BaseExit p i.2 ∧ FInv G i.1 s.frames ∧ G ip ∧ AtBase p i.2 s.frames ip)
    (LQ := fun i s' => i.2 <+: s'.frames ∧ FInv G i.1 s'.frames ∧ s'.frames ≠ [])
    (LE := fun i r s' => E r.kind ∧ i.2 <+: s'.frames ∧ FInv G i.1 s'.frames ∧ r.frames = s'.frames ∧
      (G 0 → G r.at_) ∧ ErrAt p r)
    (CPre := fun k s => ((∀ l ∈ p.labels, k.1 l.2) ∧
      ∀ a, G a → p.bytecode.getD a 0 = Compiler.op.callFunction → k.1 a) ∧ s.frames = k.2 ∧ FInv G k.1 k.2)
    (CQ := fun k s' => s'.frames = k.2)
    (CE := fun k r s' => E r.kind ∧ s'.frames = k.2 ∧ FInv G k.1 r.frames ∧ (G 0 → G r.at_))
    ?stop ?fail ?run ?enter gas
  · exact ⟨fun P B ip s hl hP hB hs hip hat => key.1 (P, B) ip s ⟨⟨hl, hP⟩, hB, hs, hip, hat⟩,
      fun P f s hl hP hs => key.2 (P, s.frames) f s ⟨⟨hl, hP⟩, rfl, hs⟩⟩
  case stop =>
    rintro ⟨P, B⟩ ip s ⟨_, _, hs, hip, hat⟩
    exact ⟨⟨ExecErr.gas, hat.prefix, hs, rfl, fun h0 => h0, .inr (.inl rfl)⟩,
      fun hge => ⟨ExecErr.own (.inl rfl), hat.prefix, hs, rfl, fun _ => hip, .inr (.inr (.inl ⟨rfl, hge⟩))⟩,
      fun _ => ⟨ExecErr.own (.inl rfl), hat.prefix, hs, rfl, fun _ => hip, .inl rfl⟩⟩
  case fail =>
    rintro ⟨P, fs⟩ s e ⟨_, hfs, hs⟩ he
    exact ⟨ExecErr.own he, hfs, hfs ▸ hs, fun h0 => h0⟩
  case run =>
    intro gas hre
    -- what the callback does to a call stack with good return addresses: nothing
    have hfr : ∀ f fs, Good G fs → Ho (fun s => s.frames = fs) (reenterOf p gas f) (fun _ s' => s'.frames = fs)
        (fun e s' => E e ∧ s'.frames = fs) := fun f fs hg =>
      (hre (fun _ => True, fs) f).conseq (fun s hs => ⟨⟨fun _ _ => trivial, fun _ _ _ => trivial⟩, hs, finv_true.2 hg⟩)
        (fun _ _ h => h) (fun e s' ⟨r, hr, he, hf, _⟩ => ⟨hr ▸ he, hf⟩)
    have hreB : ReBase (reenterOf p gas) G E := fun f fs hg =>
      fr_iff_ho.2 ((hfr f fs hg).conseq (fun _ h => h)
        (fun _ s' (h : s'.frames = fs) => (⟨h ▸ List.prefix_refl _, h ▸ hg⟩ : fs <+: s'.frames ∧ Good G s'.frames))
        (fun _ _ h => h.1))
    have hreE : ∀ f, Pres (FrEq G) (reenterOf p gas f) := fun f => Pres.intro fun s hg =>
      (hfr f s.frames hg).final rfl (fun _ _ h => h) (fun _ _ h => h.2)
    refine ⟨?_, ?_⟩
    · rintro ⟨P, B⟩ ip s ⟨hP, hB, hs, hip, hat⟩ hrem
      have hinv : ∀ {r : Except ErrKind Ctl} {s' : VmState},
          (step p (reenterOf p gas) ip).go s.tick = (r, s') → FInv G P s'.frames := fun hgo => by
        have := (fpres_step_inv p hc _ (fun f => (hreE f).mono fun h hi => (h hi.good).symm ▸ hi) ip hip
          (hP.2 ip hip)).rel s.tick hs
        rwa [hgo] at this
      rcases hat with ⟨rest, hr, he⟩ | ⟨he, hb, hx⟩
      · have hcfi := fr_step_cfi p hc _ hreB ip s.frames (by rw [he]; simp [hr]) hs.good hip
        refine ⟨fun t ctl s' ht hgo => ?_, fun t e s' ht hgo => ?_⟩ <;> subst ht
        · have post := hcfi.ok s.tick ctl s' rfl hgo
          have hsh := shape_above (ctl := ctl) hB hr (he ▸ post.shape)
          split
          · next hexit => exact ⟨(hsh.1 hexit).1, hinv hgo, (hsh.1 hexit).2⟩
          · next hexit =>
            have hexit' : ctl.exit = false := by cases h : ctl.exit <;> simp_all
            exact ⟨hP, hB, hinv hgo, post.next hexit', hsh.2 hexit'⟩
        · have hk := step_keeps_below p hc _ (fun f => Pres.mono (R := FrEq G) (R' := KeepBelow G)
            (fun h hg => (h hg).symm ▸ ⟨hg, List.prefix_refl _⟩) (hreE f)) ip hip s.tick hs.good
          rw [hgo] at hk
          refine ⟨hcfi.err s.tick e s' rfl hgo, List.IsPrefix.trans ?_ hk, hinv hgo, rfl, fun _ => hip,
            .inr (.inr (.inr ⟨_, _, _, hgo⟩))⟩
          show B <+: s.frames.dropLast
          rw [he, List.dropLast_append_of_ne_nil hr]
          exact List.prefix_append _ _
      · rw [step_exit p _ ip hx]
        exact ho_pure fun t ht => by subst ht; rw [if_pos rfl]; exact ⟨he ▸ List.prefix_refl _, hs, he ▸ hb⟩
    · rintro ⟨P, fs⟩ h
      refine Ho.of_at fun s ⟨_, hfs, hs⟩ => ?_
      subst hfs
      have hreq : ReSpec (reenterOf p gas) (fun fs' => fs' = s.frames ∧ Good G fs') E := fun f fs₁ hJ =>
        fr_iff_ho.2 ((hfr f fs₁ hJ.2).conseq (fun _ h => h)
          (fun _ s' (h : s'.frames = fs₁) => (⟨h.trans hJ.1, h ▸ hJ.2⟩ : s'.frames = s.frames ∧ Good G s'.frames))
          (fun _ _ h => h.1))
      have hn := fr_callNative (fun _ _ => ErrClass.wrap) inferInstance _ _ hreq h s.frames ⟨rfl, hs.good⟩
      have h2 := (pres_callNative (R := FrEq G) _ hreE h).rel s hs.good
      exact ⟨fun t a s' ht hgo => by subst ht; rw [hgo] at h2; exact h2,
        fun t e s' ht hgo => by
          subst ht; rw [hgo] at h2
          exact ⟨hn.err _ e s' rfl hgo, h2, (show s'.frames = t.frames from h2) ▸ hs, fun h0 => h0⟩⟩
  case enter =>
    rintro ⟨P, fs⟩ s a l ar clo e ⟨hP, hfs, hs⟩ _ hfind
    subst hfs
    have hl := List.mem_of_find?_eq_some hfind
    have hdst := entryFrame_dst p s e.2 ar.toNat clo
    have hsrc := entryFrame_src p s e.2 ar.toNat clo
    generalize entryFrame p s e.2 ar.toNat clo = fr at hdst hsrc ⊢
    have hfrI : FInv G P [fr] := fun f hf => by
      rw [List.mem_singleton] at hf
      subst hf
      rw [hdst, hsrc]
      exact ⟨hc.last, hP.1 _ hl⟩
    have hB : BaseExit p (s.frames ++ [fr]) := fun c' hc' => by
      rw [List.getLast?_append, List.getLast?_singleton] at hc'
      simp only [Option.some_or, Option.some.injEq] at hc'
      rw [← hc', hdst]; exact hc.lastExit
    have htake : ∀ s' : VmState, s.frames ++ [fr] <+: s'.frames → s'.frames.take s.frames.length = s.frames := by
      rintro s' ⟨u, hu⟩
      rw [← hu, List.append_assoc, List.take_left' rfl]
    exact ⟨⟨ExecErr.own (.inl rfl), rfl, hs.append hfrI, fun h0 => h0⟩, (P, s.frames ++ [fr]),
      ⟨hP, hB, hs.append (hfrI.append hfrI), hc.label _ hl, .inl ⟨[fr], by simp, by simp⟩⟩,
      fun s' h => htake s' h.1,
      fun r s' ⟨hE, hpre, hinv, hrf, hat, _⟩ => ⟨hE, htake s' hpre, hrf ▸ hinv, hat⟩⟩

section exec
variable {G : Nat → Prop} {E : ErrKind → Prop} [ExecErr E] (p : Prog) (hc : Cfi p G)

include hc in
/-- **control-flow integrity of the dispatch loop and of `run_function`**: the runs that return, and the error
    class -/
theorem exec_cfi : ∀ gas, LoopSpec G E p gas ∧ CallSpec G E p gas := by
  intro gas
  have key := exec_stack (E := E) p hc gas
  exact ⟨fun B ip s hB hg hip hat => execPost_iff.2 <|
      (key.1 (fun _ => True) B ip s (fun _ _ => trivial) (fun _ _ _ => trivial) hB (Cross.finv_true.2 hg) hip hat).mono
        (fun _ h => ⟨h.1, h.2.1.good, h.2.2⟩) (fun _ _ h => h.1),
    fun f s hg => execPost_iff.2 <|
      (key.2 (fun _ => True) f s (fun _ _ => trivial) (fun _ _ _ => trivial) (Cross.finv_true.2 hg)).mono
        (fun _ h => ⟨h, h ▸ hg⟩) (fun _ _ h => h.1)⟩

include hc in
theorem reBase_reenterOf (gas : Nat) : ReBase (reenterOf p gas) G E := fun f fs hg =>
  fr_iff_ho.2 <| (ho_liftRun_out (P := fun s => s.frames = fs) (Q := fun s' => fs <+: s'.frames ∧ Good G s'.frames)
    (X := fun r _ => E r.kind) fun s hs => by
      subst hs; exact execPost_iff.1 ((exec_cfi (E := E) p hc gas).2.prefix f s hg)).conseq
    (fun _ h => h) (fun _ _ h => h) fun _ _ ⟨_, hr, he⟩ => hr ▸ he

include hc in
theorem runLoop_frames (h0 : G 0) (n : Nat) (s : VmState) (hg : Good G s.frames) :
    ExecPost (fun fs' => fs' ≠ [] ∧ Good G fs') E
      (exec p (gasFor (started n s) n) (.loop 0) (started n s)) := by
  have hgood : Good G (started n s).frames := by
    intro f hf
    simp only [started, List.mem_append, List.mem_singleton] at hf
    rcases hf with hf | rfl
    · exact hg f hf
    · exact h0
  exact execPost_mono ((exec_cfi (E := E) p hc (gasFor (started n s) n)).1 [] 0 (started n s)
    (fun c hc' => by simp at hc') hgood h0
    (.inl ⟨(started n s).frames, by simp [started], by simp⟩)) (fun _ h => ⟨h.2.2, h.2.1⟩)

include hc in
/-- **`run`**: from a call stack whose return addresses are instruction starts, every error `run`
    reports is in `E` -/
theorem run_cfi (h0 : G 0) (n : Nat) (s : VmState) (hg : Good G s.frames) (e : RunErr)
    (h : (run p n s).2 = some e) : E e.kind := by
  by_cases hr : s.frames.length < s.frameCap
  · rw [run_room p n s hr] at h
    simp only at h
    split at h
    · cases h
    · next e' heq =>
      simp only [Option.some.injEq] at h
      subst h
      exact (execPost_iff.1 (runLoop_frames (E := E) p hc h0 n s hg)).of_error heq
  · rw [run_no_room p n s (Nat.not_lt.1 hr)] at h
    simp only [Option.some.injEq] at h
    subst h
    exact ErrClass.calm (calm_of_plain rfl)

end exec

end Cao.Vm

namespace Cao.FramePrefix
open Cao Cao.Vm Cao.Cross

variable {G : Nat → Prop}

section exec
variable (p : Prog) (hc : Cfi p G)

include hc in
theorem exec_frames : ∀ gas, LoopPre G p gas ∧ CallEq G p gas := by
  intro gas
  have key := exec_stack (E := fun _ => True) p hc gas
  exact ⟨fun B ip s hB hg hip hat =>
      ((key.1 (fun _ => True) B ip s (fun _ _ => trivial) (fun _ _ _ => trivial) hB (finv_true.2 hg) hip hat).mono
        (fun _ h => h.1) (fun _ _ h => h.2.1)).state,
    fun f s hg =>
      ((key.2 (fun _ => True) f s (fun _ _ => trivial) (fun _ _ _ => trivial) (finv_true.2 hg)).mono
        (fun _ h => h) (fun _ _ h => h.2.1)).state⟩

end exec

end Cao.FramePrefix

namespace Cao.Cross
open Cao Cao.Vm

section located
variable {G P : Nat → Prop} (p : Prog) (hc : Cfi p G) (h0 : G 0) (hlab : ∀ l ∈ p.labels, P l.2)

include hc h0 hlab in
/-- **`run`**, from a call stack that satisfies the invariant (e.g. the empty one of a fresh or cleared machine);
    the second alternative is the `CallStackOverflow` of a `run` that did not start -/
theorem run_located (hPc : ∀ a, G a → p.bytecode.getD a 0 = Compiler.op.callFunction → P a) (hP0 : P 0)
    (n : Nat) (s : VmState) (hs : FInv G P s.frames) (e : RunErr) (h : (run p n s).2 = some e) :
    G e.at_ ∧ FInv G P e.frames ∧
      (ErrAt p e ∨ (e = ⟨.callStackOverflow, 0, []⟩ ∧ s.frames.length ≥ s.frameCap)) := by
  by_cases hr : s.frames.length < s.frameCap
  · rw [run_room p n s hr] at h
    simp only at h
    have hgood : FInv G P (started n s).frames := by
      refine FInv.append hs ?_
      intro f hf
      rw [List.mem_singleton] at hf
      subst hf
      exact ⟨h0, hP0⟩
    have key := (exec_stack (E := fun _ => True) p hc (gasFor (started n s) n)).1 P [] 0 (started n s) hlab hPc
      (fun c hc' => by simp at hc') hgood h0
      (.inl ⟨(started n s).frames, by simp [started], by simp⟩)
    split at h
    · cases h
    · next e' heq =>
      simp only [Option.some.injEq] at h
      subst h
      obtain ⟨_, _, h1, h2, h3, h4⟩ := key.of_error heq
      exact ⟨h3 h0, h2 ▸ h1, .inl h4⟩
  · rw [run_no_room p n s (Nat.not_lt.1 hr)] at h
    simp only [Option.some.injEq] at h
    subst h
    exact ⟨h0, FInv.nil G P, .inr ⟨rfl, Nat.not_lt.1 hr⟩⟩

end located

end Cao.Cross
