import CaoProofs.Lemmas.SchedSim
import CaoProofs.Lemmas.NativeLemmas
import CaoProofs.Lemmas.SerdeOwn
/-!
# Schedule independence, all instructions: the relation and the two-run calculus

The relation between two runs has a configuration `Cfg`, so that it also serves the comparison of a cleared VM with a
fresh one (C17): whether the two value stacks are equal as arrays (two runs of the same machine under different
schedules) or only in their live part (a cleared machine keeps stale slots that a fresh one does not have), and a
prefix by which the host logs differ.

`Agree c K s t`: roots equal, heaps equal on the set `K ⊇ roots` closed under children, accounting invariant on both
sides. Either machine may be exchanged for one with the same roots, reachable objects and counters (`Core.congr`, over
`SchedSim.SchedCore`): that is all a collection or an allocation does to it. `Rel c s t := ∃ K, Agree c K s t` is what
holds between instructions; `VRes c v s t`: moreover the value `v` denotes the same thing in both machines.
`W2 c m₁ m₂ Q s t`: the two-run weakest precondition.
-/
namespace Cao.SchedFull
open Cao Cao.Vm Cao.Gc Cao.C02 Cao.C05 Cao.RunInv Cao.Native

/-! ## the value stack: equal, or equal in its live part -/

def StackEq (full : Prop) (a b : VStack Val) : Prop := StackSame a b ∧ (full → b = a)

theorem StackEq.refl (full : Prop) (a : VStack Val) : StackEq full a a := ⟨StackSame.refl a, fun _ => rfl⟩

theorem StackEq.map {full : Prop} {a b : VStack Val} (h : StackEq full a b)
    (f : VStack Val → VStack Val) (hf : StackSame (f a) (f b)) : StackEq full (f a) (f b) :=
  ⟨hf, fun hfull => by rw [h.2 hfull]⟩

theorem StackEq.count {full : Prop} {a b : VStack Val} (h : StackEq full a b) : b.count = a.count := h.1.count
theorem StackEq.cap {full : Prop} {a b : VStack Val} (h : StackEq full a b) :
    b.data.length = a.data.length := h.1.cap
theorem StackEq.contents {full : Prop} {a b : VStack Val} (h : StackEq full a b) :
    b.contents = a.contents := h.1.contents
theorem StackEq.peekLast {full : Prop} {a b : VStack Val} (h : StackEq full a b) (n : Nat) :
    b.peekLast n = a.peekLast n := h.1.peekLast n

/-! ## the relation -/

structure Cfg where
  /-- the two value stacks are equal as arrays, not only in their live part -/
  full : Prop
  /-- host log of the left machine = `pre ++` host log of the right one -/
  pre : List String

/-- two runs of the same machine: equal stacks (as arrays), equal host logs -/
abbrev cfg0 : Cfg := ⟨True, []⟩

def VK (K : Nat → Prop) (v : Val) : Prop := ∀ a, v = .obj a → K a

theorem VK.nil {K : Nat → Prop} : VK K .nil := fun _ h => by cases h
theorem VK.int {K : Nat → Prop} {i : Int64} : VK K (.int i) := fun _ h => by cases h
theorem VK.real {K : Nat → Prop} {b : UInt64} : VK K (.real b) := fun _ h => by cases h
theorem VK.obj {K : Nat → Prop} {a : Nat} (h : K a) : VK K (.obj a) := fun _ e => by cases e; exact h
theorem VK.boolVal {K : Nat → Prop} {b : Bool} : VK K (boolVal b) := fun _ h => by
  unfold Vm.boolVal at h; cases h
theorem VK.ite {K : Nat → Prop} {p : Prop} [Decidable p] {a b : Val} (ha : VK K a) (hb : VK K b) :
    VK K (if p then a else b) := by
  split <;> assumption
theorem VK.mono {K K' : Nat → Prop} {v : Val} (h : VK K v) (hk : ∀ a, K a → K' a) : VK K' v :=
  fun a e => hk a (h a e)

/-- what is reachable in `s` -/
def R (s : VmState) : Nat → Prop := fun a => Reach s.heap (rootAddrs s) a

/-- everything except the accounting invariant (which is suspended inside an allocation) -/
structure Core (c : Cfg) (K : Nat → Prop) (s t : VmState) : Prop where
  stack : StackEq c.full s.stack t.stack
  globals : t.globals = s.globals
  frames : t.frames = s.frames
  openUpvalues : t.openUpvalues = s.openUpvalues
  guards : t.guards = s.guards
  next : t.heap.next = s.heap.next
  limit : t.mem.limit = s.mem.limit
  remaining : t.remaining = s.remaining
  dispatches : t.dispatches = s.dispatches
  hostLog : s.hostLog = c.pre ++ t.hostLog
  frameCap : t.frameCap = s.frameCap
  uniqL : UniqueAddrs s.heap
  uniqR : UniqueAddrs t.heap
  freshL : FreshNext s.heap
  freshR : FreshNext t.heap
  rootsK : ∀ a ∈ rootAddrs s, K a
  closed : ∀ a o b, K a → s.heap.get a = some o → Val.obj b ∈ Heap.children o → K b
  agree : ∀ a, K a → t.heap.get a = s.heap.get a

structure Agree (c : Cfg) (K : Nat → Prop) (s t : VmState) : Prop extends Core c K s t where
  invL : Inv s
  invR : Inv t

def Rel (c : Cfg) (s t : VmState) : Prop := ∃ K, Agree c K s t

def VRes (c : Cfg) (v : Val) (s t : VmState) : Prop := ∃ K, Agree c K s t ∧ VK K v

section core
variable {c : Cfg} {K : Nat → Prop} {s t : VmState}

theorem Core.rootAddrs_eq (h : Core c K s t) : rootAddrs t = rootAddrs s :=
  rootAddrs_congr h.stack.contents h.globals h.frames h.openUpvalues h.guards

theorem Core.reachK (h : Core c K s t) {a : Nat} (ha : R s a) : K a := by
  induction ha with
  | root hr => exact h.rootsK _ hr
  | step _ ho hc ih => exact h.closed _ _ _ ih ho hc

theorem Core.reachR (h : Core c K s t) {a : Nat} (ha : R s a) : R t a := by
  induction ha with
  | root hr => exact Reach.root (h.rootAddrs_eq ▸ hr)
  | @step a b o hra ho hc ih => exact Reach.step ih (by rw [h.agree a (h.reachK hra)]; exact ho) hc

theorem Core.reachL (h : Core c K s t) {a : Nat} (ha : R t a) : R s a ∧ K a := by
  induction ha with
  | @root a hr =>
    have : a ∈ rootAddrs s := h.rootAddrs_eq ▸ hr
    exact ⟨Reach.root this, h.rootsK _ this⟩
  | @step a b o _ ho hc ih =>
    have ho' : s.heap.get a = some o := by rw [← h.agree a ih.2]; exact ho
    exact ⟨Reach.step ih.1 ho' hc, h.closed _ _ _ ih.2 ho' hc⟩

theorem Core.toR (h : Core c K s t) : Core c (R s) s t :=
  { h with
    rootsK := fun _ ha => Reach.root ha
    closed := fun _ _ _ ha ho hc => Reach.step ha ho hc
    agree := fun a ha => h.agree a (h.reachK ha) }

theorem Agree.toR (h : Agree c K s t) : Agree c (R s) s t := { h.toCore.toR with invL := h.invL, invR := h.invR }

theorem Agree.rel (h : Agree c K s t) : Rel c s t := ⟨K, h⟩

theorem Agree.vres (h : Agree c K s t) {v : Val} (hv : VK K v) : VRes c v s t := ⟨K, h, hv⟩

theorem VRes.rel {v : Val} (h : VRes c v s t) : Rel c s t := let ⟨K, h1, _⟩ := h; ⟨K, h1⟩

/-- **the relation sees a machine only up to garbage**; the agreement set becomes what is reachable then -/
theorem Core.congr {s' t' : VmState} (h : Core c K s t) (hs : SchedSim.SchedCore s s')
    (ht : SchedSim.SchedCore t t') : Core c (R s') s' t' :=
  { stack := by rw [hs.obs.stack, ht.obs.stack]; exact h.stack
    globals := by rw [hs.obs.globals, ht.obs.globals]; exact h.globals
    frames := by rw [hs.obs.frames, ht.obs.frames]; exact h.frames
    openUpvalues := by rw [hs.obs.openUpvalues, ht.obs.openUpvalues]; exact h.openUpvalues
    guards := by rw [hs.obs.guards, ht.obs.guards]; exact h.guards
    next := by rw [hs.obs.next, ht.obs.next]; exact h.next
    limit := by rw [hs.limit, ht.limit]; exact h.limit
    remaining := by rw [hs.remaining, ht.remaining]; exact h.remaining
    dispatches := by rw [hs.dispatches, ht.dispatches]; exact h.dispatches
    hostLog := by rw [hs.hostLog, ht.hostLog]; exact h.hostLog
    frameCap := by rw [hs.frameCap, ht.frameCap]; exact h.frameCap
    uniqL := hs.uniqR, uniqR := ht.uniqR, freshL := hs.freshR, freshR := ht.freshR
    rootsK := fun _ ha => Reach.root ha
    closed := fun _ _ _ ha ho hc => Reach.step ha ho hc
    agree := fun a ha => by
      have ha0 : R s a := (hs.obs.reach_iff a).mp ha
      rw [hs.obs.fwd a ha0, ht.obs.fwd a (h.reachR ha0)]
      exact h.agree a (h.reachK ha0) }

theorem Core.refl (s : VmState) (hu : UniqueAddrs s.heap) (hf : FreshNext s.heap) : Core cfg0 (R s) s s :=
  { stack := StackEq.refl _ _, globals := rfl, frames := rfl, openUpvalues := rfl, guards := rfl, next := rfl
    limit := rfl, remaining := rfl, dispatches := rfl, hostLog := rfl, frameCap := rfl
    uniqL := hu, uniqR := hu, freshL := hf, freshR := hf
    rootsK := fun _ ha => Reach.root ha, closed := fun _ _ _ ha ho hc => Reach.step ha ho hc
    agree := fun _ _ => rfl }

theorem core_of_schedCore (h : SchedSim.SchedCore s t) : Core cfg0 (R s) s t :=
  (Core.refl s h.uniqL h.freshL).congr (.refl h.uniqL h.freshL) h

theorem rel_sched (s : VmState) (h : C05.Inv s) (sch₁ sch₂ : Sched) (i₁ i₂ : Nat) :
    Rel cfg0 { s with sched := sch₁, allocIndex := i₁ } { s with sched := sch₂, allocIndex := i₂ } :=
  have e := SchedSim.schedEq_sched s h sch₁ sch₂ i₁ i₂
  ⟨_, { core_of_schedCore e.core with invL := e.invL, invR := e.invR }⟩

theorem Rel.refl (s : VmState) (h : Inv s) : Rel ⟨True, []⟩ s s :=
  rel_sched s h s.sched s.sched s.allocIndex s.allocIndex

theorem Core.vk_stack (h : Core c K s t) {v : Val} (hv : v ∈ s.stack.contents) : VK K v := by
  intro a e; subst e
  exact h.rootsK a ((mem_rootAddrs s a).mpr (Or.inl hv))

theorem Core.vk_global (h : Core c K s t) {v : Val} (hv : v ∈ s.globals) : VK K v := by
  intro a e; subst e
  exact h.rootsK a ((mem_rootAddrs s a).mpr (Or.inr (Or.inl hv)))

theorem Core.k_frame (h : Core c K s t) {f : Frame} (hf : f ∈ s.frames) {a : Nat}
    (ha : f.closure = some a) : K a :=
  h.rootsK a ((mem_rootAddrs s a).mpr (Or.inr (Or.inr (Or.inl (List.mem_filterMap.mpr ⟨f, hf, ha⟩)))))

theorem Core.k_upv (h : Core c K s t) {a : Nat} (ha : a ∈ s.openUpvalues) : K a :=
  h.rootsK a ((mem_rootAddrs s a).mpr (Or.inr (Or.inr (Or.inr (Or.inl ha)))))

theorem Core.k_guard (h : Core c K s t) {a : Nat} (ha : a ∈ s.guards) : K a :=
  h.rootsK a ((mem_rootAddrs s a).mpr (Or.inr (Or.inr (Or.inr (Or.inr ha)))))

theorem Core.vk_child (h : Core c K s t) {a : Nat} {o : Obj} (ha : K a) (ho : s.heap.get a = some o)
    {v : Val} (hv : v ∈ Heap.children o) : VK K v := by
  intro b e; subst e
  exact h.closed a o b ha ho hv

theorem Core.vk_entry (h : Core c K s t) {a cap : Nat} {es : List (Val × Val)} (ha : K a)
    (ho : s.heap.get a = some (.table cap es)) {e : Val × Val} (he : e ∈ es) : VK K e.1 ∧ VK K e.2 :=
  ⟨h.vk_child ha ho (List.mem_flatMap.mpr ⟨e, he, by simp⟩),
   h.vk_child ha ho (List.mem_flatMap.mpr ⟨e, he, by simp⟩)⟩

theorem Core.k_captured (h : Core c K s t) {cl u index : Nat} {hd ar : UInt32} {ups : List Nat} (hcl : K cl)
    (hg : s.heap.get cl = some (.closure hd ar ups)) (hu : ups[index]? = some u) : K u :=
  h.closed cl _ u hcl hg (by
    simp only [Heap.children, List.mem_map]
    exact ⟨u, List.mem_of_getElem? hu, rfl⟩)

theorem Core.vk_peek (h : Core c K s t) (n : Nat) : VK K (s.stack.peekLast n) :=
  fun a e => h.vk_stack (peekLast_mem e) a rfl

theorem Core.vk_last (h : Core c K s t) : VK K s.stack.last :=
  fun a e => h.vk_stack (last_mem e) a rfl

theorem Core.vk_pop (h : Core c K s t) : VK K s.stack.pop.2 :=
  fun a e => h.vk_stack (pop2_mem e) a rfl

theorem Core.vk_get (h : Core c K s t) (i : Nat) : VK K (s.stack.get i) :=
  fun a e => h.vk_stack (get_mem e) a rfl

theorem Core.vk_slot (h : Core c K s t) {i : Nat} (hi : i < s.stack.count) : VK K (s.stack.data.getD i .nil) :=
  fun a e => h.vk_stack (getD_obj_mem hi e) a rfl

theorem Agree.reroot {s' t' : VmState} (h : Agree c K s t)
    (hs : s'.heap = s.heap) (hsm : s'.mem = s.mem) (ht : t'.heap = t.heap) (htm : t'.mem = t.mem)
    (e1 : StackEq c.full s'.stack t'.stack) (e2 : t'.globals = s'.globals) (e3 : t'.frames = s'.frames)
    (e4 : t'.openUpvalues = s'.openUpvalues) (e5 : t'.guards = s'.guards)
    (c1 : t'.remaining = s'.remaining) (c2 : t'.dispatches = s'.dispatches)
    (c3 : s'.hostLog = c.pre ++ t'.hostLog) (c4 : t'.frameCap = s'.frameCap)
    (hr : ∀ a ∈ rootAddrs s', K a) : Agree c K s' t' :=
  { stack := e1, globals := e2, frames := e3, openUpvalues := e4, guards := e5,
    next := by rw [hs, ht, h.next], limit := by rw [hsm, htm, h.limit],
    remaining := c1, dispatches := c2, hostLog := c3, frameCap := c4,
    uniqL := by rw [hs]; exact h.uniqL, uniqR := by rw [ht]; exact h.uniqR,
    freshL := by rw [hs]; exact h.freshL, freshR := by rw [ht]; exact h.freshR,
    rootsK := hr,
    closed := fun a o b ha ho hc => h.closed a o b ha (by rw [← hs]; exact ho) hc,
    agree := fun a ha => by rw [hs, ht]; exact h.agree a ha,
    invL := inv_of_same hs hsm h.invL, invR := inv_of_same ht htm h.invR }

theorem Agree.roots (h : Agree c K s t) {st st' : VStack Val} {gs gs' : List Val} {fs fs' : List Frame}
    {us us' g g' : List Nat} (e1 : StackEq c.full st st') (e2 : gs' = gs) (e3 : fs' = fs) (e4 : us' = us)
    (e5 : g' = g) (hst : ∀ v ∈ st.contents, VK K v) (hgs : ∀ v ∈ gs, VK K v)
    (hfs : ∀ f ∈ fs, ∀ a, f.closure = some a → K a) (hus : ∀ a ∈ us, K a) (hg : ∀ a ∈ g, K a) :
    Agree c K { s with stack := st, globals := gs, frames := fs, openUpvalues := us, guards := g }
              { t with stack := st', globals := gs', frames := fs', openUpvalues := us', guards := g' } := by
  refine h.reroot rfl rfl rfl rfl e1 e2 e3 e4 e5 h.remaining h.dispatches h.hostLog h.frameCap ?_
  intro a ha
  rcases (mem_rootAddrs _ a).mp ha with h1 | h1 | h1 | h1 | h1
  · exact hst _ h1 a rfl
  · exact hgs _ h1 a rfl
  · obtain ⟨f, hf, hfa⟩ := List.mem_filterMap.mp h1
    exact hfs f hf a hfa
  · exact hus a h1
  · exact hg a h1

theorem Agree.stack_change (h : Agree c K s t) {st st' : VStack Val} (he : StackEq c.full st st')
    (hst : ∀ v ∈ st.contents, VK K v) : Agree c K { s with stack := st } { t with stack := st' } :=
  h.roots he h.globals h.frames h.openUpvalues h.guards hst (fun _ => h.vk_global) (fun _ hf _ => h.k_frame hf)
    (fun _ => h.k_upv) (fun _ => h.k_guard)

theorem Agree.globals_change (h : Agree c K s t) {gs gs' : List Val} (e : gs' = gs) (hgs : ∀ v ∈ gs, VK K v) :
    Agree c K { s with globals := gs } { t with globals := gs' } :=
  h.roots h.stack e h.frames h.openUpvalues h.guards (fun _ => h.vk_stack) hgs (fun _ hf _ => h.k_frame hf)
    (fun _ => h.k_upv) (fun _ => h.k_guard)

theorem Agree.frames_change (h : Agree c K s t) {fs fs' : List Frame} (e : fs' = fs)
    (hfs : ∀ f ∈ fs, ∀ a, f.closure = some a → K a) :
    Agree c K { s with frames := fs } { t with frames := fs' } :=
  h.roots h.stack h.globals e h.openUpvalues h.guards (fun _ => h.vk_stack) (fun _ => h.vk_global) hfs
    (fun _ => h.k_upv) (fun _ => h.k_guard)

theorem Agree.upvalues_change (h : Agree c K s t) {us us' : List Nat} (e : us' = us) (hus : ∀ a ∈ us, K a) :
    Agree c K { s with openUpvalues := us } { t with openUpvalues := us' } :=
  h.roots h.stack h.globals h.frames e h.guards (fun _ => h.vk_stack) (fun _ => h.vk_global)
    (fun _ hf _ => h.k_frame hf) hus (fun _ => h.k_guard)

theorem Agree.guards_change (h : Agree c K s t) (g : List Nat) (hg : ∀ a ∈ g, K a) :
    Agree c K { s with guards := g } { t with guards := g } :=
  h.roots h.stack h.globals h.frames h.openUpvalues rfl (fun _ => h.vk_stack) (fun _ => h.vk_global)
    (fun _ hf _ => h.k_frame hf) (fun _ => h.k_upv) hg

/-- overwriting an object (in `K` or not — then the heaps need not agree on it) by one whose children
    are in `K` whenever the object is -/
theorem Core.set (h : Core c K s t) (a : Nat) (o' : Obj)
    (hkids : K a → ∀ o, s.heap.get a = some o → ∀ b, Val.obj b ∈ Heap.children o' → K b) :
    Core c K { s with heap := s.heap.set a o' } { t with heap := t.heap.set a o' } :=
  have fresh : ∀ {hp : Heap}, FreshNext hp → FreshNext (hp.set a o') := fun {hp} hf q hq => by
    have : q.1 ∈ (hp.set a o').objs.map (fun p => p.1) := List.mem_map_of_mem hq
    rw [set_keys] at this
    obtain ⟨q', hq', e⟩ := List.mem_map.mp this
    rw [← e]; exact hf q' hq'
  { h with
    uniqL := by show UniqueAddrs (s.heap.set a o'); unfold UniqueAddrs; rw [set_keys]; exact h.uniqL
    uniqR := by show UniqueAddrs (t.heap.set a o'); unfold UniqueAddrs; rw [set_keys]; exact h.uniqR
    freshL := fresh h.freshL
    freshR := fresh h.freshR
    closed := by
      intro x o b hx ho hcb
      rw [show ({ s with heap := s.heap.set a o' } : VmState).heap = s.heap.set a o' from rfl,
        Gc.get_set] at ho
      split at ho
      · next hxa =>
        subst hxa
        cases hg : s.heap.get x with
        | none => rw [hg] at ho; cases ho
        | some o0 =>
          rw [hg] at ho
          cases ho
          exact hkids hx o0 hg b hcb
      · exact h.closed x o b hx ho hcb
    agree := by
      intro x hx
      show (t.heap.set a o').get x = (s.heap.set a o').get x
      rw [Gc.get_set, Gc.get_set, h.agree x hx]
      split
      · next hxa => subst hxa; rw [h.agree x hx]
      · rfl }

theorem Agree.set' (h : Agree c K s t) (a : Nat) (o' : Obj)
    (hkids : K a → ∀ o, s.heap.get a = some o → ∀ b, Val.obj b ∈ Heap.children o' → K b)
    (hcL : ∀ o, s.heap.get a = some o → Heap.chargeOf o' = Heap.chargeOf o)
    (hcR : ∀ o, t.heap.get a = some o → Heap.chargeOf o' = Heap.chargeOf o) :
    Agree c K { s with heap := s.heap.set a o' } { t with heap := t.heap.set a o' } :=
  { h.toCore.set a o' hkids with invL := set_inv s a o' h.invL hcL, invR := set_inv t a o' h.invR hcR }

theorem Agree.set (h : Agree c K s t) (a : Nat) (o' : Obj) (ha : K a)
    (hkids : ∀ b, Val.obj b ∈ Heap.children o' → K b)
    (hc : ∀ o, s.heap.get a = some o → Heap.chargeOf o' = Heap.chargeOf o) :
    Agree c K { s with heap := s.heap.set a o' } { t with heap := t.heap.set a o' } :=
  h.set' a o' (fun _ _ _ => hkids) hc (fun o ho => hc o (by rw [← h.agree a ha]; exact ho))

/-! ## deep values -/

/-- **the deep value of a `K`-value is the same in both heaps** — whatever the amount of garbage
    (the fuel of `ownD` counts garbage, `own_adequate` shows that it does not matter) -/
theorem Core.ownD_eq (h : Core c K s t) {v : Val} (hv : VK K v) : ownD t.heap v = ownD s.heap v := by
  have fwd : ∀ f o, own s.heap f v = some o → own t.heap f v = some o := fun f o ho =>
    Serde.own_keep K (fun b ob hb hg => by rw [h.agree b hb]; exact hg)
      (fun b ob x hb hg hx => h.closed b ob x hb hg hx) f v o hv ho
  have bwd : ∀ f o, own t.heap f v = some o → own s.heap f v = some o := fun f o ho =>
    Serde.own_keep K (fun b ob hb hg => by rw [← h.agree b hb]; exact hg)
      (fun b ob x hb hg hx => h.closed b ob x hb (by rw [← h.agree b hb]; exact hg) hx) f v o hv ho
  cases ho : own s.heap (ownFuel s.heap) v with
  | some o =>
    have h1 : Serde.Owns s.heap v o := ⟨_, ho⟩
    have h2 : Serde.Owns t.heap v o := ⟨_, fwd _ o ho⟩
    rw [h1.ownD, h2.ownD]
  | none =>
    cases ho' : own t.heap (ownFuel t.heap) v with
    | some o =>
      have h1 : Serde.Owns s.heap v o := ⟨_, bwd _ o ho'⟩
      rw [h1.own_fuel] at ho; cases ho
    | none => unfold Cao.ownD; rw [ho, ho']

theorem Core.toI64_eq (h : Core c K s t) {v : Val} (hv : VK K v) : toI64 t.heap v = toI64 s.heap v := by
  unfold toI64; rw [h.ownD_eq hv]

theorem Core.findEntry_eq (h : Core c K s t) {es : List (Val × Val)} (hes : ∀ e ∈ es, VK K e.1) (k : OVal) :
    findEntry t.heap es k = findEntry s.heap es k := by
  unfold findEntry
  induction es with
  | nil => rfl
  | cons e es ih =>
    rw [List.find?_cons, List.find?_cons, h.ownD_eq (hes e List.mem_cons_self),
      ih (fun e' he' => hes e' (List.mem_cons_of_mem _ he'))]

end core

/-! ## the two-run weakest precondition -/

def W2 {α : Type} (c : Cfg) (m₁ m₂ : M α) (Q : α → α → VmState → VmState → Prop) (s t : VmState) : Prop :=
  match m₁.go s, m₂.go t with
  | (.ok a, s'), (.ok b, t') => Q a b s' t'
  | (.error e, s'), (.error e', t') => e' = e ∧ Rel c s' t'
  | _, _ => False

section w2
variable {α β : Type} {c : Cfg} {Q : α → α → VmState → VmState → Prop} {s t : VmState}

theorem w2_of_go {m₁ m₂ : M α} {a b : α} {s' t' : VmState} (h1 : m₁.go s = (.ok a, s'))
    (h2 : m₂.go t = (.ok b, t')) (hq : Q a b s' t') : W2 c m₁ m₂ Q s t := by
  unfold W2; rw [h1, h2]; exact hq

theorem w2_of_go_err {m₁ m₂ : M α} {e : ErrKind} {s' t' : VmState} (h1 : m₁.go s = (.error e, s'))
    (h2 : m₂.go t = (.error e, t')) (hq : Rel c s' t') : W2 c m₁ m₂ Q s t := by
  unfold W2; rw [h1, h2]; exact ⟨rfl, hq⟩

theorem W2.cases {m₁ m₂ : M α} (h : W2 c m₁ m₂ Q s t) :
    (∃ a b s' t', m₁.go s = (.ok a, s') ∧ m₂.go t = (.ok b, t') ∧ Q a b s' t') ∨
    (∃ e s' t', m₁.go s = (.error e, s') ∧ m₂.go t = (.error e, t') ∧ Rel c s' t') := by
  unfold W2 at h
  rcases h1 : m₁.go s with ⟨r1, s'⟩
  rcases h2 : m₂.go t with ⟨r2, t'⟩
  rw [h1, h2] at h
  cases r1 <;> cases r2
  · obtain ⟨rfl, hr⟩ := h
    exact Or.inr ⟨_, _, _, rfl, rfl, hr⟩
  · exact h.elim
  · exact h.elim
  · exact Or.inl ⟨_, _, _, _, rfl, rfl, h⟩

theorem w2_pure {a b : α} (h : Q a b s t) : W2 c (pure a) (pure b) Q s t := w2_of_go rfl rfl h
theorem w2_get {Q : VmState → VmState → VmState → VmState → Prop} (h : Q s t s t) :
    W2 c get get Q s t := w2_of_go rfl rfl h
theorem w2_modify {Q : PUnit → PUnit → VmState → VmState → Prop} {f g : VmState → VmState}
    (h : Q ⟨⟩ ⟨⟩ (f s) (g t)) : W2 c (modify f) (modify g) Q s t := w2_of_go rfl rfl h
theorem w2_set {Q : PUnit → PUnit → VmState → VmState → Prop} {x y : VmState}
    (h : Q ⟨⟩ ⟨⟩ x y) : W2 c (set x) (set y) Q s t := w2_of_go rfl rfl h
theorem w2_throwE {e : ErrKind} (h : Rel c s t) : W2 c (throwE e : M α) (throwE e) Q s t :=
  w2_of_go_err rfl rfl h
theorem w2_throw {e : ErrKind} (h : Rel c s t) : W2 c (throw e : M α) (throw e) Q s t :=
  w2_of_go_err rfl rfl h

theorem w2_bind {m₁ m₂ : M α} {f₁ f₂ : α → M β} {Q : β → β → VmState → VmState → Prop}
    (h : W2 c m₁ m₂ (fun a b s' t' => W2 c (f₁ a) (f₂ b) Q s' t') s t) :
    W2 c (m₁ >>= f₁) (m₂ >>= f₂) Q s t := by
  rcases h.cases with ⟨a, b, s', t', h1, h2, hq⟩ | ⟨e, s', t', h1, h2, hr⟩
  · unfold W2 at hq ⊢
    rwa [go_bind, go_bind, h1, h2]
  · exact w2_of_go_err (by rw [go_bind, h1]) (by rw [go_bind, h2]) hr

theorem w2_get' {f g : VmState → M α} {Q : α → α → VmState → VmState → Prop} (h : W2 c (f s) (g t) Q s t) :
    W2 c (get >>= f) (get >>= g) Q s t :=
  w2_bind (w2_get h)

theorem w2_throwE_bind {e : ErrKind} {f₁ f₂ : α → M β} {Q : β → β → VmState → VmState → Prop}
    (h : Rel c s t) : W2 c ((throwE e : M α) >>= f₁) ((throwE e : M α) >>= f₂) Q s t :=
  w2_bind (w2_throwE h)

theorem w2_mono {m₁ m₂ : M α} {Q' : α → α → VmState → VmState → Prop} (h : W2 c m₁ m₂ Q s t)
    (hq : ∀ a b s' t', Q a b s' t' → Q' a b s' t') : W2 c m₁ m₂ Q' s t := by
  rcases h.cases with ⟨a, b, s', t', h1, h2, h⟩ | ⟨e, s', t', h1, h2, hr⟩
  · exact w2_of_go h1 h2 (hq _ _ _ _ h)
  · exact w2_of_go_err h1 h2 hr

theorem w2_ite {p : Prop} [Decidable p] {a₁ b₁ a₂ b₂ : M α} (ha : p → W2 c a₁ a₂ Q s t)
    (hb : W2 c b₁ b₂ Q s t) : W2 c (if p then a₁ else b₁) (if p then a₂ else b₂) Q s t := by
  by_cases hp : p
  · rw [if_pos hp, if_pos hp]; exact ha hp
  · rw [if_neg hp, if_neg hp]; exact hb

def ResEq {α : Type} (c : Cfg) (r₁ r₂ : Except ErrKind α × VmState) : Prop := r₂.1 = r₁.1 ∧ Rel c r₁.2 r₂.2

theorem resEq_of_w2 {m₁ m₂ : M α} (h : W2 c m₁ m₂ (fun a b s' t' => b = a ∧ Rel c s' t') s t) :
    ResEq c (m₁.go s) (m₂.go t) := by
  rcases h.cases with ⟨a, b, s', t', h1, h2, rfl, hr⟩ | ⟨e, s', t', h1, h2, hr⟩ <;> rw [h1, h2] <;> exact ⟨rfl, hr⟩

theorem w2_of_resEq {m₁ m₂ : M α} (h : ResEq c (m₁.go s) (m₂.go t))
    (hq : ∀ a s' t', Rel c s' t' → Q a a s' t') : W2 c m₁ m₂ Q s t := by
  unfold W2
  unfold ResEq at h
  rcases h1 : m₁.go s with ⟨r1, s'⟩
  rcases h2 : m₂.go t with ⟨r2, t'⟩
  rw [h1, h2] at h
  obtain ⟨e, hs⟩ := h
  dsimp only at e hs
  subst e
  cases r2 with
  | error e => exact ⟨rfl, hs⟩
  | ok a => exact hq a s' t' hs

theorem w2_tryCatch {m₁ m₂ : M α} {h₁ h₂ : ErrKind → M α}
    (hm : W2 c m₁ m₂ Q s t)
    (hh : ∀ e s' t', Rel c s' t' → W2 c (h₁ e) (h₂ e) Q s' t') :
    W2 c (tryCatch m₁ h₁) (tryCatch m₂ h₂) Q s t := by
  rcases hm.cases with ⟨a, b, s', t', h1, h2, hq⟩ | ⟨e, s', t', h1, h2, hr⟩
  · exact w2_of_go (by rw [go_tryCatch, h1]) (by rw [go_tryCatch, h2]) hq
  · have := hh e s' t' hr
    unfold W2 at this ⊢
    rwa [go_tryCatch, go_tryCatch, h1, h2]

theorem w2_orElse {m₁ m₂ : M α} {h₁ h₂ : Unit → M α}
    (hm : W2 c m₁ m₂ Q s t)
    (hh : ∀ s' t', Rel c s' t' → W2 c (h₁ ()) (h₂ ()) Q s' t') :
    W2 c (m₁ <|> h₁ ()) (m₂ <|> h₂ ()) Q s t :=
  w2_tryCatch hm (fun _ s' t' hr => hh s' t' hr)

theorem w2_forIn {γ σ : Type} (I : σ → VmState → VmState → Prop) (l : List γ)
    (f₁ f₂ : γ → σ → M (ForInStep σ))
    (hf : ∀ x ∈ l, ∀ b s t, I b s t →
      W2 c (f₁ x b) (f₂ x b) (fun r r' s' t' => r' = r ∧ I r.value s' t') s t) :
    ∀ (init : σ) (s t : VmState), I init s t →
      W2 c (forIn l init f₁) (forIn l init f₂) (fun b b' s' t' => b' = b ∧ I b s' t') s t := by
  induction l with
  | nil => intro init s t hs; rw [List.forIn_nil, List.forIn_nil]; exact w2_pure ⟨rfl, hs⟩
  | cons x xs ih =>
    intro init s t hs
    rw [List.forIn_cons, List.forIn_cons]
    refine w2_bind (w2_mono (hf x List.mem_cons_self init s t hs) (fun r r' s' t' hr => ?_))
    obtain ⟨rfl, hI⟩ := hr
    cases r' with
    | done b => exact w2_pure ⟨rfl, hI⟩
    | yield b => exact ih (fun y hy => hf y (List.mem_cons_of_mem _ hy)) b s' t' hI

end w2

/- Elaborating a rule against a `W2` goal must not unfold it, which would run both computations:
   from here on the rules above (and `unfold W2`) are the only way into the definition. -/
attribute [irreducible] W2

end Cao.SchedFull
