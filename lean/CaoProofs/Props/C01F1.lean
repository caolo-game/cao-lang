import CaoProofs.Props.C01
/-!
# C01: statements without locals (fragment F1)

`exec_sim`: the statements `SetGlobalVar`, `IfTrue`, `IfFalse`, `IfElse`, `While`, `CompositeCard` over
expressions without locals are simulated from any machine state whose value stack is empty, and the
VM changes nothing but the stack and the globals (`VmSim`, `SameRest`), with no assumption on frames or heap.
The simulation rests on `C01.lean` alone and stands beside the one for frames with locals (`C01S.lean`), which
F1 is not stated through; its one user, `compile_correct_core` (`C01E.lean`), runs it from the start state.
-/
namespace Cao.C01
open Cao Cao.Vm Cao.Sim Cao.Compiler

theorem scode_le_both {B : Array UInt8} {F : List (UInt32 × Nat)} :
    (∀ c pc pc', isStmt c = true → SCode B F c pc pc' → pc ≤ pc') ∧
    (∀ cs pc pc', isStmts cs = true → SCodes B F cs pc pc' → pc ≤ pc') := by
  apply SCode.mutual_induct (motive_1 := fun c pc pc' => isStmt c = true → SCode B F c pc pc' → pc ≤ pc')
    (motive_2 := fun cs pc pc' => isStmts cs = true → SCodes B F cs pc pc' → pc ≤ pc')
  case case1 =>
    intro n e pc pc' _ h
    obtain ⟨m, id, h1, _, _, _, rfl⟩ := h
    have := ecode_lt h1; omega
  case case2 | case3 =>
    intro c b pc pc' ih hs h
    simp only [isStmt, Bool.and_eq_true] at hs
    obtain ⟨m, h1, _, _, h2⟩ := h
    have := ecode_lt h1; have := ih m hs.2 h2; omega
  case case4 =>
    intro c b pc pc' ih hs h
    simp only [isStmt, Bool.and_eq_true] at hs
    obtain ⟨m1, m2, h1, _, _, h2, _, _, rfl⟩ := h
    have := ecode_lt h1; have := ih m1 m2 hs.2 h2; omega
  case case5 =>
    intro c t e pc pc' iht ihe hs h
    simp only [isStmt, Bool.and_eq_true] at hs
    obtain ⟨m1, m2, h1, _, _, h2, _, _, h3⟩ := h
    have := ecode_lt h1; have := iht m1 m2 hs.1.2 h2; have := ihe m2 hs.2 h3; omega
  case case6 => exact fun ty cs pc pc' ih hs h => ih hs h
  case case7 => intro s pc pc' _ h; exact Nat.le_of_eq h.symm
  case case8 => intro t pc pc' h1 h2 h3 h4 h5 h6 h7 hs; rw [isStmt.eq_8 t h1 h2 h3 h4 h5 h6 h7] at hs; cases hs
  case case9 => intro pc pc' _ h; exact Nat.le_of_eq h.symm
  case case10 =>
    intro c cs pc pc' ihc ihs hs h
    simp only [isStmts, Bool.and_eq_true] at hs
    obtain ⟨m, h1, h2⟩ := h
    have := ihc m hs.1 h1; have := ihs m hs.2 h2; omega

theorem scode_le {B : Array UInt8} {F : List (UInt32 × Nat)} {c : Card} {pc pc' : Nat} (hs : isStmt c = true)
    (h : SCode B F c pc pc') : pc ≤ pc' := scode_le_both.1 c pc pc' hs h

theorem scodes_le {B : Array UInt8} {F : List (UInt32 × Nat)} {cs : List Card} {pc pc' : Nat} (hs : isStmts cs = true)
    (h : SCodes B F cs pc pc') : pc ≤ pc' := scode_le_both.2 cs pc pc' hs h

section stmtsim
variable (P : Prog) (F : List (UInt32 × Nat)) (N : String → Prop) (cx : Sem.Ctx)

/-- what the VM does for a piece of code `[pc, pc')`, given that the reference semantics went from `σ` to
    `σ'`: from any state with an empty stack of temporaries and related globals it reaches `pc'` with
    related globals again, in a number of dispatches `n` that does not depend on the VM state; if the piece
    is loop-free (`lf`), `n` is at most its length -/
def VmSim (σ σ' : Sem.St) (pc pc' : Nat) (depth : Nat) (lf : Bool) : Prop :=
  ∃ n, (lf = true → n ≤ pc' - pc) ∧
    ∀ (vs : VmState) (cap : Nat), StackIs vs.stack cap [] → depth < cap → GRel F N σ.globals vs.globals →
      ∃ vs', Reach P n pc vs pc' vs' ∧ StackIs vs'.stack cap [] ∧ SameRest vs vs' ∧
        GRel F N σ'.globals vs'.globals

/-- the simulation of one statement card without locals at fuel `f`: if it completes, the environment is
    unchanged, only the globals of the store change, and the VM follows (`VmSim`) -/
def StmtSim (f : Nat) (c : Card) : Prop :=
  isStmt c = true → ∀ (env : Sem.Env), NoEnv env → ∀ (σ σ' : Sem.St) (env' : Sem.Env) (pc pc' : Nat),
    Sem.exec cx f env σ c = (σ', env', .ok ()) → SCode P.bytecode F c pc pc' → pc' ≤ P.bytecode.size →
    (∀ n ∈ snames c, N n) →
      env = env' ∧ σ' = { σ with globals := σ'.globals } ∧ VmSim P F N σ σ' pc pc' (sdepth c) (loopFree c)

def StmtsSim (f : Nat) (cs : List Card) : Prop :=
  isStmts cs = true → ∀ (env : Sem.Env), NoEnv env → ∀ (σ σ' : Sem.St) (env' : Sem.Env) (pc pc' : Nat),
    Sem.execListWith (Sem.exec cx f) env σ cs = (σ', env', .ok ()) → SCodes P.bytecode F cs pc pc' →
    pc' ≤ P.bytecode.size → (∀ n ∈ snamess cs, N n) →
      env = env' ∧ σ' = { σ with globals := σ'.globals } ∧ VmSim P F N σ σ' pc pc' (sdepths cs) (loopFrees cs)

variable {P F N cx}

theorem VmSim.refl (σ : Sem.St) (pc depth : Nat) (lf : Bool) : VmSim P F N σ σ pc pc depth lf :=
  ⟨0, fun _ => Nat.zero_le _, fun vs _ hst _ hg => ⟨vs, Reach.refl _ _, hst, SameRest.refl _, hg⟩⟩

theorem VmSim.seq {σ σ1 σ2 : Sem.St} {pc m pc' d1 d2 : Nat} {l1 l2 : Bool} (h1 : VmSim P F N σ σ1 pc m d1 l1)
    (h2 : VmSim P F N σ1 σ2 m pc' d2 l2) (hle : l1 = true → l2 = true → pc ≤ m ∧ m ≤ pc') :
    VmSim P F N σ σ2 pc pc' (max d1 d2) (l1 && l2) := by
  obtain ⟨n1, hn1, hs1⟩ := h1
  obtain ⟨n2, hn2, hs2⟩ := h2
  refine ⟨n1 + n2, fun hl => ?_, fun vs cap hst hd hg => ?_⟩
  · rw [Bool.and_eq_true] at hl
    have := hn1 hl.1; have := hn2 hl.2; have := hle hl.1 hl.2; omega
  · obtain ⟨vs1, hr1, hst1, hsame1, hg1⟩ := hs1 vs cap hst (by omega) hg
    obtain ⟨vs2, hr2, hst2, hsame2, hg2⟩ := hs2 vs1 cap hst1 (by omega) hg1
    exact ⟨vs2, hr1.trans hr2 rfl, hst2, hsame1.trans hsame2, hg2⟩

theorem VmSim.mono {σ σ' : Sem.St} {pc pc' d d' : Nat} {lf lf' : Bool} (h : VmSim P F N σ σ' pc pc' d lf)
    (hd : d ≤ d') (hl : lf' = true → lf = true) : VmSim P F N σ σ' pc pc' d' lf' := by
  obtain ⟨n, hn, hs⟩ := h
  exact ⟨n, fun h' => hn (hl h'), fun vs cap hst hd' hg => hs vs cap hst (by omega) hg⟩

theorem VmSim.instr {σ : Sem.St} {pc pc' : Nat} (depth : Nat) {lf : Bool} (hlf : lf = true → pc < pc')
    (h : ∀ vs : VmState, ∃ vs', Reach P 1 pc vs pc' vs' ∧ vs'.stack = vs.stack ∧ SameRest vs vs' ∧ vs'.globals = vs.globals) :
    VmSim P F N σ σ pc pc' depth lf := by
  refine ⟨1, fun hl => by have := hlf hl; omega, fun vs cap hst _ hg => ?_⟩
  obtain ⟨vs', hr, hst', hsame, hg'⟩ := h vs
  exact ⟨vs', hr, by rw [hst']; exact hst, hsame, by rw [hg']; exact hg⟩

variable (hout : cx.outer = [])
include hout

theorem cond_sim (jt : Bool) {env : Sem.Env} (henv : NoEnv env) {c : Card} (hec : isExpr c = true) {f : Nat}
    {σ σ1 : Sem.St} {env1 : Sem.Env} {x : Val} {pc m : Nat} (hev : Sem.eval cx f env σ c = (σ1, env1, .ok x))
    (hc1 : ECode P.bytecode F c pc m) (hm : m < P.bytecode.size) (hop : P.bytecode.getD m 0 = jumpOp jt)
    (hfwd : m < rdU32 P.bytecode (m + 1)) :
    σ1 = σ ∧ env = env1 ∧
      VmSim P F N σ σ pc (if Sem.truthy σ x = jt then rdU32 P.bytecode (m + 1) else m + 5) (edepth c) true := by
  obtain ⟨rfl, rfl, n1, hn1, hsim1⟩ := eval_sim (P := P) (F := F) (N := N) hout env henv c hec f σ σ1 env1 x pc m hev hc1 (by omega)
  have hlt := ecode_lt hc1
  refine ⟨rfl, rfl, n1 + 1, fun _ => by split <;> omega, fun vs cap hst hd hg => ?_⟩
  obtain ⟨hsx, vs1, hr1, hst1, hsame1, hg1⟩ := hsim1 vs cap [] hst (by simpa using hd) hg
  obtain ⟨vs2, hr2, hst2, hsame2, hg2⟩ := reach_gotoIf (P := P) jt hm hop hst1
  rw [truthy_eq hsx vs1.heap σ1] at hr2
  exact ⟨vs2, hr1.trans hr2 rfl, hst2, hsame1.trans hsame2, by rw [hg2, hg1]; exact hg⟩

omit hout in
theorem stmts_sim {f : Nat} (ih : ∀ c, StmtSim P F N cx f c) : ∀ cs, StmtsSim P F N cx f cs
  | [] => by
    intro _ env henv σ σ' env' pc pc' hex hcode _ _
    cases hex
    simp only [SCodes] at hcode
    subst hcode
    exact ⟨rfl, rfl, VmSim.refl _ _ _ _⟩
  | c :: cs => by
    intro hs env henv σ σ' env' pc pc' hex hcode hsz hN
    simp only [isStmts, Bool.and_eq_true] at hs
    simp only [SCodes] at hcode
    obtain ⟨m, hc1, hc2⟩ := hcode
    simp only [snamess, List.mem_append] at hN
    have hle2 := scodes_le hs.2 hc2
    have hle1 := scode_le hs.1 hc1
    rw [execList_cons] at hex
    obtain ⟨σ1, env1, _, hc, hex⟩ := andThen_ok hex
    obtain ⟨rfl, e1, h1⟩ := ih c hs.1 env henv σ σ1 env1 pc m hc hc1 (by omega) (fun n hn => hN n (Or.inl hn))
    obtain ⟨rfl, e2, h2⟩ := stmts_sim ih cs hs.2 env henv σ1 σ' env' m pc' hex hc2 hsz (fun n hn => hN n (Or.inr hn))
    exact ⟨rfl, by rw [e2, e1], h1.seq h2 fun _ _ => ⟨hle1, hle2⟩⟩

variable (hFinj : FInj F) (hNinj : HInj N)
include hFinj hNinj

theorem sim_setGlobal (f : Nat) (n : String) (e : Card) : StmtSim P F N cx (f + 1) (.setGlobalVar n e) := by
  intro hs env henv σ σ' env' pc pc' hex hcode hsz hN
  simp only [isStmt, Bool.and_eq_true, Bool.not_eq_true'] at hs
  rw [exec_setGlobal] at hex
  obtain ⟨σ1, env1, x, hc, hex⟩ := andThen_ok hex
  rw [if_neg (by simp [hs.1])] at hex
  obtain ⟨rfl, rfl, -⟩ := res_inj hex
  simp only [SCode] at hcode
  obtain ⟨m, id, hc1, hop, hid, hrd, rfl⟩ := hcode
  obtain ⟨rfl, rfl, n1, hn1, hsim1⟩ := eval_sim hout env henv e hs.2 f σ σ1 env1 x pc m hc hc1 (by omega)
  have hlt := ecode_lt hc1
  refine ⟨rfl, rfl, n1 + 1, fun _ => by omega, fun vs cap hst hd hg => ?_⟩
  simp only [sdepth] at hd
  obtain ⟨hsx, vs1, hr1, hst1, hsame1, hg1⟩ := hsim1 vs cap [] hst (by simpa using hd) hg
  obtain ⟨vs2, hr2, hst2, hsame2, hg2⟩ := reach_setGlobal (P := P) (ip := m) (by omega) hop hrd hst1
  refine ⟨vs2, hr1.trans hr2 rfl, hst2, hsame1.trans hsame2, ?_⟩
  rw [hg2, hg1]
  exact hg.set hFinj hNinj (hN n (by simp [snames])) hsx hid

omit hFinj hNinj in
/-- `IfTrue` and `IfFalse`: the condition, a conditional jump over the body (`GotoIfFalse` for `IfTrue`), the body -/
theorem sim_skip (jt : Bool) {f : Nat} (ih : ∀ c, StmtSim P F N cx f c) {c b : Card} (hec : isExpr c = true)
    (hsb : isStmt b = true) {env : Sem.Env} (henv : NoEnv env) {σ σ1 σ' : Sem.St} {env1 env' : Sem.Env} {x : Val}
    {pc m pc' : Nat} (hc : Sem.eval cx f env σ c = (σ1, env1, .ok x)) (hc1 : ECode P.bytecode F c pc m)
    (hop : P.bytecode.getD m 0 = jumpOp jt) (hrd : rdU32 P.bytecode (m + 1) = pc')
    (hc2 : SCode P.bytecode F b (m + 5) pc') (hsz : pc' ≤ P.bytecode.size) (hN : ∀ n ∈ snames b, N n)
    (hex : if Sem.truthy σ1 x = jt then (σ1, env1, Sem.Res.ok ()) = (σ', env', Sem.Res.ok ())
      else Sem.exec cx f env1 σ1 b = (σ', env', .ok ())) :
    env = env' ∧ σ' = { σ with globals := σ'.globals } ∧
      VmSim P F N σ σ' pc pc' (max (edepth c) (sdepth b)) (loopFree b) := by
  have hle := scode_le hsb hc2
  have hlt := ecode_lt hc1
  obtain ⟨rfl, rfl, hcond⟩ := cond_sim (P := P) (F := F) (N := N) hout jt henv hec hc hc1 (by omega) hop (by omega)
  by_cases ht : Sem.truthy σ1 x = jt
  · rw [if_pos ht] at hex hcond
    obtain ⟨rfl, rfl, -⟩ := res_inj hex
    rw [hrd] at hcond
    exact ⟨rfl, rfl, hcond.mono (Nat.le_max_left _ _) (fun _ => rfl)⟩
  · rw [if_neg ht] at hex hcond
    obtain ⟨rfl, e2, hb⟩ := ih b hsb env henv σ1 σ' env' (m + 5) pc' hex hc2 hsz hN
    exact ⟨rfl, e2, (hcond.seq hb fun _ _ => ⟨by omega, hle⟩).mono (Nat.le_refl _) (fun h => by simpa using h)⟩

omit hFinj hNinj in
theorem sim_ifElse (f : Nat) (ih : ∀ c, StmtSim P F N cx f c) (c t e : Card) :
    StmtSim P F N cx (f + 1) (.tri .ifElse c t e) := by
  intro hs env henv σ σ' env' pc pc' hex hcode hsz hN
  simp only [isStmt, Bool.and_eq_true] at hs
  obtain ⟨⟨hec, hst_⟩, hse⟩ := hs
  rw [exec_ifElse] at hex
  obtain ⟨σ1, env1, x, hc, hex⟩ := andThen_ok hex
  simp only [SCode] at hcode
  obtain ⟨m1, m2, hc1, hop1, hrd1, hc2, hop2, hrd2, hc3⟩ := hcode
  have hlt := ecode_lt hc1
  have hle2 := scode_le hst_ hc2
  have hle3 := scode_le hse hc3
  simp only [snames, List.mem_append] at hN
  obtain ⟨rfl, rfl, hcond⟩ := cond_sim (P := P) (F := F) (N := N) hout false henv hec hc hc1 (by omega) hop1 (by omega)
  simp only [sdepth, loopFree]
  by_cases ht : Sem.truthy σ1 x = true
  · rw [if_pos ht] at hex
    rw [if_neg (by simp [ht])] at hcond
    obtain ⟨rfl, e2, hb⟩ := ih t hst_ env henv σ1 σ' env' (m1 + 5) m2 hex hc2 (by omega) (fun n hn => hN n (Or.inl hn))
    have hgo : VmSim P F N σ' σ' m2 pc' 0 true := by
      rw [← hrd2]
      exact VmSim.instr 0 (fun _ => by omega) fun vs => reach_goto (P := P) (ip := m2) (by omega) hop2
    exact ⟨rfl, e2, ((hcond.seq hb fun _ _ => ⟨by omega, hle2⟩).seq hgo fun _ _ => ⟨by omega, by omega⟩).mono (by omega)
      (fun h => by rw [Bool.and_eq_true] at h; simp [h.1])⟩
  · rw [if_neg ht] at hex
    rw [if_pos (by simpa using ht), hrd1] at hcond
    obtain ⟨rfl, e2, hb⟩ := ih e hse env henv σ1 σ' env' (m2 + 5) pc' hex hc3 hsz (fun n hn => hN n (Or.inr hn))
    exact ⟨rfl, e2, (hcond.seq hb fun _ _ => ⟨by omega, hle3⟩).mono (by omega)
      (fun h => by rw [Bool.and_eq_true] at h; simp [h.2])⟩

omit hFinj hNinj in
theorem sim_while (f : Nat) (ih : ∀ c, StmtSim P F N cx f c) (c b : Card) :
    StmtSim P F N cx (f + 1) (.bin .while c b) := by
  intro hs env henv σ σ' env' pc pc' hex hcode hsz hN
  have hs0 := hs
  have hcode0 := hcode
  simp only [isStmt, Bool.and_eq_true] at hs
  rw [exec_while] at hex
  obtain ⟨σ1, env1, x, hc, hex⟩ := andThen_ok hex
  simp only [SCode] at hcode
  obtain ⟨m1, m2, hc1, hop1, hrd1, hc2, hop2, hrd2, rfl⟩ := hcode
  have hlt := ecode_lt hc1
  have hle2 := scode_le hs.2 hc2
  obtain ⟨rfl, rfl, hcond⟩ := cond_sim (P := P) (F := F) (N := N) hout false henv hs.1 hc hc1 (by omega) hop1 (by omega)
  have hlf : loopFree (.bin .while c b) = false := rfl
  rw [hlf]
  by_cases ht : Sem.truthy σ1 x = true
  · rw [if_pos ht] at hex
    rw [if_neg (by simp [ht])] at hcond
    obtain ⟨σ2, env2, _, hb, hex⟩ := andThen_ok hex
    obtain ⟨envb, hb', rfl⟩ := dropScope_eq hb
    obtain ⟨_, e2, hbody⟩ := ih b hs.2 ([] :: env) (noEnv_cons henv) σ1 σ2 envb (m1 + 5) m2 hb' hc2 (by omega)
      (fun n hn => hN n (by simpa [snames] using hn))
    obtain ⟨rfl, e5, hloop⟩ := ih (.bin .while c b) hs0 env henv σ2 σ' env' pc (m2 + 5) hex hcode0 hsz hN
    have hgo : VmSim P F N σ2 σ2 m2 pc 0 false := by
      rw [← hrd2]
      exact VmSim.instr 0 (fun h => by cases h) fun vs => reach_goto (P := P) (ip := m2) (by omega) hop2
    refine ⟨rfl, by rw [e5, e2], ?_⟩
    obtain ⟨n, _, hsim⟩ := (hcond.seq hbody fun _ _ => ⟨by omega, hle2⟩).seq hgo fun _ h => by cases h
    obtain ⟨n5, _, hsim5⟩ := hloop
    refine ⟨n + n5, (fun h => by cases h), fun vs cap hst hd hg => ?_⟩
    obtain ⟨vs1, hr1, hst1, hsame1, hg1⟩ := hsim vs cap hst (by simp only [sdepth] at hd; omega) hg
    obtain ⟨vs2, hr2, hst2, hsame2, hg2⟩ := hsim5 vs1 cap hst1 hd hg1
    exact ⟨vs2, hr1.trans hr2 rfl, hst2, hsame1.trans hsame2, hg2⟩
  · rw [if_neg ht] at hex
    cases hex
    rw [if_pos (by simpa using ht), hrd1] at hcond
    exact ⟨rfl, rfl, hcond.mono (by simp only [sdepth]; omega) (fun h => by cases h)⟩

/-- The simulation of statement cards without locals, by induction on the fuel: the body of a `While` and
    the rest of the loop both run with one unit of fuel less, so the loop itself is an instance of the
    induction hypothesis. -/
theorem exec_sim : ∀ (f : Nat) (c : Card), StmtSim P F N cx f c := by
  intro f
  induction f with
  | zero =>
    intro c _ env henv σ σ' env' pc pc' hex
    rw [exec_zero] at hex
    cases hex
  | succ f ih =>
    intro c
    cases c with
    | setGlobalVar n e => exact sim_setGlobal hout hFinj hNinj f n e
    | comment t =>
      intro _ env henv σ σ' env' pc pc' hex hcode _ _
      cases hex
      simp only [SCode] at hcode
      subst hcode
      exact ⟨rfl, rfl, VmSim.refl _ _ _ _⟩
    | composite t cs =>
      intro hs env henv σ σ' env' pc pc' hex hcode hsz hN
      exact stmts_sim ih cs hs env henv σ σ' env' pc pc' hex hcode hsz hN
    | tri k a b c =>
      cases k with
      | ifElse => exact sim_ifElse hout f ih a b c
      | setProperty => intro hs; simp [isStmt] at hs
    | bin k a b =>
      cases k with
      | ifTrue =>
        intro hs env henv σ σ' env' pc pc' hex hcode hsz hN
        simp only [isStmt, Bool.and_eq_true] at hs
        rw [exec_ifTrue] at hex
        obtain ⟨σ1, env1, x, hc, hex⟩ := andThen_ok hex
        simp only [SCode] at hcode
        obtain ⟨m, hc1, hop, hrd, hc2⟩ := hcode
        exact sim_skip hout false ih hs.1 hs.2 henv hc hc1 hop hrd hc2 hsz (fun n hn => hN n (by simpa [snames] using hn))
          (by cases h : Sem.truthy σ1 x <;> simpa [h] using hex)
      | ifFalse =>
        intro hs env henv σ σ' env' pc pc' hex hcode hsz hN
        simp only [isStmt, Bool.and_eq_true] at hs
        rw [exec_ifFalse] at hex
        obtain ⟨σ1, env1, x, hc, hex⟩ := andThen_ok hex
        simp only [SCode] at hcode
        obtain ⟨m, hc1, hop, hrd, hc2⟩ := hcode
        exact sim_skip hout true ih hs.1 hs.2 henv hc hc1 hop hrd hc2 hsz (fun n hn => hN n (by simpa [snames] using hn))
          (by cases h : Sem.truthy σ1 x <;> simpa [h] using hex)
      | «while» => exact sim_while hout f ih a b
      | _ => intro hs; simp [isStmt] at hs
    | _ => intro hs; simp [isStmt] at hs

end stmtsim

end Cao.C01
