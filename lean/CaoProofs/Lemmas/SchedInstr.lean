import CaoProofs.Lemmas.SchedPrim
/-!
# Schedule independence, all instructions: what several instructions share

The post-condition of an instruction, the conditional jumps, the five instructions that create an
object and push it, and the table lemmas used by instructions and host functions alike.
-/
namespace Cao.SchedFull
open Cao Cao.Vm Cao.Gc Cao.C02 Cao.C05 Cao.RunInv Cao.Native

/-- the post-condition of an instruction -/
abbrev QStep (c : Cfg) : Ctl → Ctl → VmState → VmState → Prop := fun a b s' t' => b = a ∧ Rel c s' t'

/-- `InitTable`, `FunctionPointer`, `NativeFunctionPointer`, `Closure`, `StringLiteral` -/
def cAlloc (m : M Nat) (ip : Nat) : M Ctl := do
  let a ← m
  push (.obj a)
  dropGuard a
  return { ip }

section ops
variable {c : Cfg} {K : Nat → Prop} {s t : VmState}

theorem w2_done (h : Agree c K s t) (ctl : Ctl) : W2 c (pure ctl) (pure ctl) (QStep c) s t :=
  w2_pure ⟨rfl, h.rel⟩

theorem w2_push_done (v : Val) (h : Agree c K s t) (hv : VK K v) (ctl : Ctl) :
    W2 c (do push v; return ctl) (do push v; return ctl) (QStep c) s t :=
  w2_bind (w2_push v h hv fun _ _ _ hA => w2_done hA ctl)

/-- `GotoIfTrue`, `GotoIfFalse` -/
theorem sim_gotoIf (yes no : Nat) (h : Agree c K s t) :
    W2 c (Instr.gotoIf yes no) (Instr.gotoIf yes no) (QStep c) s t := by
  unfold Instr.gotoIf
  refine w2_bind (w2_pop h fun v s1 t1 _ _ hv hA => ?_)
  refine w2_get' ?_
  m_head
  rw [hA.ownD_eq hv]
  exact w2_done hA _

/-- an allocating constructor: same address or same error, the new object is guarded -/
def AllocSim (c : Cfg) (m : M Nat) : Prop :=
  ∀ (K : Nat → Prop) (s t : VmState), Agree c K s t →
    W2 c m m (fun a b s' t' => b = a ∧ Agree c (R s') s' t' ∧ a ∈ s'.guards) s t

theorem allocSim_initTable : AllocSim c initTable := fun _ _ _ h =>
  w2_initTable h (fun _ _ _ hgo _ hA => ⟨rfl, hA, initTable_guards hgo ▸ List.mem_cons_self⟩)
theorem allocSim_initString (b : List UInt8) : AllocSim c (initString b) := fun _ _ _ h =>
  w2_initString b h (fun _ _ _ hgo _ hA => ⟨rfl, hA, initString_guards hgo ▸ List.mem_cons_self⟩)
theorem allocSim_initSimple (o : Obj) (hk : Heap.children o = []) (ho : Heap.chargeOf o = Heap.objCharge) :
    AllocSim c (initSimple o) := fun _ _ _ h =>
  w2_initSimple o hk ho h (fun _ _ _ hgo _ hA => ⟨rfl, hA, initSimple_guards hgo ▸ List.mem_cons_self⟩)

theorem sim_alloc (m : M Nat) (hm : AllocSim c m) (ip : Nat) (h : Agree c K s t) :
    W2 c (cAlloc m ip) (cAlloc m ip) (QStep c) s t := by
  unfold cAlloc
  refine w2_bind (w2_mono (hm K s t h) fun a b s1 t1 hq => ?_)
  obtain ⟨rfl, hA, hg⟩ := hq
  refine w2_bind (w2_push _ hA (VK.obj (reach_of_guard hg)) fun s2 t2 _ hA2 => ?_)
  refine w2_bind (w2_dropGuard _ hA2 fun s3 t3 _ hA3 => ?_)
  exact w2_done hA3 _

theorem isTable_eq (h : Core c K s t) {v : Val} (hv : VK K v) : isTable t.heap v = isTable s.heap v := by
  unfold isTable
  cases v with
  | obj a => dsimp only; rw [h.agree a (hv a rfl)]
  | _ => rfl

theorem w2_getTableOr {Q : List (Val × Val) → List (Val × Val) → VmState → VmState → Prop} (v : Val)
    (e : ErrKind) (h : Agree c K s t) (hv : VK K v)
    (hq : ∀ es, (∀ x ∈ es, VK K x.1 ∧ VK K x.2) → Q es es s t) :
    W2 c ((do let (_, _, es) ← getTable v; pure es) <|> throwE e)
      ((do let (_, _, es) ← getTable v; pure es) <|> throwE e) Q s t := by
  have e1 := go_getTableOr v e s
  have e2 := go_getTableOr v e t
  rw [isTable_eq h.toCore hv] at e2
  cases hs : isTable s.heap v with
  | none => rw [hs] at e1 e2; exact w2_of_go_err e1 e2 h.rel
  | some es =>
    rw [hs] at e1 e2
    refine w2_of_go e1 e2 (hq es ?_)
    obtain ⟨a, cap, rfl, hg⟩ := isTable_some hs
    exact fun x hx => h.vk_entry (hv a rfl) hg hx

theorem tableAppendKey_go_eq (h : Core c K s t) {es : List (Val × Val)} (hes : ∀ e ∈ es, VK K e.1) :
    ∀ (fuel : Nat) (i : Int64), tableAppendKey.go t.heap es fuel i = tableAppendKey.go s.heap es fuel i := by
  intro fuel
  induction fuel with
  | zero => intro i; rfl
  | succ f ih =>
    intro i
    unfold tableAppendKey.go
    rw [h.findEntry_eq hes, ih]

end ops

end Cao.SchedFull
