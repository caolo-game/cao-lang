import CaoProofs.Lemmas.VmFrame
/-!
# A frames-only Hoare logic for the interpreter monad (C04)

`Fr m fs Q E`: started in any state whose call stack is `fs`, the computation `m` either returns
`a` in a state whose call stack satisfies `Q a`, or raises an error satisfying `E`. Everything the
no-panic / control-flow-integrity arguments need to know about a machine state is its call stack,
so the state itself stays universally quantified and only the list of frames is tracked
symbolically. It is the triple `Ho` of `Lemmas/VmLogic.lean` for such assertions (`fr_iff_ho`); its few rules
are for the code that changes the call stack (a call, a return). Everything else keeps every invariant
`fun s => J s.frames`, which is a `PlainKeep`: the host functions and the plain instructions are the walks of
`Lemmas/VmLogic.lean` for it (`Kp.fr`). `Quiet m`: `m` leaves the call stack alone and raises only errors that are
not (wrapped) panics.
-/
namespace Cao.Vm

/-! ## error classes -/

theorem errClass_of_root {E : ErrKind → Prop} (P : ErrKind → Prop) (hE : ∀ e, E e ↔ P (rootCause e))
    (hc : ∀ e, (∀ w, e ≠ .panic w) → P e) : ErrClass E where
  calm h := (hE _).2 (hc _ h)
  wrap {n e} h := (hE (.taskFailure n e)).2 ((hE e).1 h)

/-! ## the triple -/

structure Fr {α : Type} (m : M α) (fs : List Frame) (Q : α → List Frame → Prop)
    (E : ErrKind → Prop) : Prop where
  ok : ∀ s a s', s.frames = fs → m.go s = (.ok a, s') → Q a s'.frames
  err : ∀ s e s', s.frames = fs → m.go s = (.error e, s') → E e

def Quiet {α : Type} (m : M α) : Prop := ∀ fs, Fr m fs (fun _ fs' => fs' = fs) Calm

/-- the postcondition of a computation that never returns normally (a re-raising handler) -/
abbrev Never {α : Type} : α → List Frame → Prop := fun _ _ => False

section rules
variable {α β : Type} {fs : List Frame} {Q : α → List Frame → Prop} {E : ErrKind → Prop}

theorem fr_iff_ho {m : M α} :
    Fr m fs Q E ↔ Ho (fun s => s.frames = fs) m (fun a s => Q a s.frames) (fun e _ => E e) :=
  ⟨fun h => ⟨h.ok, h.err⟩, fun h => ⟨h.ok, h.err⟩⟩

theorem fr_iff {m : M α} : Fr m fs Q E ↔ ∀ s, s.frames = fs →
    match m.go s with
    | (.ok a, s') => Q a s'.frames
    | (.error e, _) => E e := fr_iff_ho.trans ho_iff

theorem fr_conseq {m : M α} {Q' : α → List Frame → Prop} {E' : ErrKind → Prop}
    (hm : Fr m fs Q' E') (hq : ∀ a fs', Q' a fs' → Q a fs') (he : ∀ e, E' e → E e) : Fr m fs Q E :=
  ⟨fun s a s' hs hg => hq _ _ (hm.ok s a s' hs hg), fun s e s' hs hg => he _ (hm.err s e s' hs hg)⟩

theorem fr_pure {a : α} (h : Q a fs) : Fr (pure a : M α) fs Q E :=
  fr_iff_ho.2 (ho_pure fun _ hs => hs ▸ h)

theorem fr_throwE {e : ErrKind} (h : E e) : Fr (throwE e : M α) fs Q E :=
  fr_iff_ho.2 (ho_throwE fun _ _ => h)

theorem fr_bind {m : M α} {f : α → M β} {J : α → List Frame → Prop} {Q : β → List Frame → Prop}
    (hm : Fr m fs J E) (hf : ∀ a fs', J a fs' → Fr (f a) fs' Q E) : Fr (m >>= f) fs Q E :=
  fr_iff_ho.2 ((fr_iff_ho.1 hm).bind fun a => Ho.of_at fun s hs =>
    (fr_iff_ho.1 (hf a s.frames hs)).conseq (fun _ ht => ht ▸ rfl) (fun _ _ h => h) (fun _ _ h => h))

theorem fr_get_bind {f : VmState → M β} {Q : β → List Frame → Prop}
    (hf : ∀ s, s.frames = fs → Fr (f s) fs Q E) : Fr (get >>= f) fs Q E :=
  fr_iff_ho.2 (Ho.of_at fun s hs => ho_go_bind rfl ((fr_iff_ho.1 (hf s hs)).at hs))

theorem fr_set_bind {x : VmState} {fs' : List Frame} {f : PUnit → M β} {Q : β → List Frame → Prop}
    (hx : x.frames = fs') (hf : Fr (f ⟨⟩) fs' Q E) : Fr (set x >>= f) fs Q E :=
  fr_iff_ho.2 (Ho.of_at fun _ _ => ho_go_bind (m := set x) rfl ((fr_iff_ho.1 hf).at hx))

theorem Kp.fr {J : List Frame → Prop} {X : VmState → Prop} {φ : α → Prop} {m : M α}
    (h : Kp (fun s => J s.frames) X E φ m) (hJ : J fs) : Fr m fs (fun a fs' => J fs' ∧ φ a) E :=
  ⟨fun s a s' hs hg => h.ok s a s' (hs ▸ hJ) hg, fun s e s' hs hg => (h.err s e s' (hs ▸ hJ) hg).1⟩

/-- a computation that never returns, as a handler for the rule `kp_catch` -/
theorem kp_of_never {m : M α} (h : ∀ fs', Fr m fs' Never E) :
    Kp (fun _ => True) (fun _ => True) E (fun _ => False) m :=
  ⟨fun s a s' _ hg => ((h s.frames).ok s a s' rfl hg).elim,
   fun s e s' _ hg => ⟨(h s.frames).err s e s' rfl hg, trivial⟩⟩

end rules

theorem fr_guard_bind {β : Type} {fs : List Frame} {E : ErrKind → Prop} {c : Prop} [Decidable c]
    {e : ErrKind} {f : PUnit → M β} {Q : β → List Frame → Prop}
    (he : c → E e) (hf : ¬ c → Fr (f ⟨⟩) fs Q E) :
    Fr ((if c then throwE e else Pure.pure PUnit.unit) >>= f) fs Q E := by
  by_cases hc : c
  · rw [if_pos hc]; exact fr_bind (J := Never) (fr_throwE (he hc)) fun _ _ h => h.elim
  · rw [if_neg hc]; exact fr_bind (J := fun _ fs' => fs' = fs) (fr_pure rfl) fun _ _ h => h ▸ hf hc

/-! ## `Quiet` computations -/

section quiet
variable {α β : Type}

theorem quiet_iff_kp {m : M α} :
    Quiet m ↔ ∀ fs, Kp (fun s => s.frames = fs) (fun _ => True) Calm (fun _ => True) m :=
  ⟨fun h fs => ⟨fun s a s' hs hg => ⟨(h fs).ok s a s' hs hg, trivial⟩,
      fun s e s' hs hg => ⟨(h fs).err s e s' hs hg, trivial⟩⟩,
   fun h fs => fr_conseq ((h fs).fr (J := fun fs' => fs' = fs) rfl) (fun _ _ h => h.1) (fun _ h => h)⟩

theorem quiet_get : Quiet (get : M VmState) := quiet_iff_kp.2 fun _ => kp_get

theorem quiet_tryCatch {m : M α} {h : ErrKind → M α} (hm : Quiet m)
    (hh : ∀ e fs', Calm e → Fr (h e) fs' Never Calm) : Quiet (tryCatch m h) :=
  quiet_iff_kp.2 fun fs => kp_tryCatch (quiet_iff_kp.1 hm fs) fun e he => kp_of_never fun fs' => hh e fs' he

theorem quiet_orElse {m : M α} {h : Unit → M α} (hm : Quiet m)
    (hh : ∀ fs', Fr (h ()) fs' Never Calm) : Quiet (HOrElse.hOrElse m h) :=
  quiet_iff_kp.2 fun fs => kp_orElse (quiet_iff_kp.1 hm fs) (kp_of_never hh)

end quiet

theorem quiet_keyOf (v : Val) : Quiet (keyOf v) := quiet_iff_kp.2 fun _ => kp_prim _

/-! ## `Calm` side goals -/

theorem calm_of_ne {e : ErrKind} (h1 : ∀ n i, e ≠ .taskFailure n i) (h2 : ∀ w, e ≠ .panic w) : Calm e := by
  intro w
  cases e <;> simp_all [rootCause]

theorem calm_wrap {n : String} {e : ErrKind} (h : Calm e) : Calm (.taskFailure n e) := h

/-! ## invariants of the call stack

No primitive touches the call stack (`Steady`), so an invariant that looks at nothing else is kept by all of them,
by the host functions and by the instructions of `plainOps`. -/

theorem PlainKeep.of_callStack {K : VmState → Prop} (hK : ∀ s s', s'.frames = s.frames → K s → K s') :
    PlainKeep K :=
  .of_frame Steady fun _ _ h => hK _ _ h.frames

instance (J : List Frame → Prop) : PlainKeep (fun s => J s.frames) := .of_callStack fun _ _ h hJ => h ▸ hJ
instance (fs : List Frame) : PlainKeep (fun s => s.frames = fs) := .of_callStack fun _ _ h hs => h.trans hs

/-- the call stack is also kept by the allocation of an object of any kind -/
instance (fs : List Frame) (o : Obj) : Prim (fun s => s.frames = fs) (initSimple o) :=
  ⟨.of_closed (R := Steady) (fun _ _ h hs => h.frames.trans hs) (steady_initSimple o) (raises_initSimple o)⟩

/-- a field update away from the call stack -/
macro_rules | `(tactic| kp_side) => `(tactic| with_reducible assumption)

/-! ## natives: any invariant of the call stack that the re-entry callback keeps -/

/-- the callback keeps the invariant `J` of the call stack (when it returns) and raises `E`-errors -/
def ReSpec (re : Reenter) (J : List Frame → Prop) (E : ErrKind → Prop) : Prop :=
  ∀ f fs, J fs → Fr (re f) fs (fun _ fs' => J fs') E

theorem reSpec_iff_kp {re : Reenter} {J : List Frame → Prop} {E : ErrKind → Prop} :
    ReSpec re J E ↔ ∀ f, Kp (fun s => J s.frames) (fun _ => True) E (fun _ => True) (re f) :=
  ⟨fun h f => ⟨fun s a s' hs hg => ⟨(h f _ hs).ok s a s' rfl hg, trivial⟩,
      fun s e s' hs hg => ⟨(h f _ hs).err s e s' rfl hg, trivial⟩⟩,
   fun h f _ hJ => fr_conseq ((h f).fr hJ) (fun _ _ h => h.1) (fun _ h => h)⟩

theorem fr_callNative {E' E : ErrKind → Prop} (hw : ∀ n e, E' e → E (.taskFailure n e))
    (hE' : ErrClass E') [ErrClass E] (re : Reenter) (J : List Frame → Prop)
    (hre : ReSpec re J E') (h : UInt32) (fs : List Frame) (hJ : J fs) :
    Fr (callNative re h) fs (fun _ fs' => J fs') E :=
  fr_conseq ((kp_callNative hw re (reSpec_iff_kp.1 hre) h).fr hJ) (fun _ _ h => h.1) (fun _ h => h)

/-! ## control-flow integrity of one instruction -/

def Good (G : Nat → Prop) (fs : List Frame) : Prop := ∀ f ∈ fs, G f.dst

/-- the invariant natives keep: the call stack they were entered with is still there, and
    everything on it is good -/
def JInv (G : Nat → Prop) (fs₀ fs : List Frame) : Prop := fs₀ <+: fs ∧ Good G fs

/-- what `exec (.call f)` does to the call stack -/
def ReBase (re : Reenter) (G : Nat → Prop) (E : ErrKind → Prop) : Prop :=
  ∀ f fs, Good G fs → Fr (re f) fs (fun _ fs' => fs <+: fs' ∧ Good G fs') E

theorem ReBase.spec {re : Reenter} {G : Nat → Prop} {E : ErrKind → Prop} (h : ReBase re G E)
    (fs₀ : List Frame) : ReSpec re (JInv G fs₀) E := fun f fs hJ =>
  fr_conseq (h f fs hJ.2) (fun _ _ h' => ⟨List.IsPrefix.trans hJ.1 h'.1, h'.2⟩) (fun _ he => he)

/-- the facts about the program that control-flow integrity rests on; `G` = "is an instruction start" -/
structure Cfi (p : Prog) (G : Nat → Prop) : Prop where
  /-- a good address holds an opcode of the instruction table … -/
  valid : ∀ src, G src → Gen.spanOf (p.bytecode.getD src 0) ≠ none
  /-- … and, unless that is `Exit`, the next instruction starts right behind it -/
  seq : ∀ src sp, G src → Gen.spanOf (p.bytecode.getD src 0) = some sp →
    p.bytecode.getD src 0 ≠ Compiler.op.exit → G (src + sp)
  jump : ∀ src, G src → (p.bytecode.getD src 0 = Compiler.op.goto ∨
    p.bytecode.getD src 0 = Compiler.op.gotoIfTrue ∨ p.bytecode.getD src 0 = Compiler.op.gotoIfFalse) →
    G (rdU32 p.bytecode (src + 1))
  label : ∀ l ∈ p.labels, G l.2
  /-- the return address `run_function` uses: the final `Exit` -/
  last : G (p.bytecode.size - 1)
  lastExit : p.bytecode.getD (p.bytecode.size - 1) 0 = Compiler.op.exit

/-- the error class of an instruction: the two capture panics are not excluded -/
class StepErr (E : ErrKind → Prop) : Prop extends ErrClass E where
  capture : E (.panic "closure not found for capture")
  index : E (.panic "upvalue index out of bounds")

/-- what one instruction does to the call stack -/
def Shape (fs : List Frame) (ctl : Ctl) (fs' : List Frame) : Prop :=
  (∃ t, t ≠ [] ∧ fs' = fs.dropLast ++ t) ∨
  (fs' = fs.dropLast ∧ fs' ≠ [] ∧ ctl.exit = false ∧ ∃ c, fs'.getLast? = some c ∧ ctl.ip = c.dst)

structure StepPost (G : Nat → Prop) (fs : List Frame) (ctl : Ctl) (fs' : List Frame) : Prop where
  good : Good G fs'
  next : ctl.exit = false → G ctl.ip
  shape : Shape fs ctl fs'

end Cao.Vm
