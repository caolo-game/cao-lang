import CaoProofs.Props.C10b
import CaoProofs.Props.C04
/-!
# C04b — control-flow integrity and the excluded panics, for COMPILED programs

`Props/C04.lean` proves its run-time theorems for every program accepted by the checker
(`Bytecode.WF p`); `Props/C10b.lean` proves that the checker accepts every compiled program
(`C10b.compile_wf`, under four hypotheses). Here the `WF` hypothesis is discharged: each theorem
`compiled_…` is the theorem of `Props/C04.lean` it applies, under those four.  `compiled_run_no_panic_Full` is the statement that also
excludes the two capture panics (a `def`; `Props/C04c.lean` proves it under one more no-collision
hypothesis).

The four hypotheses (those of `C10b.compile_wf`) are bundled in `CompiledOK`; `hypsOK2` is an
executable sufficient condition for them (it generalises `C10b.hypsOK`: function pointers are
allowed as long as none carries the entry function's handle), `hypsOK2_sound` its soundness.
-/
namespace Cao.C04b
open Cao Cao.Vm Cao.Compiler Cao.Bytecode

/-- `p` is the output of `compile m std limit`, and the four hypotheses of `C10b.compile_wf` hold:
the code fits 31-bit jump operands, the data fits 32-bit string offsets, no `FunctionPointer`
carries the handle of the (unlabelled) entry function, and the 32-bit handles of closure labels do
not collide with other label handles. -/
structure CompiledOK (m std : Module) (limit : Nat) (p : Program) : Prop where
  compiled : compile m std limit = .ok p
  code_small : p.bytecode.size < 2 ^ 31
  data_small : p.data.size < 2 ^ 32
  no_entry_ref : C10.NoEntryRef m std limit p
  closure_handles : C10b.ClosureHandlesDistinct m std limit p

theorem CompiledOK.wf {m std : Module} {limit : Nat} {p : Program} (h : CompiledOK m std limit p) : WF p :=
  C10b.compile_wf h.compiled h.code_small h.data_small h.no_entry_ref h.closure_handles

/-- **`compiled_run_no_panic`** (= `C04.run_no_panic_partial` for compiled programs) -/
theorem compiled_run_no_panic {m std : Module} {limit : Nat} {p : Program}
    (hc : compile m std limit = .ok p) (hsz : p.bytecode.size < 2 ^ 31) (hdata : p.data.size < 2 ^ 32)
    (hentry : C10.NoEntryRef m std limit p) (hd : C10b.ClosureHandlesDistinct m std limit p)
    (n : Nat) (s : VmState) (hg : C04.GoodFrames p s) (e : RunErr)
    (he : (run (Prog.ofProgram p) n s).2 = some e) :
    C04.Allowed e.kind ∧ e.kind ≠ .panic "gas exhausted" :=
  C04.run_no_panic_partial (C10b.compile_wf hc hsz hdata hentry hd) n s hg e he

/-- … in particular from a machine without call frames (fresh, cleared, or left by any earlier `run`
    from such a machine: `C04.run_goodFrames`) -/
theorem compiled_run_no_panic_of_no_frames {m std : Module} {limit : Nat} {p : Program}
    (hc : compile m std limit = .ok p) (hsz : p.bytecode.size < 2 ^ 31) (hdata : p.data.size < 2 ^ 32)
    (hentry : C10.NoEntryRef m std limit p) (hd : C10b.ClosureHandlesDistinct m std limit p)
    (n : Nat) (s : VmState) (hs : s.frames = []) (e : RunErr)
    (he : (run (Prog.ofProgram p) n s).2 = some e) :
    C04.Allowed e.kind ∧ e.kind ≠ .panic "gas exhausted" :=
  compiled_run_no_panic hc hsz hdata hentry hd n s (C04.goodFrames_nil p s hs) e he

/-- **`"invalid opcode"` is unreachable** in a run of a compiled program -/
theorem compiled_run_no_invalid_opcode {m std : Module} {limit : Nat} {p : Program}
    (hc : compile m std limit = .ok p) (hsz : p.bytecode.size < 2 ^ 31) (hdata : p.data.size < 2 ^ 32)
    (hentry : C10.NoEntryRef m std limit p) (hd : C10b.ClosureHandlesDistinct m std limit p)
    (n : Nat) (s : VmState) (hg : C04.GoodFrames p s) (e : RunErr)
    (he : (run (Prog.ofProgram p) n s).2 = some e) :
    rootCause e.kind ≠ .panic "invalid opcode" :=
  C04.run_no_invalid_opcode (C10b.compile_wf hc hsz hdata hentry hd) n s hg e he

/-- **the two "call stack is empty" panics are unreachable** in a run of a compiled program -/
theorem compiled_run_no_empty_call_stack {m std : Module} {limit : Nat} {p : Program}
    (hc : compile m std limit = .ok p) (hsz : p.bytecode.size < 2 ^ 31) (hdata : p.data.size < 2 ^ 32)
    (hentry : C10.NoEntryRef m std limit p) (hd : C10b.ClosureHandlesDistinct m std limit p)
    (n : Nat) (s : VmState) (hg : C04.GoodFrames p s) (e : RunErr)
    (he : (run (Prog.ofProgram p) n s).2 = some e) :
    rootCause e.kind ≠ .panic "call stack is empty" ∧ rootCause e.kind ≠ .panic "Call stack was empty" :=
  C04.run_no_empty_call_stack (C10b.compile_wf hc hsz hdata hentry hd) n s hg e he

/-- **control-flow integrity of the dispatch loop** for compiled programs (= `C04.loop_cfi`) -/
theorem compiled_loop_cfi {m std : Module} {limit : Nat} {p : Program}
    (hc : compile m std limit = .ok p) (hsz : p.bytecode.size < 2 ^ 31) (hdata : p.data.size < 2 ^ 32)
    (hentry : C10.NoEntryRef m std limit p) (hd : C10b.ClosureHandlesDistinct m std limit p)
    (gas : Nat) (B : List Frame) (ip : Nat) (s : VmState)
    (hB : BaseExit (Prog.ofProgram p) B) (hg : C04.GoodFrames p s) (hip : C04.Start p ip)
    (hat : AtBase (Prog.ofProgram p) B s.frames ip) :
    ExecPost (fun fs' => B <+: fs' ∧ Good (C04.Start p) fs' ∧ fs' ≠ []) C04.Allowed
      (exec (Prog.ofProgram p) gas (.loop ip) s) :=
  C04.loop_cfi (C10b.compile_wf hc hsz hdata hentry hd) gas B ip s hB hg hip hat

theorem compiled_call_cfi {m std : Module} {limit : Nat} {p : Program}
    (hc : compile m std limit = .ok p) (hsz : p.bytecode.size < 2 ^ 31) (hdata : p.data.size < 2 ^ 32)
    (hentry : C10.NoEntryRef m std limit p) (hd : C10b.ClosureHandlesDistinct m std limit p)
    (gas : Nat) (f : Val) (s : VmState) (hg : C04.GoodFrames p s) :
    ExecPost (fun fs' => s.frames <+: fs' ∧ Good (C04.Start p) fs') C04.Allowed
      (exec (Prog.ofProgram p) gas (.call f) s) :=
  C04.call_cfi (C10b.compile_wf hc hsz hdata hentry hd) gas f s hg

theorem compiled_call_cfi_eq {m std : Module} {limit : Nat} {p : Program}
    (hc : compile m std limit = .ok p) (hsz : p.bytecode.size < 2 ^ 31) (hdata : p.data.size < 2 ^ 32)
    (hentry : C10.NoEntryRef m std limit p) (hd : C10b.ClosureHandlesDistinct m std limit p)
    (gas : Nat) (f : Val) (s : VmState) (hg : C04.GoodFrames p s) :
    ExecPost (fun fs' => fs' = s.frames ∧ Good (C04.Start p) fs') C04.Allowed
      (exec (Prog.ofProgram p) gas (.call f) s) :=
  C04.call_cfi_eq (C10b.compile_wf hc hsz hdata hentry hd) gas f s hg

theorem compiled_frames_nonempty {m std : Module} {limit : Nat} {p : Program}
    (hc : compile m std limit = .ok p) (hsz : p.bytecode.size < 2 ^ 31) (hdata : p.data.size < 2 ^ 32)
    (hentry : C10.NoEntryRef m std limit p) (hd : C10b.ClosureHandlesDistinct m std limit p)
    (n : Nat) (s : VmState) (hg : C04.GoodFrames p s) :
    ExecPost (fun fs' => fs' ≠ [] ∧ Good (C04.Start p) fs') C04.Allowed
      (exec (Prog.ofProgram p) (gasFor (started n s) n) (.loop 0) (started n s)) :=
  C04.frames_nonempty (C10b.compile_wf hc hsz hdata hentry hd) n s hg

theorem compiled_cfi {m std : Module} {limit : Nat} {p : Program}
    (hc : compile m std limit = .ok p) (hsz : p.bytecode.size < 2 ^ 31) (hdata : p.data.size < 2 ^ 32)
    (hentry : C10.NoEntryRef m std limit p) (hd : C10b.ClosureHandlesDistinct m std limit p) :
    Cfi (Prog.ofProgram p) (C04.Start p) ∧ C04.Start p 0 :=
  C04.wf_cfi (C10b.compile_wf hc hsz hdata hentry hd)

/-- **the statement one would like**: no panic at all is reported by a run of a compiled program on a
    fresh machine, except — below a host function — the model's own fuel panic. With respect to
    `compiled_run_no_panic` the conclusion also excludes the two capture panics of `RegisterUpvalue`.
    `C04.not_run_no_panic_Full` shows that `WF p` alone does not suffice (a hand-written well-formed
    program jumps into a closure body). Not proved in this form: `C04c.compiled_run_only_gas_panic'`
    proves it under the additional hypothesis `C04c.PointerHandlesDistinct`. It is stated for a fresh
    machine: a start state with an arbitrary heap may hold closure objects the program never created. -/
def compiled_run_no_panic_Full : Prop :=
  ∀ (m std : Module) (limit : Nat) (p : Program), compile m std limit = .ok p →
    p.bytecode.size < 2 ^ 31 → p.data.size < 2 ^ 32 → C10.NoEntryRef m std limit p →
    C10b.ClosureHandlesDistinct m std limit p →
    ∀ (n : Nat) (c : Config) (e : RunErr), (run (Prog.ofProgram p) n (VmState.fresh c)).2 = some e →
      (∀ w, rootCause e.kind = .panic w → w = "gas exhausted") ∧ e.kind ≠ .panic "gas exhausted"

/-- what `compiled_run_no_panic` leaves open with respect to `compiled_run_no_panic_Full`: exactly
    the two capture panics -/
theorem compiled_run_no_panic_gap {m std : Module} {limit : Nat} {p : Program}
    (hc : compile m std limit = .ok p) (hsz : p.bytecode.size < 2 ^ 31) (hdata : p.data.size < 2 ^ 32)
    (hentry : C10.NoEntryRef m std limit p) (hd : C10b.ClosureHandlesDistinct m std limit p)
    (n : Nat) (s : VmState) (hg : C04.GoodFrames p s) (e : RunErr)
    (he : (run (Prog.ofProgram p) n s).2 = some e) (w : String) (hw : rootCause e.kind = .panic w) :
    w = "gas exhausted" ∨ w = "closure not found for capture" ∨ w = "upvalue index out of bounds" := by
  have h := (compiled_run_no_panic hc hsz hdata hentry hd n s hg e he).1 w hw
  simpa [C04.residualPanics] using h

/-- the program compiles, is small, no decoded `FunctionPointer` instruction carries the handle of
    the entry function `unit[0]`, and the handles of the label log are pairwise different
    (`C10b.hypsCheck` on the compilation itself, with the entry handle of its stream) -/
def hypsOK2 (m std : Module) (limit : Nat) : Bool :=
  match compile m std limit, intoIrStream m std limit with
  | .ok p, .ok unit =>
    decide (p.bytecode.size < 2 ^ 31) && decide (p.data.size < 2 ^ 32) &&
    (match decodeAll p.bytecode (p.bytecode.size + 1) 0 [] with
     | .ok l => l.all (fun x => x.2 != op.functionPointer ||
                  UInt32.ofNat (Bytecode.rdU32 p.bytecode (x.1 + 1)) != unit[0]!.handle)
     | .error _ => false) &&
    decide (((C10b.labelLog m std limit).map (·.1)).Pairwise (· ≠ ·))
  | _, _ => false

theorem hypsOK2_sound {m std : Module} {limit : Nat} (h : hypsOK2 m std limit = true) :
    ∃ p, CompiledOK m std limit p := by
  unfold hypsOK2 at h
  split at h
  · rename_i p unit hp hu
    obtain ⟨p', h0, h1, h2, h3, h4, _⟩ := C10b.hypsCheck_sound hu (by unfold C10b.hypsCheck; rw [hp]; exact h)
    exact ⟨p', h0, h1, h2, h3, h4⟩
  · cases h

/-! ## non-vacuity

`main` calls `f(7)`; `f(x)` calls the host function `fail`, which raises `InvalidArgument` (reported
as `TaskFailure(fail):InvalidArgument`). The program contains a `FunctionPointer` (to `f`, not to `main`), so
`C10b.hypsOK` rejects it and `hypsOK2` accepts it. -/

def exM : Module :=
  Module.mk [] [("main", ⟨[], [.call "f" [.scalarInt 7]]⟩), ("f", ⟨["x"], [.callNative "fail" []]⟩)] []
def exStd : Module := Module.mk [] [] []

theorem exM_hyps : hypsOK2 exM exStd Gen.recursionLimit = true := by decide +kernel

/-- the four hypotheses are satisfiable … -/
theorem exM_ok : ∃ p, CompiledOK exM exStd Gen.recursionLimit p := hypsOK2_sound exM_hyps

/-- … by a program with a failing run from a fresh machine (so that the theorems above say something
    about an actual error) -/
def exRuns : Bool :=
  match compile exM exStd with
  | .error _ => false
  | .ok p => (run (Prog.ofProgram p) 1000 (VmState.fresh {})).2.isSome

theorem exRuns_true : exRuns = true := by decide +kernel

theorem example_error : ∃ p e, CompiledOK exM exStd Gen.recursionLimit p ∧ C04.GoodFrames p (VmState.fresh {}) ∧
    (run (Prog.ofProgram p) 1000 (VmState.fresh {})).2 = some e ∧
    C04.Allowed e.kind ∧ e.kind ≠ .panic "gas exhausted" := by
  obtain ⟨p, hp⟩ := exM_ok
  have h := exRuns_true
  unfold exRuns at h
  have hc : compile exM exStd = .ok p := hp.compiled
  rw [hc] at h
  obtain ⟨e, he⟩ := Option.isSome_iff_exists.1 h
  exact ⟨p, e, hp, C04.goodFrames_fresh _ _, he,
    compiled_run_no_panic hp.compiled hp.code_small hp.data_small hp.no_entry_ref hp.closure_handles
      1000 _ (C04.goodFrames_fresh _ _) e he⟩

/-- the two-level closure of `C10b` satisfies the hypotheses too (a program with `Closure` and
    `RegisterUpvalue` instructions, the ones the two residual capture panics belong to) -/
example : ∃ p, CompiledOK C10b.twoLevel C10b.stdE Gen.recursionLimit p := by
  obtain ⟨p, h, h1, h2, h3, h4⟩ := C10b.hypsOK_sound C10b.twoLevel_hyps
  exact ⟨p, h, h1, h2, h3, h4⟩

end Cao.C04b
