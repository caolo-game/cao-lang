import CaoProofs.Props.C01S
import CaoProofs.Lemmas.GcLemmas
/-!
# C01: static calls and `Return`

A static call `Call g args` may be the value of `SetVar`, `SetGlobalVar` and `Return`. The compiler
emits the arguments, `FunctionPointer handle arity` (which allocates a function object on the heap;
the allocation may run the collector) and `CallFunction`, which pushes a call frame whose stack
offset is the position of the first argument: the arguments are the first locals of the callee,
the *last* declared parameter being the first argument. `Return` (explicit, or the `ScalarNil; Return`
epilogue) pops the frame, cuts the value stack back to the offset and pushes the result.

All values of the fragment are scalars, so no object is reachable when `FunctionPointer` allocates: a
collection, if one runs, frees the function objects of earlier calls and the accounting stays exact
(`runM_allocBytes`). `simU_ret` and `call_simS` are the cases of `Return` and of static calls that
`stmtSimU_succ` (`C01S.lean`) takes as hypotheses; `call_simS` runs the body of the callee (`FnEntry`) by
the statement simulation at lower fuel in the callee's context, which is why the statement and the call
simulation are proved together, for all contexts, by one induction on the fuel (`AllSim`; `allSim` in `C01E.lean`).
-/
namespace Cao.C01
open Cao Cao.Vm Cao.Sim Cao.Compiler

/-! ## allocation of a function object: the collector frees everything (nothing is reachable) -/

def NoObj (l : List Val) : Prop := ∀ v ∈ l, Scalar v

theorem chargeSum_foldl (objs : List (Nat × Obj)) (k : Nat) :
    objs.foldl (fun n p => n + Heap.chargeOf p.2) k = k + chargeSum objs := by
  unfold chargeSum
  induction objs generalizing k with
  | nil => simp
  | cons p l ih =>
    simp only [List.foldl_cons]
    rw [ih, ih (0 + _)]
    omega

theorem chargeSum_append (a b : List (Nat × Obj)) : chargeSum (a ++ b) = chargeSum a + chargeSum b := by
  unfold chargeSum
  rw [List.foldl_append, chargeSum_foldl]
  rfl

theorem gc_noObj (s : VmState) (hr : NoObj (roots s)) :
    gc s = { s with heap := { s.heap with objs := [] },
                    mem := { s.mem with allocated := s.mem.allocated - chargeSum s.heap.objs },
                    gcRuns := s.gcRuns + 1 } := by
  unfold gc reachable
  rw [List.filterMap_eq_nil_iff.2 fun v hv => by
    have := hr v hv
    cases v <;> first | rfl | exact absurd this id]
  simp only [Gc.markLoop_nil]
  have hp : s.heap.objs.partition (fun p => ([] : List Nat).contains p.1) = ([], s.heap.objs) := by
    rw [List.partition_eq_filter_filter]
    simp
  simp only [hp]
  rfl

/-- an allocation when no root is an object and the books are balanced: it succeeds, and a collection,
    if one runs, frees every object -/
theorem runM_allocBytes {s : VmState} {c : Nat} (hr : NoObj (roots s))
    (hacc : s.mem.allocated = chargeSum s.heap.objs) (hc : c ≤ s.mem.limit) :
    ∃ s', runM (allocBytes c) s = (.ok (), s') ∧
      s' = { s with heap := s'.heap, mem := s'.mem, gcRuns := s'.gcRuns, allocIndex := s'.allocIndex,
                    forcedGcs := s'.forcedGcs } ∧
      s'.mem.limit = s.mem.limit ∧ s'.heap.next = s.heap.next ∧
      s'.mem.allocated = chargeSum s'.heap.objs + c ∧ (∀ p ∈ s'.heap.objs, p ∈ s.heap.objs) := by
  rw [runM_eq_go, go_allocBytes]
  unfold Gc.allocPure Gc.allocCollected
  by_cases ht : Gc.allocTrig c s = true
  · rw [if_pos ht]
    unfold Gc.collect
    rw [gc_noObj _ (show NoObj (roots (Gc.allocCharged c s)) from hr)]
    have hall : s.mem.allocated + c - chargeSum s.heap.objs = c := by omega
    refine ⟨_, if_neg ?_, rfl, rfl, rfl, ?_, fun p hp => by cases hp⟩
    · show ¬ (s.mem.allocated + c - chargeSum s.heap.objs > s.mem.limit)
      omega
    · show s.mem.allocated + c - chargeSum s.heap.objs = chargeSum [] + c
      rw [hall]; exact (Nat.zero_add c).symm
  · rw [if_neg ht]
    refine ⟨_, if_neg fun h => ht ?_, rfl, rfl, rfl, ?_, fun p hp => hp⟩
    · unfold Gc.allocTrig
      simp only [Bool.or_eq_true, decide_eq_true_eq]
      exact Or.inr h
    · show s.mem.allocated + c = chargeSum s.heap.objs + c
      rw [hacc]

section
variable {P : Prog} {re : Reenter} {ip : Nat} {s : VmState}

theorem runM_newObject (o : Obj) (s : VmState) :
    runM (newObject o) s = (.ok s.heap.next,
      { s with heap := { objs := s.heap.objs ++ [(s.heap.next, o)], next := s.heap.next + 1 },
               guards := s.heap.next :: s.guards }) := rfl

/-- the state after a function object has been allocated in `s1` and pushed: `newObject` guards the new
    address against a collection, the guard is dropped once the object is on the stack -/
def fnPtrState (s1 : VmState) (o : Obj) (st' : VStack Val) : VmState :=
  { s1 with heap := { objs := s1.heap.objs ++ [(s1.heap.next, o)], next := s1.heap.next + 1 },
            guards := (s1.heap.next :: s1.guards).erase s1.heap.next, stack := st' }

theorem step_functionPointer {s1 : VmState} {st' : VStack Val}
    (h : P.bytecode.getD ip 0 = Compiler.op.functionPointer)
    (ha : runM (allocBytes Heap.objCharge) s = (.ok (), s1))
    (hp : s1.stack.push (.obj s1.heap.next) = (st', .ok ())) :
    runM (step P re ip) s = (.ok { ip := ip + 1 + 8 },
      fnPtrState s1 (.fn (UInt32.ofNat (rdU32 P.bytecode (ip + 1))) (UInt32.ofNat (rdU32 P.bytecode (ip + 1 + 4)))) st') := by
  rw [runM_eq_go, Cross.step_functionPointer P re ip h]
  unfold Cross.Instr.functionPointer
  rw [go_bind, go_initSimple, Gc.alloc1Pure, ← go_allocBytes, show (allocBytes Heap.objCharge).go s = _ from ha]
  exact go_bind_ok (go_push_ok (s := Gc.withObject _ s1) hp)

/-- the frames after a call from the frame `lastF`: its return address is recorded, the callee's
    frame is pushed -/
def callFrames (fs : List Frame) (lastF : Frame) (src off : Nat) : List Frame :=
  fs ++ [{ lastF with dst := src + 1 }] ++ [{ src := src, dst := src + 1, stackOffset := off, closure := none }]

theorem step_callFunction {a pos : Nat} {h ar h' : UInt32} {lastF : Frame}
    (hop : P.bytecode.getD ip 0 = Compiler.op.callFunction)
    (hpop : s.stack.pop.2 = .obj a) (hget : s.heap.get a = some (.fn h ar))
    (hfr : s.frames.getLast? = some lastF)
    (hcount : ar.toNat ≤ s.stack.pop.1.count) (hcap : s.frames.length < s.frameCap)
    (hlab : P.labels.find? (fun l => l.1 == h) = some (h', pos)) :
    runM (step P re ip) s = (.ok { ip := pos },
      { s with stack := s.stack.pop.1,
               frames := callFrames s.frames.dropLast lastF ip (s.stack.pop.1.count - ar.toNat) }) := by
  rw [runM_eq_go, Cross.step_callFunction P re ip hop,
    go_instrCallFunction_fn hpop hget (fun he => by rw [he] at hfr; cases hfr) hcount hcap hlab, hfr]
  rfl

theorem step_ret {fr caller : Frame} {st' : VStack Val}
    (hop : P.bytecode.getD ip 0 = Compiler.op.ret)
    (hfr : s.frames.getLast? = some fr) (hup : s.openUpvalues = [])
    (hcaller : s.frames.dropLast.getLast? = some caller)
    (hp : (s.stack.clearUntil fr.stackOffset).1.push (s.stack.clearUntil fr.stackOffset).2 = (st', .ok ())) :
    runM (step P re ip) s = (.ok { ip := caller.dst }, { s with frames := s.frames.dropLast, stack := st' }) := by
  rw [runM_eq_go, Upv.step_ret P re ip hop, go_instrRet, hfr]
  dsimp only
  rw [hcaller, Upv.closeState_nil (s := { s with frames := s.frames.dropLast }) hup]
  exact go_bind_ok (go_push_ok
    (s := { s with frames := s.frames.dropLast, stack := (s.stack.clearUntil fr.stackOffset).1 }) hp)

end

/-! ## the three instructions, on the abstract stack -/

theorem grel_noObj {F : List (UInt32 × Nat)} {N : String → Prop} {g : List (String × Val)} {vg : List Val}
    (h : GRel F N g vg) : NoObj vg := by
  intro v hv
  obtain ⟨id, hid⟩ := List.getElem?_of_mem hv
  by_cases hn : v = .nil
  · rw [hn]; trivial
  · obtain ⟨n, hl, _⟩ := h.vm_sem id v hid hn
    exact (h.sem_vm n v hl).2.1

theorem _root_.Cao.Sim.StackIs.contents {st : VStack Val} {cap : Nat} {l : List Val} (h : StackIs st cap l) :
    st.contents = l.reverse := h.live

theorem _root_.Cao.Sim.StackIs.last {st : VStack Val} {cap : Nat} {l : List Val} {v : Val} (h : StackIs st cap (v :: l)) :
    st.last = v := by
  have := h.pop.1
  unfold VStack.pop at this
  have hc := h.count
  rw [List.length_cons] at hc
  rw [if_neg (by omega)] at this
  unfold VStack.last
  rw [if_pos (by omega)]
  exact this

theorem _root_.Cao.Sim.StackIs.clearUntil {st : VStack Val} {cap : Nat} {top below : List Val} (h : StackIs st cap (top ++ below)) :
    StackIs (st.clearUntil below.length).1 cap below := by
  obtain ⟨hc, hcap, hl⟩ := h
  have hcnt : (st.clearUntil below.length).1.count = below.length := by
    simp only [VStack.clearUntil]; rw [hc, List.length_append]; split <;> omega
  refine ⟨hcnt, hcap, ?_⟩
  show (st.clearUntil below.length).1.data.take (st.clearUntil below.length).1.count = below.reverse
  rw [hcnt]
  show st.data.take below.length = below.reverse
  have : st.data.take below.length = (st.data.take st.count).take below.length := by
    rw [List.take_take]; congr 1
    rw [hc, List.length_append]; omega
  rw [this, hl, List.reverse_append]
  simp

section reachC
variable {P : Prog} {C W : Nat}

theorem side_noObj {vs : VmState} {cap : Nat} {fs : List Frame} {rest : List Val} {k : Nat} {stk : List Val}
    (hsd : Side C W vs cap fs rest k) (hst : StackIs vs.stack cap stk) (hsc : NoObj stk) (hg : NoObj vs.globals) :
    NoObj (roots (tick vs)) := by
  obtain ⟨cur, hf1, _, hf3⟩ := hsd.frames
  have hcl : (vs.frames.filterMap (·.closure)) = [] := by
    rw [hf1, List.filterMap_append]
    have h1 : fs.filterMap (·.closure) = [] := by
      apply List.filterMap_eq_nil_iff.2
      intro f hf; exact hsd.noClos f hf
    rw [h1]; simp [hf3]
  intro v hv
  unfold roots at hv
  have e1 : (tick vs).stack.contents = stk.reverse := hst.contents
  have e2 : (tick vs).frames = vs.frames := rfl
  have e3 : (tick vs).openUpvalues = [] := hsd.ups
  have e4 : (tick vs).guards = [] := hsd.guards
  have e5 : (tick vs).globals = vs.globals := rfl
  rw [e1, e2, e3, e4, e5, hcl] at hv
  simp only [List.map_nil, List.append_nil, List.mem_append, List.mem_reverse] at hv
  rcases hv with hv | hv
  · exact hsc v hv
  · exact hg v hv

/-- `FunctionPointer h a` when stack and globals hold scalars: the function object is on top of the
    stack and is found in the heap (its address is above every older one, `Side.hwf`), `Side` is kept -/
theorem reach_functionPointer {ip : Nat} {vs : VmState} {cap : Nat} {fs : List Frame} {rest : List Val} {k : Nat}
    {stk : List Val} (hin : ip < P.bytecode.size) (hop : P.bytecode.getD ip 0 = Compiler.op.functionPointer)
    (hC : 0 < C) (hsd : Side C W vs cap fs rest k) (hg : NoObj vs.globals)
    (hst : StackIs vs.stack cap stk) (hsc : NoObj stk) (hroom : stk.length + 1 < cap) :
    ∃ vs' a, Reach P 1 ip vs (ip + 9) vs' ∧ StackIs vs'.stack cap (.obj a :: stk) ∧
      vs'.heap.get a = some (.fn (UInt32.ofNat (rdU32 P.bytecode (ip + 1))) (UInt32.ofNat (rdU32 P.bytecode (ip + 5)))) ∧
      Pres C W cap fs rest k k vs vs' ∧ vs'.globals = vs.globals := by
  obtain ⟨s1, ha, e1, hlim, hnext, hacc, hsub⟩ := runM_allocBytes (s := tick vs) (c := Heap.objCharge)
    (side_noObj hsd hst hsc hg) hsd.acc (hsd.mem hC)
  have hs1 : s1.stack = vs.stack := by rw [e1]; rfl
  obtain ⟨st', hp, hst'⟩ := hst.push (.obj s1.heap.next) hroom
  have hstep := fun re => step_functionPointer (P := P) (re := re) (ip := ip) (s := tick vs) (s1 := s1) (st' := st') hop ha
    (by rw [hs1]; exact hp)
  refine ⟨_, s1.heap.next, Reach.one ⟨hin, ?_, hstep⟩, hst', ?_, ⟨?_, fun h => ?_⟩, ?_⟩
  · show s1.remaining = vs.remaining - 1
    rw [e1]; rfl
  · -- the new object is found: its address is fresh
    show ({ objs := s1.heap.objs ++ [(s1.heap.next, _)], next := s1.heap.next + 1 } : Heap).get s1.heap.next = _
    unfold Heap.get
    rw [List.find?_append]
    have hnone : s1.heap.objs.find? (fun p => p.1 == s1.heap.next) = none := by
      apply List.find?_eq_none.2
      intro p hp
      have := hsd.hwf p (hsub p hp)
      have hn : s1.heap.next = vs.heap.next := hnext
      simp only [beq_iff_eq]
      omega
    rw [hnone]
    simp
  · show s1.hostLog = vs.hostLog
    rw [e1]; rfl
  · -- `Side` for the new state
    have ef : s1.frames = vs.frames := by rw [e1]; rfl
    have eg : s1.guards = vs.guards := by rw [e1]; rfl
    have eu : s1.openUpvalues = vs.openUpvalues := by rw [e1]; rfl
    have ec : s1.frameCap = vs.frameCap := by rw [e1]; rfl
    refine ⟨by show ∃ cur, s1.frames = _ ∧ _; rw [ef]; exact h.frames, h.noClos, ?_, ?_, ?_,
      by show s1.openUpvalues = []; rw [eu]; exact h.ups, h.restS,
      by show _ ≤ s1.frameCap; rw [ec]; exact h.fdepth, h.sdepth, fun hc => by
        show _ ≤ s1.mem.limit; rw [hlim]; exact h.mem hc⟩
    · show s1.mem.allocated = chargeSum (s1.heap.objs ++ [(s1.heap.next, _)])
      rw [chargeSum_append, hacc]
      simp [chargeSum, Heap.chargeOf]
    · intro p hp
      show p.1 < s1.heap.next + 1
      rcases List.mem_append.1 hp with hp | hp
      · have := hsd.hwf p (hsub p hp)
        have hn : s1.heap.next = vs.heap.next := hnext
        omega
      · simp only [List.mem_singleton] at hp; rw [hp]; exact Nat.lt_succ_self _
    · show (s1.heap.next :: s1.guards).erase s1.heap.next = []
      rw [eg, h.guards]; simp
  · show s1.globals = vs.globals
    rw [e1]; rfl

theorem reach_callFunction {ip a pos : Nat} {h ar h' : UInt32} {vs : VmState} {cap : Nat} {fs : List Frame}
    {rest : List Val} {k : Nat} {args below : List Val}
    (hin : ip < P.bytecode.size) (hop : P.bytecode.getD ip 0 = Compiler.op.callFunction)
    (hsd : Side C W vs cap fs rest k) (hk : k < C)
    (hst : StackIs vs.stack cap (.obj a :: (args ++ below))) (hget : vs.heap.get a = some (.fn h ar))
    (har : ar.toNat = args.length) (hlab : P.labels.find? (fun l => l.1 == h) = some (h', pos))
    (hbelow : NoObj below) (hroom : below.length + (C - (k + 1) + 1) * W < cap) :
    ∃ vs' cur, Reach P 1 ip vs pos vs' ∧ StackIs vs'.stack cap (args ++ below) ∧
      cur.stackOffset = rest.length ∧ cur.closure = none ∧ cur.dst = ip + 1 ∧
      Side C W vs' cap (fs ++ [cur]) below (k + 1) ∧ vs'.hostLog = vs.hostLog ∧ vs'.globals = vs.globals := by
  obtain ⟨cur, hf1, hf2, hf3⟩ := hsd.frames
  obtain ⟨hv, hst1⟩ := hst.pop
  have hlast : (tick vs).frames.getLast? = some cur := by
    show vs.frames.getLast? = some cur
    rw [hf1]; simp
  have hdl : vs.frames.dropLast = fs := by rw [hf1]; simp
  have hcnt : (tick vs).stack.pop.1.count = args.length + below.length := by
    show vs.stack.pop.1.count = _
    rw [hst1.count, List.length_append]
  have hstep := fun re => step_callFunction (P := P) (re := re) (ip := ip) (s := tick vs) (a := a) (pos := pos)
    (h := h) (ar := ar) (h' := h') (lastF := cur) hop hv hget hlast (by rw [hcnt, har]; omega)
    (by
      show vs.frames.length < vs.frameCap
      have := hsd.fdepth
      rw [hf1]; simp only [List.length_append, List.length_singleton]; omega) hlab
  refine ⟨_, { cur with dst := ip + 1 }, Reach.one ⟨hin, rfl, hstep⟩, hst1, hf2, hf3, rfl, ?_, rfl, rfl⟩
  refine ⟨⟨{ src := ip, dst := ip + 1, stackOffset := (tick vs).stack.pop.1.count - ar.toNat, closure := none }, ?_, ?_, rfl⟩,
    ?_, hsd.acc, hsd.hwf, hsd.guards, hsd.ups, hbelow, ?_, hroom, hsd.mem⟩
  · show callFrames (tick vs).frames.dropLast cur ip _ = _
    unfold callFrames
    show (vs.frames.dropLast ++ _) ++ _ = _
    rw [hdl]
  · show (tick vs).stack.pop.1.count - ar.toNat = below.length
    rw [hcnt, har]; omega
  · intro f hf
    rcases List.mem_append.1 hf with hf | hf
    · exact hsd.noClos f hf
    · simp only [List.mem_singleton] at hf; rw [hf]; exact hf3
  · show (fs ++ [_]).length + 1 + (C - (k + 1)) ≤ vs.frameCap
    have := hsd.fdepth
    simp only [List.length_append, List.length_singleton]; omega

theorem reach_ret {ip : Nat} {vs : VmState} {cap : Nat} {fs : List Frame} {caller : Frame} {below junk : List Val}
    {k : Nat} {v : Val} (hin : ip < P.bytecode.size) (hop : P.bytecode.getD ip 0 = Compiler.op.ret)
    (hsd : Side C W vs cap (fs ++ [caller]) below k) (hst : StackIs vs.stack cap (v :: (junk ++ below)))
    (hroom : below.length + 1 < cap) :
    ∃ vs', Reach P 1 ip vs caller.dst vs' ∧ StackIs vs'.stack cap (v :: below) ∧
      vs' = { vs with frames := fs ++ [caller], stack := vs'.stack, remaining := vs'.remaining,
                      dispatches := vs'.dispatches } := by
  obtain ⟨cur, hf1, hf2, hf3⟩ := hsd.frames
  have hlast : (tick vs).frames.getLast? = some cur := by
    show vs.frames.getLast? = some cur
    rw [hf1]; simp
  have hdl : vs.frames.dropLast = fs ++ [caller] := by rw [hf1]; simp
  have hcl : StackIs (vs.stack.clearUntil below.length).1 cap below :=
    StackIs.clearUntil (top := v :: junk) (below := below) hst
  obtain ⟨st', hp, hst'⟩ := hcl.push v hroom
  have hstep := fun re => step_ret (P := P) (re := re) (ip := ip) (s := tick vs) (fr := cur) (caller := caller)
    (st' := st') hop hlast hsd.ups (by show vs.frames.dropLast.getLast? = _; rw [hdl]; simp)
    (by
      show (vs.stack.clearUntil cur.stackOffset).1.push (vs.stack.clearUntil cur.stackOffset).2 = _
      rw [hf2]
      have : (vs.stack.clearUntil below.length).2 = v := hst.last
      rw [this]; exact hp)
  refine ⟨_, Reach.one ⟨hin, rfl, hstep⟩, hst', ?_⟩
  show ({ tick vs with frames := (tick vs).frames.dropLast, stack := st' } : VmState) = _
  have : (tick vs).frames.dropLast = fs ++ [caller] := hdl
  rw [this]
  rfl

end reachC

/-! ## the arguments of a call -/

section args
variable {P : Prog} {F : List (UInt32 × Nat)} {N : String → Prop} {cx : Sem.Ctx} (hout : cx.outer = [])
include hout

/-- the arguments are evaluated left to right and stay on the stack, the first one lowest -/
theorem evalList_simS (S : List Slot) (env : Sem.Env) (henv : LookRel env S) :
    ∀ (args : List Card), isExprs args = true → ∀ (fuel : Nat) (σ σ' : Sem.St) (env' : Sem.Env) (vals : List Val)
      (pc pc' : Nat),
      Sem.evalListWith (Sem.eval cx fuel) env σ args = (σ', env', .ok vals) →
      ECodesL P.bytecode F (ctxOf S) args pc pc' → pc' ≤ P.bytecode.size →
      σ' = σ ∧ env = env' ∧ vals.length = args.length ∧ ∃ n, n ≤ pc' - pc ∧
        ∀ (vs : VmState) (cap : Nat) (stk : List Val), StackIs vs.stack cap stk →
          stk.length + argsDepth args < cap → GRel F N σ.globals vs.globals → LocalsAt S σ vs stk →
          ∃ vs', Reach P n pc vs pc' vs' ∧ StackIs vs'.stack cap (vals.reverse ++ stk) ∧
            SameRest vs vs' ∧ vs'.globals = vs.globals
  | [] => by
    intro _ fuel σ σ' env' vals pc pc' hev hcode _
    obtain ⟨rfl, rfl, hv⟩ := res_inj hev
    cases hv
    simp only [ECodesL] at hcode
    subst hcode
    exact ⟨rfl, rfl, rfl, 0, Nat.zero_le _, fun vs cap stk hst _ _ _ => ⟨vs, Reach.refl _ _, by simpa using hst,
      SameRest.refl _, rfl⟩⟩
  | e :: es => by
    intro he fuel σ σ' env' vals pc pc' hev hcode hsz
    simp only [isExprs, Bool.and_eq_true] at he
    simp only [ECodesL] at hcode
    obtain ⟨m, hc1, hc2⟩ := hcode
    have hlt := ecodeL_lt hc1
    have hle := ecodesL_le hc2
    rw [evalList_cons] at hev
    obtain ⟨σ1, env1, v, hc, hev⟩ := andThen_ok hev
    obtain ⟨σ2, env2, vs', hcs, hev⟩ := andThen_ok hev
    obtain ⟨rfl, rfl, hv⟩ := res_inj hev
    cases hv
    obtain ⟨rfl, rfl, n1, hn1, hsim1⟩ := eval_simS (P := P) (F := F) (N := N) hout S env henv e he.1 fuel σ σ1 env1 v pc m hc hc1
      (by omega)
    obtain ⟨rfl, rfl, hlen, n2, hn2, hsim2⟩ := evalList_simS S env henv es he.2 fuel σ1 σ2 env2 vs' m pc' hcs hc2 hsz
    refine ⟨rfl, rfl, by simp [hlen], n1 + n2, by omega, fun vs cap stk hst hroom hg hloc => ?_⟩
    simp only [argsDepth] at hroom
    obtain ⟨_, vs1, hr1, hst1, hsame1, hg1⟩ := hsim1 vs cap stk hst (by omega) hg hloc
    obtain ⟨vs2, hr2, hst2, hsame2, hg2⟩ := hsim2 vs1 cap (v :: stk) hst1
      (by simp only [List.length_cons]; omega) (by rw [hg1]; exact hg) (hloc.push hsame1 v)
    exact ⟨vs2, hr1.trans hr2 rfl, by simpa using hst2, hsame1.trans hsame2, by rw [hg2, hg1]⟩

end args

theorem evalList_scalarS {cx : Sem.Ctx} (hout : cx.outer = []) : ∀ (args : List Card), isExprs args = true →
    ∀ (fuel : Nat) (env : Sem.Env) (σ σ' : Sem.St) (env' : Sem.Env) (vals : List Val),
      Sem.evalListWith (Sem.eval cx fuel) env σ args = (σ', env', .ok vals) →
      (∀ (i : Nat) (v : Val), σ.cells[i]? = some v → Scalar v) →
      (∀ (n : String) (v : Val), glookup σ.globals n = some v → Scalar v) → NoObj vals
  | [], _, _, _, _, _, _, _, hev, _, _ => by
    obtain ⟨_, _, hv⟩ := res_inj hev
    cases hv
    intro v hv; cases hv
  | e :: es, he, fuel, env, σ, σ', env', vals, hev, h1, h2 => by
    simp only [isExprs, Bool.and_eq_true] at he
    rw [evalList_cons] at hev
    obtain ⟨σ1, env1, v, hc, hev⟩ := andThen_ok hev
    obtain ⟨σ2, env2, vs', hcs, hev⟩ := andThen_ok hev
    obtain ⟨_, _, hv⟩ := res_inj hev
    cases hv
    have hsv := eval_scalarS hout env e he.1 fuel σ σ1 env1 v hc h1 h2
    have hst := eval_state cx e he.1 fuel env σ
    rw [hc] at hst
    simp only at hst
    subst hst
    have := evalList_scalarS hout es he.2 fuel env1 σ1 σ2 env2 vs' hcs h1 h2
    intro x hx
    rcases List.mem_cons.1 hx with rfl | hx
    · exact hsv
    · exact this x hx

/-! ## the parameters of the callee: its first locals, each in a fresh cell -/

/-- one step of `Sem.bindArgs` -/
def bindStep (acc : Sem.St × List (String × Nat)) (pa : String × Val) : Sem.St × List (String × Nat) :=
  ((Sem.newCell acc.1 pa.2).1, acc.2 ++ [(pa.1, (Sem.newCell acc.1 pa.2).2)])

theorem bindArgs_eq (s : Sem.St) (params : List String) (args : List Val) :
    Sem.bindArgs s params args = (params.reverse.zip args).foldl bindStep (s, []) := rfl

theorem bind_slots : ∀ (ps : List (String × Val)) (σ : Sem.St) (sc : List (String × Nat)) (S : List Slot),
    SRel S σ → LookRel [sc] S → NoObj (ps.map (·.2)) →
    ∃ S', SRel (S ++ S') (ps.foldl bindStep (σ, sc)).1 ∧ LookRel [(ps.foldl bindStep (σ, sc)).2] (S ++ S') ∧
      ctxOf (S ++ S') = ctxOf S ++ ps.map (fun p => (p.1, (1 : Int))) ∧
      baseOf (S ++ S') (ps.foldl bindStep (σ, sc)).1 = (ps.map (·.2)).reverse ++ baseOf S σ ∧
      SFrame S σ (ps.foldl bindStep (σ, sc)).1 ∧ (ps.foldl bindStep (σ, sc)).1.globals = σ.globals ∧
      (ps.foldl bindStep (σ, sc)).1.calls = σ.calls ∧
      (∀ s ∈ S', ∀ c, s.cell = some c → σ.cells.size ≤ c)
  | [], σ, sc, S, hlr, hlook, _ =>
    ⟨[], by simpa using hlr, by simpa using hlook, by simp, by simp, SFrame.refl _ _, rfl, rfl,
      fun s hs => by cases hs⟩
  | (p, a) :: ps, σ, sc, S, hlr, hlook, hsc => by
    have ha : Scalar a := hsc a (by simp)
    obtain ⟨hlr1, hb1⟩ := hlr.decl p 1 ha
    have hlook1 : LookRel [sc ++ [(p, σ.cells.size)]] (S ++ [Slot.named p 1 σ.cells.size]) :=
      lookRel_decl hlook p 1 σ.cells.size
    obtain ⟨S', h1, h2, h3, h4, h5, h6, h7, h8⟩ := bind_slots ps (Sem.newCell σ a).1 (sc ++ [(p, σ.cells.size)])
      (S ++ [Slot.named p 1 σ.cells.size]) hlr1 hlook1 (fun v hv => hsc v (by simp at hv ⊢; exact Or.inr hv))
    have e : bindStep (σ, sc) (p, a) = ((Sem.newCell σ a).1, sc ++ [(p, σ.cells.size)]) := rfl
    simp only [List.foldl_cons, e]
    refine ⟨.named p 1 σ.cells.size :: S', by simpa using h1, by simpa using h2, ?_, ?_, ?_, h6, h7, ?_⟩
    · have : ctxOf (S ++ Slot.named p 1 σ.cells.size :: S') = ctxOf (S ++ [Slot.named p 1 σ.cells.size] ++ S') := by simp
      rw [this, h3]; simp [ctxOf, Slot.ctx]
    · have : baseOf (S ++ Slot.named p 1 σ.cells.size :: S') = baseOf (S ++ [Slot.named p 1 σ.cells.size] ++ S') := by simp
      rw [this, h4, hb1]; simp
    · exact (SFrame.of_new S σ a).trans_ext (T := [Slot.named p 1 σ.cells.size]) h5 (fun s hs c hc => by
        simp only [List.mem_singleton] at hs; subst hs
        simp only [Slot.cell, Option.some.injEq] at hc; rw [← hc]; exact Nat.le_refl _)
    · intro s hs c hc
      rcases List.mem_cons.1 hs with rfl | hs
      · simp only [Slot.cell, Option.some.injEq] at hc; rw [← hc]; exact Nat.le_refl _
      · have := h8 s hs c hc
        have hsz := (SFrame.of_new S σ a).size
        omega

/-! ## `Return` -/

section retsim
variable {P : Prog} {F : List (UInt32 × Nat)} {J : Compiler.JumpTable} {N : String → Prop} {cx : Sem.Ctx} {ft : Feat}
  {C W : Nat} (hout : cx.outer = [])
include hout

/-- `Return e` (the hypothesis `hret` of `stmtSimU_succ`): the value, then the instruction `Return`, which
    drops the slots of the callee below the value (`junk` in `reach_ret`) and its frame -/
theorem simU_ret (f : Nat) (hcall : ∀ g, g ≤ f → CallSimS P F J N cx ft C W g) (d : Int) (S : List Slot)
    (env : Sem.Env) (e : Card) (pc pc' D : Nat) (hcode : Code P.bytecode F J ft d (ctxOf S) (.un .ret e) pc pc' D) :
    SimGoal P F N cx C W (f + 1) (.un .ret e) S env pc pc' D := by
  generalize hctx : ctxOf S = L at hcode
  cases hcode with
  | @ret _ _ _ _ m _ _ hval hc1 hop hD =>
  subst hctx
  intro henv σ σ' env' r hex hr hsz hN hlr
  rw [exec_ret] at hex
  obtain ⟨σ1, env1, x, hc, hex⟩ := andThen_val hval hex hr
  obtain ⟨rfl, rfl, rfl⟩ := res_inj hex
  have hlt := vcode_lt hc1
  obtain ⟨_, e1, hlr1, hsx, n1, _, hsim1⟩ :=
    val_simS hout f (hcall f (Nat.le_refl _)) e S env hval henv σ σ1 env1 x pc m hc hc1 (by omega) hlr
  refine ⟨(fun h => by cases h), e1, hlr1, hsx, n1 + 1, fun vs cap fs caller rest hcl hst hd hg hsd => ?_⟩
  obtain ⟨vs1, hr1, hst1, hsame1, hg1⟩ := hsim1 vs cap (fs ++ [caller]) rest hcl hst (by omega) hg hsd
  have hsd1 := hsame1.side hsd
  have hvpos : 1 ≤ vdepth e := by unfold vdepth; have := edepth_pos e; omega
  obtain ⟨vs2, hr2, hst2, hvs2⟩ := reach_ret (P := P) (ip := m) (by omega) hop hsd1 hst1
    (by have := hsd.room; omega)
  refine ⟨vs2, vs1, hr1.trans hr2 rfl, hst2, hsd1, hsame1.log, hvs2, ?_⟩
  have : vs2.globals = vs1.globals := by rw [hvs2]
  rw [this]; exact hg1

end retsim

/-! ## the functions that may be called -/

/-- the locals of a function when its body starts: the parameters, the last one first -/
def argCtx (fd : Func) : LCtx := fd.arguments.reverse.map (fun p => (p, (1 : Int)))

/-- what is known about a function `g` that may be called: where the reference semantics finds it
    (from every `home`), and where its code is: the jump table gives handle and arity, the handle's label the
    position of the body, a block in the scope of the parameters, which is followed by a `Pop` for each parameter
    and each local of the body and the epilogue `ScalarNil; Return`. `W` bounds the stack slots one activation needs. -/
structure FnEntry (P : Prog) (F : List (UInt32 × Nat)) (J : Compiler.JumpTable) (N : String → Prop) (ft : Feat)
    (W : Nat) (fns : Array Sem.FnDef) (g : String) (fd : Func) : Prop where
  sem : ∃ i d, (∀ home, home < fns.size → Sem.resolve fns home g = some i) ∧ fns[i]? = some d ∧
    d.params = fd.arguments ∧ d.cards = fd.cards
  names : ∀ n ∈ snamess fd.cards, N n
  arity : fd.arguments.length < 4294967296
  code : ∃ h pos m' L' D, look J g = some (h, UInt32.ofNat fd.arguments.length) ∧
    P.labels.find? (fun l => l.1 == h) = some (h, pos) ∧
    Block P.bytecode F J ft 1 (argCtx fd) fd.cards L' pos m' D ∧ fd.arguments.length + D + 1 ≤ W ∧
    (∀ j, j < L'.length → P.bytecode.getD (m' + j) 0 = Compiler.op.pop) ∧
    P.bytecode.getD (m' + L'.length) 0 = Compiler.op.scalarNil ∧
    P.bytecode.getD (m' + L'.length + 1) 0 = Compiler.op.ret ∧
    m' + L'.length + 1 < P.bytecode.size

theorem baseOf_noObj {S : List Slot} {σ : Sem.St} (h : SRel S σ) : NoObj (baseOf S σ) := by
  intro v hv
  unfold baseOf at hv
  simp only [List.mem_reverse, List.mem_map] at hv
  obtain ⟨s, hs, rfl⟩ := hv
  cases s with
  | named n d c =>
    simp only [Slot.val]
    rcases hc : σ.cells[c]? with _ | x
    · trivial
    · exact h.scalar c x hc
  | hidden d x => exact h.hscalar d x hs

theorem zip_map_snd (ps : List String) (vals : List Val) (h : ps.length = vals.length) : (ps.zip vals).map (·.2) = vals :=
  List.map_snd_zip (Nat.le_of_eq h.symm)

theorem zip_map_fst1 (ps : List String) (vals : List Val) (h : ps.length = vals.length) :
    (ps.zip vals).map (fun p => (p.1, (1 : Int))) = ps.map (fun p => (p, (1 : Int))) :=
  (List.map_map (f := Prod.fst) (g := fun p => (p, (1 : Int))) (l := ps.zip vals)).symm.trans
    (congrArg _ (List.map_fst_zip (Nat.le_of_eq h)))

theorem side_after_ret {C W : Nat} {vs vsR vs' : VmState} {cap : Nat} {fs : List Frame} {cur : Frame}
    {rest below : List Val} {k k' : Nat} (hsd : Side C W vs cap fs rest k) (hkk : k ≤ k')
    (hR : Side C W vsR cap (fs ++ [cur]) below k') (hoff : cur.stackOffset = rest.length)
    (hvs' : vs' = { vsR with frames := fs ++ [cur], stack := vs'.stack, remaining := vs'.remaining,
                             dispatches := vs'.dispatches }) :
    Side C W vs' cap fs rest k' := by
  have e1 : vs'.frames = fs ++ [cur] := by rw [hvs']
  have e2 : vs'.mem = vsR.mem := by rw [hvs']
  have e3 : vs'.heap = vsR.heap := by rw [hvs']
  have e4 : vs'.guards = vsR.guards := by rw [hvs']
  have e5 : vs'.openUpvalues = vsR.openUpvalues := by rw [hvs']
  have e6 : vs'.frameCap = vsR.frameCap := by rw [hvs']
  refine ⟨⟨cur, e1, hoff, hR.noClos cur (by simp)⟩, fun f hf => hR.noClos f (by simp [hf]),
    by rw [e2, e3]; exact hR.acc, by rw [e3]; exact hR.hwf, by rw [e4]; exact hR.guards,
    by rw [e5]; exact hR.ups, hsd.restS, ?_, ?_, by rw [e2]; exact hR.mem⟩
  · rw [e6]
    have := hR.fdepth
    simp only [List.length_append, List.length_singleton] at this
    omega
  · have h1 := hsd.sdepth
    have h2 : (C - k' + 1) * W ≤ (C - k + 1) * W := Nat.mul_le_mul_right _ (by omega)
    omega

section callsim
variable {P : Prog} {F : List (UInt32 × Nat)} {J : Compiler.JumpTable} {N : String → Prop} {ft : Feat} {C W : Nat}

/-- the statement and the call simulation at fuel `g`, in every context: a call evaluates the body of
    the callee in a context with another `home` -/
def AllSim (P : Prog) (F : List (UInt32 × Nat)) (J : Compiler.JumpTable) (N : String → Prop) (ft : Feat) (C W : Nat)
    (fns : Array Sem.FnDef) (g : Nat) : Prop :=
  ∀ cx, CxH fns cx → StmtSimU P F J N cx ft C W g ∧ CallSimS P F J N cx ft C W g

theorem argsDepth_ge : ∀ (args : List Card), args.length ≤ argsDepth args
  | [] => Nat.le_refl _
  | e :: es => by
    simp only [argsDepth, List.length_cons]
    have := argsDepth_ge es
    omega

theorem call_frame {S S' : List Slot} {σa σ2 σ3 : Sem.St} (hlr : SRel S σa)
    (b5 : SFrame [] { σa with calls := σa.calls + 1 } σ2)
    (b8 : ∀ s ∈ S', ∀ c, s.cell = some c → σa.cells.size ≤ c) (e3 : SFrame S' σ2 σ3)
    (hsc : ∀ (i : Nat) (v : Val), σ3.cells[i]? = some v → Scalar v)
    (hgs : ∀ (n : String) (v : Val), glookup σ3.globals n = some v → Scalar v) :
    SFrame S σa σ3 ∧ SRel S σ3 ∧ baseOf S σ3 = baseOf S σa := by
  have hsz2 : σa.cells.size ≤ σ2.cells.size := b5.size
  have hlow : ∀ c, c < σa.cells.size → σ3.cells[c]? = σa.cells[c]? := fun c hc => by
    rw [e3.kept c (by omega) (fun s hs e => by have := b8 s hs c e; omega),
      b5.kept c hc (fun s hs => by cases hs)]
  have e1 : SemFrame σa { σa with calls := σa.calls + 1 } := ⟨rfl, Nat.le_succ _⟩
  refine ⟨⟨(e1.trans b5.toSemFrame).trans e3.toSemFrame, Nat.le_trans hsz2 e3.size, fun c hc _ => hlow c hc⟩,
    ⟨fun s hs c hc => ?_, hlr.inj, hsc, hgs, hlr.hscalar⟩, ?_⟩
  · have := hlr.lt s hs c hc
    have := e3.size
    omega
  · exact baseOf_congr fun s hs c hc => hlow c (hlr.lt s hs c hc)

theorem callSimS_zero (cx : Sem.Ctx) : CallSimS P F J N cx ft C W 0 := by
  intro g args S env _ _ σ σ' env' v pc pc' hev
  rw [eval_zero] at hev
  cases hev

/-- the value with which the body of a function ends -/
def retVal : Sem.Res Unit → Val
  | .ret v => v
  | _ => .nil

/-- the body of a function and the `Pop`s, `ScalarNil`, `Return` after it: whether the body completes or
    executes a `Return`, the VM goes back to the caller with the value on top -/
theorem body_ret {r : Sem.Res Unit} {S Sn : List Slot} {σ σ' : Sem.St} {pos m' D k : Nat} {lf : Bool}
    (hvm : VmEnd P F N C W r S σ σ' Sn pos m' D lf) (hr : okRet r) (hk : r = .ok () → Sn.length = k)
    (hpops : ∀ j, j < k → P.bytecode.getD (m' + j) 0 = Compiler.op.pop)
    (hnil : P.bytecode.getD (m' + k) 0 = Compiler.op.scalarNil)
    (hret : P.bytecode.getD (m' + k + 1) 0 = Compiler.op.ret)
    (hend : m' + k + 1 < P.bytecode.size) (hW : 1 ≤ W) :
    Scalar (retVal r) ∧ VmRetS P F N C W S σ σ' (retVal r) pos D := by
  cases r with
  | ok u =>
    cases u
    obtain ⟨n3, _, hsim3⟩ := hvm
    have hlen : (baseOf Sn σ').length = k := by rw [baseOf_length, hk rfl]
    refine ⟨trivial, n3 + k + 1 + 1, fun vs cap fs caller rest hcl hst hd hg hsd => ?_⟩
    obtain ⟨vs4, hr4, hst4, hsame4, hg4⟩ := hsim3 vs cap (fs ++ [caller]) rest hcl hst hd hg hsd
    obtain ⟨vs5, hr5, hst5, hsame5, hg5⟩ := reach_popsN (P := P) (baseOf Sn σ') rest m' vs4
      (fun j hj => hpops j (by rw [hlen] at hj; exact hj)) (by rw [hlen]; omega) hst4
    rw [hlen] at hr5
    have hsd5 := (hsame4.transS hsame5).side hsd
    have hroomB := hsd5.room
    obtain ⟨vs6, hr6, hst6, hsame6, hg6⟩ := reach_push (P := P) (ip := m' + k) (ip' := m' + k + 1) .nil
      (by omega) hst5 (by omega)
      (fun re st' hp => step_scalarNil (re := re) hnil (s := tick vs5) (st' := st') hp)
    have hsd6 := hsame6.side hsd5
    obtain ⟨vs7, hr7, hst7, hvs7⟩ := reach_ret (P := P) (ip := m' + k + 1) (junk := []) hend hret hsd6 hst6
      (by omega)
    have hsame46 := (hsame4.transS hsame5).transS hsame6
    refine ⟨vs7, vs6, ((hr4.trans hr5 rfl).trans hr6 rfl).trans hr7 rfl, hst7, hsd6, hsame46.log, hvs7, ?_⟩
    have e7 : vs7.globals = vs6.globals := by rw [hvs7]
    rw [e7, hg6, hg5]; exact hg4
  | ret w => exact hvm
  | outOfFuel | exit | err _ | unspecified _ => exact absurd hr id

/-- a static call in a value position: the arguments, `FunctionPointer`, `CallFunction` (`henter`), then the
    body of the callee by `block_simU` at fuel `f` in the callee's context, over slots `S'` that are the
    parameters alone; the caller's slots `S` are part of `rest` meanwhile (`call_frame`: its cells are
    untouched). Whether the body completes (the `Pop`s and `ScalarNil; Return` follow) or has executed a `Return` itself
    is `body_ret`. `k` of `Side` is the number of calls made so far, at most `C`. -/
theorem call_simS (fns : Array Sem.FnDef)
    (htab : ∀ g fd, ft.lookup g = some fd → FnEntry P F J N ft W fns g fd)
    (f : Nat) (hP : ∀ g, g ≤ f → AllSim P F J N ft C W fns g) (cx : Sem.Ctx) (hcx : CxH fns cx) : CallSimS P F J N cx ft C W (f + 1) := by
  intro g args S env he henv σ σ' env' v pc pc' hev hcode hsz hlr
  have hout := hcx.1
  have hhome := hcx.2.2
  -- the fragment: `g` is a function of the table with `args.length` parameters
  have hc : isCall ft (.call g args) = true := by
    rcases isVal_cases he with h | ⟨_, _, h1, h2⟩
    · simp [isExpr] at h
    · cases h1; exact h2
  simp only [isCall, Bool.and_eq_true] at hc
  obtain ⟨hlk, hargs⟩ := hc
  rcases hfd : ft.lookup g with _ | fd
  · rw [hfd] at hlk; exact absurd hlk (by simp)
  rw [hfd] at hlk
  have harity : fd.arguments.length = args.length := by simpa using hlk
  obtain ⟨⟨i, dfn, hres, hdi, hdp, hdc⟩, hnames, hlt32, h, pos, m', L', D, hlook, hlab, hblk, hwidth, hpops, hnil, hret, hend⟩ :=
    htab g fd hfd
  have hcc : CCode P.bytecode F J (ctxOf S) (.call g args) pc pc' := by
    rcases hcode with h | h
    · simp [ECodeL] at h
    · exact h
  simp only [CCode] at hcc
  obtain ⟨m, h2, a2, hca, hfp, hlook2, hrdh, hrda, hcf, rfl⟩ := hcc
  rw [hlook] at hlook2
  simp only [Option.some.injEq, Prod.mk.injEq] at hlook2
  obtain ⟨rfl, rfl⟩ := hlook2
  rw [eval_call] at hev
  have hlta := ecodesL_le hca
  obtain ⟨σa, enva, vals, hl, hev⟩ := andThen_ok hev
  obtain ⟨rfl, rfl, hvlen, nA, _, hsimA⟩ := evalList_simS (P := P) (F := F) (N := N) hout S env henv args hargs f σ σa enva
    vals pc m hl hca (by omega)
  rw [callRest_run cx f g (by rw [hcx.2.1]; exact hres cx.home hhome) (by rw [hcx.2.1]; exact hdi)
    (by rw [hdp, hvlen, harity]), hcx.2.1] at hev
  by_cases hlim : σa.calls ≥ Sem.callLimit
  · rw [if_pos hlim] at hev; cases hev
  rw [if_neg hlim] at hev
  -- the callee starts without slots; `bind_slots` adds one per parameter, in fresh cells
  have hσ1 : SRel [] { σa with calls := σa.calls + 1 } :=
    ⟨fun s hs => (by cases hs), List.nodup_nil, hlr.scalar, hlr.gscalar, fun d v h => (by cases h)⟩
  have hvals : NoObj vals := evalList_scalarS hout args hargs f env σa σa env vals hl hlr.scalar hlr.gscalar
  have hplen : dfn.params.reverse.length = vals.length := by rw [List.length_reverse, hdp, hvlen, harity]
  rw [bindArgs_eq] at hev
  obtain ⟨S', b1, b2, b3, b4, b5, b6, b7, b8⟩ := bind_slots (dfn.params.reverse.zip vals) { σa with calls := σa.calls + 1 } []
    [] hσ1 lookRel_empty (by rw [zip_map_snd _ _ hplen]; exact hvals)
  simp only [List.nil_append] at b1 b2 b3 b4 b8
  rw [zip_map_snd _ _ hplen] at b4
  have hb0 : baseOf [] { σa with calls := σa.calls + 1 } = [] := rfl
  rw [hb0, List.append_nil] at b4
  have hctxS : ctxOf S' = argCtx fd := by
    rw [b3, zip_map_fst1 _ _ hplen, hdp]; rfl
  generalize hσ2 : (List.foldl bindStep ({ σa with calls := σa.calls + 1 }, []) (dfn.params.reverse.zip vals)) = r2 at hev b1 b2 b4 b5 b6 b7
  obtain ⟨σ2, scope⟩ := r2
  simp only at hev b1 b2 b4 b5 b6 b7
  have hcx' : CxH fns { fns := fns, home := i, outer := [] } := ⟨rfl, rfl, (Array.getElem?_eq_some_iff.1 hdi).1⟩
  obtain ⟨ihok, _⟩ := hP f (Nat.le_refl _) _ hcx'
  have hcallc : ∀ g', g' < f → CallSimS P F J N { fns := fns, home := i, outer := [] } ft C W g' :=
    fun g' hg' => (hP g' (by omega) _ hcx').2
  rw [hdc] at hev
  rcases hb : Sem.execListWith (Sem.exec { fns := fns, home := i, outer := [] } f) [scope] σ2 fd.cards with ⟨σ3, env3, r3⟩
  rw [hb] at hev
  -- the instructions up to the first instruction of the callee, for both ways the body can end
  have hh32 : (UInt32.ofNat h.toNat) = h := UInt32.ofNat_toNat
  have ha32 : (UInt32.ofNat (UInt32.ofNat fd.arguments.length).toNat) = UInt32.ofNat fd.arguments.length :=
    UInt32.ofNat_toNat
  have hatn : (UInt32.ofNat fd.arguments.length).toNat = vals.reverse.length := by
    rw [List.length_reverse, hvlen, ← harity]
    simp only [UInt32.toNat_ofNat']
    omega
  have henter : ∃ nE, ∀ (vs : VmState) (cap : Nat) (fs : List Frame) (rest : List Val), σa.calls < C →
      StackIs vs.stack cap (baseOf S σa ++ rest) → S.length + (argsDepth args + 1) ≤ W →
      GRel F N σa.globals vs.globals → Side C W vs cap fs rest σa.calls →
      ∃ vs3 cur, Reach P nE pc vs pos vs3 ∧ StackIs vs3.stack cap (baseOf S' σ2 ++ (baseOf S σa ++ rest)) ∧
        cur.stackOffset = rest.length ∧ cur.closure = none ∧ cur.dst = m + 10 ∧
        Side C W vs3 cap (fs ++ [cur]) (baseOf S σa ++ rest) σ2.calls ∧ vs3.hostLog = vs.hostLog ∧
        GRel F N σ2.globals vs3.globals := by
    refine ⟨nA + 1 + 1, fun vs cap fs rest hkC hst hd hg hsd => ?_⟩
    have hroom := hsd.room
    have hsdep := hsd.sdepth
    obtain ⟨vs1, hr1, hst1, hsame1, hg1⟩ := hsimA vs cap _ hst
      (by simp only [List.length_append, baseOf_length]; omega) hg (localsAt_base [] rest hsd.frameAt hlr)
    have hsd1 := hsame1.side hsd
    obtain ⟨vs2, a, hr2, hst2, hget, hsame2, hg2⟩ := reach_functionPointer (P := P) (ip := m) (by omega) hfp (by omega)
      hsd1 (by rw [hg1]; exact grel_noObj hg) hst1
      (by
        intro x hx
        rcases List.mem_append.1 hx with hx | hx
        · exact hvals x (List.mem_reverse.1 hx)
        · rcases List.mem_append.1 hx with hx | hx
          · exact baseOf_noObj hlr x hx
          · exact hsd.restS x hx)
      (by simp only [List.length_append, List.length_reverse, baseOf_length]
          have := argsDepth_ge args; omega)
    rw [hrdh, hrda, hh32, ha32] at hget
    have hsd2 := hsame2.side hsd1
    have hmul : (C - σa.calls + 1) * W = (C - σa.calls) * W + W := by rw [Nat.add_mul, Nat.one_mul]
    obtain ⟨vs3, cur, hr3, hst3, ho, hcl, hdst, hsd3, hlog3, hg3⟩ := reach_callFunction (P := P) (ip := m + 9)
      (a := a) (pos := pos) (h := h) (ar := UInt32.ofNat fd.arguments.length) (h' := h) (by omega) hcf hsd2 hkC
      hst2 hget hatn hlab
      (fun x hx => by
        rcases List.mem_append.1 hx with hx | hx
        · exact baseOf_noObj hlr x hx
        · exact hsd.restS x hx)
      (by
        have e : C - (σa.calls + 1) + 1 = C - σa.calls := by omega
        rw [e]
        simp only [List.length_append, baseOf_length]
        omega)
    refine ⟨vs3, cur, (hr1.trans hr2 rfl).trans hr3 rfl, by rw [b4]; exact hst3, ho, hcl, hdst, ?_, ?_, ?_⟩
    · rw [b7]; exact hsd3
    · rw [hlog3, hsame2.log]; unfold SameRest at hsame1; rw [hsame1]
    · rw [b6, hg3, hg2, hg1]; exact hg
  have hSlen : S'.length = fd.arguments.length := by
    have := congrArg List.length hctxS
    simpa [ctxOf, argCtx] using this
  have hout' : ({ fns := fns, home := i, outer := [] } : Sem.Ctx).outer = [] := rfl
  have hres : okRet r3 ∧ σ3 = σ' ∧ env = env' ∧ retVal r3 = v := by
    cases r3 with
    | ok u =>
      cases u
      obtain ⟨h1, h2, h3⟩ := res_inj hev
      exact ⟨trivial, h1, h2, Sem.Res.ok.inj h3⟩
    | ret w =>
      obtain ⟨h1, h2, h3⟩ := res_inj hev
      exact ⟨trivial, h1, h2, Sem.Res.ok.inj h3⟩
    | outOfFuel | exit | err _ | unspecified _ => cases (res_inj hev).2.2
  obtain ⟨hr3, rfl, rfl, rfl⟩ := hres
  obtain ⟨new, hcl, e3, _, hlr3, hvm⟩ := block_simU hout' ihok hcallc 1 fd.cards S' [scope] _ L' pos m' D hctxS.symm hblk
    b2 σ2 σ3 env3 r3 hb hr3 (by omega) hnames b1
  obtain ⟨hsw, nR, hsimR⟩ := body_ret hvm hr3
    (fun h => by rw [← (hcl h).1]; simp [ctxOf])
    hpops hnil hret hend (by omega)
  obtain ⟨ef, hlrS, hbS⟩ := call_frame hlr b5 b8 e3 hlr3.scalar hlr3.gscalar
  obtain ⟨nE, hsimE⟩ := henter
  refine ⟨rfl, ef, hlrS, hsw, nE + nR, (fun h => by cases h), fun vs cap fs rest hcl hst hd hg hsd => ?_⟩
  have hd' : S.length + (argsDepth args + 1) ≤ W := by
    simp only [vdepth, cdepth] at hd; omega
  have hk3 : σa.calls + 1 ≤ σ3.calls := by have := e3.calls; omega
  obtain ⟨vs3, cur, hr3, hst3, ho, hcl3, hdst, hsd3, hlog3, hg3⟩ := hsimE vs cap fs rest (by omega) hst hd' hg hsd
  obtain ⟨vs7, vsR, hr7, hst7, hsdR, hlogR, hvs7, hg7⟩ := hsimR vs3 cap fs cur (baseOf S σa ++ rest) hcl hst3 (by omega)
    hg3 hsd3
  rw [hdst] at hr7
  refine ⟨vs7, hr3.trans hr7 rfl, by rw [hbS]; exact hst7,
    ⟨?_, fun _ => side_after_ret hsd (by omega) hsdR ho hvs7⟩, hg7⟩
  have e7 : vs7.hostLog = vsR.hostLog := by rw [hvs7]
  rw [e7, hlogR, hlog3]

end callsim

end Cao.C01
