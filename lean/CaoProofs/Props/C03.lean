import CaoProofs.Lemmas.VmFrame
/-!
# C03 — the instruction budget

"A run started with instruction budget N executes at most N instructions in total — including
all instructions executed by script functions that host/native functions call back into during
that run — and reports Timeout instead of continuing when the budget is exhausted."

`VmState.dispatches` is a ghost counter that the dispatch loop of the model (`exec`, task `.loop`)
increments once per executed instruction, in *every* nesting level (the loops that natives re-enter
through `run_function` are the same `exec`). `VmState.remaining` is the interpreter's
`remaining_iters`. An instruction changes the two counters only through re-entry, and the loop only
moves units from one to the other, so the potential `dispatches + remaining` never grows: the
relation `Budget` is a `RunFrame` (`Lemmas/VmFrame.lean`), and `exec_potential` is `exec_pres` for
it; `run` starts the potential at `N`. That more budget changes nothing but what is left
(`budget_monotone`) is in `Props/C03b.lean`.
-/
namespace Cao.C03
open Cao Cao.Vm

/-! ## 1. the potential -/

/-- **the potential `dispatches + remaining` never grows, `dispatches` never shrinks** — for the
    loop and for `run_function`, with any amount of fuel, nested re-entries included -/
theorem exec_potential (p : Prog) (gas : Nat) (t : Task) (s : VmState) :
    let r := exec p gas t s
    r.1.dispatches + r.1.remaining ≤ s.dispatches + s.remaining ∧ s.dispatches ≤ r.1.dispatches :=
  exec_pres (R := Budget) p gas t s

theorem exec_remaining_le (p : Prog) (gas : Nat) (t : Task) (s : VmState) :
    (exec p gas t s).1.remaining ≤ s.remaining := by
  have := exec_potential p gas t s
  simp only at this
  omega

/-- a sharper potential: a budget of `0` is as good as a budget of `1` (the loop decrements
    before it checks, so the last unit is never spent on an instruction) -/
def Budget1 (s s' : VmState) : Prop :=
  s'.dispatches + max s'.remaining 1 ≤ s.dispatches + max s.remaining 1

instance : LoopFrame Budget1 where
  refl _ := Nat.le_refl _
  trans h1 h2 := Nat.le_trans h2 h1
  of_keep h := by unfold Budget1; rw [h.1, h.2.1]; exact Nat.le_refl _
  tick s h := by simp only [Budget1, VmState.tick]; omega
  timeout s := by simp only [Budget1]; omega

theorem exec_potential1 (p : Prog) (gas : Nat) (t : Task) (s : VmState) :
    (exec p gas t s).1.dispatches + max (exec p gas t s).1.remaining 1
      ≤ s.dispatches + max s.remaining 1 :=
  exec_pres (R := Budget1) p gas t s

/-! ## 2. `run` -/

/-- **C03, the bound**: a run with budget `n` dispatches at most `n` instructions, nested
    re-entries included -/
theorem budget_bound_sharp (p : Prog) (n : Nat) (s : VmState) (h : s.frames.length < s.frameCap) :
    (run p n s).1.dispatches + (run p n s).1.remaining ≤ n := by
  rw [run_room p n s h]
  have := exec_potential p (gasFor (started n s) n) (.loop 0) (started n s)
  simp only [started] at this ⊢
  omega

theorem budget_bound (p : Prog) (n : Nat) (s : VmState) (h : s.frames.length < s.frameCap) :
    (run p n s).1.dispatches ≤ n := by
  have := budget_bound_sharp p n s h
  omega

/-- without the side condition: either nothing ran at all, or the bound holds -/
theorem budget_bound' (p : Prog) (n : Nat) (s : VmState) :
    (run p n s).1 = s ∨ (run p n s).1.dispatches + (run p n s).1.remaining ≤ n := by
  by_cases h : s.frames.length < s.frameCap
  · exact .inr (budget_bound_sharp p n s h)
  · exact .inl (by rw [run_no_room p n s (Nat.not_lt.1 h)])

/-- the loop decrements before it checks: at most `n - 1` instructions run (none for `n ≤ 1`) -/
theorem budget_bound_strict (p : Prog) (n : Nat) (s : VmState) (h : s.frames.length < s.frameCap) :
    (run p n s).1.dispatches ≤ n - 1 := by
  rw [run_room p n s h]
  have := exec_potential1 p (gasFor (started n s) n) (.loop 0) (started n s)
  simp only [started] at this ⊢
  omega

/-! ## 3. Timeout -/

/-- **the loop reports `Timeout` instead of continuing** when at most one unit is left -/
theorem exec_loop_exhausted (p : Prog) (gas ip : Nat) (s : VmState) (hip : ip < p.bytecode.size)
    (h : s.remaining ≤ 1) :
    exec p (gas+1) (.loop ip) s = ({ s with remaining := 0 }, .error ⟨.timeout, ip, s.frames⟩) := by
  rw [exec_loop]
  have h0 : s.remaining - 1 = 0 := by omega
  simp only [ge_iff_le, Nat.not_le.2 hip, if_false, h0, if_true]

/-- … and it never dispatches in that situation, whatever the fuel -/
theorem no_dispatch_when_exhausted (p : Prog) (gas ip : Nat) (s : VmState) (h : s.remaining ≤ 1) :
    (exec p gas (.loop ip) s).1.dispatches = s.dispatches := by
  cases gas with
  | zero => rw [exec_zero]
  | succ gas =>
    rw [exec_loop]
    have h0 : s.remaining - 1 = 0 := by omega
    split
    · rfl
    · rfl

/-- an instruction is dispatched only in a state with `remaining ≥ 1` *after* the decrement:
    the state `step` runs in is `s.tick`, and the loop got there only because `s.remaining ≥ 2` -/
theorem dispatch_needs_budget (p : Prog) (gas ip : Nat) (s : VmState)
    (h : (exec p gas (.loop ip) s).1.dispatches ≠ s.dispatches) : 2 ≤ s.remaining := by
  apply Classical.byContradiction
  intro hn
  exact h (no_dispatch_when_exhausted p gas ip s (by omega))

/-- a `Timeout` of the loop (as opposed to one wrapped into a `TaskFailure` by a native) leaves
    `remaining = 0` -/
theorem loop_timeout (p : Prog) : ∀ (gas ip : Nat) (s : VmState) (e : RunErr),
    (exec p gas (.loop ip) s).2 = .error e → e.kind = .timeout →
    (exec p gas (.loop ip) s).1.remaining = 0 := by
  intro gas
  induction gas with
  | zero =>
    intro ip s e h hk
    rw [exec_zero] at h
    simp only [Except.error.injEq] at h
    subst h
    cases hk
  | succ gas ih =>
    intro ip s e
    rw [exec_loop]
    split
    · intro h hk
      simp only [Except.error.injEq] at h
      subst h
      cases hk
    split
    · next h0 => intro _ _; exact h0
    split
    · next e' s' heq =>
      intro h hk
      simp only [Except.error.injEq] at h
      subst h
      have := (throws_step p (reenterOf p gas) ip).err s.tick e' (by rw [heq])
      exact absurd hk this.1
    · next ctl s' heq =>
      split
      · intro h; cases h
      · exact ih _ _ _

/-- **C03, Timeout**: if a run ends with `Timeout`, the budget is exhausted -/
theorem timeout_only_when_exhausted (p : Prog) (n : Nat) (s : VmState) (e : RunErr)
    (h : (run p n s).2 = some e) (hk : e.kind = .timeout) : (run p n s).1.remaining = 0 := by
  by_cases hr : s.frames.length < s.frameCap
  · rw [run_room p n s hr] at h ⊢
    simp only at h ⊢
    apply loop_timeout p _ _ _ e _ hk
    split at h
    · cases h
    · next e' heq => simp only [Option.some.injEq] at h; rw [heq, h]
  · rw [run_no_room p n s (Nat.not_lt.1 hr)] at h
    simp only [Option.some.injEq] at h
    subst h
    cases hk

theorem no_timeout_with_budget_left (p : Prog) (n : Nat) (s : VmState) (e : RunErr)
    (h : (run p n s).2 = some e) (hrem : (run p n s).1.remaining ≠ 0) : e.kind ≠ .timeout :=
  fun hk => hrem (timeout_only_when_exhausted p n s e h hk)

/-! ## 4. fuel

`exec` is total because it recurses on a fuel argument; `run` supplies `gasFor`. The fuel is a
device of the model, so "the fuel never runs out" is an adequacy statement about the model. -/

/-- the top-level loop never runs out of fuel: each of its iterations costs one unit of fuel and one
    unit of budget, and `gasFor` exceeds the budget -/
theorem loop_fuel (p : Prog) : ∀ (gas ip : Nat) (s : VmState) (e : RunErr),
    s.remaining + 1 ≤ gas → (exec p gas (.loop ip) s).2 = .error e →
    e.kind ≠ .panic "gas exhausted" := by
  intro gas
  induction gas with
  | zero => intro ip s e h; omega
  | succ gas ih =>
    intro ip s e hg
    rw [exec_loop]
    split
    · intro h; simp only [Except.error.injEq] at h; subst h; simp
    split
    · intro h; simp only [Except.error.injEq] at h; subst h; simp
    next _ hrem =>
    have hre : ∀ f, Pres Budget (reenterOf p gas f) :=
      fun f => pres_liftRun (fun s => exec_pres (R := Budget) p gas (.call f) s)
    have hb := (pres_step p _ hre ip).rel s.tick
    split
    · next e' s' heq =>
      intro h
      simp only [Except.error.injEq] at h
      subst h
      exact ((throws_step p (reenterOf p gas) ip).err s.tick e' (by rw [heq])).2
    · next ctl s' heq =>
      rw [heq] at hb
      split
      · intro h; cases h
      · apply ih
        simp only [Budget, VmState.tick] at hb
        omega

/-- **`run` itself never reports the fuel panic** (but see below: a *nested* loop can) -/
theorem gas_suffices_toplevel (p : Prog) (n : Nat) (s : VmState) (e : RunErr)
    (h : (run p n s).2 = some e) : e.kind ≠ .panic "gas exhausted" := by
  by_cases hr : s.frames.length < s.frameCap
  · rw [run_room p n s hr] at h
    simp only at h
    split at h
    · cases h
    · next e' heq =>
      simp only [Option.some.injEq] at h
      subst h
      exact loop_fuel p _ _ _ _ (by simp only [started, gasFor]; omega) heq
  · rw [run_no_room p n s (Nat.not_lt.1 hr)] at h
    simp only [Option.some.injEq] at h
    subst h
    simp

def isFuelPanic : ErrKind → Bool
  | .panic w => w == "gas exhausted"
  | _ => false

/-- the statement one would like: no run ever hits the fuel limit, at any nesting depth.
    **It is false for arbitrary start states and host functions** (`not_gas_suffices_Full`):
    natives can re-enter natives without dispatching an instruction, so no bound that depends only
    on `maxInstr`, `frameCap` and the stack size is enough when a host function pops more than it
    pushes (the witness below recurses without consuming budget — in the model until the fuel is
    gone, in the Rust until the native stack overflows).
    For script-level nesting `gasFor = 2·maxInstr + …` is enough: every level is entered by a
    dispatched call instruction. A full adequacy theorem needs the hypothesis that host functions
    are stack-neutral (they leave the value stack at least as high as they found it, which bounds
    native→native recursion by the value stack); that is recorded as an assumption in DESIGN.md. -/
def gas_suffices_Full : Prop :=
  ∀ (p : Prog) (n : Nat) (s : VmState) (e : RunErr),
    (run p n s).2 = some e → isFuelPanic (rootCause e.kind) = false

private def le32 (n : Nat) : List UInt8 :=
  [UInt8.ofNat (n % 256), UInt8.ofNat (n / 256 % 256), UInt8.ofNat (n / 65536 % 256),
   UInt8.ofNat (n / 16777216 % 256)]

/-! ### natives re-entering natives do not consume budget

`run_function` on a *native* callee calls it directly (also in the Rust: `Vm::run_function`,
`NativeFunction` arm), without touching `remaining_iters`. With the table `it = {three ↦ T, __min ↦ it}`
(`T` any table with a few rows) on the stack below the native `__min`, the instruction
`callNative __min` recurses for ever: level `k` first maps `three` over `T` — which pops more than
was pushed and so empties the value stack —, then calls `__min(it, __min)` again. One instruction
is dispatched; the model stops when the fuel is gone, whatever the fuel (checked here for the fuel
`run` supplies on a tiny machine: 46 units). -/

/-- 1036830421 = handle of `__min`, 2290484163 = handle of the test native `three` -/
def cycProg : Prog :=
  { bytecode := ([Compiler.op.callNative] ++ le32 1036830421 ++ [Compiler.op.exit]).toArray,
    data := #[], labels := [], varNames := [], trace := [] }

def tinyVm : VmState := VmState.fresh { stackSize := 7, callStackSize := 1 }

def cycVm : VmState :=
  { tinyVm with
    heap := { objs := [(1, .native 1036830421), (2, .native 2290484163),
                       (3, .table 8 ([(.int 0, .nil), (.int 1, .nil)])),
                       (4, .table 8 [(.obj 2, .obj 3), (.obj 1, .obj 4)])], next := 5 },
    globals := [.obj 4, .obj 1, .obj 2, .obj 3],      -- keeps the four objects alive
    stack := { count := 2, data := (tinyVm.stack.data.set 0 (.obj 4)).set 1 (.obj 1) } }

private def cycCheck (r : VmState × Option RunErr) : Bool :=
  match r with
  | (s', some e) => isFuelPanic (rootCause e.kind) && s'.dispatches == 1 && s'.remaining == 2
  | _ => false

private theorem cycCheck_spec {r : VmState × Option RunErr} (h : cycCheck r = true) :
    ∃ e, r.2 = some e ∧ isFuelPanic (rootCause e.kind) = true ∧ r.1.dispatches = 1 ∧ r.1.remaining = 2 := by
  obtain ⟨s', _ | e⟩ := r
  · cases h
  · simp only [cycCheck, Bool.and_eq_true, beq_iff_eq] at h
    exact ⟨e, rfl, h.1.1, h.1.2, h.2⟩

/-- budget 3, one instruction dispatched, 2 units left, fuel gone -/
theorem native_recursion_ignores_budget :
    ∃ e, (run cycProg 3 cycVm).2 = some e ∧ isFuelPanic (rootCause e.kind) = true ∧
      (run cycProg 3 cycVm).1.dispatches = 1 ∧ (run cycProg 3 cycVm).1.remaining = 2 :=
  -- the kernel runs the model once
  cycCheck_spec (by decide +kernel)

theorem not_gas_suffices_Full : ¬ gas_suffices_Full := by
  intro h
  obtain ⟨e, he, hp, _⟩ := native_recursion_ignores_budget
  have := h cycProg 3 cycVm e he
  rw [hp] at this
  cases this

/-! ## 5. non-vacuity -/

def tinyProg : Prog :=
  { bytecode := #[Compiler.op.scalarNil, Compiler.op.pop, Compiler.op.exit], data := #[],
    labels := [], varNames := [], trace := [] }

/-- `nil; pop; exit` with budget 10 on a fresh default machine: no error, three dispatches,
    seven units left -/
example : (run tinyProg 10 (VmState.fresh {})).2.isNone = true ∧
    (run tinyProg 10 (VmState.fresh {})).1.dispatches = 3 ∧
    (run tinyProg 10 (VmState.fresh {})).1.remaining = 7 := by decide +kernel

/-- the same program with budget 3 times out after two instructions: the bound `n - 1` is tight -/
example : ((run tinyProg 3 (VmState.fresh {})).2.map (fun e => e.kind.name)) = some "Timeout" ∧
    (run tinyProg 3 (VmState.fresh {})).1.dispatches = 2 ∧
    (run tinyProg 3 (VmState.fresh {})).1.remaining = 0 := by decide +kernel

end Cao.C03
