import CaoProofs.Lemmas.NoPanicStep
import CaoProofs.Lemmas.UpvalueLemmas
/-!
# Helper lemmas for the cross-property theorems (C08b, C15b)

1. `go_ret`, `go_functionPointer`, `callFunction_enters` (over `go_instrRet`, `go_instrCallFunction`, `go_callScript` of
   `Lemmas/VmPrims.lean`): what the call instructions (`Lemmas/Instr.lean`) do to the machine, exactly;
2. relations that only look at the call stack (`SameFrames`): every one is a `StepFrame`;
3. the call-stack invariant `FInv G P` ("every return address satisfies `G`, every recorded call
   site satisfies `P`"), as such a relation (`FInvR`): kept by every instruction *whatever its outcome*
   (`fpres_step_inv`; for the dispatch loop see `Lemmas/NoPanicExec.lean`).
-/
namespace Cao.Cross
open Cao Cao.Vm Cao.Gc Cao.C05

/-! ## 1. the call instructions -/

theorem go_functionPointer (h ar : UInt32) (ip : Nat) (s : VmState) :
    (Instr.functionPointer h ar ip).go s =
      match alloc1Pure Heap.objCharge (.fn h ar) s with
      | (.error e, s1) => (.error e, s1)
      | (.ok a, s1) =>
        if s1.stack.count + 1 < s1.stack.data.length then
          (.ok { ip := ip + 8 },
            { s1 with stack := { count := s1.stack.count + 1, data := s1.stack.data.set s1.stack.count (.obj a) },
                      guards := s1.guards.erase a })
        else (.error .stackoverflow, s1) := by
  unfold Instr.functionPointer
  simp only [go_bind, go_initSimple]
  rcases alloc1Pure Heap.objCharge (.fn h ar) s with ⟨r, s1⟩
  cases r with
  | error e => rfl
  | ok a =>
    simp only [go_push]
    by_cases hroom : s1.stack.count + 1 < s1.stack.data.length
    · simp only [hroom, if_true, go_dropGuard, go_pure]
    · simp only [hroom, if_false]

/-- **`FunctionPointer h ar` creates a function object that carries its two operands and pushes
    it**; nothing else on the value stack and nothing of the call stack changes -/
theorem functionPointer_ok {h ar : UInt32} {ip : Nat} {s s' : VmState} {ctl : Ctl} (hf : FreshNext s.heap)
    (hgo : (Instr.functionPointer h ar ip).go s = (.ok ctl, s')) :
    ctl = { ip := ip + 8 } ∧ s.stack.count + 1 < s.stack.data.length ∧ ∃ a,
      s'.stack = { count := s.stack.count + 1, data := s.stack.data.set s.stack.count (.obj a) } ∧
      s'.heap.get a = some (.fn h ar) ∧ s'.frames = s.frames ∧ s'.frameCap = s.frameCap ∧
      s'.openUpvalues = s.openUpvalues ∧ FreshNext s'.heap := by
  rw [go_functionPointer] at hgo
  unfold alloc1Pure at hgo
  have hrel := Upv.allocPure_rel Heap.objCharge s
  have hfr : FreshNext (allocPure Heap.objCharge s).2.heap :=
    (allocPure_effect Heap.objCharge s).elim (fun e => by rw [e.heap]; exact hf) fun e => by
      rw [e.heap]; exact gc_fresh s hf
  have hcap := (allocPure_effect Heap.objCharge s).elim (·.frameCap) (·.frameCap)
  generalize allocPure Heap.objCharge s = q at hgo hrel hfr hcap
  rcases q with ⟨r, s0⟩
  cases r with
  | error e => cases hgo
  | ok u =>
    dsimp only at hgo hrel hfr hcap
    by_cases hroom : (withObject (.fn h ar) s0).stack.count + 1 < (withObject (.fn h ar) s0).stack.data.length
    · rw [if_pos hroom] at hgo
      simp only [Prod.mk.injEq, Except.ok.injEq] at hgo
      obtain ⟨rfl, rfl⟩ := hgo
      have hst : (withObject (.fn h ar) s0).stack = s.stack := hrel.stack_eq
      refine ⟨rfl, by rw [hst] at hroom; exact hroom, s0.heap.next, ?_, ?_, hrel.frames_eq, hcap, hrel.open_eq, ?_⟩
      · show ({ count := _, data := _ } : VStack Val) = _
        rw [hst]
      · exact get_withObject_new _ s0 hfr
      · exact C05.withObject_fresh _ s0 hfr
    · rw [if_neg hroom] at hgo
      cases hgo

theorem functionPointer_keep (h ar : UInt32) (ip : Nat) : Pres Keep (Instr.functionPointer h ar ip) := by
  unfold Instr.functionPointer
  pres_auto

/-- **`CallFunction` on a script function object**: exactly what it does — the object is popped,
    the caller's frame gets the return address `src + 1`, a new frame for the `ar` topmost values
    is pushed, and control continues at the label of the object's handle -/
theorem callFunction_enters (p : Prog) (re : Reenter) (src : Nat)
    (hop : p.bytecode.getD src 0 = Compiler.op.callFunction) {hd h ar : UInt32} {pos a : Nat} (s : VmState)
    (hpos : s.stack.count ≠ 0) (htop : s.stack.data.getD (s.stack.count - 1) .nil = .obj a)
    (hget : s.heap.get a = some (.fn h ar))
    (hl : p.labels.find? (fun l => l.1 == h) = some (hd, pos))
    (hfr : s.frames ≠ []) (hargs : ar.toNat ≤ s.stack.count - 1) (hroom : s.frames.length < s.frameCap) :
    (step p re src).go s = (.ok { ip := pos },
      { s with stack := { count := s.stack.count - 1, data := s.stack.data.set (s.stack.count - 1) .nil },
               frames := s.frames.dropLast ++ [{ (s.frames.getLast?.getD ⟨0, 0, 0, none⟩) with dst := src + 1 }] ++
                 [{ src := src, dst := src + 1, stackOffset := s.stack.count - 1 - ar.toNat, closure := none }] }) := by
  have hpop : s.stack.pop = ({ count := s.stack.count - 1, data := s.stack.data.set (s.stack.count - 1) .nil }, .obj a) := by
    unfold VStack.pop
    rw [if_neg hpos, ← htop]
    rfl
  rw [step_callFunction p re src hop, go_instrCallFunction_fn (congrArg Prod.snd hpop) hget hfr
    (by rw [hpop]; exact hargs) hroom hl, hpop]

/-- the height `clear_until i` leaves: it only truncates -/
theorem clearUntil_height (i c : Nat) : (if i < c then i else c) = min i c := by
  rw [Nat.min_def]; split <;> split <;> omega

/-- `Return` as a function of the state (`clear_until` only truncates: the stack is cut at
    `min stackOffset height`) -/
theorem go_ret (s : VmState) :
    Upv.Instr.ret.go s =
      match s.frames.getLast? with
      | none => (.error .badReturn, s)
      | some fr =>
        let s1 := Upv.closeState fr.stackOffset { s with frames := s.frames.dropLast }
        let c := min fr.stackOffset s.stack.count
        let s2 : VmState := { s1 with stack := { s1.stack with count := c } }
        match s.frames.dropLast.getLast? with
        | none => (.error .badReturn, s2)
        | some caller =>
          if c + 1 < s.stack.data.length then
            (.ok { ip := caller.dst },
              { s2 with stack := { count := c + 1, data := s.stack.data.set c s.stack.last } })
          else (.error .stackoverflow, s2) := by
  rw [go_instrRet]
  cases s.frames.getLast? with
  | none => rfl
  | some fr =>
    simp only [VStack.clearUntil, clearUntil_height]
    cases s.frames.dropLast.getLast? with
    | none => rfl
    | some caller =>
      simp only [go_bind, go_push]
      by_cases hroom : min fr.stackOffset s.stack.count + 1 < s.stack.data.length
      · simp only [hroom, if_true]; rfl
      · simp only [hroom, if_false]; rfl

/-! ## 2. relations that only look at the call stack -/

/-- a preorder on states that relates any two states with the same call stack (everything except
    `CallFunction`, `Return` and the callback of a host function respects such a relation) -/
class SameFrames (R : VmState → VmState → Prop) : Prop extends StateOrder R where
  of_frames : ∀ {s s' : VmState}, s'.frames = s.frames → R s s'

section frameprims
variable {R : VmState → VmState → Prop} [SameFrames R]

instance : StepFrame R := StepFrame.mono (R₀ := Steady) fun h => SameFrames.of_frames h.frames

theorem fpres_keyOf (v : Val) : Pres R (keyOf v) := pres_of_prim _

end frameprims

/-! ## 3. the call-stack invariant with call sites -/

def FInv (G P : Nat → Prop) (fs : List Frame) : Prop := ∀ f ∈ fs, G f.dst ∧ P f.src

/-- "the invariant is kept" as a relation between states -/
def FInvR (G P : Nat → Prop) (s s' : VmState) : Prop := FInv G P s.frames → FInv G P s'.frames

instance (G P : Nat → Prop) : SameFrames (FInvR G P) where
  refl _ h := h
  trans h1 h2 h := h2 (h1 h)
  of_frames he h := he ▸ h

theorem FInv.good {G P : Nat → Prop} {fs : List Frame} (h : FInv G P fs) : Good G fs :=
  fun f hf => (h f hf).1

theorem FInv.nil (G P : Nat → Prop) : FInv G P [] := fun _ h => nomatch h

theorem FInv.append {G P : Nat → Prop} {a b : List Frame} (ha : FInv G P a) (hb : FInv G P b) :
    FInv G P (a ++ b) := fun f hf => by
  rcases List.mem_append.1 hf with h | h
  · exact ha f h
  · exact hb f h

theorem FInv.dropLast {G P : Nat → Prop} {fs : List Frame} (h : FInv G P fs) : FInv G P fs.dropLast :=
  fun f hf => h f (List.dropLast_subset _ hf)

section finv
variable {G P : Nat → Prop}

/-- `push_call_frame` keeps the invariant: the new frame records the address of the call
    instruction and returns behind it; the caller's frame keeps its call site -/
theorem fpres_callScript_inv (p : Prog) (src ip : Nat) (l : UInt32) (ar : Nat) (c : Option Nat)
    (hip : G ip) (hsrc : P src) : Pres (FInvR G P) (step.callScript p src ip l ar c) := by
  refine Pres.intro fun s hinv => ?_
  refine callScript_cases p src ip l ar c s (fun _ => hinv) (fun _ _ _ => hinv) fun fr r hfr _ =>
    FInv.append (FInv.append hinv.dropLast fun f hf => ?_) fun f hf => ?_
  · rw [List.mem_singleton.1 hf]
    exact ⟨hip, (hinv fr (List.mem_of_getLast? hfr)).2⟩
  · rw [List.mem_singleton.1 hf]
    exact ⟨hip, hsrc⟩

/-- **every instruction keeps the call-stack invariant, whatever its outcome** — provided the
    re-entry callback does, the instruction is dispatched at a `G` address, and the address of a
    `CallFunction` instruction satisfies `P` -/
theorem fpres_step_inv (p : Prog) (hc : Cfi p G) (re : Reenter) (hre : ∀ f, Pres (FInvR G P) (re f))
    (src : Nat) (hsrc : G src) (hP : p.bytecode.getD src 0 = Compiler.op.callFunction → P src) :
    Pres (FInvR G P) (step p re src) :=
  pres_step_of p re hre src
    (fun h h' ar c => fpres_callScript_inv p src (src + 1) h' ar c
      (hc.seq src 1 hsrc (by rw [h]; rfl) (by rw [h]; decide)) (hP h))
    (fun _ _ hinv => hinv.dropLast)

end finv

end Cao.Cross
