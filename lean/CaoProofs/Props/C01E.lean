import CaoProofs.Props.C01F1
import CaoProofs.Props.C01F2
import CaoProofs.Props.C01R
import CaoProofs.Props.C01C
import CaoProofs.Lemmas.SimCalls
/-!
# C01, the end: the induction on the fuel, the fragments F0 to F5 and their theorems

`allSim` closes the simulation of statements (`C01S.lean`) by induction on the fuel, with `Repeat`
(`C01R.lean`), `Return` and static calls (`C01C.lean`) as its cases; `exec_simS` is the case of a program without
callable functions.

Each fragment is a decidable predicate on modules (`InF0` … `InF5`); its theorem `compile_correct_F*` puts
together the code that `compile` emitted for `main` (`Lemmas/Sim*.lean`), the simulation of its cards and
`run_agree` (`main_agree`; F0, F1: `vm_run_of_reach`), and `sem_run_benign_F*`, `sem_run_fuel_mono*` are the two
facts of `C01Fuel.lean` for `Sem.run` on the fragment. F3 is F4 without `Repeat` (`inF4_of_inF3`), so its
theorems are those of F4. `compile_correct_Full` is the statement for all programs, of which these are parts;
its doc comment lists what the fragments cover and what is missing.
-/
namespace Cao.C01
open Cao Cao.Vm Cao.Sim Cao.Compiler

/-! ## the induction on the fuel -/

section allsim
variable {P : Prog} {F : List (UInt32 × Nat)} {J : Compiler.JumpTable} {N : String → Prop} {ft : Feat} {C W : Nat}
variable (hFinj : FInj F) (hNinj : HInj N)
include hFinj hNinj

theorem allSim (fns : Array Sem.FnDef)
    (htab : ∀ g fd, ft.lookup g = some fd → FnEntry P F J N ft W fns g fd) :
    ∀ (f g : Nat), g ≤ f → AllSim P F J N ft C W fns g := by
  intro f
  induction f with
  | zero =>
    intro g hg cx _
    obtain rfl : g = 0 := by omega
    exact ⟨stmtSimU_zero, callSimS_zero cx⟩
  | succ f ih =>
    intro g hg
    rcases Nat.lt_or_ge g (f + 1) with hlt | hge
    · exact ih g (by omega)
    · obtain rfl : g = f + 1 := by omega
      intro cx hcx
      have hout := hcx.1
      have hcall : ∀ g, g ≤ f → CallSimS P F J N cx ft C W g := fun g hg => (ih g hg cx hcx).2
      have hok : ∀ g, g ≤ f → StmtSimU P F J N cx ft C W g := fun g hg => (ih g hg cx hcx).1
      exact ⟨stmtSimU_succ hout hFinj hNinj f hok hcall (simU_repeat hout f (fun g hg => hok g (by omega)) hcall)
          (simU_ret hout f hcall), call_simS fns htab f ih cx hcx⟩

theorem exec_simS (fns : Array Sem.FnDef) (hfns : ft.fns = []) (f : Nat) : AllSim P F J N ft C W fns f :=
  allSim hFinj hNinj fns (fun g fd h => by simp [Feat.lookup, hfns] at h) f f (Nat.le_refl _)

/-- F2 in its own terms: the statement cards of `isStmtL` with their code `SCodeL` and `sdepthL` slots are
    simulated, and they complete (`StepS`) -/
theorem exec_simL {cx : Sem.Ctx} {fns : Array Sem.FnDef} (hcx : CxH fns cx) (f : Nat) (c : Card) (S : List Slot) (env : Sem.Env)
    (hs : isStmtL (ctxOf S) c = true) (henv : LookRel env S) (σ σ' : Sem.St) (env' : Sem.Env) (pc pc' : Nat)
    (hex : Sem.exec cx f env σ c = (σ', env', .ok ())) (hcode : SCodeL P.bytecode F (ctxOf S) c pc pc')
    (hsz : pc' ≤ P.bytecode.size) (hN : ∀ n ∈ snames c, N n) (hlr : SRel S σ) :
    env = env' ∧ StepS P F N C W S σ σ' pc pc' (sdepthL c) (loopFree c) := by
  obtain ⟨he, hend⟩ := (exec_simS (J := default) (ft := {}) (C := C) (W := W) hFinj hNinj fns rfl f cx hcx).1 1 c S env pc pc' _
    ((code_of_L default {} (ctxOf S)).1 c hs 1 pc pc' _ hcode (Nat.le_refl _)) henv σ σ' env' (.ok ()) hex trivial hsz hN hlr
  exact ⟨he rfl, hend.toStep⟩

end allsim

/-- When the bytes from 0 to `mainEnd` are the code of the cards of `main`, followed by the `Pop`s of its locals
    and `Exit`, and the reference semantics executes the cards with the result `ok`, `Vm.run` on a fresh VM
    succeeds with every sufficient budget, with the same host log and the same globals. -/
theorem main_agree {p : Program} {J : Compiler.JumpTable} {N : String → Prop} {ft : Feat} {C W : Nat} {cfg : Config}
    (hFinj : FInj p.varIds) (hinj : HInj N) (hf : C + 1 ≤ cfg.callStackSize) (hs : (C + 1) * W < cfg.stackSize)
    (hm : 0 < C → Heap.objCharge ≤ cfg.memLimit) {cx : Sem.Ctx} (hout : cx.outer = []) {fuel : Nat}
    (hsim : ∀ g, g ≤ fuel → StmtSimU (Prog.ofProgram p) p.varIds J N cx ft C W g ∧ CallSimS (Prog.ofProgram p) p.varIds J N cx ft C W g)
    {cards : List Card} {L' : LCtx} {mainEnd D : Nat} (hb : Block p.bytecode p.varIds J ft 1 [] cards L' 0 mainEnd D) (hD : D ≤ W)
    {σ' : Sem.St} {env' : Sem.Env} (hex : Sem.execList cx fuel [[]] {} cards = (σ', env', .ok ())) (hcalls : σ'.calls ≤ C)
    (hN : ∀ n ∈ snamess cards, N n) (hpops : ∀ j, j < L'.length → p.bytecode.getD (mainEnd + j) 0 = op.pop)
    (hexit : p.bytecode.getD (mainEnd + L'.length) 0 = op.exit) (hend : mainEnd + L'.length < p.bytecode.size) :
    ∃ n, (loopFrees cards = true → n + 2 ≤ p.bytecode.size + 1) ∧ ∀ maxInstr, n + 2 ≤ maxInstr →
      (Vm.run (Prog.ofProgram p) maxInstr (VmState.fresh cfg)).2.isNone = true ∧
      (Vm.run (Prog.ofProgram p) maxInstr (VmState.fresh cfg)).1.hostLog = (render (σ', env', .ok ())).log ∧
      ∀ g, N g → vmGlobal p (Vm.run (Prog.ofProgram p) maxInstr (VmState.fresh cfg)).1 g =
        semGlobal (render (σ', env', .ok ())) g := by
  obtain ⟨new, hcl, hσ, _, _, hvm⟩ := block_simU (P := Prog.ofProgram p) hout (hsim fuel (Nat.le_refl _)).1
    (fun g hg => (hsim g (Nat.le_of_lt hg)).2) 1 cards [] [[]] _ L' 0 mainEnd D rfl hb lookRel_empty {} σ' env' (.ok ()) hex trivial
    (Nat.le_trans (Nat.le_add_right _ _) (Nat.le_of_lt hend)) hN srel_empty
  have hk : ([] ++ new).length = L'.length := by
    have := congrArg List.length (hcl rfl).1; simpa [ctxOf] using this
  exact run_agree (cfg := cfg) hFinj hinj hf hs hm env' hσ.toSemFrame hcalls hD hvm (fun j hj => hpops j (by omega))
    (by rw [hk]; exact hexit) (by rw [hk]; exact hend)

/-- The core of the compile-correctness theorems of F2 and F4, fragments without calls (`C = 0`) and without
    `Return`: when the code of `main` is a block for which `D` stack slots suffice, followed by the `Pop`s of its
    locals and `Exit`, and the reference outcome is `ok`, there is a sufficient budget `n + 2`, at most the number of
    bytes plus one when `main` has no loop. -/
theorem compile_correct_coreB {m std : Module} {fuel : Nat} {cfg : Config} {p : Program} {i : Nat} {nf : String × Func}
    (hi : m.functions.findIdx? (fun p => p.1 == "main") = some i) (hf : m.functions[i]? = some nf)
    (hfrag : isStmtsB nf.2.cards = true) (hinj : HInj (· ∈ snamess nf.2.cards)) (hFinj : FInj p.varIds)
    {J : Compiler.JumpTable} {ft : Feat} (hfns : ft.fns = []) {L' : LCtx} {mainEnd D : Nat}
    (hb : Block p.bytecode p.varIds J ft 1 [] nf.2.cards L' 0 mainEnd D)
    (hpops : ∀ j, j < L'.length → p.bytecode.getD (mainEnd + j) 0 = op.pop)
    (hexit : p.bytecode.getD (mainEnd + L'.length) 0 = op.exit) (hend : mainEnd + L'.length < p.bytecode.size)
    (hstack : D < cfg.stackSize) (hcalls : 0 < cfg.callStackSize) (hsem : (Sem.run m std fuel).result = "ok") :
    ∃ n, (loopFrees nf.2.cards = true → n + 2 ≤ p.bytecode.size + 1) ∧
      ∀ maxInstr, n + 2 ≤ maxInstr →
        Agree p (snamess nf.2.cards) (Vm.run (Prog.ofProgram p) maxInstr (VmState.fresh cfg)) (Sem.run m std fuel) := by
  obtain ⟨cx, σ', env', hcx, hex, hrun, hnc⟩ := sem_main_ok (std := std) hi hf hfrag hsem
  rw [hrun] at hsem ⊢
  have hall := exec_simS (P := Prog.ofProgram p) (J := J) (ft := ft) (C := 0) (W := D) hFinj hinj (semFns m std) hfns
  obtain ⟨n, hn, hall⟩ := main_agree (cfg := cfg) hFinj hinj (C := 0) (by omega) (by omega) (fun h => absurd h (Nat.lt_irrefl 0))
    hcx.1 (fun g _ => hall g cx hcx) hb (Nat.le_refl _) hex (by omega) (fun n hn => hn) hpops hexit hend
  refine ⟨n, hn, fun maxInstr hmax => ?_⟩
  obtain ⟨h1, h2, h3⟩ := hall maxInstr hmax
  exact ⟨⟨h1, hsem⟩, h2, h3⟩

/-! ## fragments F0 and F1 -/

/-- The core of `compile_correct_F0`, `compile_correct_F1_loopFree` and `compile_correct_F1`: when the
    reference outcome is `ok`, there is a number `n` of VM dispatches (fewer than the program has bytes
    when `main` has no loop) such that every run with a budget of at least `n + 2` instructions succeeds
    with the same log and the same globals. -/
theorem compile_correct_core (m std : Module) (limit fuel : Nat) (cfg : Config) (p : Program) (f : Func)
    (hmain : mainFn m = some f) (hargs : f.arguments = []) (hfrag : isStmts f.cards = true)
    (hinj : HInj (· ∈ snamess f.cards))
    (hc : compile m std limit = .ok p)
    (hB : p.bytecode.size < 4294967296) (hV : p.varIds.length < 4294967296)
    (hstack : sdepths f.cards < cfg.stackSize) (hcalls : 0 < cfg.callStackSize)
    (hsem : (Sem.run m std fuel).result = "ok") :
    ∃ n, (loopFrees f.cards = true → n + 2 ≤ p.bytecode.size + 1) ∧
      ∀ maxInstr, n + 2 ≤ maxInstr →
        Agree p (snamess f.cards) (Vm.run (Prog.ofProgram p) maxInstr (VmState.fresh cfg)) (Sem.run m std fuel) := by
  obtain ⟨i, nf, hi, hf, rfl⟩ := mainFn_some hmain
  obtain ⟨mainEnd, hcode, hexit, hend, hFinj⟩ := compile_main hc hi hf hargs hfrag hB hV
  obtain ⟨cx, σ', env', hcx, hex, hrun, _⟩ := sem_main_ok (std := std) hi hf (isStmt_B.2 _ hfrag) hsem
  have hout := hcx.1
  rw [hrun] at hsem ⊢
  obtain ⟨_, hσ, n, hn, hsim⟩ := stmts_sim (P := Prog.ofProgram p) (F := p.varIds) (N := (· ∈ snamess nf.2.cards))
    (exec_sim hout hFinj hinj fuel) nf.2.cards hfrag [[]] noEnv_base {} σ' env' 0 mainEnd hex hcode (Nat.le_of_lt hend)
    (fun n hn => hn)
  refine ⟨n, fun hl => by have := hn hl; omega, fun maxInstr hmax => ?_⟩
  obtain ⟨vsK, hr, hstK, hsameK, hgK⟩ := hsim (startState cfg maxInstr) cfg.stackSize
    (stackIs_new _) hstack (grel_empty _ _)
  rw [vm_run_of_reach hcalls hr hexit hend hmax]
  refine ⟨⟨rfl, hsem⟩, ?_, fun g hg => globals_agree
    (vs := { tick vsK with frames := (tick vsK).frames.take 0, guards := (VmState.fresh cfg).guards }) hgK hFinj hinj hg⟩
  show vsK.hostLog = σ'.log
  rw [hsameK, hσ]; rfl

/-- the cards of `main` (none when there is no `main`) -/
def mainCards (m : Module) : List Card :=
  match mainFn m with
  | some f => f.cards
  | none => []

/-- statements of fragment F0: assignments of operator expressions to globals (and comments) -/
def isF0Stmts : List Card → Bool
  | [] => true
  | .setGlobalVar n e :: cs => !n.isEmpty && isExpr e && isF0Stmts cs
  | .comment _ :: cs => isF0Stmts cs
  | _ => false

/-- **Fragment F1**: `main` has no parameters and consists of statement cards built from
    `SetGlobalVar`, `IfTrue`, `IfFalse`, `IfElse`, `While`, `CompositeCard`, `Comment` over
    expressions built from `ScalarInt`, `ScalarFloat`, `ScalarNil`, `Not`, the eleven two-operand
    operator cards and `ReadVar` of a simple (global) name. The other functions of the program
    (and the standard library) are arbitrary. -/
def InF1 (m : Module) : Bool :=
  match mainFn m with
  | some f => f.arguments.isEmpty && isStmts f.cards
  | none => false

/-- **Fragment F0**: straight-line `main`: a sequence of `SetGlobalVar` of operator expressions -/
def InF0 (m : Module) : Bool :=
  match mainFn m with
  | some f => f.arguments.isEmpty && isF0Stmts f.cards
  | none => false

/-- the assigned global names have pairwise distinct 32-bit handles (checkable) -/
def handlesDistinct (names : List String) : Bool :=
  names.all fun a => names.all fun b => hName a != hName b || a == b

theorem hinj_of_handlesDistinct {names : List String} (h : handlesDistinct names = true) :
    HInj (· ∈ names) := by
  intro a b ha hb hab
  unfold handlesDistinct at h
  rw [List.all_eq_true] at h
  have := h a ha
  rw [List.all_eq_true] at this
  have := this b hb
  simp only [Bool.or_eq_true, bne_iff_ne, ne_eq, beq_iff_eq] at this
  rcases this with h1 | h1
  · exact absurd hab h1
  · exact h1

theorem isF0Stmts_isStmts : ∀ (cs : List Card), isF0Stmts cs = true → isStmts cs = true ∧ loopFrees cs = true
  | [] => fun _ => ⟨rfl, rfl⟩
  | .setGlobalVar n e :: cs => fun h => by
    simp only [isF0Stmts, Bool.and_eq_true] at h
    obtain ⟨h1, h2⟩ := isF0Stmts_isStmts cs h.2
    simp only [isStmts, isStmt, loopFrees, loopFree, Bool.and_eq_true]
    exact ⟨⟨⟨h.1.1, h.1.2⟩, h1⟩, ⟨noCall_expr h.1.2, h2⟩⟩
  | .comment _ :: cs => fun h => by
    simp only [isF0Stmts] at h
    obtain ⟨h1, h2⟩ := isF0Stmts_isStmts cs h
    simp only [isStmts, isStmt, loopFrees, loopFree, Bool.and_eq_true]
    exact ⟨⟨trivial, h1⟩, ⟨trivial, h2⟩⟩
  | .bin _ _ _ :: _ | .un _ _ :: _ | .tri _ _ _ _ :: _ | .scalarNil :: _ | .createTable :: _ | .abort :: _
  | .scalarInt _ :: _ | .scalarFloat _ :: _ | .stringLiteral _ :: _ | .function _ :: _ | .nativeFunction _ :: _
  | .readVar _ :: _ | .setVar _ _ :: _ | .callNative _ _ :: _ | .call _ _ :: _ | .repeat _ _ _ :: _
  | .forEach _ _ _ _ _ :: _ | .composite _ _ :: _ | .dynamicCall _ _ :: _ | .array _ :: _
  | .closure _ _ :: _ => fun h => by simp [isF0Stmts] at h

/-- the fragments F0 to F4 are conditions on the cards of a `main` without parameters -/
theorem main_of_frag {P : List Card → Bool} {m : Module}
    (h : (match mainFn m with
      | some f => f.arguments.isEmpty && P f.cards
      | none => false) = true) :
    ∃ f, mainFn m = some f ∧ f.arguments = [] ∧ P f.cards = true ∧ mainCards m = f.cards := by
  unfold mainCards
  rcases hm : mainFn m with _ | f
  · rw [hm] at h; cases h
  · rw [hm] at h
    simp only [Bool.and_eq_true, List.isEmpty_iff] at h
    exact ⟨f, rfl, h.1, h.2, rfl⟩

theorem inF1_main {m : Module} (h : InF1 m = true) :
    ∃ f, mainFn m = some f ∧ f.arguments = [] ∧ isStmts f.cards = true ∧ mainCards m = f.cards :=
  main_of_frag (P := isStmts) h

/-- **C01 for fragment F1 (with loops).** If the reference semantics says `ok`, then for every
    sufficiently large instruction budget the compiled program runs to completion on a fresh VM
    with the same host log and the same final globals. -/
theorem compile_correct_F1 (m std : Module) (limit fuel : Nat) (cfg : Config) (p : Program)
    (hfrag : InF1 m = true) (hnames : handlesDistinct (snamess (mainCards m)) = true)
    (hc : compile m std limit = .ok p)
    (hB : p.bytecode.size < 4294967296) (hV : p.varIds.length < 4294967296)
    (hstack : sdepths (mainCards m) < cfg.stackSize) (hcalls : 0 < cfg.callStackSize)
    (hsem : (Sem.run m std fuel).result = "ok") :
    ∃ budget, ∀ maxInstr, budget ≤ maxInstr →
      Agree p (snamess (mainCards m)) (Vm.run (Prog.ofProgram p) maxInstr (VmState.fresh cfg))
        (Sem.run m std fuel) := by
  obtain ⟨f, hmain, hargs, hst, hcards⟩ := inF1_main hfrag
  rw [hcards] at hnames hstack ⊢
  obtain ⟨n, _, hall⟩ := compile_correct_core m std limit fuel cfg p f hmain hargs hst
    (hinj_of_handlesDistinct hnames) hc hB hV hstack hcalls hsem
  exact ⟨n + 2, hall⟩

/-- **C01 for the loop-free part of F1 (`If*` but no `While`).** The budget is explicit: more
    instructions than the program has bytes. -/
theorem compile_correct_F1_loopFree (m std : Module) (limit fuel maxInstr : Nat) (cfg : Config) (p : Program)
    (hfrag : InF1 m = true) (hlf : loopFrees (mainCards m) = true)
    (hnames : handlesDistinct (snamess (mainCards m)) = true)
    (hc : compile m std limit = .ok p)
    (hB : p.bytecode.size < 4294967296) (hV : p.varIds.length < 4294967296)
    (hbudget : p.bytecode.size < maxInstr)
    (hstack : sdepths (mainCards m) < cfg.stackSize) (hcalls : 0 < cfg.callStackSize)
    (hsem : (Sem.run m std fuel).result = "ok") :
    Agree p (snamess (mainCards m)) (Vm.run (Prog.ofProgram p) maxInstr (VmState.fresh cfg))
      (Sem.run m std fuel) := by
  obtain ⟨f, hmain, hargs, hst, hcards⟩ := inF1_main hfrag
  rw [hcards] at hnames hstack hlf ⊢
  obtain ⟨n, hn, hall⟩ := compile_correct_core m std limit fuel cfg p f hmain hargs hst
    (hinj_of_handlesDistinct hnames) hc hB hV hstack hcalls hsem
  exact hall maxInstr (by have := hn hlf; omega)

theorem inF0_inF1 {m : Module} (h : InF0 m = true) : InF1 m = true ∧ loopFrees (mainCards m) = true := by
  unfold InF0 at h
  unfold InF1 mainCards
  rcases hm : mainFn m with _ | f
  · rw [hm] at h; cases h
  · rw [hm] at h
    simp only [Bool.and_eq_true] at h ⊢
    obtain ⟨h1, h2⟩ := isF0Stmts_isStmts f.cards h.2
    exact ⟨⟨h.1, h1⟩, h2⟩

/-- **C01 for fragment F0** (straight-line expressions over globals). -/
theorem compile_correct_F0 (m std : Module) (limit fuel maxInstr : Nat) (cfg : Config) (p : Program)
    (hfrag : InF0 m = true) (hnames : handlesDistinct (snamess (mainCards m)) = true)
    (hc : compile m std limit = .ok p)
    (hB : p.bytecode.size < 4294967296) (hV : p.varIds.length < 4294967296)
    (hbudget : p.bytecode.size < maxInstr)
    (hstack : sdepths (mainCards m) < cfg.stackSize) (hcalls : 0 < cfg.callStackSize)
    (hsem : (Sem.run m std fuel).result = "ok") :
    Agree p (snamess (mainCards m)) (Vm.run (Prog.ofProgram p) maxInstr (VmState.fresh cfg))
      (Sem.run m std fuel) :=
  compile_correct_F1_loopFree m std limit fuel maxInstr cfg p (inF0_inF1 hfrag).1 (inF0_inF1 hfrag).2 hnames hc hB hV
    hbudget hstack hcalls hsem

/-! ## the reference semantics on F1: no dependence on the fuel, no error -/

/-- **Fuel independence on F1**: if a run of the reference semantics does not run out of fuel, every
    run with more fuel has exactly the same outcome. -/
theorem sem_run_fuel_mono (m std : Module) (hfrag : InF1 m = true) (f f' : Nat) (hle : f ≤ f')
    (h : (Sem.run m std f).result ≠ "unspecified:out of fuel") : Sem.run m std f' = Sem.run m std f := by
  obtain ⟨fn, hmain, _, hst, _⟩ := inF1_main hfrag
  exact sem_run_fuel_monoB std hmain (isStmt_B.2 _ hst) f f' hle h

/-- On F1 the reference semantics never yields an error, a `Return` or an `Abort`: the outcome is
    `ok`, or the oracle abstains (`unspecified`: a global read before it was written, out of fuel). -/
theorem sem_run_benign_F1 (m std : Module) (hfrag : InF1 m = true) (fuel : Nat) :
    ∃ x, Sem.run m std fuel = render x ∧ benign x.2.2 := by
  obtain ⟨fn, hmain, _, hst, _⟩ := inF1_main hfrag
  exact sem_run_benignB std hmain (isStmt_B.2 _ hst) fuel

/-! ## fragment F2 -/

/-- The core of the two compile-correctness theorems of F2: the cards of `main` are a block for which
    `tdepths 1 [] f.cards` slots suffice (`block_of_tops`). -/
theorem compile_correct_coreL (m std : Module) (limit fuel : Nat) (cfg : Config) (p : Program) (f : Func)
    (hmain : mainFn m = some f) (hargs : f.arguments = []) (hfrag : isTops 1 [] f.cards = true)
    (hinj : HInj (· ∈ snamess f.cards))
    (hc : compile m std limit = .ok p)
    (hB : p.bytecode.size < 4294967296) (hV : p.varIds.length < 4294967296)
    (hstack : tdepths 1 [] f.cards < cfg.stackSize) (hcalls : 0 < cfg.callStackSize)
    (hsem : (Sem.run m std fuel).result = "ok") :
    ∃ n, (loopFrees f.cards = true → n + 2 ≤ p.bytecode.size + 1) ∧
      ∀ maxInstr, n + 2 ≤ maxInstr →
        Agree p (snamess f.cards) (Vm.run (Prog.ofProgram p) maxInstr (VmState.fresh cfg)) (Sem.run m std fuel) := by
  obtain ⟨i, nf, hi, hf, rfl⟩ := mainFn_some hmain
  obtain ⟨mainEnd, hcode, hpops, hexit, hend, hFinj⟩ := compile_mainL hc hi hf hargs hfrag hB hV
  exact compile_correct_coreB hi hf (isTops_B 1 nf.2.cards [] hfrag) hinj hFinj (ft := {}) rfl
    (block_of_tops default {} 1 nf.2.cards [] 0 mainEnd _ hfrag hcode (Nat.le_refl _)) hpops hexit hend hstack hcalls hsem

/-- **Fragment F2** = F1 plus locals of `main`: `SetVar n e` (simple name) declares the local `n`
    when it occurs directly in the card list of `main` and `n` is not yet a local, and assigns it
    otherwise; inside `If*` / `While` bodies and composites only declared locals may be assigned;
    `ReadVar n` reads the local `n` if it is declared and the global otherwise. -/
def InF2 (m : Module) : Bool :=
  match mainFn m with
  | some f => f.arguments.isEmpty && isTops 1 [] f.cards
  | none => false

theorem inF2_main {m : Module} (h : InF2 m = true) :
    ∃ f, mainFn m = some f ∧ f.arguments = [] ∧ isTops 1 [] f.cards = true ∧ mainCards m = f.cards :=
  main_of_frag (P := isTops 1 []) h

/-- **C01 for fragment F2 (locals of `main`, with loops).** -/
theorem compile_correct_F2 (m std : Module) (limit fuel : Nat) (cfg : Config) (p : Program)
    (hfrag : InF2 m = true) (hnames : handlesDistinct (snamess (mainCards m)) = true)
    (hc : compile m std limit = .ok p)
    (hB : p.bytecode.size < 4294967296) (hV : p.varIds.length < 4294967296)
    (hstack : tdepths 1 [] (mainCards m) < cfg.stackSize) (hcalls : 0 < cfg.callStackSize)
    (hsem : (Sem.run m std fuel).result = "ok") :
    ∃ budget, ∀ maxInstr, budget ≤ maxInstr →
      Agree p (snamess (mainCards m)) (Vm.run (Prog.ofProgram p) maxInstr (VmState.fresh cfg))
        (Sem.run m std fuel) := by
  obtain ⟨f, hmain, hargs, hst, hcards⟩ := inF2_main hfrag
  rw [hcards] at hnames hstack ⊢
  obtain ⟨n, _, hall⟩ := compile_correct_coreL m std limit fuel cfg p f hmain hargs hst
    (hinj_of_handlesDistinct hnames) hc hB hV hstack hcalls hsem
  exact ⟨n + 2, hall⟩

/-- **C01 for the loop-free part of F2**, with the explicit budget "more instructions than bytes". -/
theorem compile_correct_F2_loopFree (m std : Module) (limit fuel maxInstr : Nat) (cfg : Config) (p : Program)
    (hfrag : InF2 m = true) (hlf : loopFrees (mainCards m) = true)
    (hnames : handlesDistinct (snamess (mainCards m)) = true)
    (hc : compile m std limit = .ok p)
    (hB : p.bytecode.size < 4294967296) (hV : p.varIds.length < 4294967296)
    (hbudget : p.bytecode.size < maxInstr)
    (hstack : tdepths 1 [] (mainCards m) < cfg.stackSize) (hcalls : 0 < cfg.callStackSize)
    (hsem : (Sem.run m std fuel).result = "ok") :
    Agree p (snamess (mainCards m)) (Vm.run (Prog.ofProgram p) maxInstr (VmState.fresh cfg))
      (Sem.run m std fuel) := by
  obtain ⟨f, hmain, hargs, hst, hcards⟩ := inF2_main hfrag
  rw [hcards] at hnames hstack hlf ⊢
  obtain ⟨n, hn, hall⟩ := compile_correct_coreL m std limit fuel cfg p f hmain hargs hst
    (hinj_of_handlesDistinct hnames) hc hB hV hstack hcalls hsem
  exact hall maxInstr (by have := hn hlf; omega)

/-- on F2 the reference semantics never yields an error, a `Return` or an `Abort` -/
theorem sem_run_benign_F2 (m std : Module) (hfrag : InF2 m = true) (fuel : Nat) :
    ∃ x, Sem.run m std fuel = render x ∧ benign x.2.2 := by
  obtain ⟨fn, hmain, _, hst, _⟩ := inF2_main hfrag
  exact sem_run_benignB std hmain (isTops_B 1 fn.cards [] hst) fuel

/-- **Fuel independence on F2**. -/
theorem sem_run_fuel_mono_F2 (m std : Module) (hfrag : InF2 m = true) (f f' : Nat) (hle : f ≤ f')
    (h : (Sem.run m std f).result ≠ "unspecified:out of fuel") : Sem.run m std f' = Sem.run m std f := by
  obtain ⟨fn, hmain, _, hst, _⟩ := inF2_main hfrag
  exact sem_run_fuel_monoB std hmain (isTops_B 1 fn.cards [] hst) f f' hle h

/-! ## fragments F3 and F4 -/

/-- **Fragment F3** = F2 plus scoped locals: the body of a `While` (a composite card) is a block of
    its own: `SetVar` of a name that is not yet a local, directly in the block, declares a local that
    lives for one iteration (the compiler pops it before jumping back; the reference semantics runs
    the body in a fresh scope). `If*` branches still may not declare. -/
def InF3 (m : Module) : Bool :=
  match mainFn m with
  | some f => f.arguments.isEmpty && isBlock {} 1 [] f.cards
  | none => false

def F4 : Feat := { rep := true }

/-- **Fragment F4** = F3 plus `Repeat i n body` with `n` an expression of the fragment, `body` a
    composite card whose cards form a block (like the body of a `While`), and an optional loop
    variable (a simple name). The body may assign the loop variable. -/
def InF4 (m : Module) : Bool :=
  match mainFn m with
  | some f => f.arguments.isEmpty && isBlock F4 1 [] f.cards
  | none => false

theorem inF4_main {m : Module} (h : InF4 m = true) :
    ∃ f, mainFn m = some f ∧ f.arguments = [] ∧ isBlock F4 1 [] f.cards = true ∧ mainCards m = f.cards :=
  main_of_frag (P := isBlock F4 1 []) h

/-- **C01 for fragment F4 (scoped locals, `While`, `Repeat`).** If the reference semantics finishes
    `main` with `ok`, the compiled program finishes without an error with any instruction budget
    from `budget` on, with the same log and the same values of the globals assigned by `main`. -/
theorem compile_correct_F4 (m std : Module) (limit fuel : Nat) (cfg : Config) (p : Program)
    (hfrag : InF4 m = true) (hnames : handlesDistinct (snamess (mainCards m)) = true)
    (hc : compile m std limit = .ok p)
    (hB : p.bytecode.size < 4294967296) (hV : p.varIds.length < 4294967296)
    (hstack : bdepthS (mainCards m) < cfg.stackSize) (hcalls : 0 < cfg.callStackSize)
    (hsem : (Sem.run m std fuel).result = "ok") :
    ∃ budget, ∀ maxInstr, budget ≤ maxInstr →
      Agree p (snamess (mainCards m)) (Vm.run (Prog.ofProgram p) maxInstr (VmState.fresh cfg))
        (Sem.run m std fuel) := by
  obtain ⟨f, hmain, hargs, hst, hcards⟩ := inF4_main hfrag
  rw [hcards] at hnames hstack ⊢
  obtain ⟨i, nf, hi, hf, rfl⟩ := mainFn_some hmain
  obtain ⟨J, mainEnd, hcode, hpops, hexit, hend, hFinj⟩ := compile_mainS (ft := F4) rfl hc hi hf hargs hst hB hV
  obtain ⟨n, _, hall⟩ := compile_correct_coreB hi hf (isBlock_B (ft := F4) rfl rfl 1 nf.2.cards [] hst)
    (hinj_of_handlesDistinct hnames) hFinj (ft := F4) rfl (code_of_S.2.2 1 [] nf.2.cards hst 0 mainEnd _ hcode (Nat.le_refl _))
    hpops hexit hend hstack hcalls hsem
  exact ⟨n + 2, hall⟩

/-- on F4 the reference semantics never yields an error, a `Return` or an `Abort` -/
theorem sem_run_benign_F4 (m std : Module) (hfrag : InF4 m = true) (fuel : Nat) :
    ∃ x, Sem.run m std fuel = render x ∧ benign x.2.2 := by
  obtain ⟨fn, hmain, _, hst, _⟩ := inF4_main hfrag
  exact sem_run_benignB std hmain (isBlock_B (ft := F4) rfl rfl 1 fn.cards [] hst) fuel

/-- **Fuel independence on F4**. -/
theorem sem_run_fuel_mono_F4 (m std : Module) (hfrag : InF4 m = true) (f f' : Nat) (hle : f ≤ f')
    (h : (Sem.run m std f).result ≠ "unspecified:out of fuel") : Sem.run m std f' = Sem.run m std f := by
  obtain ⟨fn, hmain, _, hst, _⟩ := inF4_main hfrag
  exact sem_run_fuel_monoB std hmain (isBlock_B (ft := F4) rfl rfl 1 fn.cards [] hst) f f' hle h

/-! ### F3 is part of F4 -/

theorem isVal_congr {ft ft' : Feat} (h : ft'.fns = ft.fns) (e : Card) : isVal ft' e = isVal ft e := by
  unfold isVal
  cases e <;> simp only [isCall, Feat.lookup, h]

theorem isStmtS_mono_all {ft ft' : Feat} (hft : ft.rep = true → ft'.rep = true)
    (hret : ft.ret = true → ft'.ret = true) (hfns : ft'.fns = ft.fns) :
    (∀ d L c, isStmtS ft d L c = true → isStmtS ft' d L c = true) ∧
    (∀ d L cs, isStmtsS ft d L cs = true → isStmtsS ft' d L cs = true) ∧
    (∀ d L cs, isBlock ft d L cs = true → isBlock ft' d L cs = true) := by
  apply isStmtS.mutual_induct (motive_1 := fun d L c => isStmtS ft d L c = true → isStmtS ft' d L c = true)
    (motive_2 := fun d L cs => isStmtsS ft d L cs = true → isStmtsS ft' d L cs = true)
    (motive_3 := fun d L cs => isBlock ft d L cs = true → isBlock ft' d L cs = true)
  case case1 | case2 =>
    intro d L n e h
    simpa only [isStmtS, isVal_congr hfns] using h
  case case3 =>
    intro d L e h
    simp only [isStmtS, Bool.and_eq_true, isVal_congr hfns] at h ⊢
    exact ⟨hret h.1, h.2⟩
  case case4 | case5 =>
    intro d L c b ih h
    simp only [isStmtS, Bool.and_eq_true] at h ⊢
    exact ⟨h.1, ih h.2⟩
  case case6 =>
    intro d L c ty cs ih h
    simp only [isStmtS, Bool.and_eq_true] at h ⊢
    exact ⟨h.1, ih h.2⟩
  case case7 =>
    intro d L i n ty cs ih h
    simp only [isStmtS, Bool.and_eq_true] at h ⊢
    exact ⟨⟨⟨hft h.1.1.1, h.1.1.2⟩, h.1.2⟩, ih h.2⟩
  case case8 =>
    intro d L c t e iht ihe h
    simp only [isStmtS, Bool.and_eq_true] at h ⊢
    exact ⟨⟨h.1.1, iht h.1.2⟩, ihe h.2⟩
  case case9 =>
    intro d L ty cs ih h
    simp only [isStmtS] at h ⊢
    exact ih h
  case case10 => exact fun _ _ _ _ => rfl
  case case11 =>
    intro t d L h1 h2 h3 h4 h5 h6 h7 h8 h9 h10 hs
    rw [isStmtS.eq_11 ft d L t h1 h2 h3 h4 h5 h6 h7 h8 h9 h10] at hs; cases hs
  case case12 | case14 => exact fun _ _ _ => rfl
  case case13 =>
    intro d L c cs ihc ihs h
    simp only [isStmtsS, Bool.and_eq_true] at h ⊢
    exact ⟨ihc h.1, ihs h.2⟩
  case case15 =>
    intro d L c cs n e hdecl ih h
    simp only [isBlock, hdecl, Bool.and_eq_true, isVal_congr hfns] at h ⊢
    exact ⟨h.1, ih h.2⟩
  case case16 =>
    intro d L c cs hdecl ihc ihs h
    simp only [isBlock, hdecl, Bool.and_eq_true] at h ⊢
    exact ⟨ihc h.1, ihs h.2⟩

theorem isStmtS_mono {ft ft' : Feat} (hft : ft.rep = true → ft'.rep = true)
    (hret : ft.ret = true → ft'.ret = true) (hfns : ft'.fns = ft.fns) (d : Int) (L : LCtx) :
    ∀ (c : Card), isStmtS ft d L c = true → isStmtS ft' d L c = true :=
  (isStmtS_mono_all hft hret hfns).1 d L

theorem isStmtsS_mono {ft ft' : Feat} (hft : ft.rep = true → ft'.rep = true)
    (hret : ft.ret = true → ft'.ret = true) (hfns : ft'.fns = ft.fns) (d : Int) (L : LCtx) :
    ∀ (cs : List Card), isStmtsS ft d L cs = true → isStmtsS ft' d L cs = true :=
  (isStmtS_mono_all hft hret hfns).2.1 d L

theorem inF4_of_inF3 {m : Module} (h : InF3 m = true) : InF4 m = true := by
  unfold InF3 at h
  unfold InF4
  rcases hm : mainFn m with _ | f
  · rw [hm] at h; cases h
  · rw [hm] at h
    simp only [Bool.and_eq_true] at h ⊢
    exact ⟨h.1, (isStmtS_mono_all (ft := {}) (ft' := F4) (fun _ => rfl) (fun hh => by cases hh) rfl).2.2 1 [] f.cards h.2⟩

/-- **C01 for fragment F3 (scoped locals, loops).** -/
theorem compile_correct_F3 (m std : Module) (limit fuel : Nat) (cfg : Config) (p : Program)
    (hfrag : InF3 m = true) (hnames : handlesDistinct (snamess (mainCards m)) = true)
    (hc : compile m std limit = .ok p)
    (hB : p.bytecode.size < 4294967296) (hV : p.varIds.length < 4294967296)
    (hstack : bdepthS (mainCards m) < cfg.stackSize) (hcalls : 0 < cfg.callStackSize)
    (hsem : (Sem.run m std fuel).result = "ok") :
    ∃ budget, ∀ maxInstr, budget ≤ maxInstr →
      Agree p (snamess (mainCards m)) (Vm.run (Prog.ofProgram p) maxInstr (VmState.fresh cfg))
        (Sem.run m std fuel) :=
  compile_correct_F4 m std limit fuel cfg p (inF4_of_inF3 hfrag) hnames hc hB hV hstack hcalls hsem

/-- on F3 the reference semantics never yields an error, a `Return` or an `Abort` -/
theorem sem_run_benign_F3 (m std : Module) (hfrag : InF3 m = true) (fuel : Nat) :
    ∃ x, Sem.run m std fuel = render x ∧ benign x.2.2 :=
  sem_run_benign_F4 m std (inF4_of_inF3 hfrag) fuel

/-- **Fuel independence on F3**. -/
theorem sem_run_fuel_mono_F3 (m std : Module) (hfrag : InF3 m = true) (f f' : Nat) (hle : f ≤ f')
    (h : (Sem.run m std f).result ≠ "unspecified:out of fuel") : Sem.run m std f' = Sem.run m std f :=
  sem_run_fuel_mono_F4 m std (inF4_of_inF3 hfrag) f f' hle h

/-! ## fragment F5 -/

/-- the features of F5 for the module `m`: `Repeat`, `Return`, and calls of the functions of the root
    module other than `main` -/
def ft5 (m : Module) : Feat :=
  { rep := true, ret := true, fns := m.functions.filter (fun p => p.1 != "main") }

/-- a function that may be called: its cards form a block in the scope of its parameters, at most 255 -/
def fnOk (ft : Feat) (fd : Func) : Bool :=
  isBlock ft 1 (argCtx fd) fd.cards && decide (fd.arguments.length ≤ 255)

/-- **Fragment F5** = F4 plus static calls (as the value of `SetVar`, `SetGlobalVar`, `Return`) of the
    functions of the root module other than `main`, with as many arguments (expressions) as the callee
    has parameters, and `Return` anywhere in the functions (also in `main`, where the reference
    semantics does not yield `ok`) -/
def InF5 (m : Module) : Bool :=
  match mainFn m with
  | some f => f.arguments.isEmpty && isBlock (ft5 m) 1 [] f.cards && (ft5 m).fns.all (fun p => fnOk (ft5 m) p.2)
  | none => false

/-- the globals assigned by `main` and by the functions that may be called -/
def allNames (m : Module) : List String :=
  snamess (mainCards m) ++ (ft5 m).fns.flatMap (fun p => snamess p.2.cards)

/-- the value-stack slots a frame of the program needs at most -/
def frameNeed (m : Module) : Nat :=
  ((ft5 m).fns.map (fun p => p.2.arguments.length + bdepthS p.2.cards + 1)).foldl max (bdepthS (mainCards m))

/-- the number of calls of script functions the reference execution makes -/
def semCalls (m std : Module) (fuel : Nat) : Nat :=
  match m.functions.findIdx? (fun p => p.1 == "main") with
  | some mi => (Sem.execList (semCtx m std mi) fuel [[]] {} (mainCards m)).1.calls
  | none => 0

theorem foldl_max_ge (l : List Nat) (a : Nat) : a ≤ l.foldl max a ∧ ∀ x ∈ l, x ≤ l.foldl max a := by
  induction l generalizing a with
  | nil => exact ⟨Nat.le_refl _, fun x hx => by cases hx⟩
  | cons y l ih =>
    simp only [List.foldl_cons]
    obtain ⟨h1, h2⟩ := ih (max a y)
    refine ⟨by omega, fun x hx => ?_⟩
    rcases List.mem_cons.1 hx with rfl | hx
    · omega
    · exact h2 x hx

theorem inF5_main {m : Module} (h : InF5 m = true) :
    ∃ mi nf, m.functions.findIdx? (fun p => p.1 == "main") = some mi ∧ m.functions[mi]? = some nf ∧
      nf.2.arguments = [] ∧ isBlock (ft5 m) 1 [] nf.2.cards = true ∧ mainCards m = nf.2.cards ∧
      ∀ q ∈ (ft5 m).fns, isBlock (ft5 m) 1 (argCtx q.2) q.2.cards = true ∧ q.2.arguments.length ≤ 255 := by
  unfold InF5 at h
  rcases hm : mainFn m with _ | f
  · rw [hm] at h; cases h
  · rw [hm] at h
    simp only [Bool.and_eq_true, List.isEmpty_iff, List.all_eq_true] at h
    obtain ⟨mi, nf, hi, hf, rfl⟩ := mainFn_some hm
    refine ⟨mi, nf, hi, hf, h.1.1, h.1.2, by unfold mainCards; rw [hm], fun q hq => ?_⟩
    have := h.2 q hq
    simp only [fnOk, Bool.and_eq_true, decide_eq_true_eq] at this
    exact this

theorem ft5_mem {m : Module} : ∀ g fd, (ft5 m).lookup g = some fd →
    ∃ j : Nat, m.functions[j]? = some (g, fd) ∧ (g, fd) ∈ (ft5 m).fns := by
  intro g fd hl
  have hq := Feat.mem_of_lookup hl
  obtain ⟨j, hj, hjq⟩ := List.getElem_of_mem (List.mem_filter.1 hq).1
  exact ⟨j, by rw [List.getElem?_eq_getElem hj, hjq], hq⟩

theorem semTable_F5 {m std : Module} (hfrag : InF5 m = true) (hpw : (m.functions.map (·.1)).Pairwise (· ≠ ·)) :
    SemTable (ft5 m) (semFns m std) := by
  obtain ⟨mi, nf, hi, hf, hargs, hst, hcards, hfn⟩ := inF5_main hfrag
  intro g fd hl
  obtain ⟨j, hj, hq⟩ := ft5_mem g fd hl
  obtain ⟨d, h1, h2, h3, h4⟩ := semFns_root (std := std) hpw hj
  exact ⟨⟨j, d, h4, h1, h2, h3⟩, isBlock_R (hfn _ hq).1⟩

theorem semMain_benign {m std : Module} (hfrag : InF5 m = true) (hpw : (m.functions.map (·.1)).Pairwise (· ≠ ·))
    {mi : Nat} {nf : String × Func} (hf : m.functions[mi]? = some nf)
    (hst : isBlock (ft5 m) 1 [] nf.2.cards = true) (fuel : Nat) :
    benignR (Sem.execList (semCtx m std mi) fuel [[]] {} nf.2.cards).2.2 :=
  execList_benignR (semTable_F5 hfrag hpw) (semCtx_ok (List.getElem?_eq_some_iff.1 hf).1) (isBlock_R hst) fuel _ _

/-- **C01 for fragment F5 (static calls, recursion, `Return` anywhere).** If the reference semantics
    finishes `main` with `ok`, the compiled program finishes without an error with any instruction
    budget from `budget` on, with the same log and the same values of the globals assigned by `main`
    and the functions it may call. `semCalls` is the number of calls the reference execution makes:
    the call stack must hold one frame per call, the value stack one frame (`frameNeed` slots) per
    call, and the heap one function object. -/
theorem compile_correct_F5 (m std : Module) (limit fuel : Nat) (cfg : Config) (p : Program)
    (hfrag : InF5 m = true) (hnames : handlesDistinct (allNames m) = true)
    (hlab : LabelsFunctional (fnHandles m std limit) (rawLabels m std limit))
    (hc : compile m std limit = .ok p)
    (hB : p.bytecode.size < 4294967296) (hV : p.varIds.length < 4294967296)
    (hcalls : semCalls m std fuel + 1 ≤ cfg.callStackSize)
    (hstack : (semCalls m std fuel + 1) * frameNeed m < cfg.stackSize)
    (hmem : 0 < semCalls m std fuel → Heap.objCharge ≤ cfg.memLimit)
    (hsem : (Sem.run m std fuel).result = "ok") :
    ∃ budget, ∀ maxInstr, budget ≤ maxInstr →
      Agree p (allNames m) (Vm.run (Prog.ofProgram p) maxInstr (VmState.fresh cfg)) (Sem.run m std fuel) := by
  obtain ⟨mi, nf, hi, hf, hargs, hst, hcards, hfn⟩ := inF5_main hfrag
  have hinj := hinj_of_handlesDistinct hnames
  obtain ⟨J, ⟨mainEnd, hcode, hpops, hexit, hend⟩, hFinj, hpw, hfcode⟩ :=
    compile_allS (ft := ft5 m) hc hi hf hargs hst rfl (fun q hq => (hfn q hq).1) hlab hB hV
  have hrun := sem_run_ctx (std := std) hi hf fuel
  have hmilt : mi < m.functions.length := (List.getElem?_eq_some_iff.1 hf).1
  have hcx : CxH (semFns m std) (semCtx m std mi) := semCtx_ok hmilt
  -- the functions that may be called, in the reference semantics
  have hmemfn := ft5_mem (m := m)
  have hsemtab : SemTable (ft5 m) (semFns m std) := semTable_F5 hfrag hpw
  rw [hrun] at hsem ⊢
  have hok := render_ok (semMain_benign hfrag hpw hf hst fuel) hsem
  have hC : semCalls m std fuel = (Sem.execList (semCtx m std mi) fuel [[]] {} nf.2.cards).1.calls := by
    unfold semCalls; rw [hi, hcards]
  rcases hex : Sem.execList (semCtx m std mi) fuel [[]] {} nf.2.cards with ⟨σ', env', r⟩
  rw [hex] at hok hC hsem
  simp only at hok hC
  subst hok
  -- the table of the functions
  have htab : ∀ g fd, (ft5 m).lookup g = some fd →
      FnEntry (Prog.ofProgram p) p.varIds J (· ∈ allNames m) (ft5 m) (frameNeed m) (semFns m std) g fd := by
    intro g fd hl
    obtain ⟨j, hj, hq⟩ := hmemfn g fd hl
    obtain ⟨hd, pos, f, e1, e2, hlook, hlabel, m', c1, c2, c3, c4, c5⟩ := hfcode g fd hl
    have hctx : irCtx f = argCtx fd := by unfold irCtx argCtx; rw [e1]
    rw [hctx, e2] at c1 c2 c3 c4 c5
    refine ⟨(hsemtab g fd hl).1, fun n hn => ?_, by have := (hfn _ hq).2; simp only at this; omega,
      hd, pos, m', _, _, hlook, hlabel, code_of_S.2.2 1 _ fd.cards (hfn _ hq).1 pos m' _ c1 (Nat.le_refl _), ?_, c2, c3, c4, c5⟩
    · unfold allNames
      exact List.mem_append_right _ (List.mem_flatMap.2 ⟨(g, fd), hq, hn⟩)
    · unfold frameNeed
      exact (foldl_max_ge _ _).2 _ (List.mem_map.2 ⟨(g, fd), hq, rfl⟩)
  have hall := allSim (P := Prog.ofProgram p) (F := p.varIds) (J := J) (N := (· ∈ allNames m)) (ft := ft5 m)
    (C := semCalls m std fuel) (W := frameNeed m) hFinj hinj (semFns m std) htab fuel
  have hNmain : ∀ n ∈ snamess nf.2.cards, n ∈ allNames m := fun n hn => by
    unfold allNames; rw [hcards]; exact List.mem_append_left _ hn
  have hW : bdepthS nf.2.cards ≤ frameNeed m := by
    unfold frameNeed; rw [hcards]; exact (foldl_max_ge _ _).1
  obtain ⟨n, _, hall⟩ := main_agree (cfg := cfg) hFinj hinj hcalls hstack hmem (cx := semCtx m std mi) rfl
    (fun g hg => hall g hg _ hcx) (code_of_S.2.2 1 [] nf.2.cards hst 0 mainEnd _ hcode (Nat.le_refl _)) hW hex
    (by rw [hC]; exact Nat.le_refl _) hNmain hpops hexit hend
  refine ⟨n + 2, fun maxInstr hmax => ?_⟩
  obtain ⟨h1, h2, h3⟩ := hall maxInstr hmax
  exact ⟨⟨h1, hsem⟩, h2, h3⟩

/-! ## the reference semantics on F5: no error, no dependence on the fuel -/

/-- **No error on F5**: the reference semantics never yields an error or an `Abort` (its outcome is `ok`, a
    `Return` from `main`, out of fuel or another `unspecified`); the names of the functions of the root
    module are distinct, as the compiler demands. -/
theorem sem_run_benign_F5 (m std : Module) (hfrag : InF5 m = true)
    (hpw : (m.functions.map (·.1)).Pairwise (· ≠ ·)) (fuel : Nat) :
    ∃ x, Sem.run m std fuel = render x ∧ benignR x.2.2 := by
  obtain ⟨mi, nf, hi, hf, hargs, hst, hcards, hfn⟩ := inF5_main hfrag
  exact ⟨_, sem_run_ctx (std := std) hi hf fuel, semMain_benign hfrag hpw hf hst fuel⟩

/-- **Fuel independence on F5**: more fuel changes neither an outcome other than out of fuel nor the
    number of calls (the quantity the hypotheses of `compile_correct_F5` bound). -/
theorem sem_run_fuel_mono_F5 (m std : Module) (hfrag : InF5 m = true)
    (hpw : (m.functions.map (·.1)).Pairwise (· ≠ ·)) (f f' : Nat) (hle : f ≤ f')
    (h : (Sem.run m std f).result ≠ "unspecified:out of fuel") :
    Sem.run m std f' = Sem.run m std f ∧ semCalls m std f' = semCalls m std f := by
  obtain ⟨mi, nf, hi, hf, hargs, hst, hcards, hfn⟩ := inF5_main hfrag
  have hmilt : mi < m.functions.length := (List.getElem?_eq_some_iff.1 hf).1
  rw [sem_run_ctx (std := std) hi hf f] at h
  rw [sem_run_ctx (std := std) hi hf f', sem_run_ctx (std := std) hi hf f]
  have := execList_fuel_monoR (semTable_F5 hfrag hpw) (semCtx_ok hmilt) (isBlock_R hst) hle [[]] {} h
  refine ⟨by rw [this], ?_⟩
  unfold semCalls
  rw [hi, hcards]
  simp only
  rw [this]

/-! ## the full statement, and what is proved of it -/

/-- the result string of a VM run, in the vocabulary of `Sem.Outcome.result` -/
def vmResult (e : Option RunErr) : String :=
  match e with
  | none => "ok"
  | some e => "err:" ++ e.kind.name

/-- the reference semantics gives a definite verdict (the oracle does not abstain) -/
def Definite (o : Sem.Outcome) : Prop :=
  (o.result = "ok" ∨ ∃ e : Sem.Err, o.result = "err:" ++ e.name) ∧ o.stmtValue = false

/-- **The full statement of C01**, for a notion `WellScoped` of well-scoped programs: whenever the
reference semantics gives a definite verdict, every run of the compiled program with enough
instruction budget and stack gives the same verdict (success or the same error kind), the same host
log and the same final globals.

What is proved of it, first (`compile_correct_F0`, `compile_correct_F1_loopFree`, `compile_correct_F1`) for
programs whose `main` (without parameters) is made of
* statements: `SetGlobalVar`, `IfTrue`, `IfFalse`, `IfElse`, `While`, `CompositeCard`, `Comment`;
* expressions: `ScalarInt`, `ScalarFloat`, `ScalarNil`, `Not`, `Add Sub Mul Div Less LessOrEq Equals
  NotEquals And Or Xor` (with the numeric coercions of `OVal.arith` / `vlt` / `vle` / `veq` /
  `asBool`, shared by both sides), `ReadVar` of a global;
the other functions of the module and the standard library are arbitrary (they are compiled but
not run). On this fragment no error can occur on either side (`sem_run_benign_F1`), so the verdict
is `ok`; the hypotheses are: the assigned global names have distinct 32-bit handles
(`handlesDistinct`, decidable), the program and its variable table fit 32-bit operands, the
instruction budget exceeds the bytecode size (loop-free programs) or is large enough (`While`),
the value stack has room for the deepest expression, the call stack has one frame.

The larger fragments have theorems of the same shape: locals of `main` declared at function level (F2,
`compile_correct_F2`), locals declared in `While` bodies (F3, `compile_correct_F3`), `Repeat` with an
optional loop variable (F4, `compile_correct_F4`), static calls of the functions of the root module as the
value of `SetVar`, `SetGlobalVar` and `Return`, with recursion, and `Return` anywhere in these functions
(F5, `compile_correct_F5`).

Missing: `StringLiteral` and everything whose value is an object (tables, arrays, function values,
closures), `ForEach`, `Abort`, calls as operands or arguments, dynamic and native calls, functions of
submodules.

`WellScoped` must at least exclude (these are *disagreements* between the reference semantics and
compiler + VM):
* value-producing cards in statement position (`Sem.Outcome.stmtValue`; the compiler leaks a stack
  slot, known finding K1);
* a `SetVar` that introduces a local inside a branch of `IfTrue`/`IfFalse`/`IfElse` that may be skipped,
  followed by another declaration (`findingCondLocal` in `C01Ex.lean`: the reference semantics says `ok`, the VM
  fails with `VarNotFound` because the compiler numbered the skipped local; a branch is not a scope for
  the compiler, the bodies of `While`, `Repeat` and `ForEach` are);
* distinct global names with the same 32-bit handle (they share one VM slot). -/
def compile_correct_Full (WellScoped : Module → Prop) : Prop :=
  ∀ (m std : Module) (limit fuel : Nat) (p : Program),
    WellScoped m → compile m std limit = .ok p → Definite (Sem.run m std fuel) →
    ∃ budget stack calls, ∀ (cfg : Config) (maxInstr : Nat),
      budget ≤ maxInstr → stack ≤ cfg.stackSize → calls ≤ cfg.callStackSize →
      vmResult (Vm.run (Prog.ofProgram p) maxInstr (VmState.fresh cfg)).2 = (Sem.run m std fuel).result ∧
      (Vm.run (Prog.ofProgram p) maxInstr (VmState.fresh cfg)).1.hostLog = (Sem.run m std fuel).log ∧
      ∀ g, vmGlobal p (Vm.run (Prog.ofProgram p) maxInstr (VmState.fresh cfg)).1 g =
        semGlobal (Sem.run m std fuel) g

end Cao.C01
