import CaoProofs.Lemmas.WfUpvalues
/-!
# Jumps of compiled code respect the closure blocks (C04c, stage D)

`JSeg bc L T n0 n1 Bs`: the byte range `[n0, n1)` of `bc` is a concatenation of whole instructions;
`Bs` lists the closure blocks `(a, c)` emitted in it — skip-`Goto` at `a` (its operand is `c`), body
`[a + 5, c)` ending in a `Return` at `c - 1`, `Closure` instruction at `c` whose handle has the label
`a + 5` in the log `L` — every `Closure` instruction of the range is the `c` of a listed block, and every
jump instruction of the range has a target `t` (operand = `t mod 2^32`) in the set `T` that lies in the body
of a listed block iff the jump itself does.

`J k K m`: the Hoare triple that threads `JSeg` through the compiler (`K` = positions in the frozen prefix
`[0, k]` a block may jump back to, as in `Wf.Tr`).  `jLogic`: `J` is a `CodeLogic`, hence holds of the code of
every card.  `compileUnit_jspec`: the whole bytecode of a compiled unit is such a segment from 0, and the labels
of the non-entry functions lie in no body (used by `C04c.compiled_seq_jump`).
-/
namespace Cao.Compiler
open Cao Cao.Bytecode Cao.Compiler.Wf

/-! ## byte level -/

/-- `x` lies in the body `[a + 5, c)` of the closure block `B = (a, c)` -/
def InBody (B : Nat × Nat) (x : Nat) : Prop := B.1 + 5 ≤ x ∧ x < B.2

structure BlkOK (bc : Array UInt8) (L : List (UInt32 × Nat)) (n0 n1 : Nat) (B : Nat × Nat) : Prop where
  ta : Tiled bc n0 B.1
  goto : bc.getD B.1 0 = op.goto
  tgt : rdU32 bc (B.1 + 1) = B.2 % 2 ^ 32
  len : B.1 + 6 ≤ B.2
  tr : Tiled bc n0 (B.2 - 1)
  ret : bc.getD (B.2 - 1) 0 = op.ret
  clo : bc.getD B.2 0 = op.closure
  lab : (UInt32.ofNat (rdU32 bc (B.2 + 1)), B.1 + 5) ∈ L
  hi : B.2 + 9 ≤ n1

structure JSeg (bc : Array UInt8) (L : List (UInt32 × Nat)) (T : Nat → Prop) (n0 n1 : Nat)
    (Bs : List (Nat × Nat)) : Prop where
  tiled : Tiled bc n0 n1
  jmp : ∀ x, Tiled bc n0 x → x < n1 → isJump (bc.getD x 0) = true →
    ∃ t, rdU32 bc (x + 1) = t % 2 ^ 32 ∧ T t ∧ ∀ B ∈ Bs, (InBody B x ↔ InBody B t)
  blk : ∀ B ∈ Bs, BlkOK bc L n0 n1 B
  clos : ∀ x, Tiled bc n0 x → x < n1 → bc.getD x 0 = op.closure → ∃ B ∈ Bs, B.2 = x

theorem BlkOK.lo {bc : Array UInt8} {L : List (UInt32 × Nat)} {n0 n1 : Nat} {B : Nat × Nat}
    (h : BlkOK bc L n0 n1 B) : n0 ≤ B.1 := h.ta.le

theorem BlkOK.mono {bc bc' : Array UInt8} {L L' : List (UInt32 × Nat)} {n0 n1 : Nat} {B : Nat × Nat}
    (h : BlkOK bc L n0 n1 B) (he : ∀ i, n0 ≤ i → i < n1 → bc'.getD i 0 = bc.getD i 0)
    (hL : ∀ l ∈ L, l ∈ L') : BlkOK bc' L' n0 n1 B := by
  have h0 := h.lo
  have h1 := h.len
  have h2 := h.hi
  refine ⟨h.ta.congr fun i a b => he i a (by omega), by rw [he _ (by omega) (by omega)]; exact h.goto, ?_, h.len,
    h.tr.congr fun i a b => he i a (by omega), by rw [he _ (by omega) (by omega)]; exact h.ret,
    by rw [he _ (by omega) (by omega)]; exact h.clo, ?_, h.hi⟩
  · rw [rdU32_congr (bc := bc) fun i a b => he i (by omega) (by omega)]; exact h.tgt
  · rw [rdU32_congr (bc := bc) fun i a b => he i (by omega) (by omega)]; exact hL _ h.lab

theorem BlkOK.widen {bc : Array UInt8} {L : List (UInt32 × Nat)} {n0 n0' n1 n1' : Nat} {B : Nat × Nat}
    (h : BlkOK bc L n0 n1 B) (ht : Tiled bc n0' n0) (h1 : n1 ≤ n1') : BlkOK bc L n0' n1' B :=
  ⟨ht.trans h.ta, h.goto, h.tgt, h.len, ht.trans h.tr, h.ret, h.clo, h.lab, Nat.le_trans h.hi h1⟩

theorem JSeg.nil (bc : Array UInt8) (L : List (UInt32 × Nat)) (T : Nat → Prop) (n : Nat) : JSeg bc L T n n [] :=
  ⟨.nil _, fun x hx hlt => by have := hx.le; omega, fun B hB => (List.not_mem_nil hB).elim,
    fun x hx hlt => by have := hx.le; omega⟩

theorem JSeg.mono {bc bc' : Array UInt8} {L L' : List (UInt32 × Nat)} {T T' : Nat → Prop} {n0 n1 : Nat}
    {Bs : List (Nat × Nat)} (h : JSeg bc L T n0 n1 Bs)
    (he : ∀ i, n0 ≤ i → i < n1 → bc'.getD i 0 = bc.getD i 0) (hL : ∀ l ∈ L, l ∈ L')
    (hT : ∀ t, T t → T' t) : JSeg bc' L' T' n0 n1 Bs := by
  have back : ∀ x, Tiled bc' n0 x → x ≤ n1 → Tiled bc n0 x := fun x hx hle =>
    hx.congr fun i h1 h2 => (he i h1 (by omega)).symm
  refine ⟨h.tiled.congr he, ?_, fun B hB => (h.blk B hB).mono he hL, ?_⟩
  · intro x hx hlt hj
    have hx0 := back x hx (by omega)
    have hxle := hx0.le
    rw [he x hxle hlt] at hj
    obtain ⟨n, hn, hle, _⟩ := hx0.start_lt h.tiled hlt
    have h5 := isJump_span hj
    rw [hn] at h5; cases h5
    obtain ⟨t, h1, h2, h3⟩ := h.jmp x hx0 hlt hj
    refine ⟨t, ?_, hT t h2, h3⟩
    rw [rdU32_congr (bc := bc) fun i a b => he i (by omega) (by omega)]; exact h1
  · intro x hx hlt hc
    have hx0 := back x hx (by omega)
    rw [he x hx0.le hlt] at hc
    exact h.clos x hx0 hlt hc

theorem JSeg.weaken {bc : Array UInt8} {L : List (UInt32 × Nat)} {T T' : Nat → Prop} {n0 n1 : Nat}
    {Bs : List (Nat × Nat)} (h : JSeg bc L T n0 n1 Bs) (hT : ∀ t, T t → T' t) : JSeg bc L T' n0 n1 Bs :=
  h.mono (fun _ _ _ => rfl) (fun _ h => h) hT

/-- sequencing: the targets of the first part avoid the inside of the second part and vice versa -/
theorem JSeg.append {bc : Array UInt8} {L : List (UInt32 × Nat)} {T1 T2 T : Nat → Prop} {n0 n1 n2 : Nat}
    {Bs1 Bs2 : List (Nat × Nat)} (h1 : JSeg bc L T1 n0 n1 Bs1) (h2 : JSeg bc L T2 n1 n2 Bs2)
    (c1 : ∀ t, T1 t → t ≤ n1 ∨ n2 ≤ t) (c2 : ∀ t, T2 t → t ≤ n0 ∨ n1 ≤ t)
    (w1 : ∀ t, T1 t → T t) (w2 : ∀ t, T2 t → T t) : JSeg bc L T n0 n2 (Bs1 ++ Bs2) := by
  have l1 := h1.tiled.le
  have l2 := h2.tiled.le
  refine ⟨h1.tiled.trans h2.tiled, ?_, ?_, ?_⟩
  · intro x hx hlt hj
    rcases Nat.lt_or_ge x n1 with hx1 | hx1
    · obtain ⟨t, e, ht, hr⟩ := h1.jmp x hx hx1 hj
      refine ⟨t, e, w1 t ht, fun B hB => ?_⟩
      rcases List.mem_append.1 hB with hB | hB
      · exact hr B hB
      · have b1 := (h2.blk B hB).lo
        have b2 := (h2.blk B hB).hi
        have := c1 t ht
        unfold InBody
        constructor <;> intro ⟨_, _⟩ <;> omega
    · have hx' := h1.tiled.split hx hx1
      obtain ⟨t, e, ht, hr⟩ := h2.jmp x hx' hlt hj
      refine ⟨t, e, w2 t ht, fun B hB => ?_⟩
      rcases List.mem_append.1 hB with hB | hB
      · have b1 := (h1.blk B hB).lo
        have b2 := (h1.blk B hB).hi
        have := c2 t ht
        unfold InBody
        constructor <;> intro ⟨_, _⟩ <;> omega
      · exact hr B hB
  · intro B hB
    rcases List.mem_append.1 hB with hB | hB
    · exact (h1.blk B hB).widen (.nil _) l2
    · exact (h2.blk B hB).widen h1.tiled (Nat.le_refl _)
  · intro x hx hlt hc
    rcases Nat.lt_or_ge x n1 with hx1 | hx1
    · obtain ⟨B, hB, e⟩ := h1.clos x hx hx1 hc
      exact ⟨B, List.mem_append_left _ hB, e⟩
    · obtain ⟨B, hB, e⟩ := h2.clos x (h1.tiled.split hx hx1) hlt hc
      exact ⟨B, List.mem_append_right _ hB, e⟩

theorem start_single {bc : Array UInt8} {n0 k x : Nat} (hs : Gen.spanOf (bc.getD n0 0) = some k)
    (hx : Tiled bc n0 x) (hlt : x < n0 + k) : x = n0 := by
  cases hx with
  | nil => rfl
  | cons hs' ht' =>
    rw [hs] at hs'; cases hs'
    have := ht'.le; omega

theorem JSeg.plain {bc : Array UInt8} {L : List (UInt32 × Nat)} {T : Nat → Prop} {n0 k : Nat}
    (hs : Gen.spanOf (bc.getD n0 0) = some k) (hj : isJump (bc.getD n0 0) = false)
    (hc : bc.getD n0 0 ≠ op.closure) : JSeg bc L T n0 (n0 + k) [] := by
  refine ⟨.single hs, ?_, fun B hB => (List.not_mem_nil hB).elim, ?_⟩
  · intro x hx hlt hjx
    rw [start_single hs hx hlt, hj] at hjx; cases hjx
  · intro x hx hlt hcx
    rw [start_single hs hx hlt] at hcx; exact absurd hcx hc

theorem JSeg.jump {bc : Array UInt8} {L : List (UInt32 × Nat)} {T : Nat → Prop} {n0 t : Nat}
    (hj : isJump (bc.getD n0 0) = true) (ht : rdU32 bc (n0 + 1) = t % 2 ^ 32) (hT : T t) :
    JSeg bc L T n0 (n0 + 5) [] := by
  have hs := isJump_span hj
  refine ⟨.single hs, ?_, fun B hB => (List.not_mem_nil hB).elim, ?_⟩
  · intro x hx hlt _
    rw [start_single hs hx hlt]
    exact ⟨t, ht, hT, fun B hB => by cases hB⟩
  · intro x hx hlt hcx
    rw [start_single hs hx hlt] at hcx
    rw [hcx] at hj; exact absurd hj (by decide)

/-- a jump instruction in front of a range whose target is not strictly inside the range (`hout`): the shape
of a back-patched jump over a block -/
theorem JSeg.jump_cons {bc : Array UInt8} {L : List (UInt32 × Nat)} {T T2 : Nat → Prop} {n0 n1 t : Nat}
    {Bs : List (Nat × Nat)} (hj : isJump (bc.getD n0 0) = true) (ht : rdU32 bc (n0 + 1) = t % 2 ^ 32)
    (h2 : JSeg bc L T2 (n0 + 5) n1 Bs) (hout : t ≤ n0 + 5 ∨ n1 ≤ t) (c2 : ∀ t, T2 t → t ≤ n0 ∨ n0 + 5 ≤ t)
    (hT : T t) (w2 : ∀ t, T2 t → T t) : JSeg bc L T n0 n1 Bs := by
  have := (JSeg.jump (L := L) (T := fun u => u = t) hj ht rfl).append h2
    (fun u hu => by subst hu; exact hout) c2 (fun u hu => by subst hu; exact hT) w2
  simpa using this

/-- **the closure rule**, byte level: skip-`Goto` at `a`, body `[a + 5, c')` whose targets stay in `[a + 5, c']`,
`ScalarNil; Return`, `Closure` at `c' + 2`, then a tail `[c' + 11, e)` without jumps and `Closure`s (the
`CopyLast; RegisterUpvalue` pairs) -/
theorem JSeg.closure {bc : Array UInt8} {L : List (UInt32 × Nat)} {Tb T : Nat → Prop} {a c' e : Nat}
    {Bs : List (Nat × Nat)} (hg : bc.getD a 0 = op.goto) (htgt : rdU32 bc (a + 1) = (c' + 2) % 2 ^ 32)
    (hb : JSeg bc L Tb (a + 5) c' Bs) (hTb : ∀ t, Tb t → a + 5 ≤ t ∧ t ≤ c')
    (hnil : bc.getD c' 0 = op.scalarNil) (hret : bc.getD (c' + 1) 0 = op.ret)
    (hclo : bc.getD (c' + 2) 0 = op.closure)
    (hlab : (UInt32.ofNat (rdU32 bc (c' + 2 + 1)), a + 5) ∈ L)
    (htail : Tiled bc (c' + 2 + 9) e)
    (hpl : ∀ x, Tiled bc (c' + 2 + 9) x → x < e → isJump (bc.getD x 0) = false ∧ bc.getD x 0 ≠ op.closure)
    (hT : T (c' + 2)) (hw : ∀ t, Tb t → T t) : JSeg bc L T a e ((a, c' + 2) :: Bs) := by
  have sg : Gen.spanOf (bc.getD a 0) = some 5 := by rw [hg]; decide
  have sn : Gen.spanOf (bc.getD c' 0) = some 1 := by rw [hnil]; decide
  have sr : Gen.spanOf (bc.getD (c' + 1) 0) = some 1 := by rw [hret]; decide
  have sc : Gen.spanOf (bc.getD (c' + 2) 0) = some 9 := by rw [hclo]; decide
  have lb := hb.tiled.le
  have lt := htail.le
  have t5 : Tiled bc a (a + 5) := .single sg
  have tc' : Tiled bc a c' := t5.trans hb.tiled
  have tc1 : Tiled bc a (c' + 1) := tc'.trans (.single sn)
  have tc : Tiled bc a (c' + 2) := tc1.trans (.single sr)
  have te : Tiled bc a e := (tc.trans (.single sc)).trans htail
  have bok : BlkOK bc L a e (a, c' + 2) :=
    ⟨.nil _, hg, htgt, by show a + 6 ≤ c' + 2; omega, by show Tiled bc a (c' + 2 - 1); exact tc1,
      by show bc.getD (c' + 2 - 1) 0 = _; exact hret, hclo, hlab, by show c' + 2 + 9 ≤ e; omega⟩
  have locate : ∀ x, Tiled bc a x → x < e →
      x = a ∨ (Tiled bc (a + 5) x ∧ x < c') ∨ x = c' ∨ x = c' + 1 ∨ x = c' + 2 ∨ Tiled bc (c' + 2 + 9) x := by
    intro x hx hxe
    rcases Tiled.locate sg ((hb.tiled.trans (.single sn)).trans (.single sr)) sc htail hx with
      h | ⟨h1, h2⟩ | h | ⟨h, _⟩ | h
    · exact .inl h
    · rcases Nat.lt_or_ge x c' with h | h
      · exact .inr (.inl ⟨h1, h⟩)
      · -- behind the body: `ScalarNil` or `Return`
        rcases hb.tiled.split h1 h with _ | ⟨hs', hx1⟩
        · exact .inr (.inr (.inl rfl))
        · rw [sn] at hs'; cases hs'
          have := hx1.le
          exact .inr (.inr (.inr (.inl (by omega))))
    · exact .inr (.inr (.inr (.inr (.inl h))))
    · exact .inr (.inr (.inr (.inr (.inr h))))
    · have := h.le; omega
  refine ⟨te, ?_, ?_, ?_⟩
  · intro x hx hlt hj
    rcases locate x hx hlt with rfl | ⟨h1, h2⟩ | rfl | rfl | rfl | h
    · refine ⟨c' + 2, htgt, hT, fun B hB => ?_⟩
      rcases List.mem_cons.1 hB with rfl | hB
      · unfold InBody; constructor <;> intro ⟨_, _⟩ <;> simp only at * <;> omega
      · have b1 := (hb.blk B hB).lo
        have b2 := (hb.blk B hB).hi
        unfold InBody; constructor <;> intro ⟨_, _⟩ <;> omega
    · obtain ⟨t, e1, ht, hr⟩ := hb.jmp x h1 h2 hj
      have hx5 := h1.le
      have := hTb t ht
      refine ⟨t, e1, hw t ht, fun B hB => ?_⟩
      rcases List.mem_cons.1 hB with rfl | hB
      · unfold InBody; constructor <;> intro _ <;> simp only <;> omega
      · exact hr B hB
    · rw [hnil] at hj; exact absurd hj (by decide)
    · rw [hret] at hj; exact absurd hj (by decide)
    · rw [hclo] at hj; exact absurd hj (by decide)
    · rw [(hpl x h hlt).1] at hj; cases hj
  · intro B hB
    rcases List.mem_cons.1 hB with rfl | hB
    · exact bok
    · exact (hb.blk B hB).widen t5 (by omega)
  · intro x hx hlt hc
    rcases locate x hx hlt with rfl | ⟨h1, h2⟩ | rfl | rfl | rfl | h
    · rw [hg] at hc; exact absurd hc (by decide)
    · obtain ⟨B, hB, e1⟩ := hb.clos x h1 h2 hc
      exact ⟨B, List.mem_cons_of_mem _ hB, e1⟩
    · rw [hnil] at hc; exact absurd hc (by decide)
    · rw [hret] at hc; exact absurd hc (by decide)
    · exact ⟨_, List.mem_cons_self .., rfl⟩
    · exact absurd hc (hpl x h hlt).2

/-- (`+ 9`: a body is followed by its 9-byte `Closure` instruction) -/
theorem JSeg.outside {bc : Array UInt8} {L : List (UInt32 × Nat)} {T : Nat → Prop} {n0 n1 : Nat}
    {Bs : List (Nat × Nat)} (h : JSeg bc L T n0 n1 Bs) {q : Nat} (hq : q ≤ n0 ∨ n1 ≤ q + 9) :
    ∀ B ∈ Bs, ¬ InBody B q := by
  intro B hB ⟨h1, h2⟩
  have b1 := (h.blk B hB).lo
  have b2 := (h.blk B hB).hi
  have b3 := (h.blk B hB).len
  omega

/-! ## compiler level: the relation between the states before and after a block -/

/-- allowed targets of a block `[a, b)`: known positions of the frozen prefix, or inside the block -/
def Win (K : Nat → Prop) (a b : Nat) : Nat → Prop := fun t => K t ∨ (a ≤ t ∧ t ≤ b)

structure JR (K : Nat → Prop) (s s' : CState) : Prop where
  size_le : s.bytecode.size ≤ s'.bytecode.size
  pref : ∀ i, i < s.bytecode.size → s'.bytecode.getD i 0 = s.bytecode.getD i 0
  labels : ∃ l, s'.labels = s.labels ++ l
  seg : ∃ Bs, JSeg s'.bytecode s'.labels (Win K s.bytecode.size s'.bytecode.size)
    s.bytecode.size s'.bytecode.size Bs

theorem JR.of_eq {K : Nat → Prop} {s s' : CState} (hb : s'.bytecode = s.bytecode)
    (hl : ∃ l, s'.labels = s.labels ++ l) : JR K s s' :=
  ⟨by rw [hb]; exact Nat.le_refl _, fun i _ => by rw [hb], hl, [], by rw [hb]; exact JSeg.nil _ _ _ _⟩

theorem JR.refl (K : Nat → Prop) (s : CState) : JR K s s := JR.of_eq rfl ⟨[], by simp⟩

theorem JR.labels_sub {K : Nat → Prop} {s s' : CState} (h : JR K s s') : ∀ l ∈ s.labels, l ∈ s'.labels :=
  grows_sub h.labels

theorem jseg_trans {K : Nat → Prop} {s s1 s2 : CState} (hK : ∀ t, K t → t ≤ s.bytecode.size)
    (z1 : s.bytecode.size ≤ s1.bytecode.size) (h2 : JR K s1 s2) {Bs1 Bs2 : List (Nat × Nat)}
    (g1 : JSeg s1.bytecode s1.labels (Win K s.bytecode.size s1.bytecode.size) s.bytecode.size s1.bytecode.size Bs1)
    (g2 : JSeg s2.bytecode s2.labels (Win K s1.bytecode.size s2.bytecode.size) s1.bytecode.size s2.bytecode.size Bs2) :
    JSeg s2.bytecode s2.labels (Win K s.bytecode.size s2.bytecode.size) s.bytecode.size s2.bytecode.size
      (Bs1 ++ Bs2) := by
  have z2 := h2.size_le
  refine (g1.mono (fun i _ hi => h2.pref i hi) h2.labels_sub (fun _ h => h)).append g2 ?_ ?_ ?_ ?_
  · rintro t (h | h)
    · have := hK t h; omega
    · omega
  · rintro t (h | h)
    · have := hK t h; omega
    · omega
  · rintro t (h | h)
    · exact .inl h
    · exact .inr (by omega)
  · rintro t (h | h)
    · exact .inl h
    · exact .inr (by omega)

theorem JR.trans {K : Nat → Prop} {s s1 s2 : CState} (hK : ∀ t, K t → t ≤ s.bytecode.size)
    (h1 : JR K s s1) (h2 : JR K s1 s2) : JR K s s2 := by
  obtain ⟨Bs1, g1⟩ := h1.seg
  obtain ⟨Bs2, g2⟩ := h2.seg
  have z1 := h1.size_le
  have z2 := h2.size_le
  exact ⟨by omega, fun i hi => by rw [h2.pref i (by omega), h1.pref i hi],
    grows_trans h1.labels h2.labels, Bs1 ++ Bs2, jseg_trans hK z1 h2 g1 g2⟩

theorem JR.weakenK {K K' : Nat → Prop} {s s' : CState} (h : JR K' s s')
    (hK : ∀ t, K' t → K t ∨ (s.bytecode.size ≤ t ∧ t ≤ s'.bytecode.size)) : JR K s s' := by
  obtain ⟨Bs, g⟩ := h.seg
  refine ⟨h.size_le, h.pref, h.labels, Bs, g.weaken ?_⟩
  rintro t (h | h)
  · exact hK t h
  · exact .inr h

/-! ## the Hoare triple -/

structure J {α : Type} (k : Nat) (K : Nat → Prop) (m : CM α) : Prop where
  run : ∀ s a s', m s = .ok (a, s') → k ≤ s.bytecode.size → (∀ t, K t → t ≤ k) → JR K s s'

abbrev JB {α : Type} (m : CM α) : Prop := ∀ k K, J k K m

variable {k : Nat} {K : Nat → Prop}

theorem j_of_keep {α : Type} {m : CM α} (h : Keep m) : J k K m := by
  constructor
  intro s a s' hr _ _
  have hc := h.run s a s' hr
  simp only [ucore, Prod.mk.injEq] at hc
  exact JR.of_eq hc.1 ⟨[], by rw [hc.2.1]; simp⟩

theorem j_pure {α : Type} {a : α} : J k K (pure a : CM α) := j_of_keep keep_pure
theorem j_get : J k K (get : CM CState) := j_of_keep keep_get
theorem j_throw {α : Type} {k : Nat} {K : Nat → Prop} {e : CErr} : J k K (throw e : CM α) := j_of_keep keep_throw
theorem j_fail {α : Type} {k : Nat} {K : Nat → Prop} {e : CErrKind} : J k K (fail e : CM α) := j_of_keep keep_fail
theorem j_throw_bind {α β : Type} {k : Nat} {K : Nat → Prop} {e : CErr} {f : α → CM β} :
    J k K ((throw e : CM α) >>= f) := j_of_keep keep_throw_bind
theorem j_fail_bind {α β : Type} {k : Nat} {K : Nat → Prop} {e : CErrKind} {f : α → CM β} :
    J k K ((fail e : CM α) >>= f) := j_of_keep keep_fail_bind

theorem j_sat {α : Type} {m : CM α} :
    J k K m ↔ Sat (fun s => k ≤ s.bytecode.size ∧ ∀ t, K t → t ≤ k) (JR K) (fun _ => True) m :=
  ⟨fun h s a s' hr hp => ⟨h.run s a s' hr hp.1 hp.2, trivial⟩, fun h => ⟨fun s a s' hr hk hK => (h s a s' hr ⟨hk, hK⟩).1⟩⟩

theorem j_stable (k : Nat) (K : Nat → Prop) : Sat.Stable (fun s => k ≤ s.bytecode.size ∧ ∀ t, K t → t ≤ k) (JR K) :=
  ⟨fun _ => JR.refl _ _, fun hp h1 h2 => h1.trans (fun t ht => Nat.le_trans (hp.2 t ht) hp.1) h2,
   fun hp h => ⟨Nat.le_trans hp.1 h.size_le, hp.2⟩⟩

theorem j_bind {α β : Type} {m : CM α} {f : α → CM β} (hm : J k K m)
    (hf : ∀ a, J k K (f a)) : J k K (m >>= f) :=
  j_sat.2 ((j_sat.1 hm).bind (j_stable k K) fun a _ => j_sat.1 (hf a))

theorem jsat_get_bind {β : Type} {Q : β → Prop} {f : CState → CM β}
    (h : ∀ st, Sat (fun s => st.bytecode.size ≤ s.bytecode.size ∧ ∀ t, K t ∨ t = st.bytecode.size → t ≤ st.bytecode.size)
      (JR fun t => K t ∨ t = st.bytecode.size) Q (f st)) :
    Sat (fun s => k ≤ s.bytecode.size ∧ ∀ t, K t → t ≤ k) (JR K) Q (get >>= f) := by
  intro s b s' hr hp
  obtain ⟨r, q⟩ := h s s b s' hr ⟨Nat.le_refl _, by
    rintro t (ht | rfl)
    · exact Nat.le_trans (hp.2 t ht) hp.1
    · exact Nat.le_refl _⟩
  refine ⟨r.weakenK ?_, q⟩
  rintro t (ht | rfl)
  · exact .inl ht
  · exact .inr ⟨Nat.le_refl _, r.size_le⟩

theorem j_unit_bind {β : Type} {m : CM Unit} {f : Unit → CM Unit} {g : Unit → CM β}
    (hu : J k K (m >>= f)) (hg : J k K (g ())) : J k K (m >>= fun a => f a >>= g) :=
  bind_assoc m f g ▸ j_bind hu fun _ => hg

theorem J.step {α β : Type} {m : CM α} {f : α → CM β} {s s'' : CState} {b : β}
    (hm : J k K m) (hk : k ≤ s.bytecode.size) (hK : ∀ t, K t → t ≤ k)
    (hr : (m >>= f) s = .ok (b, s'')) : ∃ a s', JR K s s' ∧ f a s' = .ok (b, s'') := by
  obtain ⟨a, s', h1, h2⟩ := bind_ok.1 hr
  exact ⟨a, s', hm.run s a s' h1 hk hK, h2⟩

theorem withSub_j {i : Nat} {m : CM Unit} (hm : J k K m) : J k K (withSub i m) :=
  j_bind (j_of_keep (pushSub_keep i)) fun _ => j_bind hm fun _ => j_of_keep popSub_keep

/-- looking a variable up keeps the bytecode and the label log (it may change the upvalue tables) -/
theorem resolveVar_j {β : Type} (n : String) {f : Variable → CM β} (hf : ∀ v, J k K (f v)) :
    J k K (resolveVar n >>= f) := by
  refine j_bind ⟨fun s v s' hr _ _ => ?_⟩ hf
  obtain ⟨L, U, rfl⟩ := (resolveVar_ok hr).1.rest
  exact JR.of_eq rfl ⟨[], (List.append_nil _).symm⟩

theorem insertLabel_j (h : UInt32) (pos : Nat) : J k K (insertLabel h pos) := by
  constructor
  intro s a s' hr _ _
  rw [insertLabel_ok hr]
  exact JR.of_eq rfl ⟨_, rfl⟩

theorem cardLabel_j : J k K cardLabel := by
  unfold cardLabel
  exact j_bind j_get fun _ => insertLabel_j _ _

/-! ## instruction units -/

theorem instr_jr {K : Nat → Prop} {s s' : CState} {o : UInt8} {bs : List UInt8}
    (hb : s'.bytecode = s.bytecode ++ (o :: bs).toArray) (hl : ∃ l, s'.labels = s.labels ++ l)
    (hsp : Gen.spanOf o = some (bs.length + 1)) (hj : isJump o = false) (hc : o ≠ op.closure) : JR K s s' := by
  have hsz : s'.bytecode.size = s.bytecode.size + (bs.length + 1) := by rw [hb]; simp
  have ho : s'.bytecode.getD s.bytecode.size 0 = o := by rw [hb]; exact getD_append_op _ _ _
  refine ⟨by omega, fun i hi => by rw [hb]; exact getD_append_left hi, hl, [], ?_⟩
  rw [hsz]
  exact JSeg.plain (by rw [ho]; exact hsp) (by rw [ho]; exact hj) (by rw [ho]; exact hc)

theorem rdU32_appended (bc : Array UInt8) (o : UInt8) (x : Nat) :
    rdU32 (bc ++ (o :: le32 (UInt32.ofNat x)).toArray) (bc.size + 1) = x % 2 ^ 32 := by
  have h := rdU32_opBytes (bc ++ (o :: le32 (UInt32.ofNat x)).toArray) bc.size (le32 (UInt32.ofNat x)).length 0
    (by rw [le32_length]; omega)
  rw [Nat.add_zero] at h
  rw [h, opBytes_append, u32L_ofNat]

theorem jump_jr {K : Nat → Prop} {s s' : CState} {o : UInt8} {t : Nat}
    (hb : s'.bytecode = s.bytecode ++ (o :: le32 (UInt32.ofNat t)).toArray)
    (hl : ∃ l, s'.labels = s.labels ++ l) (ho : isJump o = true)
    (hT : K t ∨ (s.bytecode.size ≤ t ∧ t ≤ s.bytecode.size + 5)) : JR K s s' := by
  have hsz : s'.bytecode.size = s.bytecode.size + 5 := by rw [hb]; simp [le32_length]
  have hop : s'.bytecode.getD s.bytecode.size 0 = o := by rw [hb]; exact getD_append_op _ _ _
  refine ⟨by omega, fun i hi => by rw [hb]; exact getD_append_left hi, hl, [], ?_⟩
  rw [hsz]
  refine JSeg.jump (t := t) (by rw [hop]; exact ho) (by rw [hb]; exact rdU32_appended _ _ _) ?_
  rcases hT with h | h
  · exact .inl h
  · exact .inr h

theorem instr_j {o : UInt8} {bs : List UInt8}
    (hsp : Gen.spanOf o = some (bs.length + 1)) (hj : isJump o = false) (hc : o ≠ op.closure) :
    J k K (pushInstr o >>= fun _ => emitBytes bs) := by
  constructor
  intro s a s' hr _ _
  rw [pushInstr_emit_run] at hr
  simp only [Except.ok.injEq, Prod.mk.injEq] at hr
  obtain ⟨_, rfl⟩ := hr
  exact instr_jr rfl ⟨[], by simp [afterInstr]⟩ hsp hj hc

theorem instr0_j {o : UInt8} (hsp : Gen.spanOf o = some 1) (hj : isJump o = false)
    (hc : o ≠ op.closure) : J k K (pushInstr o) :=
  instr_j (bs := []) hsp hj hc

theorem instrU32_j {o : UInt8} {x : Nat} (hsp : Gen.spanOf o = some 5)
    (hj : isJump o = false) (hc : o ≠ op.closure) : J k K (pushInstr o >>= fun _ => emitU32 x) :=
  instr_j (bs := le32 (UInt32.ofNat x)) (by rw [le32_length]; exact hsp) hj hc

theorem instrJump_j {o : UInt8} {t : Nat} (hs : isJump o = true) (ht : K t) :
    J k K (pushInstr o >>= fun _ => emitU32 t) := by
  constructor
  intro s a s' hr _ _
  change (pushInstr o >>= fun _ => emitBytes (le32 (UInt32.ofNat t))) s = _ at hr
  rw [pushInstr_emit_run] at hr
  simp only [Except.ok.injEq, Prod.mk.injEq] at hr
  obtain ⟨_, rfl⟩ := hr
  exact jump_jr rfl ⟨[], by simp [afterInstr]⟩ hs (.inl ht)

theorem readLocalVar_j (i : Nat) : J k K (readLocalVar i) :=
  instrU32_j (by decide) (by decide) (by decide)
theorem writeLocalVar_j (i : Nat) : J k K (writeLocalVar i) :=
  instrU32_j (by decide) (by decide) (by decide)
theorem readUpvalue_j (i : Nat) : J k K (readUpvalue i) :=
  instrU32_j (by decide) (by decide) (by decide)
theorem writeUpvalue_j (i : Nat) : J k K (writeUpvalue i) :=
  instrU32_j (by decide) (by decide) (by decide)

/-- the bytes `scope_end` emits without `pushInstr`: each is a one-byte `Pop` or `CloseUpvalue` instruction -/
theorem raw_j {bytes : List UInt8} (h : ∀ b ∈ bytes, b = op.pop ∨ b = op.closeUpvalue) :
    J k K (emitBytes bytes) :=
  j_sat.2 <| .emitBytes (j_stable k K) fun b hb s u s' hr _ => by
    rw [emitBytes_run] at hr
    obtain ⟨_, rfl⟩ := Prod.mk.inj (Except.ok.inj hr)
    have hb1 : Gen.spanOf b = some 1 ∧ isJump b = false ∧ b ≠ op.closure := by
      rcases h b hb with h | h <;> subst h <;> decide
    exact ⟨instr_jr (o := b) (bs := []) rfl ⟨[], by simp⟩ hb1.1 hb1.2.1 hb1.2.2, trivial⟩

theorem scopeEnd_j : J k K scopeEnd := by
  unfold scopeEnd
  refine j_bind (j_of_keep (keep_modify fun _ => rfl)) fun _ => j_bind j_get fun st => ?_
  dsimp only
  exact j_bind (j_of_keep (keep_modify fun _ => rfl)) fun _ => raw_j (scopeEnd_bytes _)

theorem strInstr_j {o : UInt8} (hsp : Gen.spanOf o = some 5) (hj : isJump o = false)
    (hc : o ≠ op.closure) (str : String) : J k K (pushInstr o >>= fun _ => pushStr str) := by
  constructor
  intro s a s' hr _ _
  obtain rfl := strInstr_ok hr
  exact instr_jr (o := o) (bs := le32 (UInt32.ofNat s.data.size)) (by simp [afterInstr])
    ⟨[], by simp [afterInstr]⟩ (by rw [le32_length]; exact hsp) hj hc

theorem fnpInstr_j (name : String) :
    J k K (pushInstr op.functionPointer >>= fun _ => encodeJump name) := by
  constructor
  intro s a s' hr _ _
  obtain ⟨h, arity, _, rfl⟩ := fnpInstr_ok hr
  exact instr_jr (o := op.functionPointer) (bs := le32 h ++ le32 arity) (by simp [afterInstr])
    ⟨[], by simp [afterInstr]⟩ (by rw [List.length_append, le32_length, le32_length]; decide)
    (by decide) (by decide)

theorem setGlobalTail_j (name : String) : J k K (setGlobalTail name) := by
  constructor
  intro s a s' hr _ _
  obtain ⟨id, s1, h1, rfl⟩ := setGlobalTail_ok hr
  have hc := (globalId_keep name).run _ _ _ h1
  simp only [ucore, Prod.mk.injEq] at hc
  obtain ⟨c1, c2, _, _⟩ := hc
  exact instr_jr (o := op.setGlobalVar) (bs := le32 (UInt32.ofNat id)) (by simp [afterInstr, c1])
    ⟨[], by simp [afterInstr, c2]⟩ (by rw [le32_length]; decide) (by decide) (by decide)

theorem readProps_j : ∀ ps, J k K (readProps ps)
  | [] => j_pure
  | p :: ps => by
    unfold readProps
    split
    · exact j_unit_bind (strInstr_j (by decide) (by decide) (by decide) p) <|
        j_bind (instr0_j (by decide) (by decide) (by decide)) fun _ => readProps_j ps
    · exact readProps_j ps

theorem readVarCard_j (x : String) : J k K (readVarCard x) := by
  unfold readVarCard
  split
  all_goals
    refine resolveVar_j _ fun v => ?_
    dsimp only
    split
    · exact j_bind (readLocalVar_j _) fun _ => readProps_j _
    · exact j_bind (readUpvalue_j _) fun _ => readProps_j _
    · exact j_bind (j_of_keep (globalId_keep _)) fun _ =>
        j_unit_bind (instrU32_j (by decide) (by decide) (by decide)) (readProps_j _)

theorem setVarTarget_j (n : String) : J k K (setVarTarget n) := by
  rw [setVarTarget_eq]
  split
  · refine resolveVar_j _ fun v => ?_
    split
    · exact writeLocalVar_j _
    · exact j_bind (j_of_keep (addLocal_keep n)) fun _ => writeLocalVar_j _
    · exact writeUpvalue_j _
  · exact j_bind (readVarCard_j _) fun _ =>
      j_unit_bind (strInstr_j (by decide) (by decide) (by decide) _) (instr0_j (by decide) (by decide) (by decide))

/-! ## back-patching -/

theorem hole_block_patch {K : Nat → Prop} {s s3 s4 : CState} {o : UInt8} {x : Nat} {u : Unit}
    (hK : ∀ t, K t → t ≤ s.bytecode.size) (ho : isJump o = true) (r3 : JR K (afterJump s o x) s3)
    (hp : patchI32 (s.bytecode.size + 1) s3.bytecode.size s3 = .ok (u, s4)) : JR K s s4 := by
  have z1 := afterJump_size s o x
  have z3 := r3.size_le
  obtain ⟨p1, p2, prd, p3, _, _⟩ := patchI32_spec hp (by omega)
  obtain ⟨Bs, g⟩ := r3.seg
  obtain ⟨l, hl⟩ := r3.labels
  rw [z1] at g
  refine ⟨by omega, fun i hi => ?_, ⟨l, by rw [p3, hl]; rfl⟩, Bs, ?_⟩
  · rw [p2 i (by omega), r3.pref i (by omega), afterJump_pref _ _ _ _ hi]
  · rw [p1]
    refine JSeg.jump_cons (t := s3.bytecode.size) ?_ prd
      (g.mono (fun i h1 h2 => p2 i (by omega)) (fun l hl => by rw [p3]; exact hl) (fun _ h => h))
      (.inr (Nat.le_refl _)) ?_ (.inr ⟨by omega, Nat.le_refl _⟩) ?_
    · rw [p2 _ (by omega), r3.pref _ (by omega), afterJump_op]; exact ho
    · rintro t (h | h)
      · exact .inl (hK t h)
      · exact .inr h.1
    · rintro t (h | h)
      · exact .inl h
      · exact .inr ⟨by omega, h.2⟩

theorem encodeIfThen_j {skip : UInt8} (hs : isJump skip = true) {m : CM Unit}
    (hm : J k K m) : J k K (encodeIfThen skip m) := by
  constructor
  intro s a s' hr hk hK
  obtain ⟨s3, h1, h2⟩ := encodeIfThen_ok hr
  exact hole_block_patch (fun t ht => Nat.le_trans (hK t ht) hk) hs
    (hm.run _ _ _ h1 (by rw [afterJump_size]; omega) hK) h2

/-! ## `IfElse`: two back-patched jumps -/

/-- **the if-else rule**, byte level: a conditional jump over the `then` branch `[n0 + 5, n1)` to the `else`
branch, which starts behind a jump `[n1, n1 + 5)` over it to the end `n2` -/
theorem JSeg.ifElse {bc : Array UInt8} {L : List (UInt32 × Nat)} {K : Nat → Prop} {n0 n1 n2 : Nat}
    {Bt Be : List (Nat × Nat)} (hK : ∀ u, K u → u ≤ n0)
    (hop1 : isJump (bc.getD n0 0) = true) (hrd1 : rdU32 bc (n0 + 1) = (n1 + 5) % 2 ^ 32)
    (gt : JSeg bc L (Win K (n0 + 5) n1) (n0 + 5) n1 Bt)
    (hop2 : isJump (bc.getD n1 0) = true) (hrd2 : rdU32 bc (n1 + 1) = n2 % 2 ^ 32)
    (ge : JSeg bc L (Win K (n1 + 5) n2) (n1 + 5) n2 Be) :
    JSeg bc L (Win K n0 n2) n0 n2 (Bt ++ [] ++ Be) := by
  have z1 := gt.tiled.le
  have z2 := ge.tiled.le
  have A : JSeg bc L (fun u => u = n1 + 5 ∨ Win K (n0 + 5) n1 u) n0 n1 Bt := by
    refine JSeg.jump_cons (t := n1 + 5) hop1 hrd1 gt (.inr (by omega)) ?_ (.inl rfl) (fun u h => .inr h)
    rintro u (h | h)
    · exact .inl (hK u h)
    · exact .inr h.1
  have B := A.append (T := fun u => (u = n1 + 5 ∨ Win K (n0 + 5) n1 u) ∨ u = n2)
    (JSeg.jump (T := fun u => u = n2) hop2 hrd2 rfl) (by
      rintro u (h | h | h)
      · omega
      · have := hK u h; omega
      · omega) (by intro u h; omega) (fun u h => .inl h) (fun u h => .inr h)
  refine B.append ge ?_ ?_ ?_ ?_
  · rintro u ((h | h | h) | h)
    · omega
    · have := hK u h; omega
    · omega
    · omega
  · rintro u (h | h)
    · exact .inl (hK u h)
    · exact .inr h.1
  · rintro u ((h | h | h) | h)
    · exact .inr (by omega)
    · exact .inl h
    · exact .inr (by omega)
    · exact .inr (by omega)
  · rintro u (h | h)
    · exact .inl h
    · exact .inr (by omega)

theorem ifElseCode_j {c t e : CM Unit} (hc : JB c) (ht : JB t) (he : JB e) :
    J k K (ifElseCode c t e) := by
  constructor
  intro s a s' hr hk hK
  obtain ⟨s1, s1', s3, s5, s5', s6, h1, h1', h3, h5, h5', h6, h7⟩ := ifElseCode_ok hr
  have r1 := (withSub_j (hc k K)).run _ _ _ h1 hk hK
  have k1 : k ≤ s1.bytecode.size := Nat.le_trans hk r1.size_le
  have r1' := (j_of_keep (pushSub_keep 1) : J k K _).run _ _ _ h1' k1 hK
  have k1' : k ≤ s1'.bytecode.size := Nat.le_trans k1 r1'.size_le
  have z2 := afterJump_size s1' op.gotoIfFalse 0
  have r3 := (ht k K).run _ _ _ h3 (by omega) hK
  have z3 := r3.size_le
  obtain ⟨⟨e1, e2, _, _⟩, lay⟩ := ifElse_layout h5 h5' h7 (by omega)
  have r6 := (withSub_j (he k K)).run _ _ _ h6 (by omega) hK
  have z6 := r6.size_le
  obtain ⟨q1, q3, _, _, low, hrd1, hop2, hrd2, high⟩ := lay z6 r6.pref
  -- the code of the branches in the final state
  obtain ⟨l3, e3⟩ := r3.labels
  obtain ⟨l6, e6⟩ := r6.labels
  change s3.labels = s1'.labels ++ l3 at e3
  obtain ⟨Bt, gt⟩ := r3.seg
  obtain ⟨Be, ge⟩ := r6.seg
  rw [z2] at gt
  rw [e1] at ge
  have gt' := gt.mono (bc' := s'.bytecode) (L' := s'.labels) (fun i h1 h2 => low i h2 (by omega))
    (fun l hl => by rw [q3, e6, e2]; exact List.mem_append_left _ hl) (fun _ h => h)
  have ge' := ge.mono (bc' := s'.bytecode) (L' := s'.labels) (fun i h1 h2 => high i h1)
    (fun l hl => by rw [q3]; exact hl) (fun _ h => h)
  have rB : JR K s1' s' := by
    refine ⟨by omega, fun i hi => ?_, ⟨l3 ++ l6, by rw [q3, e6, e2, e3, List.append_assoc]⟩, _, by
      rw [q1]
      exact JSeg.ifElse (fun u h => Nat.le_trans (hK u h) k1')
        (by rw [low _ (by omega) (by omega), r3.pref _ (by omega), afterJump_op]; rfl) hrd1 gt'
        (by rw [hop2]; rfl) hrd2 ge'⟩
    rw [low i (by omega) (by omega), r3.pref i (by omega), afterJump_pref _ _ _ _ hi]
  exact r1.trans (fun u h => Nat.le_trans (hK u h) hk) (r1'.trans (fun u h => Nat.le_trans (hK u h) k1) rB)

/-! ## closures -/

theorem closureCode_j {args : List String} {body : CM Unit} (hb : JB body) :
    J k K (closureCode args body) := by
  constructor
  intro s u s' hr hk hK
  obtain ⟨fh, s7, _, h7, lay⟩ := closure_frame hr
  have zc := closureCtx_size s fh
  -- the body, from the empty prefix with no known positions: no jump out of it
  have r37 := (j_bind (j_of_keep scopeBegin_keep) fun _ => j_bind (j_of_keep (addLocals_keep _)) fun _ =>
    j_bind (hb 0 fun _ => False) fun _ => scopeEnd_j).run _ _ _ h7 (Nat.zero_le _) (fun _ h => h.elim)
  have z37 := r37.size_le
  have lay := lay (by omega) fun i hi => r37.pref i (by omega)
  have hsz := lay.size
  have hbytes := lay.pairs
  generalize s7.upvalues.getD s7.functionId [] = ups at hsz hbytes
  have hpairs : Pairs s'.bytecode 256 ups.length (s7.bytecode.size + 2 + 9) :=
    pairs_of_ups _ _ ups _ hbytes fun j _ => by have := j.toNat_lt; omega
  obtain ⟨Bs, g⟩ := r37.seg
  rw [zc] at g
  have hlab : (fh, s.bytecode.size + 5) ∈ s'.labels := by
    rw [lay.labels]; exact r37.labels_sub _ (by rw [closureCtx_labels]; simp)
  have G := JSeg.closure (T := Win K s.bytecode.size s'.bytecode.size) lay.goto lay.tgt
    (g.mono (bc' := s'.bytecode) (L' := s'.labels) (fun i h1 h2 => lay.body i h2 (by omega))
      (fun l h => by rw [lay.labels]; exact h) (fun _ h => h))
    (by
      rintro t (h | h)
      · exact h.elim
      · exact h)
    lay.nil lay.ret lay.clos (by rw [lay.handle]; exact hlab) hpairs.tiled (fun x hx hlt => by
      rcases hpairs.starts hx hlt with h | ⟨h, _⟩
      · rw [h]; exact ⟨by decide, by decide⟩
      · rw [h]; exact ⟨by decide, by decide⟩) (.inr ⟨by omega, by omega⟩) (by
      rintro t (h | h)
      · exact h.elim
      · exact .inr ⟨by omega, by omega⟩)
  obtain ⟨l37, e37⟩ := r37.labels
  refine ⟨by omega, lay.pref, ⟨(fh, s.bytecode.size + 5) :: l37, ?_⟩, _, by rw [hsz] at G ⊢; exact G⟩
  rw [lay.labels, e37, closureCtx_labels]; simp

/-! ## the `CodeLogic` instance and the code of cards -/

theorem nojump_of_unconstrained {o : UInt8} (hc : constrained o = false) : isJump o = false ∧ o ≠ op.closure := by
  simp only [constrained, isClos, Bool.or_eq_false_iff, beq_eq_false_iff_ne] at hc
  exact ⟨hc.1.1.1.1.1.1.1, hc.1.1.1.1.2⟩

theorem isStr_nojump {o : UInt8} (h : isStr o = true) : isJump o = false ∧ o ≠ op.closure := by
  simp only [isStr, Bool.or_eq_true, beq_iff_eq] at h
  rcases h with h | h <;> subst h <;> decide

theorem isEach_nojump {o : UInt8} (h : isEach o = true) : isJump o = false ∧ o ≠ op.closure := by
  simp only [isEach, Bool.or_eq_true, beq_iff_eq] at h
  rcases h with h | h <;> subst h <;> decide

/-- the jump argument as a logic of compiler code: `J` in its `Sat` form (`j_sat`), with a result predicate -/
theorem jLogic : CodeLogic (fun _ => True) fun _ _ k K Q m =>
    Sat (fun s => k ≤ s.bytecode.size ∧ ∀ t, K t → t ≤ k) (JR K) Q m where
  A_path _ _ := trivial
  A_up _ := trivial
  pure := .pure (j_stable _ _)
  bind := .bind (j_stable _ _)
  get_bind := jsat_get_bind
  pushSub i := j_sat.1 (j_of_keep (pushSub_keep i))
  popSub := j_sat.1 (j_of_keep popSub_keep)
  scopeBegin := j_sat.1 (j_of_keep scopeBegin_keep)
  scopeEnd := j_sat.1 scopeEnd_j
  cardLabel := j_sat.1 cardLabel_j
  addLocalUnchecked n _ := (j_sat.1 (j_of_keep (addLocalUnchecked_keep n))).and_val fun _ _ _ => addLocalUnchecked_lt
  addLocal n _ := (j_sat.1 (j_of_keep (addLocal_keep n))).and_val fun _ _ _ => addLocal_lt
  instr h1 h2 _ := j_sat.1 (instr_j h1 (nojump_of_unconstrained h2).1 (nojump_of_unconstrained h2).2)
  readLocalVar _ := j_sat.1 (readLocalVar_j _)
  writeLocalVar _ := j_sat.1 (writeLocalVar_j _)
  jump hj ht := j_sat.1 (instrJump_j hj ht)
  str hs s := j_sat.1 (strInstr_j (isStr_plain hs).1 (isStr_nojump hs).1 (isStr_nojump hs).2 s)
  fnp name := j_sat.1 (fnpInstr_j name)
  each ho _ _ _ _ _ := j_sat.1 (instr_j (by simp only [List.length_append, le32_length]; exact (isEach_plain ho).1)
    (isEach_nojump ho).1 (isEach_nojump ho).2)
  setGlobalTail name := j_sat.1 (setGlobalTail_j name)
  readVarCard x := j_sat.1 (readVarCard_j x)
  setVarTarget x _ := j_sat.1 (setVarTarget_j x)
  encodeIfThen hs hm := j_sat.1 (encodeIfThen_j hs (j_sat.2 (hm _ (Nat.le_refl _))))
  ifElseCode _ hc ht he := j_sat.1 (ifElseCode_j (fun k K => j_sat.2 (hc default k K trivial))
    (fun k K => j_sat.2 (ht default k K trivial)) fun k K => j_sat.2 (he default k K trivial))
  closureCode _ hb := j_sat.1 (closureCode_j fun k K => j_sat.2 (hb default k K trivial))

theorem processCard_j (c : Card) : JB (processCard c) :=
  fun k K => j_sat.2 (jLogic.processCard c default k K trivial)
theorem compileSubexprFrom_j (i : Nat) (cs : List Card) : JB (compileSubexprFrom i cs) :=
  fun k K => j_sat.2 (jLogic.compileSubexprFrom i cs default k K trivial)

/-- for the jump argument the table slot of an `Array` card need not be in range
(`CodeLogic.processArrayItems` assumes `tv < 255`) -/
theorem processArrayItems_j (tv : Nat) : ∀ i cs, JB (processArrayItems tv i cs)
  | _, [], _, _ => j_pure
  | i, c :: cs, _, _ => j_bind (instr0_j (by decide) (by decide) (by decide)) fun _ =>
      j_bind (withSub_j (processCard_j c _ _)) fun _ => j_bind (readLocalVar_j tv) fun _ =>
      j_bind (instr0_j (by decide) (by decide) (by decide)) fun _ => processArrayItems_j tv (i + 1) cs _ _

theorem processCard_j_all :
    (∀ c, JB (processCard c)) ∧
    (∀ tv i cs, JB (processArrayItems tv i cs)) ∧
    (∀ i cs, JB (compileSubexprFrom i cs)) :=
  ⟨processCard_j, processArrayItems_j, compileSubexprFrom_j⟩

theorem processFunction_j (f : FunctionIr) : JB (processFunction f) := fun k K =>
  j_bind (j_of_keep (keep_modify fun _ => rfl)) fun _ => j_bind (j_of_keep (addLocals_keep _)) fun _ =>
    j_sat.2 (jLogic.processFunctionCards 0 f.cards default k K trivial)

/-! ## whole compilation units -/

theorem compileFunctionBody_j (f : FunctionIr) : JB (do
    scopeBegin
    processFunction f
    scopeEnd
    pushInstr op.scalarNil
    pushInstr op.ret) := fun _ _ =>
  j_bind (j_of_keep scopeBegin_keep) fun _ => j_bind (processFunction_j f _ _) fun _ => j_bind scopeEnd_j fun _ =>
    j_bind (instr0_j (by decide) (by decide) (by decide)) fun _ => instr0_j (by decide) (by decide) (by decide)

/-- no known positions: the top level -/
abbrev NoK : Nat → Prop := fun _ => False

theorem noK_le (n : Nat) : ∀ t, NoK t → t ≤ n := fun _ h => h.elim

/-- a block together with function labels that lie outside of the bodies of its closure blocks -/
def JRL (s s' : CState) (hs : List UInt32) : Prop :=
  JR NoK s s' ∧ ∃ Bs, JSeg s'.bytecode s'.labels (Win NoK s.bytecode.size s'.bytecode.size)
    s.bytecode.size s'.bytecode.size Bs ∧
    ∀ h ∈ hs, ∃ q, (h, q) ∈ s'.labels ∧ s.bytecode.size ≤ q ∧ q ≤ s'.bytecode.size ∧ ∀ B ∈ Bs, ¬ InBody B q

theorem JR.toL {s s' : CState} (h : JR NoK s s') : JRL s s' [] := by
  obtain ⟨Bs, g⟩ := h.seg
  exact ⟨h, Bs, g, fun _ hh => (List.not_mem_nil hh).elim⟩

theorem JRL.trans {s s1 s2 : CState} {hs1 hs2 : List UInt32} (h1 : JRL s s1 hs1) (h2 : JRL s1 s2 hs2) :
    JRL s s2 (hs1 ++ hs2) := by
  obtain ⟨r1, Bs1, g1, f1⟩ := h1
  obtain ⟨r2, Bs2, g2, f2⟩ := h2
  have z1 := r1.size_le
  have z2 := r2.size_le
  have G := jseg_trans (noK_le _) z1 r2 g1 g2
  refine ⟨r1.trans (noK_le _) r2, Bs1 ++ Bs2, G, fun h hh => ?_⟩
  rcases List.mem_append.1 hh with hh | hh
  · obtain ⟨q, q1, q2, q3, q4⟩ := f1 h hh
    refine ⟨q, r2.labels_sub _ q1, q2, by omega, fun B hB => ?_⟩
    rcases List.mem_append.1 hB with hB | hB
    · exact q4 B hB
    · intro ⟨a1, a2⟩
      have := (g2.blk B hB).lo
      omega
  · obtain ⟨q, q1, q2, q3, q4⟩ := f2 h hh
    refine ⟨q, q1, by omega, q3, fun B hB => ?_⟩
    rcases List.mem_append.1 hB with hB | hB
    · intro ⟨a1, a2⟩
      have := (g1.blk B hB).hi
      omega
    · exact q4 B hB

theorem compileFunction_jspec {f : FunctionIr} {s s' : CState} (hr : compileFunction f s = .ok ((), s')) :
    JRL s s' [f.handle] := by
  unfold compileFunction at hr
  rw [modify_bind_run, get_bind_run] at hr
  obtain ⟨_, s2, h2, hr⟩ := bind_ok.1 hr
  have e2 := insertLabel_ok h2
  have r2 : JR NoK s s2 := JR.of_eq (by rw [e2]) ⟨[_], by rw [e2]⟩
  have r3 := (compileFunctionBody_j f 0 NoK).run _ _ _ hr (Nat.zero_le _) (noK_le _)
  have r := r2.trans (noK_le _) r3
  obtain ⟨Bs, g⟩ := r.seg
  refine ⟨r, Bs, g, fun h hh => ?_⟩
  rw [List.mem_singleton] at hh
  subst hh
  refine ⟨s.bytecode.size, r3.labels_sub _ (by rw [e2]; simp), Nat.le_refl _, r.size_le, g.outside (.inl (Nat.le_refl _))⟩

theorem compileFunctions_jspec : ∀ (fs : List FunctionIr) {s s' : CState},
    compileFunctions fs s = .ok ((), s') → JRL s s' (fs.map (·.handle))
  | [], s, s', hr => by
    unfold compileFunctions at hr
    simp only [pure_run, Except.ok.injEq, Prod.mk.injEq] at hr
    obtain ⟨_, rfl⟩ := hr
    exact (JR.refl _ _).toL
  | f :: fs, s, s', hr => by
    unfold compileFunctions at hr
    obtain ⟨_, s1, h1, h2⟩ := bind_ok.1 hr
    exact (compileFunction_jspec h1).trans (compileFunctions_jspec fs h2)

/-- **the whole bytecode of a compiled unit**: it is a segment from 0, its jumps respect the closure blocks,
and the label of every function after the first (the entry function gets none) lies outside of the bodies of
all closure blocks -/
theorem compileUnit_jspec {unit : Array FunctionIr} {s' : CState}
    (hr : (compileUnit unit).run {} = .ok ((), s')) :
    ∃ Bs, JSeg s'.bytecode s'.labels (fun t => t ≤ s'.bytecode.size) 0 s'.bytecode.size Bs ∧
      ∀ f ∈ unit.toList.drop 1, ∃ q, (f.handle, q) ∈ s'.labels ∧ ∀ B ∈ Bs, ¬ InBody B q := by
  change compileUnit unit {} = _ at hr
  unfold compileUnit at hr
  split at hr
  · rw [fail_bind_run] at hr; cases hr
  · have hmain := processFunction_j unit[0]!
    have habort := processCard_j .abort
    have st : ∀ {α β : Type} {m : CM α} {f : α → CM β} {s s'' : CState} {b : β}, J 0 NoK m →
        (m >>= f) s = .ok (b, s'') → ∃ a s', JR NoK s s' ∧ f a s' = .ok (b, s'') :=
      fun hm hr => hm.step (Nat.zero_le _) (noK_le _) hr
    have stm : ∀ {β : Type} {g : CState → CState} {f : Unit → CM β} {s s'' : CState} {b : β},
        ((modify g : CM Unit) >>= f) s = .ok (b, s'') → (∀ x, ucore (g x) = ucore x) →
        ∃ a s', JR NoK s s' ∧ f a s' = .ok (b, s'') :=
      fun hr hg => st (j_of_keep (keep_modify hg)) hr
    obtain ⟨_, s1, r1, hr⟩ := st (j_of_keep (addFunctions_keep _)) hr
    dsimp only at hr
    obtain ⟨_, s2, r2, hr⟩ := stm hr (fun _ => rfl)
    obtain ⟨_, s3, r3, hr⟩ := st (j_of_keep scopeBegin_keep) hr
    obtain ⟨_, s4, r4, hr⟩ := st (hmain _ _) hr
    obtain ⟨_, s5, r5, hr⟩ := stm hr (fun _ => rfl)
    obtain ⟨_, s6, r6, hr⟩ := st scopeEnd_j hr
    obtain ⟨_, s7, r7, hr⟩ := st (habort _ _) hr
    obtain ⟨_, s8, h8, hr⟩ := bind_ok.1 hr
    have r8 := compileFunctions_jspec _ h8
    obtain ⟨_, s9, r9, hr⟩ := stm hr (fun _ => rfl)
    have r10 := (instr0_j (k := 0) (K := NoK) (o := op.exit) (by decide) (by decide) (by decide)).run _ _ _ hr
      (Nat.zero_le _) (noK_le _)
    have t := noK_le
    have rA : JR NoK ({} : CState) s7 :=
      (((((r1.trans (t _) r2).trans (t _) r3).trans (t _) r4).trans (t _) r5).trans (t _) r6).trans (t _) r7
    have rB : JR NoK s8 s' := r9.trans (t _) r10
    have R := (rA.toL.trans r8).trans rB.toL
    obtain ⟨_, Bs, g, fl⟩ := R
    have z0 : ({} : CState).bytecode.size = 0 := rfl
    rw [z0] at g
    refine ⟨Bs, g.weaken ?_, fun f hf => ?_⟩
    · rintro u (h | h)
      · exact h.elim
      · exact h.2
    · obtain ⟨q, q1, _, _, q4⟩ := fl f.handle (by
        simp only [List.nil_append, List.append_nil]
        exact List.mem_map.2 ⟨f, hf, rfl⟩)
      exact ⟨q, q1, q4⟩

end Cao.Compiler
