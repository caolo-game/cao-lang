import CaoProofs.Lemmas.UpvalueLemmas
import CaoProofs.Lemmas.ResolveLemmas
import CaoProofs.Lemmas.WfUpvalues
/-!
# C06 — closures capture variables by reference, with correct identity and lifetime

State/heap level laws of the capture mechanism of the interpreter model `CaoModel/Vm.lean`, for all
machine states that satisfy the well-formedness invariant `UpInv = UpCore ∧ UpBound` of
`Lemmas/UpvalueLemmas.lean`.  The section headings carry the numbers of this list (0: facts about stack
slots that all parts use; 5, 5a, 5b: the parts of item 5); the order of the file follows the dependencies.

1. `register_shares`, `register_outer`, `each_iteration_captures_fresh` — `RegisterUpvalue` shares /
   separates / renews upvalue objects;
2. `open_read_write` — an open upvalue *is* the stack slot;
3. `close_preserves_value`, `closed_read_write`, `shared_after_close` — closing copies the value;
   afterwards the upvalue is independent of the stack and stays shared;
4. `frame_relative`, `oldSlot_differs` — the captured slot is relative to the running frame;
5. the invariant is kept: by `Return` (`return_closes_frame`; `return_needs_bound` is why it has a
   side condition), by `CloseUpvalue` and a whole scope exit (`closeUpvalue_inv`,
   `scope_end_closes_all`), by `Pop` of an uncaptured slot (`pop_inv`; `pop_breaks_bound` otherwise),
   by the other capture instructions; `UpCore` by every run of any bytecode (`step_core`,
   `exec_core'`, `run_core'`); `upInv_of_compiled_runs_Full` is stated, not proved;
6. compiler side: `closure_label_unique_partial`, `closure_card_dispatch`, `closureHandle_same_fn`,
   `closureHandle_same_path`, `addUpvalue_index`, `emitUpvalues_bytes`, `resolveUpvalue_local`;
   `closure_dispatch_Full` (proved in `C08d.lean` for bytecode below 4 GiB);
7. non-vacuity: a machine with two frames and two sibling closures (`demo0` … `demo8`), the
   counter-example states `popDemo` and `retDemo`, a compiled closure expression (`demoClosure`).
-/
namespace Cao.C06
open Cao Cao.Vm Cao.Gc Cao.C02 Cao.C05 Cao.Upv

/-! ## 0. slots of the value stack -/

theorem stack_get_lt {s : VmState} {i : Nat} (hi : i < s.stack.count) :
    s.stack.get i = s.stack.data.getD i .nil := by
  unfold VStack.get
  rw [if_neg (by omega)]; rfl

theorem stack_set_lt {s : VmState} {i : Nat} (v : Val) (hi : i < s.stack.count) :
    s.stack.set i v = ({ s.stack with data := s.stack.data.set i v }, .ok (s.stack.get i)) := by
  unfold VStack.set
  rw [if_neg (by omega), if_neg (by omega), stack_get_lt hi]; rfl

theorem go_writeLocal_lt (off idx : Nat) (v : Val) {s : VmState} (hi : off + idx < s.stack.count) :
    (writeLocal off idx v).go s =
      (.ok ⟨⟩, { s with stack := { s.stack with data := s.stack.data.set (off + idx) v } }) := by
  rw [go_writeLocal, stack_set_lt v hi]

theorem pop_count (st : VStack Val) : st.pop.1.count = st.count - 1 := by
  unfold VStack.pop; split
  · next h0 => simp [h0]
  · rfl

/-- the state in which `SetUpvalue` and `RegisterUpvalue` do their work, having popped the top value -/
def popped (s : VmState) : VmState := { s with stack := s.stack.pop.1 }

theorem popped_count (s : VmState) : (popped s).stack.count = s.stack.count - 1 := pop_count _

/-! ## 2. `open_read_write`: an open upvalue is the stack slot -/

/-- **While an upvalue is open, reading it reads the stack slot and writing it writes the stack
    slot** — exactly what `ReadLocalVar`/`SetLocalVar` of the enclosing function do with the same
    slot (`readLocal`/`writeLocal` with `off + idx = i`), hence the enclosing scope and all
    closures that hold `u` see one variable.  After a write, every reader gets the new value. -/
theorem open_read_write {s : VmState} (hinv : UpInv s) {u i : Nat} (hu : u ∈ s.openUpvalues)
    (hs : upvalueSlot s.heap u = some i) (v : Val) :
    i < s.stack.count ∧
    (readUpvalueLoc u).go s = (.ok (s.stack.get i), s) ∧
    (writeUpvalueLoc u v).go s = (.ok ⟨⟩, { s with stack := (s.stack.set i v).1 }) ∧
    (s.stack.set i v).2 = .ok (s.stack.get i) ∧
    (∀ off idx, off + idx = i →
      (readUpvalueLoc u).go s = (readLocal off idx).go s ∧
      (writeUpvalueLoc u v).go s = (writeLocal off idx v).go s) ∧
    (i < s.stack.data.length →
      (readUpvalueLoc u).go ((writeUpvalueLoc u v).go s).2 = (.ok v, ((writeUpvalueLoc u v).go s).2) ∧
      ((writeUpvalueLoc u v).go s).2.stack.get i = v) := by
  have hi : i < s.stack.count := hinv.bound u hu i hs
  have hg := upvalueSlot_eq_some.mp hs
  have hr : (readUpvalueLoc u).go s = (.ok (s.stack.get i), s) := by
    rw [go_readUpvalueLoc_open hg, stack_get_lt hi]
  have hw : (writeUpvalueLoc u v).go s = (.ok ⟨⟩, { s with stack := (s.stack.set i v).1 }) := by
    rw [go_writeUpvalueLoc_open v hg, stack_set_lt v hi]
  refine ⟨hi, hr, hw, by rw [stack_set_lt v hi], ?_, ?_⟩
  · intro off idx hoi
    subst hoi
    refine ⟨by rw [hr, go_readLocal], ?_⟩
    rw [go_writeUpvalueLoc_open v hg, go_writeLocal_lt off idx v hi]
  · intro hlen
    rw [go_writeUpvalueLoc_open v hg]
    have hg' : ({ s with stack := { s.stack with data := s.stack.data.set i v } } : VmState).heap.get u =
        some (.upvalue (.stack i)) := hg
    rw [go_readUpvalueLoc_open hg']
    have : (s.stack.data.set i v).getD i .nil = v := by
      simp [List.getD_eq_getElem?_getD, hlen]
    refine ⟨by simp only [this], ?_⟩
    show VStack.get { s.stack with data := s.stack.data.set i v } i = v
    unfold VStack.get
    rw [if_neg (by simp only; omega)]
    exact this

/-- the running frame belongs to the closure `c`, whose `idx`-th upvalue is `u` -/
structure Running (s : VmState) (fr : Frame) (c : Nat) (idx u : Nat) : Prop where
  frame : s.frames.getLast? = some fr
  clo : fr.closure = some c
  ups : ∃ hd ar ups, s.heap.get c = some (.closure hd ar ups) ∧ ups[idx]? = some u

theorem go_readUpvalue {s : VmState} {fr : Frame} {c idx u : Nat} (hr : Running s fr c idx u) (ip : Nat) :
    (Instr.readUpvalue idx ip).go s =
      (do push (← readUpvalueLoc u); pure ({ ip := ip + 4 } : Ctl) : M Ctl).go s := by
  obtain ⟨hd, ar, ups, hc, hidx⟩ := hr.ups
  unfold Instr.readUpvalue
  simp only [go_bind, go_curFrame_some hr.frame, hr.clo, go_get, hc, hidx]

theorem go_setUpvalue {s : VmState} {fr : Frame} {c idx u : Nat} (hr : Running s fr c idx u) (ip : Nat) :
    (Instr.setUpvalue idx ip).go s =
      (do writeUpvalueLoc u s.stack.pop.2; pure ({ ip := ip + 4 } : Ctl) : M Ctl).go (popped s) := by
  obtain ⟨hd, ar, ups, hc, hidx⟩ := hr.ups
  have hf' : (popped s).frames.getLast? = some fr := hr.frame
  have hc' : (popped s).heap.get c = some (.closure hd ar ups) := hc
  unfold Instr.setUpvalue
  simp only [go_bind, go_pop]
  unfold popped at hf' hc' ⊢
  generalize ({ s with stack := s.stack.pop.1 } : VmState) = p at hf' hc' ⊢
  simp only [go_curFrame_some hf', hr.clo, go_bind, go_get, hc', hidx]

theorem readUpvalue_open {s : VmState} {fr : Frame} {c idx u i : Nat} (hr : Running s fr c idx u)
    (hg : s.heap.get u = some (.upvalue (.stack i))) (hi : i < s.stack.count) (ip : Nat) :
    (Instr.readUpvalue idx ip).go s =
      (do push (s.stack.get i); pure ({ ip := ip + 4 } : Ctl) : M Ctl).go s := by
  rw [go_readUpvalue hr]
  simp only [go_bind, go_readUpvalueLoc_open hg, stack_get_lt hi]

/-- the same value as `ReadUpvalue` of any closure that captured slot `fr.stackOffset + h`
    (`readUpvalue_open`) -/
theorem readLocalVar_slot {s : VmState} {fr : Frame} (hf : s.frames.getLast? = some fr) (h ip : Nat) :
    (Instr.readLocalVar h ip).go s =
      (do push (s.stack.get (fr.stackOffset + h)); pure ({ ip := ip + 4 } : Ctl) : M Ctl).go s := by
  unfold Instr.readLocalVar
  simp only [go_bind, go_curFrame_some hf, go_readLocal]

theorem readUpvalue_closed {s : VmState} {fr : Frame} {c idx u : Nat} {v : Val} (hr : Running s fr c idx u)
    (hg : s.heap.get u = some (.upvalue (.closed v))) (ip : Nat) :
    (Instr.readUpvalue idx ip).go s = (do push v; pure ({ ip := ip + 4 } : Ctl) : M Ctl).go s := by
  rw [go_readUpvalue hr]
  simp only [go_bind, go_readUpvalueLoc_closed hg]

theorem setUpvalue_open {s : VmState} {fr : Frame} {c idx u i : Nat} (hr : Running s fr c idx u)
    (hg : s.heap.get u = some (.upvalue (.stack i))) (hi : i < s.stack.count - 1) (ip : Nat) :
    (Instr.setUpvalue idx ip).go s =
      (.ok { ip := ip + 4 }, { s with stack := (s.stack.pop.1.set i s.stack.pop.2).1 }) := by
  have hg' : (popped s).heap.get u = some (.upvalue (.stack i)) := hg
  rw [go_setUpvalue hr, go_bind, go_writeUpvalueLoc_open _ hg',
    show s.stack.pop.1.set i _ = _ from stack_set_lt (s := popped s) _ (by rw [popped_count]; exact hi)]
  rfl

/-- the same state change as `SetUpvalue` through an upvalue that is open at slot
    `fr.stackOffset + h` (`setUpvalue_open`) -/
theorem setLocalVar_slot {s : VmState} {fr : Frame} (hf : s.frames.getLast? = some fr) (h ip : Nat)
    (hoff : fr.stackOffset < s.stack.count) (hi : fr.stackOffset + h < s.stack.count - 1) :
    (Instr.setLocalVar h ip).go s =
      (.ok { ip := ip + 4 },
       { s with stack := (s.stack.pop.1.set (fr.stackOffset + h) s.stack.pop.2).1 }) := by
  have hpw : s.stack.popWOffset fr.stackOffset = s.stack.pop := by
    unfold VStack.popWOffset; rw [if_neg (by omega)]
  have hi' : fr.stackOffset + h < ({ s with stack := s.stack.pop.1 } : VmState).stack.count := by
    show _ < s.stack.pop.1.count; rw [pop_count]; exact hi
  unfold Instr.setLocalVar
  simp only [go_bind, go_curFrame_some hf, go_get, hpw, go_set, go_writeLocal_lt _ _ _ hi', go_pure]
  rw [stack_set_lt _ hi']

theorem setUpvalue_closed {s : VmState} {fr : Frame} {c idx u : Nat} {w : Val} (hr : Running s fr c idx u)
    (hg : s.heap.get u = some (.upvalue (.closed w))) (ip : Nat) :
    (Instr.setUpvalue idx ip).go s =
      (.ok { ip := ip + 4 },
       { s with stack := s.stack.pop.1, heap := s.heap.set u (.upvalue (.closed s.stack.pop.2)) }) := by
  have hg' : (popped s).heap.get u = some (.upvalue (.closed w)) := hg
  rw [go_setUpvalue hr, go_bind, go_writeUpvalueLoc_closed _ hg']
  rfl

/-! ## 3. `close_preserves_value`, `closed_read_write` -/

theorem mem_closeState {s : VmState} (hc : UpCore s) (k : Nat) {u i : Nat} (hi : upvalueSlot s.heap u = some i) :
    u ∈ (closeState k s).openUpvalues ↔ u ∈ s.openUpvalues ∧ i < k := by
  rw [closeState_open hc k, List.mem_filter]
  simp only [below, hi, decide_eq_true_eq]

theorem closeState_slot {s : VmState} (hc : UpCore s) (k : Nat) {a : Nat}
    (ha : a ∈ (closeState k s).openUpvalues) :
    a ∈ s.openUpvalues ∧ upvalueSlot (closeState k s).heap a = upvalueSlot s.heap a := by
  rw [closeState_open hc k, List.mem_filter] at ha
  exact ⟨ha.1, upvalueSlot_congr (closeState_other hc k (Or.inr ha.2))⟩

theorem closeState_eq_self {s : VmState} (hc : UpCore s) {k : Nat}
    (h : ∀ a ∈ s.openUpvalues, ∀ i, upvalueSlot s.heap a = some i → i < k) : closeState k s = s := by
  unfold closeState
  cases ho : s.openUpvalues with
  | nil => rw [closeGo_nil]; cases s; cases ho; rfl
  | cons a rest =>
    obtain ⟨i, hi⟩ := hc.open_ a (ho ▸ List.mem_cons_self)
    rw [closeGo_cons k s a rest s.heap i hi, if_pos (h a (ho ▸ List.mem_cons_self) i hi)]
    cases s; cases ho; rfl

/-- **`closeUpvalues k` turns every open upvalue with slot `≥ k` into a closed one that holds exactly
    the value the slot had at that moment, leaves those below `k` open, leaves every other object
    (in particular every closure object) and the rest of the machine unchanged.** -/
theorem close_preserves_value {s : VmState} (hinv : UpInv s) (k : Nat) :
    (closeUpvalues k).go s = (.ok ⟨⟩, closeState k s) ∧
    (closeState k s).stack = s.stack ∧ (closeState k s).frames = s.frames ∧
    (closeState k s).globals = s.globals ∧ (closeState k s).guards = s.guards ∧
    (∀ u ∈ s.openUpvalues, ∀ i, upvalueSlot s.heap u = some i → k ≤ i →
      (closeState k s).heap.get u = some (.upvalue (.closed (s.stack.get i))) ∧
      u ∉ (closeState k s).openUpvalues) ∧
    (∀ u ∈ s.openUpvalues, ∀ i, upvalueSlot s.heap u = some i → i < k →
      u ∈ (closeState k s).openUpvalues ∧ (closeState k s).heap.get u = s.heap.get u) ∧
    (∀ b, b ∉ s.openUpvalues → (closeState k s).heap.get b = s.heap.get b) ∧
    (closeState k s).openUpvalues = s.openUpvalues.filter (below s.heap k) ∧
    UpInv (closeState k s) ∧
    (∀ a ∈ (closeState k s).openUpvalues, ∀ i, upvalueSlot (closeState k s).heap a = some i → i < k) := by
  have hc := hinv.core
  refine ⟨go_closeUpvalues k s, rfl, rfl, rfl, rfl, fun u hu i hi hle => ?_, fun u hu i hi hlt => ?_,
    fun b hb => closeState_other hc k (Or.inl hb), closeState_open hc k,
    ⟨closeState_core hc k, fun a ha i hi => ?_⟩, fun a ha i hi => closeState_below hc k ha hi⟩
  · rw [stack_get_lt (hinv.bound u hu i hi)]
    exact ⟨closeState_closed hc k hu hi hle, fun h => absurd ((mem_closeState hc k hi).1 h).2 (by omega)⟩
  · exact ⟨(mem_closeState hc k hi).2 ⟨hu, hlt⟩,
      closeState_other hc k (Or.inr (by simp only [below, hi, decide_eq_true_eq]; exact hlt))⟩
  · obtain ⟨hm, hs⟩ := closeState_slot hc k ha
    exact hinv.bound a hm i (hs.symm.trans hi)

/-- **a closed upvalue is independent of the value stack**: reading returns its own value whatever
    the stack is, writing changes only the upvalue object, and a later read returns what was
    written -/
theorem closed_read_write {s : VmState} {u : Nat} {v : Val}
    (hg : s.heap.get u = some (.upvalue (.closed v))) (w : Val) (st : VStack Val) :
    (readUpvalueLoc u).go s = (.ok v, s) ∧
    (readUpvalueLoc u).go { s with stack := st } = (.ok v, { s with stack := st }) ∧
    (writeUpvalueLoc u w).go s = (.ok ⟨⟩, { s with heap := s.heap.set u (.upvalue (.closed w)) }) ∧
    ((writeUpvalueLoc u w).go s).2.stack = s.stack ∧
    (readUpvalueLoc u).go ((writeUpvalueLoc u w).go s).2 = (.ok w, ((writeUpvalueLoc u w).go s).2) := by
  have hg' : ({ s with stack := st } : VmState).heap.get u = some (.upvalue (.closed v)) := hg
  refine ⟨go_readUpvalueLoc_closed hg, go_readUpvalueLoc_closed hg', go_writeUpvalueLoc_closed w hg, ?_, ?_⟩
  · rw [go_writeUpvalueLoc_closed w hg]
  · rw [go_writeUpvalueLoc_closed w hg]
    exact go_readUpvalueLoc_closed (get_set_self _ _ _ _ hg)

/-- **closures that shared an open upvalue still share it after it was closed**: both closure
    objects are untouched by `closeUpvalues`, so both still refer to the same address `u`, which now
    holds the last value of the variable; a write through one is read through the other -/
theorem shared_after_close {s : VmState} (hinv : UpInv s) {k c₁ c₂ u i j₁ j₂ : Nat} {hd₁ ar₁ hd₂ ar₂ : UInt32}
    {ups₁ ups₂ : List Nat}
    (h₁ : s.heap.get c₁ = some (.closure hd₁ ar₁ ups₁)) (hj₁ : ups₁[j₁]? = some u)
    (h₂ : s.heap.get c₂ = some (.closure hd₂ ar₂ ups₂)) (hj₂ : ups₂[j₂]? = some u)
    (hu : u ∈ s.openUpvalues) (hs : upvalueSlot s.heap u = some i) (hk : k ≤ i) :
    (closeState k s).heap.get c₁ = some (.closure hd₁ ar₁ ups₁) ∧
    (closeState k s).heap.get c₂ = some (.closure hd₂ ar₂ ups₂) ∧
    (closeState k s).heap.get u = some (.upvalue (.closed (s.stack.get i))) ∧
    ∀ w, (((writeUpvalueLoc u w).go (closeState k s)).2.heap.get c₂ = some (.closure hd₂ ar₂ ups₂)) ∧
      (readUpvalueLoc u).go ((writeUpvalueLoc u w).go (closeState k s)).2 =
        (.ok w, ((writeUpvalueLoc u w).go (closeState k s)).2) := by
  have hc := hinv.core
  have hn : ∀ {c hd ar ups}, s.heap.get c = some (.closure hd ar ups) → ¬ IsUp s.heap c := by
    intro c hd ar ups h ⟨loc, hl⟩; rw [h] at hl; cases hl
  have hu' := ((close_preserves_value hinv k).2.2.2.2.2.1 u hu i hs hk).1
  have e₁ : (closeState k s).heap.get c₁ = _ := (closeState_notUp hc k (hn h₁)).trans h₁
  have e₂ : (closeState k s).heap.get c₂ = _ := (closeState_notUp hc k (hn h₂)).trans h₂
  refine ⟨e₁, e₂, hu', fun w => ?_⟩
  have hcw := closed_read_write hu' w s.stack
  refine ⟨?_, hcw.2.2.2.2⟩
  rw [hcw.2.2.1]
  show ((closeState k s).heap.set u _).get c₂ = _
  rw [get_set_ne _ _ _ _ (fun h => by subst h; rw [hu'] at e₂; cases e₂)]
  exact e₂

/-! ## 5. the invariant is kept: stack primitives and `Return` -/

def TopFree (s : VmState) : Prop :=
  ∀ a ∈ s.openUpvalues, upvalueSlot s.heap a ≠ some (s.stack.count - 1)

theorem UpBound.of_keep {s s' : VmState} (hb : UpBound s) (ho : s'.openUpvalues = s.openUpvalues)
    (hk : ∀ a ∈ s.openUpvalues, s'.heap.get a = s.heap.get a) (hcnt : s.stack.count ≤ s'.stack.count) :
    UpBound s' := by
  intro a ha i hi
  rw [ho] at ha
  rw [upvalueSlot_congr (hk a ha)] at hi
  exact Nat.lt_of_lt_of_le (hb a ha i hi) hcnt

theorem UpInv.congr {s s' : VmState} (hh : s'.heap = s.heap) (ho : s'.openUpvalues = s.openUpvalues)
    (hk : s.stack.count ≤ s'.stack.count) (h : UpInv s) : UpInv s' :=
  ⟨UpCore.congr hh ho h.core, UpBound.congr hh ho hk h.bound⟩

theorem push_inv {s : VmState} (hinv : UpInv s) (v : Val) : UpInv ((push v).go s).2 := by
  rw [go_push]
  split
  · exact UpInv.congr (s := s) rfl rfl (Nat.le_succ _) hinv
  · exact hinv

theorem TopFree.lt {s : VmState} (hfree : TopFree s) (hinv : UpInv s) :
    ∀ a ∈ s.openUpvalues, ∀ i, upvalueSlot s.heap a = some i → i < s.stack.count - 1 := by
  intro a ha i hi
  have h1 := hinv.bound a ha i hi
  have h2 : i ≠ s.stack.count - 1 := fun h => hfree a ha (h ▸ hi)
  omega

theorem shrink_inv {s s' : VmState} (hinv : UpInv s) (hfree : TopFree s) (hh : s'.heap = s.heap)
    (ho : s'.openUpvalues = s.openUpvalues) (hcnt : s'.stack.count = s.stack.count - 1) : UpInv s' :=
  ⟨UpCore.congr hh ho hinv.core, fun a ha i hi => hcnt ▸ hfree.lt hinv a (ho ▸ ha) i (hh ▸ hi)⟩

/-- compiled code meets `TopFree` here: scope exit emits `CloseUpvalue` instead of `Pop` for a captured
    local, which closes and removes the slot (`closeUpvalue_inv`, `scope_end_closes_all`) -/
theorem pop_inv {s : VmState} (hinv : UpInv s) (hfree : TopFree s) : UpInv (Vm.pop.go s).2 :=
  shrink_inv hinv hfree rfl rfl (pop_count _)

/-- `clear_until` only truncates: the new height is `min k height` -/
theorem clearUntil_inv {s : VmState} (hinv : UpInv s) (k : Nat)
    (hk : ∀ a ∈ s.openUpvalues, ∀ i, upvalueSlot s.heap a = some i → i < k) :
    UpInv { s with stack := (s.stack.clearUntil k).1 } :=
  ⟨UpCore.congr (s := s) rfl rfl hinv.core, fun a ha i hi => by
    have h1 := hk a ha i hi
    have h2 := hinv.bound a ha i hi
    show i < (s.stack.clearUntil k).1.count
    simp only [VStack.clearUntil]; split <;> omega⟩

/-- without `CloseUpvalue`, `Pop` of a captured slot breaks `UpBound`: the bound is *not* an
    invariant of arbitrary instruction sequences, only of well-scoped ones -/
def popDemo : VmState :=
  { stack := { count := 1, data := [.int 7, .nil] }, frameCap := 4, mem := Mem.new 1000,
    heap := { objs := [(1, .upvalue (.stack 0))], next := 2 }, openUpvalues := [1] }

theorem pop_breaks_bound : UpBound popDemo ∧ ¬ UpBound (Vm.pop.go popDemo).2 := by
  constructor
  · intro a ha i hi
    have : a = 1 := by simpa [popDemo] using ha
    subst this
    have : upvalueSlot popDemo.heap 1 = some 0 := by decide
    rw [this] at hi; cases hi; decide
  · intro h
    exact absurd (h 1 (by decide) 0 (by decide)) (by decide)

/-- the state in which `Return` pushes the result -/
def retState (s : VmState) (fr : Frame) : VmState :=
  let s2 := closeState fr.stackOffset { s with frames := s.frames.dropLast }
  { s2 with stack := (s2.stack.clearUntil fr.stackOffset).1 }

theorem go_ret {s : VmState} {fr : Frame} (hf : s.frames.getLast? = some fr) :
    Instr.ret.go s = match s.frames.dropLast.getLast? with
      | none => (.error .badReturn, retState s fr)
      | some caller => (do push s.stack.last; pure ({ ip := caller.dst } : Ctl) : M Ctl).go (retState s fr) := by
  rw [go_instrRet, hf]; rfl

/-- **`Return` closes all upvalues at or above the returning frame's offset before the frame's
    slots are discarded**: each of them keeps the last value of its variable, nothing open points at
    or above the frame's offset, the height becomes `min offset height` (`clear_until` only
    truncates) and the invariant holds again.  For the first three parts `UpBound` of the state
    before is not needed; for the invariant it is, unless the frame's offset is at or below the
    height: `return_needs_bound` is the counter-example.  (Before its repair in /repo `clear_until`
    *raised* the height to the offset in the other case; the bound then held for free, by exposing
    stale slots.) -/
theorem return_closes_frame {s : VmState} {fr : Frame} (hc : UpCore s) (hf : s.frames.getLast? = some fr) :
    (∀ u ∈ s.openUpvalues, ∀ i, upvalueSlot s.heap u = some i → fr.stackOffset ≤ i →
      (retState s fr).heap.get u = some (.upvalue (.closed (s.stack.data.getD i .nil))) ∧
      u ∉ (retState s fr).openUpvalues) ∧
    (∀ a ∈ (retState s fr).openUpvalues, ∀ i, upvalueSlot (retState s fr).heap a = some i →
      i < fr.stackOffset) ∧
    (retState s fr).stack.count = min fr.stackOffset s.stack.count ∧
    (UpBound s ∨ fr.stackOffset ≤ s.stack.count →
      UpInv (retState s fr) ∧ UpInv (Instr.ret.go s).2) := by
  have hc1 : UpCore ({ s with frames := s.frames.dropLast } : VmState) := UpCore.congr (s := s) rfl rfl hc
  have hcore : UpCore (retState s fr) :=
    UpCore.congr (s := closeState fr.stackOffset { s with frames := s.frames.dropLast }) rfl rfl
      (closeState_core hc1 _)
  have hbelow : ∀ a ∈ (retState s fr).openUpvalues, ∀ i, upvalueSlot (retState s fr).heap a = some i →
      i < fr.stackOffset := fun a ha i hi => closeState_below hc1 fr.stackOffset ha hi
  have hcount : (retState s fr).stack.count = min fr.stackOffset s.stack.count := by
    show (VStack.clearUntil s.stack fr.stackOffset).1.count = _
    simp only [VStack.clearUntil]; split <;> omega
  refine ⟨?_, hbelow, hcount, ?_⟩
  rotate_left
  · intro hb
    have hinv : UpInv (retState s fr) := by
      refine ⟨hcore, ?_⟩
      intro a ha i hi
      have h1 := hbelow a ha i hi
      show i < (retState s fr).stack.count
      rw [hcount]
      rcases hb with hb | hb
      · obtain ⟨hm, hs⟩ := closeState_slot hc1 fr.stackOffset ha
        have h2 := hb a hm i (hs.symm.trans hi)
        omega
      · omega
    refine ⟨hinv, ?_⟩
    rw [go_ret hf]
    split
    · exact hinv
    · simp only [go_bind]
      have := push_inv hinv s.stack.last
      rcases hgo : (push s.stack.last).go (retState s fr) with ⟨r, s'⟩
      rw [hgo] at this
      cases r <;> exact this
  · intro u hu i hi hle
    exact ⟨closeState_closed hc1 fr.stackOffset hu hi hle,
      fun h => absurd ((mem_closeState hc1 fr.stackOffset hi).1 h).2 (by omega)⟩

/-! ## 1. + 4. `RegisterUpvalue`: sharing, renewal, frame-relative slots -/

/-- what `RegisterUpvalue` expects: the closure object `c` under construction on top of the stack
    and a running frame `fr` -/
structure RegPre (s : VmState) (c : Nat) (hd ar : UInt32) (ups : List Nat) (fr : Frame) : Prop where
  top : s.stack.pop.2 = .obj c
  clo : s.heap.get c = some (.closure hd ar ups)
  frame : s.frames.getLast? = some fr

theorem upvalueFor_popped (s : VmState) (slot : Nat) : upvalueFor (popped s) slot = upvalueFor s slot := rfl

theorem go_registerUpvalue_local {s : VmState} {c : Nat} {hd ar : UInt32} {ups : List Nat} {fr : Frame}
    (hp : RegPre s c hd ar ups fr) (index ip : Nat) :
    (Instr.registerUpvalue index true ip).go s =
      if fr.stackOffset + index ≥ (popped s).stack.count then (.error .invalidArgument, popped s)
      else match upvalueFor (popped s) (fr.stackOffset + index) with
        | some u =>
          (.ok { ip := ip + 2 }, { popped s with heap := (popped s).heap.set c (.closure hd ar (ups ++ [u])) })
        | none =>
          match allocPure Heap.objCharge (popped s) with
          | (.ok (), s0) => (.ok { ip := ip + 2 }, captured s0 c hd ar ups (fr.stackOffset + index))
          | (.error e, s0) => (.error e, s0) := by
  have hf' : (popped s).frames.getLast? = some fr := hp.frame
  have hc' : (popped s).heap.get c = some (.closure hd ar ups) := hp.clo
  rw [go_registerUpvalue, hp.top]
  unfold popped at hf' hc' ⊢
  generalize ({ s with stack := s.stack.pop.1 } : VmState) = p at hf' hc' ⊢
  simp only [regPure, hc', hf', if_true]
  by_cases hcnt : fr.stackOffset + index ≥ p.stack.count
  · simp only [hcnt, if_true]; rfl
  · simp only [hcnt, if_false]
    cases upvalueFor p (fr.stackOffset + index) with
    | some u => rfl
    | none =>
      dsimp only
      rcases allocPure Heap.objCharge p with ⟨r, s0⟩
      cases r <;> rfl

/-- **case "already captured"**: the closure gets the existing open upvalue of the slot
    `fr.stackOffset + index`; nothing else changes -/
theorem register_existing {s : VmState} {c : Nat} {hd ar : UInt32} {ups : List Nat} {fr : Frame}
    (hp : RegPre s c hd ar ups fr) (index ip : Nat) {u : Nat}
    (hslot : fr.stackOffset + index < s.stack.count - 1)
    (hu : upvalueFor s (fr.stackOffset + index) = some u) :
    (Instr.registerUpvalue index true ip).go s =
      (.ok { ip := ip + 2 },
       { popped s with heap := s.heap.set c (.closure hd ar (ups ++ [u])) }) := by
  rw [go_registerUpvalue_local hp, if_neg (by rw [popped_count]; omega), upvalueFor_popped, hu]
  rfl

/-- **case "not captured (any more)"**: a new upvalue object is allocated (possibly after a
    collection) at the next free address, inserted into the sorted list, and given to the closure -/
theorem register_fresh {s : VmState} {c : Nat} {hd ar : UInt32} {ups : List Nat} {fr : Frame}
    (hp : RegPre s c hd ar ups fr) (index ip : Nat) {s0 : VmState}
    (hslot : fr.stackOffset + index < s.stack.count - 1)
    (hnone : upvalueFor s (fr.stackOffset + index) = none)
    (halloc : allocPure Heap.objCharge (popped s) = (.ok (), s0)) :
    (Instr.registerUpvalue index true ip).go s =
      (.ok { ip := ip + 2 }, captured s0 c hd ar ups (fr.stackOffset + index)) := by
  rw [go_registerUpvalue_local hp, if_neg (by rw [popped_count]; omega), upvalueFor_popped, hnone, halloc]

/-- **non-local capture**: the running closure `outer` passes on its own `index`-th upvalue — the
    same object, so that a variable captured through several levels is still one variable -/
theorem register_outer {s : VmState} {c : Nat} {hd ar : UInt32} {ups : List Nat} {fr : Frame}
    (hp : RegPre s c hd ar ups fr) (index ip : Nat) {outer u : Nat} {ohd oar : UInt32} {oups : List Nat}
    (hfc : fr.closure = some outer) (ho : s.heap.get outer = some (.closure ohd oar oups))
    (hidx : oups[index]? = some u) :
    (Instr.registerUpvalue index false ip).go s =
      (.ok { ip := ip + 2 },
       { popped s with heap := s.heap.set c (.closure hd ar (ups ++ [u])) }) := by
  have hf' : (popped s).frames.getLast? = some fr := hp.frame
  have hc' : (popped s).heap.get c = some (.closure hd ar ups) := hp.clo
  have ho' : (popped s).heap.get outer = some (.closure ohd oar oups) := ho
  unfold popped at hf' hc' ho' ⊢
  rw [go_registerUpvalue, hp.top]
  simp only [regPure, hc', hf', hfc, ho', hidx, Bool.false_eq_true, if_false]
  rfl

theorem upvalueSlot_set_closure {h : Heap} {c : Nat} {hd ar : UInt32} {ups ups' : List Nat}
    (hc : h.get c = some (.closure hd ar ups)) (a : Nat) :
    upvalueSlot (h.set c (.closure hd ar ups')) a = upvalueSlot h a := by
  by_cases hac : a = c
  · subst hac
    have h1 : upvalueSlot h a = none := by unfold upvalueSlot; rw [hc]
    have h2 : upvalueSlot (h.set a (.closure hd ar ups')) a = none := by
      unfold upvalueSlot; rw [get_set_self _ _ _ _ hc]
    rw [h1, h2]
  · exact upvalueSlot_congr (get_set_ne _ _ _ _ hac)

theorem upvalueFor_congr {s s' : VmState} (ho : s'.openUpvalues = s.openUpvalues)
    (hs : ∀ a, upvalueSlot s'.heap a = upvalueSlot s.heap a) (slot : Nat) :
    upvalueFor s' slot = upvalueFor s slot := by
  unfold upvalueFor
  rw [ho]
  congr 1
  funext a
  rw [hs a]

theorem mem_partition_insert {α : Type} (p : α → Bool) (l : List α) (x a : α) :
    a ∈ (l.partition p).1 ++ [x] ++ (l.partition p).2 ↔ a ∈ l ∨ a = x := by
  simp only [List.partition_eq_filter_filter, List.mem_append, List.mem_filter, List.mem_singleton,
    Function.comp]
  cases p a <;> simp [or_comm]

section capturedFacts
variable {s s0 : VmState} {c : Nat} {hd ar : UInt32} {ups : List Nat} {slot : Nat} (hrel : AllocRel s s0)
include hrel

theorem captured_mem {a : Nat} :
    a ∈ (captured s0 c hd ar ups slot).openUpvalues ↔ a ∈ s.openUpvalues ∨ a = s0.heap.next := by
  show a ∈ (splitAt _ slot s0.openUpvalues).1 ++ [s0.heap.next] ++ (splitAt _ slot s0.openUpvalues).2 ↔ _
  unfold splitAt
  rw [mem_partition_insert, hrel.open_eq]

variable (hc : UpCore s) (hg : s.heap.get c = some (.closure hd ar ups))
include hc hg

theorem captured_c_ne : c ≠ s0.heap.next := by
  have := get_lt_next hc.fresh hg
  rw [← hrel.next_eq] at this
  exact Nat.ne_of_lt this

theorem captured_get_old {a : Nat} (ha : a ∈ s.openUpvalues) :
    (captured s0 c hd ar ups slot).heap.get a = s.heap.get a := by
  obtain ⟨i, hi⟩ := hc.open_ a ha
  have h1 := upvalueSlot_eq_some.mp hi
  have hac : a ≠ c := by intro h; subst h; rw [hg] at h1; cases h1
  have h2 : s0.heap.get a = s.heap.get a := hrel.root_keep a (mem_rootAddrs_open ha)
  show ((withObject _ s0).heap.set c _).get a = _
  rw [get_set_ne _ _ _ _ hac, get_withObject_of_some _ _ (h2.trans h1), h1]

variable (hc0 : UpCore s0)
include hc0

theorem captured_get_new :
    (captured s0 c hd ar ups slot).heap.get s0.heap.next = some (.upvalue (.stack slot)) := by
  show ((withObject _ s0).heap.set c _).get s0.heap.next = _
  rw [get_set_ne _ _ _ _ (captured_c_ne hrel hc hg).symm, get_withObject_of_fresh _ _ hc0.fresh, if_pos rfl]

theorem captured_get_c :
    (s0.heap.get c = s.heap.get c →
      (captured s0 c hd ar ups slot).heap.get c = some (.closure hd ar (ups ++ [s0.heap.next]))) ∧
    ((captured s0 c hd ar ups slot).heap.get c = some (.closure hd ar (ups ++ [s0.heap.next])) ∨
     (captured s0 c hd ar ups slot).heap.get c = none) := by
  have hne := captured_c_ne hrel hc hg
  have key : (captured s0 c hd ar ups slot).heap.get c =
      (s0.heap.get c).map (fun _ => .closure hd ar (ups ++ [s0.heap.next])) := by
    show ((withObject _ s0).heap.set c _).get c = _
    rw [get_set, if_pos rfl, get_withObject_of_fresh _ _ hc0.fresh, if_neg hne]
  constructor
  · intro h; rw [key, h, hg]; rfl
  · rcases hrel.get_sub c with h | h
    · left; rw [key, h, hg]; rfl
    · right; rw [key, h]; rfl

end capturedFacts

/-- **`register_shares`** — what a successful `RegisterUpvalue index (local)` does, for a closure
    object `c` on top of the stack, in a frame `fr`, in any well-formed state whose top slot is not
    itself captured:

    * (**frame-relative**) the captured slot is `fr.stackOffset + index`, a live slot below the
      popped closure value;
    * the closure's list is extended by `u`, *the* open upvalue of that slot in the new state
      (`c` itself may only have disappeared if it was unreachable once popped — with the copy that
      `CopyLast` leaves on the stack it is still there);
    * (**sharing**) if the slot already had an open upvalue `u₀` — a sibling closure, or the same
      closure expression evaluated before, while the variable is alive — then `u = u₀`: the same
      object, and the list of open upvalues is unchanged;
    * (**renewal**) if it had none — never captured, or the previous one was closed by
      `CloseUpvalue`/`Return` (next loop iteration) — `u` is a brand-new address;
    * (**separation**) the upvalues of all other slots are what they were;
    * the invariant holds again. -/
theorem register_shares {s : VmState} (hinv : UpInv s) (hfree : TopFree s) {c : Nat} {hd ar : UInt32}
    {ups : List Nat} {fr : Frame} (hp : RegPre s c hd ar ups fr) (index ip : Nat) {ctl : Ctl} {s' : VmState}
    (hgo : (Instr.registerUpvalue index true ip).go s = (.ok ctl, s')) :
    ∃ u,
      fr.stackOffset + index < s'.stack.count ∧ s'.stack = s.stack.pop.1 ∧ ctl.ip = ip + 2 ∧
      upvalueFor s' (fr.stackOffset + index) = some u ∧
      s'.heap.get u = some (.upvalue (.stack (fr.stackOffset + index))) ∧
      (s'.heap.get c = some (.closure hd ar (ups ++ [u])) ∨ s'.heap.get c = none) ∧
      (Val.obj c ∈ s.stack.pop.1.contents → s'.heap.get c = some (.closure hd ar (ups ++ [u]))) ∧
      (∀ u₀, upvalueFor s (fr.stackOffset + index) = some u₀ →
        u = u₀ ∧ s'.openUpvalues = s.openUpvalues) ∧
      (upvalueFor s (fr.stackOffset + index) = none →
        u = s.heap.next ∧ s.heap.get u = none ∧ u ∉ s.openUpvalues) ∧
      (∀ slot', slot' ≠ fr.stackOffset + index → upvalueFor s' slot' = upvalueFor s slot') ∧
      (∀ b o, b ≠ c → s.heap.get b = some o → s'.heap.get b = some o ∨ s'.heap.get b = none) ∧
      (∀ b ∈ rootAddrs (popped s), b ≠ c → ∀ o, s.heap.get b = some o → s'.heap.get b = some o) ∧
      UpInv s' := by
  have hcs := hinv.core
  rw [go_registerUpvalue_local hp, popped_count, upvalueFor_popped] at hgo
  split at hgo
  · cases hgo
  have hslot : fr.stackOffset + index < s.stack.count - 1 := by omega
  have hbound_old := hfree.lt hinv
  cases hfor : upvalueFor s (fr.stackOffset + index) with
  | some u₀ =>
    rw [hfor] at hgo
    simp only [Prod.mk.injEq, Except.ok.injEq] at hgo
    obtain ⟨rfl, rfl⟩ := hgo
    obtain ⟨hm, hgu⟩ := upvalueFor_some hfor
    have hslots : ∀ a, upvalueSlot (s.heap.set c (.closure hd ar (ups ++ [u₀]))) a = upvalueSlot s.heap a :=
      upvalueSlot_set_closure hp.clo
    have hne : u₀ ≠ c := by intro h; subst h; rw [hp.clo] at hgu; cases hgu
    have hcore' : UpCore ({ popped s with heap := s.heap.set c (.closure hd ar (ups ++ [u₀])) } : VmState) :=
      set_closure_core (s := popped s) (UpCore.congr (s := s) rfl rfl hcs) c hd ar ups u₀ (Or.inr hp.clo) ⟨_, hgu⟩
    have hfor' : ∀ slot', upvalueFor ({ popped s with heap := s.heap.set c (.closure hd ar (ups ++ [u₀])) } : VmState) slot'
        = upvalueFor s slot' := upvalueFor_congr rfl hslots
    refine ⟨u₀, ?_, rfl, rfl, ?_, ?_, Or.inl ?_, fun _ => ?_, ?_, ?_, fun slot' _ => hfor' slot',
      fun b o hb ho => Or.inl ((get_set_ne _ _ _ _ hb).trans ho), fun b _ hb o ho => (get_set_ne _ _ _ _ hb).trans ho, hcore', ?_⟩
    · show _ < s.stack.pop.1.count; rw [pop_count]; exact hslot
    · exact (hfor' _).trans hfor
    · show (s.heap.set c _).get u₀ = _; rw [get_set_ne _ _ _ _ hne]; exact hgu
    · exact get_set_self _ _ _ _ hp.clo
    · exact get_set_self _ _ _ _ hp.clo
    · intro u1 h1; cases h1; exact ⟨rfl, rfl⟩
    · intro h; cases h
    · intro a ha i hi
      show i < s.stack.pop.1.count
      rw [pop_count]; exact hbound_old a ha i ((hslots a).symm.trans hi)
  | none =>
    rw [hfor] at hgo
    rcases halloc : allocPure Heap.objCharge (popped s) with ⟨r, s0⟩
    rw [halloc] at hgo
    cases r with
    | error e => cases hgo
    | ok x =>
      simp only [Prod.mk.injEq, Except.ok.injEq] at hgo
      obtain ⟨rfl, rfl⟩ := hgo
      have hcp : UpCore (popped s) := UpCore.congr (s := s) rfl rfl hcs
      have hrel : AllocRel (popped s) s0 := by have := allocPure_rel Heap.objCharge (popped s); rw [halloc] at this; exact this
      have hc0 : UpCore s0 := by have := allocPure_core Heap.objCharge hcp; rw [halloc] at this; exact this
      have hgp : (popped s).heap.get c = some (.closure hd ar ups) := hp.clo
      have hnone := upvalueFor_none hfor
      have hcore' := captured_core hcp hrel hc0 hgp (slot := fr.stackOffset + index) hnone
      have hnew := captured_get_new (slot := fr.stackOffset + index) hrel hcp hgp hc0
      have hold : ∀ a ∈ s.openUpvalues, (captured s0 c hd ar ups (fr.stackOffset + index)).heap.get a = s.heap.get a :=
        fun a ha => captured_get_old hrel hcp hgp ha
      have hmem : ∀ a, a ∈ (captured s0 c hd ar ups (fr.stackOffset + index)).openUpvalues ↔
          a ∈ s.openUpvalues ∨ a = s0.heap.next := fun a => captured_mem hrel
      have hnext : s0.heap.next = s.heap.next := hrel.next_eq
      have hunew : s.heap.get s0.heap.next = none := by rw [hnext]; exact get_next_none hcs.fresh
      have hnotin : s0.heap.next ∉ s.openUpvalues := by
        intro hm
        obtain ⟨i, hi⟩ := hcs.open_ _ hm
        rw [upvalueSlot_eq_some.mp hi] at hunew; cases hunew
      have hstack : (captured s0 c hd ar ups (fr.stackOffset + index)).stack = s.stack.pop.1 := hrel.stack_eq
      have hother : ∀ b o, b ≠ c → s.heap.get b = some o →
          (captured s0 c hd ar ups (fr.stackOffset + index)).heap.get b = s0.heap.get b := by
        intro b o hb ho
        show ((withObject _ s0).heap.set c _).get b = _
        rw [get_set_ne _ _ _ _ hb, get_withObject_of_fresh _ _ hc0.fresh,
          if_neg (by rw [hnext]; exact Nat.ne_of_lt (get_lt_next hcs.fresh ho))]
      refine ⟨s0.heap.next, ?_, hstack, rfl, ?_, hnew, (captured_get_c hrel hcp hgp hc0).2, ?_, ?_, ?_, ?_, ?_, ?_,
        hcore', ?_⟩
      · rw [hstack, pop_count]; exact hslot
      · exact (hcore'.upvalueFor_iff).mpr ⟨(hmem _).mpr (Or.inr rfl), upvalueSlot_eq_some.mpr hnew⟩
      · intro hroot
        exact (captured_get_c hrel hcp hgp hc0).1 (hrel.root_keep c (mem_rootAddrs_stack hroot))
      · intro u1 h1; cases h1
      · intro _; exact ⟨hnext, hunew, hnotin⟩
      · intro slot' hne
        cases hf' : upvalueFor s slot' with
        | some a =>
          obtain ⟨ham, hag⟩ := upvalueFor_some hf'
          exact (hcore'.upvalueFor_iff).mpr ⟨(hmem a).mpr (Or.inl ham),
            upvalueSlot_eq_some.mpr ((hold a ham).trans hag)⟩
        | none =>
          cases hf'' : upvalueFor (captured s0 c hd ar ups (fr.stackOffset + index)) slot' with
          | none => rfl
          | some a =>
            exfalso
            obtain ⟨ham, hag⟩ := upvalueFor_some hf''
            rcases (hmem a).mp ham with h1 | h1
            · rw [hold a h1] at hag
              exact upvalueFor_none hf' a h1 (upvalueSlot_eq_some.mpr hag)
            · subst h1; rw [hnew] at hag; cases hag; exact hne rfl
      · intro b o hb ho
        rw [hother b o hb ho]
        rcases hrel.get_sub b with h1 | h1
        · exact Or.inl (h1.trans ho)
        · exact Or.inr h1
      · intro b hroot hb o ho
        rw [hother b o hb ho, hrel.root_keep b hroot]; exact ho
      · intro a ha i hi
        rw [hstack, pop_count]
        rcases (hmem a).mp ha with h1 | h1
        · rw [upvalueSlot_congr (hold a h1)] at hi
          exact hbound_old a h1 i hi
        · subst h1
          rw [upvalueSlot_eq_some.mpr hnew] at hi; cases hi
          exact hslot

theorem distinct_slots_distinct_objects {s : VmState} {i j u u' : Nat} (hi : upvalueFor s i = some u)
    (hj : upvalueFor s j = some u') (hij : i ≠ j) : u ≠ u' := by
  intro h; subst h
  have h1 := (upvalueFor_some hi).2
  have h2 := (upvalueFor_some hj).2
  rw [h1] at h2
  cases h2
  exact hij rfl

/-- **scope exit renews the variable**: after `closeUpvalues k` (`CloseUpvalue` at the end of a loop
    body, or `Return`) the old upvalue `u₀` of a slot `≥ k` is closed, holds the variable's last
    value, and is no longer listed — so the slot has *no* open upvalue … -/
theorem closed_slot_is_free {s : VmState} (hinv : UpInv s) {k slot u₀ : Nat}
    (h0 : upvalueFor s slot = some u₀) (hk : k ≤ slot) :
    upvalueFor (closeState k s) slot = none ∧
    (closeState k s).heap.get u₀ = some (.upvalue (.closed (s.stack.get slot))) ∧
    u₀ ∉ (closeState k s).openUpvalues ∧ u₀ < (closeState k s).heap.next ∧ UpInv (closeState k s) := by
  have hcp := close_preserves_value hinv k
  obtain ⟨hm, hg⟩ := upvalueFor_some h0
  have h1 := hcp.2.2.2.2.2.1 u₀ hm slot (upvalueSlot_eq_some.mpr hg) hk
  have hinv' := hcp.2.2.2.2.2.2.2.2.2.1
  refine ⟨?_, h1.1, h1.2, get_lt_next hinv'.core.fresh h1.1, hinv'⟩
  cases hf : upvalueFor (closeState k s) slot with
  | none => rfl
  | some a =>
    obtain ⟨ham, hag⟩ := upvalueFor_some hf
    have := hcp.2.2.2.2.2.2.2.2.2.2 a ham slot (upvalueSlot_eq_some.mpr hag)
    omega

/-- … **and the next registration of that slot (the next loop iteration) captures a distinct
    variable**: a new object `u ≠ u₀`; the old one keeps the value it was closed with (unless
    nothing refers to it any more and a collection removed it) -/
theorem each_iteration_captures_fresh {s : VmState} (hinv : UpInv s) {k index u₀ : Nat} {c : Nat}
    {hd ar : UInt32} {ups : List Nat} {fr : Frame}
    (h0 : upvalueFor s (fr.stackOffset + index) = some u₀) (hk : k ≤ fr.stackOffset + index)
    (hp : RegPre (closeState k s) c hd ar ups fr) (hfree : TopFree (closeState k s)) (ip : Nat)
    {ctl : Ctl} {s' : VmState}
    (hgo : (Instr.registerUpvalue index true ip).go (closeState k s) = (.ok ctl, s')) :
    ∃ u, u ≠ u₀ ∧ upvalueFor s' (fr.stackOffset + index) = some u ∧
      s'.heap.get u = some (.upvalue (.stack (fr.stackOffset + index))) ∧
      (s'.heap.get u₀ = some (.upvalue (.closed (s.stack.get (fr.stackOffset + index)))) ∨
       s'.heap.get u₀ = none) ∧
      (u₀ ∈ rootAddrs (popped (closeState k s)) →
        s'.heap.get u₀ = some (.upvalue (.closed (s.stack.get (fr.stackOffset + index))))) := by
  obtain ⟨hnone, hold, hnotin, hlt, hinv'⟩ := closed_slot_is_free hinv h0 hk
  obtain ⟨u, _, _, _, hfor, hgu, _, _, _, hfresh, _, hoth, hroot, _⟩ :=
    register_shares hinv' hfree hp index ip hgo
  have huc : u₀ ≠ c := by intro h; subst h; rw [hp.clo] at hold; cases hold
  refine ⟨u, ?_, hfor, hgu, hoth u₀ _ huc hold, fun hr => hroot u₀ hr huc _ hold⟩
  have := (hfresh hnone).1
  omega

/-! ## 4. `frame_relative` -/

theorem pop_get_lt (st : VStack Val) {i : Nat} (hi : i < st.count - 1) : st.pop.1.get i = st.get i := by
  unfold VStack.pop
  split
  · rfl
  · unfold VStack.get
    simp only
    rw [if_neg (by omega), if_neg (by omega)]
    simp only [List.getD_eq_getElem?_getD]
    rw [List.getElem?_set_ne (by omega)]

/-- **the slot captured by `RegisterUpvalue index (local)` executed in a frame with
    `stackOffset = o` is `o + index`**: the variable of the function that is currently running,
    wherever its frame sits on the value stack — reading the new upvalue yields that variable -/
theorem frame_relative {s : VmState} (hinv : UpInv s) (hfree : TopFree s) {c : Nat} {hd ar : UInt32}
    {ups : List Nat} {fr : Frame} (hp : RegPre s c hd ar ups fr) (index ip : Nat) {ctl : Ctl} {s' : VmState}
    (hgo : (Instr.registerUpvalue index true ip).go s = (.ok ctl, s')) :
    ∃ u, s'.heap.get u = some (.upvalue (.stack (fr.stackOffset + index))) ∧
      (s'.heap.get c = some (.closure hd ar (ups ++ [u])) ∨ s'.heap.get c = none) ∧
      (readUpvalueLoc u).go s' = (.ok (s.stack.get (fr.stackOffset + index)), s') ∧
      (readLocal fr.stackOffset index).go s' = (.ok (s.stack.get (fr.stackOffset + index)), s') := by
  obtain ⟨u, hlt, hst, _, hfor, hgu, hc, _, _, _, _, _, _, hinv'⟩ := register_shares hinv hfree hp index ip hgo
  have horw := open_read_write hinv' (upvalueFor_some hfor).1 (upvalueSlot_eq_some.mpr hgu) .nil
  have hget : s'.stack.get (fr.stackOffset + index) = s.stack.get (fr.stackOffset + index) := by
    rw [hst]; apply pop_get_lt
    rw [hst, pop_count] at hlt; exact hlt
  refine ⟨u, hgu, hc, ?_, ?_⟩
  · rw [horw.2.1, hget]
  · rw [go_readLocal, hget]

/-- before the repair in /repo, `register_upvalue` (`vm/instr_execution.rs`) computed the slot as
    `index`, ignoring the frame offset -/
def oldSlot (_fr : Frame) (index : Nat) : Nat := index

/-- … which is a different slot as soon as the frame does not start at the bottom of the stack -/
theorem oldSlot_differs (fr : Frame) (index : Nat) (h : fr.stackOffset > 0) :
    oldSlot fr index ≠ fr.stackOffset + index := by
  unfold oldSlot; omega

/-! ## 5a. `scope_end`: a run of `CloseUpvalue`/`Pop` instructions -/

/-- the instruction sequence `scope_end` emits for the locals that go out of scope, innermost
    first: `CloseUpvalue` (`true`) for a captured local, `Pop` (`false`) otherwise -/
def scopeExit : List Bool → M Unit
  | [] => pure ()
  | true :: r => do let _ ← Instr.closeUpvalue 0; scopeExit r
  | false :: r => do let _ ← Instr.pop 0; scopeExit r

/-- what leaving a scope with `n` locals does to the machine -/
structure ScopeExit (n : Nat) (s s' : VmState) : Prop where
  count : s'.stack.count = s.stack.count - n
  below_get : ∀ i, i < s.stack.count - n → s'.stack.get i = s.stack.get i
  frames_eq : s'.frames = s.frames
  globals_eq : s'.globals = s.globals
  closed : ∀ u ∈ s.openUpvalues, ∀ i, upvalueSlot s.heap u = some i → s.stack.count - n ≤ i →
    s'.heap.get u = some (.upvalue (.closed (s.stack.get i))) ∧ u ∉ s'.openUpvalues
  kept : ∀ u ∈ s.openUpvalues, ∀ i, upvalueSlot s.heap u = some i → i < s.stack.count - n →
    u ∈ s'.openUpvalues ∧ s'.heap.get u = s.heap.get u
  other : ∀ b, b ∉ s.openUpvalues → s'.heap.get b = s.heap.get b
  open_eq : s'.openUpvalues = s.openUpvalues.filter (below s.heap (s.stack.count - n))
  inv : UpInv s'

theorem ScopeExit.zero {s : VmState} (hinv : UpInv s) : ScopeExit 0 s s where
  count := rfl
  below_get _ _ := rfl
  frames_eq := rfl
  globals_eq := rfl
  closed u hu i hi hle := by have := hinv.bound u hu i hi; omega
  kept u hu i hi _ := ⟨hu, rfl⟩
  other _ _ := rfl
  open_eq := by
    have := closeState_open hinv.core s.stack.count
    rwa [closeState_eq_self hinv.core hinv.bound] at this
  inv := hinv

theorem ScopeExit.close {s : VmState} (hinv : UpInv s) :
    ScopeExit 1 s { closeState (s.stack.count - 1) s with stack := s.stack.pop.1 } := by
  obtain ⟨_, _, _, _, _, hclosed, hkept, hother, hopen, hinv', hbelow⟩ :=
    close_preserves_value hinv (s.stack.count - 1)
  exact {
    count := pop_count _
    below_get := fun i hi => pop_get_lt _ hi
    frames_eq := rfl
    globals_eq := rfl
    closed := hclosed
    kept := hkept
    other := hother
    open_eq := hopen
    inv := shrink_inv hinv' (fun a ha hs => Nat.lt_irrefl _ (hbelow a ha _ hs)) rfl rfl (pop_count _) }

theorem go_closeUpvalue (ip : Nat) (s : VmState) :
    (Instr.closeUpvalue ip).go s =
      if s.stack.count = 0 then (.error .invalidArgument, s)
      else (.ok { ip }, { closeState (s.stack.count - 1) s with stack := s.stack.pop.1 }) := by
  unfold Instr.closeUpvalue
  simp only [go_bind, go_get]
  by_cases h : s.stack.count = 0
  · have hb : (s.stack.count == 0) = true := by simp [h]
    rw [if_pos h]
    simp only [hb, if_true, go_bind, go_throwE]
  · have hb : (s.stack.count == 0) = false := by simp [h]
    rw [if_neg h]
    simp only [hb, Bool.false_eq_true, if_false, go_bind, go_pure, go_closeUpvalues, go_pop]
    rfl

/-- **`CloseUpvalue` (scope exit of a captured local; repaired in /repo: it also removes the slot)
    keeps the invariant without any side condition**: every open upvalue of the top slot is closed
    with the last value of the variable, then the slot is popped -/
theorem closeUpvalue_inv {s : VmState} (hinv : UpInv s) (ip : Nat) :
    UpInv ((Instr.closeUpvalue ip).go s).2 ∧
    (s.stack.count ≠ 0 → ((Instr.closeUpvalue ip).go s).2.stack.count = s.stack.count - 1) ∧
    (∀ u ∈ s.openUpvalues, upvalueSlot s.heap u = some (s.stack.count - 1) → s.stack.count ≠ 0 →
      ((Instr.closeUpvalue ip).go s).2.heap.get u = some (.upvalue (.closed s.stack.last)) ∧
      u ∉ ((Instr.closeUpvalue ip).go s).2.openUpvalues) := by
  rw [go_closeUpvalue]
  split
  · next h => exact ⟨hinv, fun h0 => absurd h h0, fun _ _ _ h0 => absurd h h0⟩
  · next h =>
    have hx := ScopeExit.close hinv
    refine ⟨hx.inv, fun _ => hx.count, fun u hu hs _ => ?_⟩
    have := hx.closed u hu _ hs (Nat.le_refl _)
    rwa [show s.stack.get (s.stack.count - 1) = s.stack.last by
      unfold VStack.get VStack.last; rw [if_neg (by omega), if_pos (by omega)]] at this

theorem ScopeExit.cons {n : Nat} {s s1 s' : VmState} (hinv : UpInv s) (hn : n + 1 ≤ s.stack.count)
    (h1 : ScopeExit 1 s s1) (h2 : ScopeExit n s1 s') : ScopeExit (n + 1) s s' := by
  have hc1 : s1.stack.count = s.stack.count - 1 := h1.count
  have hsub : ∀ a ∈ s1.openUpvalues, a ∈ s.openUpvalues ∧ below s.heap (s.stack.count - 1) a = true := by
    intro a ha; rw [h1.open_eq, List.mem_filter] at ha; exact ha
  have hslot : ∀ a ∈ s.openUpvalues, ∀ i, upvalueSlot s.heap a = some i → i < s.stack.count - 1 →
      a ∈ s1.openUpvalues ∧ upvalueSlot s1.heap a = some i := by
    intro a ha i hi hlt
    obtain ⟨hm, hg⟩ := h1.kept a ha i hi hlt
    exact ⟨hm, by rw [upvalueSlot_congr hg]; exact hi⟩
  refine {
    count := by rw [h2.count, hc1]; omega
    below_get := fun i hi => by
      rw [h2.below_get i (by rw [hc1]; omega), h1.below_get i (by omega)]
    frames_eq := h2.frames_eq.trans h1.frames_eq
    globals_eq := h2.globals_eq.trans h1.globals_eq
    closed := ?_, kept := ?_, other := ?_, open_eq := ?_
    inv := h2.inv }
  · intro u hu i hi hle
    by_cases htop : s.stack.count - 1 ≤ i
    · obtain ⟨hg, hnot⟩ := h1.closed u hu i hi htop
      refine ⟨by rw [h2.other u hnot]; exact hg, ?_⟩
      intro hm
      rw [h2.open_eq] at hm
      exact hnot (List.mem_filter.mp hm).1
    · have hlt : i < s.stack.count - 1 := by omega
      obtain ⟨hm, hs1⟩ := hslot u hu i hi hlt
      have := h2.closed u hm i hs1 (by rw [hc1]; omega)
      rw [h1.below_get i hlt] at this
      exact this
  · intro u hu i hi hlt
    obtain ⟨hm, hs1⟩ := hslot u hu i hi (by omega)
    obtain ⟨hm', hg'⟩ := h2.kept u hm i hs1 (by rw [hc1]; omega)
    exact ⟨hm', hg'.trans (h1.kept u hu i hi (by omega)).2⟩
  · intro b hb
    have hb1 : b ∉ s1.openUpvalues := fun h => hb (hsub b h).1
    rw [h2.other b hb1, h1.other b hb]
  · rw [h2.open_eq, h1.open_eq, List.filter_filter]
    apply List.filter_congr
    intro a ha
    obtain ⟨i, hi⟩ := hinv.core.open_ a ha
    by_cases hlt : i < s.stack.count - 1
    · obtain ⟨_, hs1⟩ := hslot a ha i hi hlt
      simp only [below, hi, hs1, hc1]
      rw [Bool.eq_iff_iff]
      simp only [Bool.and_eq_true, decide_eq_true_eq]
      omega
    · have h3 : ¬ i < s.stack.count - (n + 1) := by omega
      simp only [below, hi, hlt, h3, decide_false, Bool.and_false]

/-- the slots that `scope_end` leaves to a plain `Pop` are not captured (the compiler emits
    `CloseUpvalue` for every captured local): the `j`-th instruction removes slot `count - 1 - j` -/
def PopsUncaptured (caps : List Bool) (s : VmState) : Prop :=
  ∀ j, caps[j]? = some false → ∀ a ∈ s.openUpvalues, upvalueSlot s.heap a ≠ some (s.stack.count - 1 - j)

/-- **`scope_end_closes_all`**: executing the `k` consecutive `CloseUpvalue`/`Pop` instructions that
    `scope_end` emits for `k` locals (captured ones as `CloseUpvalue`), from a well-formed state
    with the `k` locals on top of the stack, succeeds and

    * closes exactly the upvalues of those `k` slots — *all* of them, each holding its slot's value;
    * removes the `k` slots;
    * leaves everything below, all other upvalues (still open), every other object, the frames and
      the globals untouched, and the invariant intact.

    (Before the repair in /repo `CloseUpvalue` did not remove the slot, so a second `CloseUpvalue`
    looked at the same top slot and the lower captured local stayed open.) -/
theorem scope_end_closes_all : ∀ (caps : List Bool) {s : VmState}, UpInv s →
    caps.length ≤ s.stack.count → PopsUncaptured caps s →
    ∃ s', (scopeExit caps).go s = (.ok ⟨⟩, s') ∧ ScopeExit caps.length s s' := by
  intro caps
  induction caps with
  | nil => intro s hinv _ _; exact ⟨s, rfl, ScopeExit.zero hinv⟩
  | cons c rest ih =>
    intro s hinv hk hpops
    simp only [List.length_cons] at hk
    have h0 : s.stack.count ≠ 0 := by omega
    have hgo : (scopeExit (c :: rest)).go s =
        (scopeExit rest).go { closeState (s.stack.count - 1) s with stack := s.stack.pop.1 } := by
      cases c with
      | true =>
        show (Instr.closeUpvalue 0 >>= fun _ => scopeExit rest).go s = _
        rw [go_bind, go_closeUpvalue, if_neg h0]
      | false =>
        -- a `Pop` of a slot that is not captured is a `CloseUpvalue` that closes nothing
        have hfree : TopFree s := fun a ha => by simpa using hpops 0 rfl a ha
        show (Instr.pop 0 >>= fun _ => scopeExit rest).go s = _
        rw [go_bind, go_instrPop, closeState_eq_self hinv.core (hfree.lt hinv)]
    have h1 := ScopeExit.close hinv
    generalize ({ closeState (s.stack.count - 1) s with stack := s.stack.pop.1 } : VmState) = s1 at hgo h1
    have hc1 : s1.stack.count = s.stack.count - 1 := h1.count
    have hpops1 : PopsUncaptured rest s1 := by
      intro j hj a ha hs
      rw [h1.open_eq, List.mem_filter] at ha
      obtain ⟨i, hi⟩ := hinv.core.open_ a ha.1
      have hb := ha.2
      simp only [below, hi, decide_eq_true_eq] at hb
      have hs1 : upvalueSlot s1.heap a = some i := by
        rw [upvalueSlot_congr (h1.kept a ha.1 i hi hb).2]; exact hi
      rw [hs1, hc1] at hs
      refine hpops (j + 1) (by simpa using hj) a ha.1 ?_
      rw [hi]
      simp only [Option.some.injEq] at hs ⊢
      omega
    obtain ⟨s', hgo', h2⟩ := ih h1.inv (by rw [hc1]; omega) hpops1
    exact ⟨s', by rw [hgo, hgo'], ScopeExit.cons hinv (by omega) h1 h2⟩

/-! ## 5b. the invariant and the other capture instructions -/

def InvR (s s' : VmState) : Prop := UpInv s → UpInv s'

instance : StateOrder InvR where
  refl _ h := h
  trans h1 h2 h := h2 (h1 h)

theorem invPres_push (v : Val) : Pres InvR (push v) := Pres.intro (fun _ h => push_inv h v)

theorem invPres_curFrame : Pres InvR curFrame :=
  Pres.intro fun s h => by rw [go_curFrame]; split <;> exact h

theorem invPres_readUpvalueLoc (a : Nat) : Pres InvR (readUpvalueLoc a) := by
  unfold readUpvalueLoc
  refine pres_bind pres_get fun s => ?_
  split
  · exact pres_pure _
  · exact pres_pure _
  · exact pres_throwE _

theorem invPres_dropGuard (a : Nat) : Pres InvR (dropGuard a) :=
  pres_modify fun s => UpInv.congr (s := s) rfl rfl (Nat.le_refl _)

theorem invPres_writeUpvalueLoc (u : Nat) (v : Val) : Pres InvR (writeUpvalueLoc u v) := by
  refine Pres.intro (fun s h => ?_)
  unfold writeUpvalueLoc
  simp only [go_bind, go_get]
  split
  · exact UpInv.congr (s := s) rfl rfl (Nat.le_refl _) h
  · next w hg =>
    refine ⟨set_closed_core h.core u v w hg, ?_⟩
    intro a ha i hi
    have hau : a ≠ u := by
      intro hau; subst hau
      obtain ⟨j, hj⟩ := h.core.open_ a ha
      rw [upvalueSlot_eq_some.mp hj] at hg; cases hg
    have : upvalueSlot (s.heap.set u (.upvalue (.closed v))) a = upvalueSlot s.heap a :=
      upvalueSlot_congr (get_set_ne _ _ _ _ hau)
    exact h.bound a ha i (this ▸ hi)
  · exact h

theorem invPres_allocBytes (c : Nat) : Pres InvR (allocBytes c) := by
  refine Pres.intro fun s h => ?_
  rw [go_allocBytes]
  have hrel := allocPure_rel c s
  exact ⟨allocPure_core c h.core, UpBound.of_keep h.bound hrel.open_eq
    (fun a ha => hrel.root_keep a (mem_rootAddrs_open ha)) (by rw [hrel.stack_eq]; exact Nat.le_refl _)⟩

theorem invPres_newObject (o : Obj) (ho : noUps o = true) : Pres InvR (newObject o) := by
  refine Pres.intro (fun s h => ⟨withObject_core h.core o ho, ?_⟩)
  refine UpBound.of_keep (s' := withObject o s) h.bound rfl (fun a ha => ?_) (Nat.le_refl _)
  obtain ⟨i, hi⟩ := h.core.open_ a ha
  have := upvalueSlot_eq_some.mp hi
  rw [get_withObject_of_some o _ this, this]

theorem closure_inv (hd ar : UInt32) (ip : Nat) : Pres InvR (Instr.closure hd ar ip) := by
  unfold Instr.closure initSimple
  exact pres_bind (pres_bind (invPres_allocBytes _) fun _ => invPres_newObject _ rfl) fun a =>
    pres_bind (invPres_push _) fun _ => pres_bind (invPres_dropGuard a) fun _ => pres_pure _

theorem readUpvalue_inv (idx ip : Nat) : Pres InvR (Instr.readUpvalue idx ip) := by
  unfold Instr.readUpvalue
  refine pres_bind invPres_curFrame fun fr => ?_
  dsimp only
  split
  · exact pres_throwE_bind
  · refine pres_bind pres_get fun s => ?_
    split
    · split
      · exact pres_bind (invPres_readUpvalueLoc _) fun v => pres_bind (invPres_push v) fun _ => pres_pure _
      · exact pres_throwE_bind
    · exact pres_throwE_bind

theorem setUpvalue_inv {s : VmState} (hinv : UpInv s) (hfree : TopFree s) (idx ip : Nat) :
    UpInv ((Instr.setUpvalue idx ip).go s).2 := by
  unfold Instr.setUpvalue
  rw [go_bind, go_pop]
  refine Pres.rel (R := InvR) (pres_bind invPres_curFrame fun fr => ?_) _ (pop_inv hinv hfree)
  dsimp only
  split
  · exact pres_throwE_bind
  · refine pres_bind pres_get fun s => ?_
    split
    · split
      · exact pres_bind (invPres_writeUpvalueLoc _ _) fun _ => pres_pure _
      · exact pres_throwE_bind
    · exact pres_throwE_bind

/-- every instruction keeps `UpCore` — the part of the invariant that does not mention the height
    of the value stack — whatever the bytecode is -/
theorem step_core (p : Prog) (reenter : Reenter) (hre : ∀ f, Pres CoreR (reenter f)) (src : Nat)
    {s : VmState} (hc : UpCore s) : UpCore ((step p reenter src).go s).2 :=
  (pres_step p reenter hre src).rel s hc

/-- … and so does every run of the dispatch loop, of `run_function` and of `Vm::run` -/
theorem exec_core' (p : Prog) (gas : Nat) (t : Task) {s : VmState} (hc : UpCore s) :
    UpCore (exec p gas t s).1 := exec_core p gas t s hc

theorem run_core' (p : Prog) (n : Nat) {s : VmState} (hc : UpCore s) : UpCore (run p n s).1 :=
  run_core p n s hc

/-- The full statement about runs: *the compiled program of any module keeps `UpInv` in every
    state the dispatch loop goes through.*  `UpCore` is proved for arbitrary bytecode
    (`exec_core'`); `UpBound` is **not** an invariant of arbitrary bytecode (`pop_breaks_bound`) — it
    needs the scoping discipline of the compiler (`scopeEnd` emits `CloseUpvalue` for every captured
    local before its slot is popped; temporaries are never captured), i.e. a simulation between
    the compiler's `locals` bookkeeping and the value stack, which is not done here.  The
    instruction-level facts that argument needs are proved above (§5, §5a, §5b, `register_shares`). -/
def upInv_of_compiled_runs_Full : Prop :=
  ∀ (m std : Module) (limit : Nat) (prog : Compiler.Program) (n gas : Nat) (s : VmState),
    Compiler.compile m std limit = .ok prog → UpInv s → s.stack.count = 0 →
    UpInv (exec (Prog.ofProgram prog) gas (.loop 0) (started n s)).1

/-! ## 7. non-vacuity: concrete machines -/

def isUpB (h : Heap) (u : Nat) : Bool :=
  match h.get u with
  | some (.upvalue _) => true
  | _ => false

def sortedB : List (Option Nat) → Bool
  | [] => true
  | none :: _ => false
  | some i :: rest => rest.all (fun o => match o with | some j => decide (j < i) | none => false) && sortedB rest

/-- a decidable checker for `UpInv` (sound: `upInv_of_check`), for the concrete machines below -/
def upInvB (s : VmState) : Bool :=
  s.heap.objs.all (fun p => decide (p.1 < s.heap.next)) &&
  sortedB (s.openUpvalues.map (upvalueSlot s.heap)) &&
  s.openUpvalues.all (fun a => match upvalueSlot s.heap a with
    | some i => decide (i < s.stack.count) | none => false) &&
  s.heap.objs.all (fun p => match p.2 with
    | .closure _ _ ups => ups.all (isUpB s.heap) | _ => true)

theorem sortedB_sound (h : Heap) : ∀ l : List Nat, sortedB (l.map (upvalueSlot h)) = true →
    l.Pairwise (SlotGt h) := by
  intro l
  induction l with
  | nil => intro _; exact List.Pairwise.nil
  | cons a rest ih =>
    intro hs
    rw [List.map_cons] at hs
    cases ha : upvalueSlot h a with
    | none => rw [ha] at hs; cases hs
    | some i =>
      rw [ha] at hs
      simp only [sortedB, Bool.and_eq_true, List.all_eq_true, List.mem_map, forall_exists_index, and_imp,
        forall_apply_eq_imp_iff₂] at hs
      rw [List.pairwise_cons]
      refine ⟨?_, ih hs.2⟩
      intro b hb i' j hi' hj
      rw [ha] at hi'; cases hi'
      have := hs.1 b hb
      rw [hj] at this
      simpa using this

theorem upInv_of_check {s : VmState} (h : upInvB s = true) : UpInv s := by
  simp only [upInvB, Bool.and_eq_true, List.all_eq_true, decide_eq_true_eq] at h
  obtain ⟨⟨⟨h1, h2⟩, h3⟩, h4⟩ := h
  have hopen : ∀ a ∈ s.openUpvalues, ∃ i, upvalueSlot s.heap a = some i ∧ i < s.stack.count := by
    intro a ha
    have := h3 a ha
    cases hs : upvalueSlot s.heap a with
    | none => rw [hs] at this; cases this
    | some i => rw [hs] at this; exact ⟨i, rfl, by simpa using this⟩
  refine ⟨⟨h1, fun a ha => (hopen a ha).imp (fun _ h => h.1), sortedB_sound _ _ h2, ?_⟩, ?_⟩
  · intro c hd ar ups hg u hu
    unfold Heap.get at hg
    cases hf : s.heap.objs.find? (fun p => p.1 == c) with
    | none => rw [hf] at hg; cases hg
    | some p =>
      rw [hf] at hg
      simp only [Option.map_some, Option.some.injEq] at hg
      have := h4 p (List.mem_of_find?_eq_some hf)
      rw [hg] at this
      simp only [List.all_eq_true] at this
      have hu' := this u hu
      unfold isUpB at hu'
      split at hu'
      · next loc hl => exact ⟨loc, hl⟩
      · cases hu'
  · intro a ha i hi
    obtain ⟨j, hj, hlt⟩ := hopen a ha
    rw [hj] at hi; cases hi; exact hlt

def closureUps (h : Heap) (c : Nat) : Option (List Nat) :=
  match h.get c with
  | some (.closure _ _ ups) => some ups
  | _ => none

def closedVal (h : Heap) (u : Nat) : Option Val :=
  match h.get u with
  | some (.upvalue (.closed v)) => some v
  | _ => none

def okVal {α : Type} : Except ErrKind α × VmState → Option α
  | (.ok a, _) => some a
  | _ => none

/-- `RegisterUpvalue 0 local` ×2, `RegisterUpvalue 1 local`, `CloseUpvalue`, `RegisterUpvalue 0 local` -/
def demoProg : Prog :=
  { bytecode := #[45, 0, 1, 45, 0, 1, 45, 1, 1, 46, 45, 0, 1], data := #[], labels := [], varNames := [], trace := [] }

def noReenter : Reenter := fun _ => pure .nil

/-- two frames: the caller's (`offset 0`, variables 10 and 20) and the running one (`offset 2`,
    variables 30 and 40); two closure objects under construction (addresses 1 and 2) -/
def demo0 : VmState :=
  { stack := { count := 8, data := [.int 10, .int 20, .int 30, .int 40, .obj 1, .obj 1, .obj 2, .obj 1, .nil, .nil] },
    frames := [⟨0, 0, 0, none⟩, ⟨0, 0, 2, none⟩], frameCap := 8, mem := Mem.new 100000,
    heap := { objs := [(1, .closure 7 0 []), (2, .closure 8 0 [])], next := 3 } }

/-- closure 1 captures variable 0 of the running frame -/
def demo1 : VmState := ((step demoProg noReenter 0).go demo0).2
/-- its sibling, closure 2, captures the same variable -/
def demo2 : VmState := ((step demoProg noReenter 3).go demo1).2
/-- closure 1 captures variable 1 of the running frame too -/
def demo3 : VmState := ((step demoProg noReenter 6).go demo2).2

example : UpInv demo0 := upInv_of_check (by decide +kernel)
example : RegPre demo0 1 7 0 [] ⟨0, 0, 2, none⟩ := ⟨by decide +kernel, rfl, rfl⟩
example : TopFree demo0 := fun _ ha => absurd ha List.not_mem_nil

/-- frame-relative: the new upvalue (address 3) is open at slot `2 = offset + 0`, i.e. it is the
    running function's variable (30) — `oldSlot` is slot `0`, the caller's variable (10) -/
example : closureUps demo1.heap 1 = some [3] ∧ upvalueSlot demo1.heap 3 = some 2 ∧
    demo1.openUpvalues = [3] ∧ okVal ((readUpvalueLoc 3).go demo1) = some (.int 30) ∧
    demo0.stack.get (oldSlot ⟨0, 0, 2, none⟩ 0) = .int 10 := by decide +kernel

/-- sharing: the sibling gets the *same* object; no second upvalue is created -/
example : closureUps demo2.heap 2 = some [3] ∧ closureUps demo2.heap 1 = some [3] ∧
    demo2.openUpvalues = [3] ∧ demo2.heap.next = 4 := by decide +kernel

/-- separation: another variable gets another object; the list stays sorted by slot, highest first -/
example : closureUps demo3.heap 1 = some [3, 4] ∧ upvalueSlot demo3.heap 4 = some 3 ∧
    demo3.openUpvalues = [4, 3] ∧ upInvB demo3 = true := by decide +kernel

example : UpInv demo3 := upInv_of_check (by decide +kernel)

/-- closure 1 runs (a third frame) and assigns 99 to its upvalue 0 -/
def demo4 : VmState :=
  ((Instr.setUpvalue 0 0).go
    { demo3 with frames := demo3.frames ++ [⟨0, 0, 5, some 1⟩],
                 stack := { demo3.stack with count := 6, data := demo3.stack.data.set 5 (.int 99) } }).2

/-- … the enclosing function (slot 2) and the sibling closure 2 see the new value -/
example : demo4.stack.get 2 = .int 99 ∧
    (okVal ((Instr.readLocalVar 0 0).go { demo4 with frames := demo4.frames.dropLast })).map (·.ip) = some 4 ∧
    ((Instr.readLocalVar 0 0).go { demo4 with frames := demo4.frames.dropLast }).2.stack.last = .int 99 ∧
    ({ demo4 with frames := demo4.frames.dropLast } : VmState).stack.get 2 = .int 99 ∧
    okVal ((readUpvalueLoc 3).go demo4) = some (.int 99) ∧
    (((Instr.readUpvalue 0 0).go { demo4 with frames := demo3.frames ++ [⟨0, 0, 5, some 2⟩] }).2.stack.last = .int 99) := by
  decide +kernel

/-- scope exit: `closeUpvalues 2` closes both upvalues with the last values of their variables;
    both closures still hold the same addresses -/
def demo5 : VmState := closeState 2 { demo4 with frames := demo3.frames }

example : closedVal demo5.heap 3 = some (.int 99) ∧ closedVal demo5.heap 4 = some (.int 40) ∧
    demo5.openUpvalues = [] ∧ closureUps demo5.heap 1 = some [3, 4] ∧ closureUps demo5.heap 2 = some [3] ∧
    upInvB demo5 = true := by decide +kernel

/-- the closed upvalue is independent of the stack: overwrite slot 2, the closures still read 99;
    a write through closure 2 is read through closure 1 -/
example :
    okVal ((readUpvalueLoc 3).go { demo5 with stack := { demo5.stack with data := demo5.stack.data.set 2 (.int 0) } })
      = some (.int 99) ∧
    okVal ((readUpvalueLoc 3).go ((writeUpvalueLoc 3 (.int 5)).go demo5).2) = some (.int 5) ∧
    ((writeUpvalueLoc 3 (.int 5)).go demo5).2.stack.get 2 = .int 99 := by decide +kernel

/-- next iteration: registering slot 2 again creates a new object (address 5), the old one (3)
    keeps its value -/
def demo6 : VmState :=
  ((step demoProg noReenter 10).go { demo5 with stack := { demo5.stack with count := 5 } }).2

example : closureUps demo6.heap 1 = some [3, 4, 5] ∧ upvalueSlot demo6.heap 5 = some 2 ∧
    closedVal demo6.heap 3 = some (.int 99) ∧ demo6.openUpvalues = [5] ∧ upInvB demo6 = true := by decide +kernel

/-- **two captured locals in one scope** (`{ a = …; b = …; || a + b }`): `demo3` with the two
    captured variables (slots 2 and 3, upvalues 3 and 4) on top of the stack; `scope_end` emits
    `CloseUpvalue; CloseUpvalue`.  Both upvalues are closed with their variables' values and both
    slots are gone — through the real `step` as well.  (Before the repair the second
    `CloseUpvalue` saw slot 3 again and upvalue 3 stayed open, pointing at a dead slot.) -/
def exitProg : Prog := { bytecode := #[46, 46], data := #[], labels := [], varNames := [], trace := [] }
def demo7 : VmState := { demo3 with stack := { demo3.stack with count := 4 } }
def demo8 : VmState := ((scopeExit [true, true]).go demo7).2

example : upInvB demo7 = true ∧ demo7.openUpvalues = [4, 3] ∧
    closedVal demo8.heap 4 = some (.int 40) ∧ closedVal demo8.heap 3 = some (.int 30) ∧
    demo8.openUpvalues = [] ∧ demo8.stack.count = 2 ∧ demo8.stack.get 1 = .int 20 ∧
    closureUps demo8.heap 1 = some [3, 4] ∧ upInvB demo8 = true := by decide +kernel

example :
    let s1 := ((step exitProg noReenter 0).go demo7).2
    let s2 := ((step exitProg noReenter 1).go s1).2
    closedVal s1.heap 4 = some (.int 40) ∧ s1.openUpvalues = [3] ∧ s1.stack.count = 3 ∧
    closedVal s2.heap 3 = some (.int 30) ∧ s2.openUpvalues = [] ∧ s2.stack.count = 2 := by decide +kernel

example : UpInv demo7 ∧ PopsUncaptured [true, true] demo7 :=
  ⟨upInv_of_check (by decide +kernel), fun j hj => by
    rcases j with _ | _ | j <;> simp at hj⟩

/-- `Return` from the running frame closes its upvalues and cuts the stack back -/
example : (retState demo3 ⟨0, 0, 2, none⟩).stack.count = 2 ∧ (retState demo3 ⟨0, 0, 2, none⟩).openUpvalues = [] ∧
    closedVal (retState demo3 ⟨0, 0, 2, none⟩).heap 3 = some (.int 30) ∧
    closedVal (retState demo3 ⟨0, 0, 2, none⟩).heap 4 = some (.int 40) := by decide +kernel

/-- a frame whose offset (3) is above the height (1), with an open upvalue (slot 2) between the two:
    `UpCore` holds, `UpBound` does not -/
def retDemo : VmState :=
  { stack := { count := 1, data := [.int 7, .int 8, .int 9, .nil, .nil] },
    frames := [⟨0, 0, 0, none⟩, ⟨0, 0, 3, none⟩], frameCap := 4, mem := Mem.new 1000,
    heap := { objs := [(1, .upvalue (.stack 2))], next := 2 }, openUpvalues := [1] }

/-- why `return_closes_frame` needs `UpBound s ∨ offset ≤ height` for the invariant: `clear_until`
    never raises the height to the frame's offset, so an open upvalue between the height and the
    offset stays open and above the top.  (Before the repair of `clear_until` in /repo the height
    became 3 here, and the stale slots 1 and 2 became values of the program.) -/
theorem return_needs_bound :
    UpCore retDemo ∧ retDemo.frames.getLast? = some ⟨0, 0, 3, none⟩ ∧
    (retState retDemo ⟨0, 0, 3, none⟩).stack.count = 1 ∧
    ¬ UpBound (retState retDemo ⟨0, 0, 3, none⟩) ∧ ¬ UpBound (Instr.ret.go retDemo).2 := by
  refine ⟨?_, rfl, by decide, ?_, ?_⟩
  · exact UpCore.congr (s := { retDemo with stack := { retDemo.stack with count := 3 } }) rfl rfl
      (upInv_of_check (by decide)).core
  · intro h
    exact absurd (h 1 (by decide) 2 (by decide)) (by decide)
  · intro h
    exact absurd (h 1 (by decide) 2 (by decide)) (by decide)

/-! ## 6. compiler side

`Fr R m`: every successful run of the compiler action `m` relates the state before and after by
the preorder `R` (the triple `Sat` of `Lemmas/CodeLogic.lean` with trivial conditions: `fr_iff_sat`).
It is used with `LabR` (the label log is only appended to), one of the things `Kp` of
`ResolveLemmas.lean` says about every action of the card compiler. -/

end Cao.C06

namespace Cao.Compiler
open Cao

class CRel (R : CState → CState → Prop) : Prop where
  refl : ∀ s, R s s
  trans : ∀ {a b c}, R a b → R b c → R a c

structure Fr {α : Type} (R : CState → CState → Prop) (m : CM α) : Prop where
  run : ∀ s a s', m s = .ok (a, s') → R s s'

theorem fr_iff_sat {α : Type} {R : CState → CState → Prop} {m : CM α} :
    Fr R m ↔ Sat (fun _ => True) R (fun _ => True) m :=
  ⟨fun h s a s' hr _ => ⟨h.run s a s' hr, trivial⟩, fun h => ⟨fun s a s' hr => (h s a s' hr trivial).1⟩⟩

section fr
variable {R : CState → CState → Prop} [CRel R] {α β : Type}
set_option linter.unusedSectionVars false

theorem CRel.stable : Sat.Stable (fun _ => True) R :=
  ⟨fun _ => CRel.refl _, fun _ => CRel.trans, fun _ _ => trivial⟩

theorem fr_throw {e : CErr} : Fr R (throw e : CM α) := fr_iff_sat.2 Sat.throw

theorem Fr.bind {m : CM α} {f : α → CM β} (hm : Fr R m) (hf : ∀ a, Fr R (f a)) : Fr R (m >>= f) :=
  fr_iff_sat.2 (Sat.bind CRel.stable (fr_iff_sat.1 hm) fun a _ => fr_iff_sat.1 (hf a))

end fr

def LabR (s s' : CState) : Prop := ∃ post, s'.labels = s.labels ++ post

instance : CRel LabR where
  refl s := ⟨[], by simp⟩
  trans := by
    rintro a b c ⟨p1, h1⟩ ⟨p2, h2⟩
    exact ⟨p1 ++ p2, by rw [h2, h1, List.append_assoc]⟩

abbrev Lab {α : Type} (m : CM α) : Prop := Fr LabR m

theorem Kp.lab {α : Type} {m : CM α} (h : Kp m) : Lab m := ⟨fun s a s' hr => (h.run s a s' hr).labels⟩

theorem processCard_lab (c : Card) : Lab (processCard c) := (processCard_kp c).lab

end Cao.Compiler

namespace Cao.C06
open Cao Cao.Vm Cao.Compiler

/-! ### operands: `le32` / `rdU32` round trip -/

theorem rdU32_le32 (bc : Array UInt8) (p : Nat) (x : UInt32)
    (h : ∀ j, j < 4 → bc[p + j]? = (le32 x)[j]?) : rdU32 bc p = x.toNat :=
  le32_word x (fun i => bc.getD (p + i) 0) fun j hj => by
    rw [Array.getD_eq_getD_getElem?, h j hj, List.getD_eq_getElem?_getD]

/-! ### the closure expression: its label and its `Closure` instruction -/

/-- the key under which the body of a closure expression is labelled: the handle of the enclosing
    *function* (unique in the whole program), the card path of the expression, and a mask -/
def closureHandle (fnHandle : UInt32) (path : List Nat) : UInt32 :=
  fnHandle ^^^ Hash.handleFromBytes (path.flatMap (fun i => le32 (UInt32.ofNat i))) ^^^
    Hash.handleFromU64 closureMask

/-- the bytes `emitUpvalues` produces for a list of captures (`Compiler.upvalueBytes` of
    `Lemmas/WfUpvalues.lean` is the same function) -/
def upvalueBytes (ups : List (Bool × UInt8)) : List UInt8 :=
  ups.flatMap (fun u => [op.copyLast, op.registerUpvalue, u.2, if u.1 then 1 else 0])

/-- **`emitUpvalues` emits one `CopyLast; RegisterUpvalue index isLocal` per entry, in list order** —
    so the `j`-th registration executed at run time appends the `j`-th entry's upvalue to the closure
    object's list (`register_shares`: `ups ++ [u]`), which is the position `addUpvalue` returned to
    the body for that entry -/
theorem emitUpvalues_bytes : ∀ (ups : List (Bool × UInt8)) (s s' : CState),
    emitUpvalues ups s = .ok ((), s') → s'.bytecode = s.bytecode ++ (upvalueBytes ups).toArray :=
  fun ups s s' h => (emitUpvalues_spec ups s s' h).1

theorem resolveLog_snoc {α β : Type} [BEq α] (log : List (α × β)) (p : α × β) :
    resolveLog (log ++ [p]) = (resolveLog log).filter (fun q => !(q.1 == p.1)) ++ [p] :=
  Compiler.resolveLog_snoc log p

/-- the keys of two closure expressions of the *same* function coincide only if the 32-bit hashes
    of their card paths collide -/
theorem closureHandle_same_fn (h : UInt32) (p₁ p₂ : List Nat) :
    closureHandle h p₁ = closureHandle h p₂ ↔
      Hash.handleFromBytes (p₁.flatMap (fun i => le32 (UInt32.ofNat i))) =
      Hash.handleFromBytes (p₂.flatMap (fun i => le32 (UInt32.ofNat i))) := by
  unfold closureHandle
  rw [UInt32.xor_left_inj, UInt32.xor_right_inj]

/-- the keys of two closure expressions at the same card path in *different functions* (the case
    that went wrong before the repair in /repo: functions of different modules with the same
    module-local index) coincide only if the two functions have the same handle -/
theorem closureHandle_same_path (h₁ h₂ : UInt32) (p : List Nat) :
    closureHandle h₁ p = closureHandle h₂ p ↔ h₁ = h₂ := by
  unfold closureHandle
  rw [UInt32.xor_left_inj, UInt32.xor_left_inj]

/-- the explicit no-collision hypothesis: the key of the closure expression is not inserted into
    the label log again later (by another closure expression, a card label or a function) -/
def HandlesDistinct (fh : UInt32) (later : List (UInt32 × Nat)) : Prop := ∀ q ∈ later, q.1 ≠ fh

/-- **`closure_label_unique_partial`**.  Compile a closure expression (`closureCode`) from the
    compiler state `s` (inside the function with handle `s.fnHandle`, at card path
    `s.curIndices`), with a body that only appends to the label log and to the bytecode
    (`processCard_lab`, `processCard_mono`: every real body).  Then

    * the body's entry point `s.bytecode.size + 5` is inserted into the label log under the key
      `fh = closureHandle s.fnHandle s.curIndices`, which depends on the enclosing function's
      program-wide unique handle and on the card path only;
    * the emitted `Closure` instruction (at some `q` after the body) carries that same key and the
      arity: the interpreter decodes `UInt32.ofNat (rdU32 bytecode (q+1)) = fh`;
    * if the final label log of the compilation is `s'.labels ++ later` and `fh` is not inserted
      again (`HandlesDistinct`, i.e. no 32-bit collision with a later key), the program's label
      table maps `fh` to the body of *this* closure expression.

    Hence, up to `HandlesDistinct`, calling a closure value (which looks up its handle in the label
    table, `callScript_enters`) executes the body of the closure expression that created it. -/
theorem closure_label_unique_partial {args : List String} {body : CM Unit} {s s' : CState}
    (hlab : Lab body) (hmono : ∀ k, Mono k body) (h : closureCode args body s = .ok ((), s')) :
    ∃ post q,
      s'.labels = s.labels ++ (closureHandle s.fnHandle s.curIndices, s.bytecode.size + 5) :: post ∧
      s.bytecode.size + 5 ≤ q ∧
      s'.bytecode[q]? = some op.closure ∧
      UInt32.ofNat (rdU32 s'.bytecode (q + 1)) = closureHandle s.fnHandle s.curIndices ∧
      UInt32.ofNat (rdU32 s'.bytecode (q + 1 + 4)) = UInt32.ofNat args.length ∧
      ∀ later, HandlesDistinct (closureHandle s.fnHandle s.curIndices) (post ++ later) →
        (resolveLog (s'.labels ++ later)).find? (fun l => l.1 == closureHandle s.fnHandle s.curIndices) =
          some (closureHandle s.fnHandle s.curIndices, s.bytecode.size + 5) := by
  obtain ⟨fh, s7, rfl, h7, lay⟩ := closure_frame h
  obtain ⟨post, hpost⟩ := (scopeBegin_kp.lab.bind fun _ => (addLocals_kp _).lab.bind fun _ =>
    hlab.bind fun _ => scopeEnd_kp.lab).run _ _ _ h7
  have hext := ((runs_seq scopeBegin_mono.runs (runs_seq (addLocals_mono _).runs
    (runs_seq (hmono _).runs scopeEnd_mono.runs))).monoV.run _ _ _ h7 (Nat.le_of_eq (Wf.closureCtx_size s _).symm)).1
  have h5 := hext.size_le
  rw [Wf.closureCtx_size] at h5
  have lay := lay h5 fun i hi => by simp only [Array.getD_eq_getD_getElem?, hext.pref i hi]
  have hq : s7.bytecode.size + 2 < s'.bytecode.size := by rw [lay.size]; omega
  refine ⟨post, s7.bytecode.size + 2, ?_, by omega, ?_, lay.handle, lay.arity, fun later hd => ?_⟩
  · rw [lay.labels, hpost, Wf.closureCtx_labels, List.append_assoc]; rfl
  · rw [← lay.clos, Array.getD_eq_getD_getElem?, Array.getElem?_eq_getElem hq]; rfl
  · rw [lay.labels, hpost, Wf.closureCtx_labels, List.append_assoc, List.append_assoc, Compiler.resolveLog_find,
      List.reverse_append, List.reverse_append, List.append_assoc, List.find?_append,
      List.find?_eq_none.2 fun q hq => by simpa using hd q (List.mem_reverse.1 hq)]
    simp [closureHandle]

theorem closure_object (hd ar : UInt32) (ip : Nat) {s s' : VmState} {ctl : Ctl} (hc : Upv.UpCore s)
    (hgo : (Upv.Instr.closure hd ar ip).go s = (.ok ctl, s')) :
    ∃ a, s'.stack.last = .obj a ∧ s'.heap.get a = some (.closure hd ar []) := by
  unfold Upv.Instr.closure at hgo
  simp only [go_bind, go_initSimple] at hgo
  rcases hal : Gc.alloc1Pure Heap.objCharge (.closure hd ar []) s with ⟨r, s1⟩
  rw [hal] at hgo
  cases r with
  | error e => cases hgo
  | ok a =>
    obtain ⟨s0, hrel, hc0, rfl, rfl⟩ := Upv.alloc1Pure_ok hal
    simp only [go_push] at hgo
    by_cases hroom : (Gc.withObject (.closure hd ar []) s0).stack.count + 1 <
        (Gc.withObject (.closure hd ar []) s0).stack.data.length
    · simp only [hroom, if_true, Upv.go_dropGuard, go_pure, Prod.mk.injEq, Except.ok.injEq] at hgo
      obtain ⟨_, rfl⟩ := hgo
      refine ⟨s0.heap.next, ?_, ?_⟩
      · show VStack.last { count := _ + 1, data := _ } = _
        unfold VStack.last
        simp only [Nat.add_sub_cancel, gt_iff_lt, Nat.zero_lt_succ, if_true]
        have hlt : (Gc.withObject (.closure hd ar []) s0).stack.count <
            (Gc.withObject (.closure hd ar []) s0).stack.data.length := by omega
        simp [List.getD_eq_getElem?_getD, hlt]
      · exact Gc.get_withObject_new _ s0 (hc0 hc).fresh
    · simp only [hroom, if_false] at hgo
      cases hgo

theorem callScript_enters {p : Prog} {label : UInt32} {pos : Nat}
    (hl : p.labels.find? (fun l => l.1 == label) = some (label, pos)) (src ip ar : Nat) (clo : Option Nat)
    {s : VmState} (hfr : s.frames.isEmpty = false) (hargs : ¬ s.stack.count < ar)
    (hroom : ¬ s.frames.length ≥ s.frameCap) :
    ∃ s', (step.callScript p src ip label ar clo).go s = (.ok { ip := pos }, s') ∧
      (s'.frames.getLast?.map (·.closure)) = some clo ∧
      (s'.frames.getLast?.map (·.stackOffset)) = some (s.stack.count - ar) := by
  rw [go_callScript, hfr, if_neg Bool.false_ne_true, if_neg hargs, if_neg hroom, hl]
  exact ⟨_, rfl, by simp, by simp⟩

/-! ### upvalue indices: what the body uses is what `emitUpvalues` registers -/

/-- **`addUpvalue` returns the position of `(isLocal, index)` in the upvalue list of the closure
    being compiled**; the list is only appended to, so positions handed out earlier stay valid -/
theorem addUpvalue_index {index : UInt8} {isLocal : Bool} {fid i : Nat} {s s' : CState}
    (hfid : fid < s.upvalues.length) (h : addUpvalue index isLocal fid s = .ok (i, s')) :
    (s'.upvalues.getD fid [])[i]? = some (isLocal, index) ∧
    (∃ ext, s'.upvalues.getD fid [] = s.upvalues.getD fid [] ++ ext) ∧
    (∀ g, g ≠ fid → s'.upvalues.getD g [] = s.upvalues.getD g []) ∧
    s'.upvalues.length = s.upvalues.length := by
  rw [addUpvalue_run] at h
  split at h
  · next j hj =>
    cases h
    obtain ⟨hlt, hp, _⟩ := List.findIdx?_eq_some_iff_getElem.1 hj
    simp only [Bool.and_eq_true, beq_iff_eq] at hp
    exact ⟨by rw [List.getElem?_eq_getElem hlt, ← hp.1, ← hp.2], ⟨[], by simp⟩, fun _ _ => rfl, rfl⟩
  · split at h
    · cases h
    · cases h
      have hget : (s.upvalues.set fid (s.upvalues.getD fid [] ++ [(isLocal, index)])).getD fid [] =
          s.upvalues.getD fid [] ++ [(isLocal, index)] := by rw [getD_set, if_pos ⟨rfl, hfid⟩]
      refine ⟨?_, ⟨[(isLocal, index)], hget⟩, fun g hg => ?_, List.length_set ..⟩
      · show ((s.upvalues.set fid _).getD fid [])[(s.upvalues.getD fid []).length]? = _
        rw [hget]; simp
      · show (s.upvalues.set fid _).getD g [] = _
        rw [getD_set, if_neg fun h => hg h.1.symm]

theorem upvalueBytes_get : ∀ (ups : List (Bool × UInt8)) (j : Nat) (u : Bool × UInt8), ups[j]? = some u →
    (upvalueBytes ups)[4 * j]? = some op.copyLast ∧
    (upvalueBytes ups)[4 * j + 1]? = some op.registerUpvalue ∧
    (upvalueBytes ups)[4 * j + 2]? = some u.2 ∧
    (upvalueBytes ups)[4 * j + 3]? = some (if u.1 then 1 else 0) := by
  intro ups
  induction ups with
  | nil => intro j u h; cases h
  | cons a rest ih =>
    intro j u h
    cases j with
    | zero => cases h; exact ⟨rfl, rfl, rfl, rfl⟩
    | succ j =>
      have e : ∀ r, (upvalueBytes (a :: rest))[4 * (j + 1) + r]? = (upvalueBytes rest)[4 * j + r]? := fun r => by
        rw [show 4 * (j + 1) + r = 4 * j + r + 1 + 1 + 1 + 1 by omega]; rfl
      obtain ⟨h0, h1, h2, h3⟩ := ih j u h
      exact ⟨(e 0).trans h0, (e 1).trans h1, (e 2).trans h2, (e 3).trans h3⟩

/-- **a name that is a local of the directly enclosing function resolves to the upvalue index at
    which that local's slot is registered**: `resolveUpvalue` returns the position of `(local, i)`
    in the closure's upvalue list, `i` being the local's slot index — the operand `RegisterUpvalue`
    adds to the running frame's offset (`frame_relative`). (It also marks the local as captured, so
    that `scopeEnd` emits `CloseUpvalue` for it; the statement does not speak of that.) -/
theorem resolveUpvalue_local {name : String} {fid i : Nat} {s s' : CState} {v : Variable}
    (hfid : fid + 1 < s.upvalues.length)
    (hl : (s.locals.getD fid []).findIdx? (fun l => l.name == name) = some i)
    (h : resolveUpvalue name (fid + 1) s = .ok (v, s')) :
    ∃ u, v = .upvalue u ∧ (s'.upvalues.getD (fid + 1) [])[u]? = some (true, UInt8.ofNat i) := by
  unfold resolveUpvalue at h
  rw [bind_eq_of_ok (get_run _)] at h
  dsimp only at h
  rw [hl] at h
  dsimp only at h
  rw [bind_eq_of_ok (modify_run _ _)] at h
  obtain ⟨u, s3, h3, h⟩ := bind_ok.1 h
  cases h
  exact ⟨u, rfl, (addUpvalue_index (by exact hfid) h3).1⟩

/-- `closure_label_unique_partial` for the `Closure` card as `processCard` compiles it (`cardLabel`,
    then `closureCode` with the real body): the label log gets the card's own label and then the
    closure key -/
theorem closure_card_dispatch {args : List String} {cards : List Card} {s s' : CState}
    (h : processCard (.closure args cards) s = .ok ((), s')) :
    ∃ post q,
      s'.labels = s.labels ++ (indexHandle s.curFunction s.curIndices, s.bytecode.size) ::
        (closureHandle s.fnHandle s.curIndices, s.bytecode.size + 5) :: post ∧
      s.bytecode.size + 5 ≤ q ∧ s'.bytecode[q]? = some op.closure ∧
      UInt32.ofNat (rdU32 s'.bytecode (q + 1)) = closureHandle s.fnHandle s.curIndices ∧
      ∀ later, HandlesDistinct (closureHandle s.fnHandle s.curIndices) (post ++ later) →
        (resolveLog (s'.labels ++ later)).find? (fun l => l.1 == closureHandle s.fnHandle s.curIndices) =
          some (closureHandle s.fnHandle s.curIndices, s.bytecode.size + 5) := by
  simp only [processCard] at h
  obtain ⟨_, s1, h1, h⟩ := bind_ok.1 h
  rw [cardLabel, bind_eq_of_ok (get_run _)] at h1
  obtain rfl := Wf.insertLabel_ok h1
  obtain ⟨post, q, hl, hq, hop, hfh, _, hres⟩ := closure_label_unique_partial
    (compileSubexprFrom_kp 0 cards).lab (fun _ => compileSubexprFrom_mono 0 cards) h
  exact ⟨post, q, by rw [hl]; simp, hq, hop, hfh, hres⟩

/-- The end-to-end statement: *in a compiled program every `Closure` instruction's handle is mapped
    by the label table to the entry point `e` of the body that the same closure expression
    emitted* (recognisable in the bytecode: the expression starts with `Goto q` at `e - 5`, `q`
    being the address of its `Closure` instruction), provided no key was inserted twice into the
    label log.  Proved above per closure expression (`closure_card_dispatch`) with the collision
    hypothesis `HandlesDistinct` on what is inserted *after* the expression.  The decomposition of
    a whole `compileUnit` run into its closure expressions is done in `C08c.lean`/`C08d.lean`:
    `C08d.closure_dispatch_sized` proves this statement with the additional hypothesis
    `sfin.bytecode.size < 2 ^ 32` (the `Goto` operand is patched modulo `2 ^ 32`, so the last clause
    needs it), and `C08d.closure_dispatch_Full_of_small` derives this statement from that bound.
    The collision hypothesis itself cannot be removed: handles are 32-bit hashes. -/
def closure_dispatch_Full : Prop :=
  ∀ (m std : Module) (limit : Nat) (unit : Array FunctionIr) (sfin : CState),
    intoIrStream m std limit = .ok unit → (compileUnit unit).run {} = .ok ((), sfin) →
    (sfin.labels.map (·.1)).Nodup →
    ∀ q, (∃ t, (q, t) ∈ sfin.trace) → sfin.bytecode[q]? = some op.closure →
      ∃ e, (resolveLog sfin.labels).find? (fun l => l.1 == UInt32.ofNat (rdU32 sfin.bytecode (q + 1)))
          = some (UInt32.ofNat (rdU32 sfin.bytecode (q + 1)), e) ∧
        5 ≤ e ∧ sfin.bytecode[e - 5]? = some op.goto ∧ rdU32 sfin.bytecode (e - 4) = q

/-! ### non-vacuity (compiler side) -/

/-- a closure expression `|x| { nil }` at card path `[2, 0]` of the function with handle 77 -/
def demoClosure : Except CErr (Unit × CState) :=
  closureCode ["x"] (compileSubexprFrom 0 [.scalarNil]) { fnHandle := 77, curIndices := [2, 0] }

example : (match demoClosure with
    | .ok (_, s') => (s'.labels, s'.bytecode.toList)
    | .error _ => ([], [])) =
    ([(closureHandle 77 [2, 0], 5), (indexHandle 0 [2, 0, 0], 5)],
     [op.goto, 9, 0, 0, 0, op.scalarNil, op.pop, op.scalarNil, op.ret,
      op.closure, 16, 116, 137, 243, 1, 0, 0, 0]) := by decide +kernel

example : le32 (closureHandle 77 [2, 0]) = [16, 116, 137, 243] := by decide +kernel
/-- two closure expressions of one function at different card paths: different keys (no collision
    here), so `HandlesDistinct` holds for either against the other -/
example : closureHandle 77 [2, 0] ≠ closureHandle 77 [2, 1] ∧
    HandlesDistinct (closureHandle 77 [2, 0]) [(closureHandle 77 [2, 1], 40)] := by
  refine ⟨by decide +kernel, fun q hq => ?_⟩
  simp only [List.mem_singleton] at hq
  subst hq
  decide +kernel
/-- the same card path in two different functions (handles 77 and 78): different keys — before the
    repair in /repo both were keyed by the module-local function index and collided -/
example : closureHandle 77 [2, 0] ≠ closureHandle 78 [2, 0] :=
  fun h => absurd ((closureHandle_same_path 77 78 [2, 0]).mp h) (by decide +kernel)

end Cao.C06
