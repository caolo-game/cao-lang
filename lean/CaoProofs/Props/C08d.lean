import CaoProofs.Props.C08c
import CaoProofs.Props.C04c
/-!
# C08d — closure dispatch of compiled programs, complete (C08c `closure_dispatch_Full'`, C06 `closure_dispatch_Full`)

`C08c.compiled_closure_dispatch` has everything of `C06.closure_dispatch_Full` except the operand of the
`Goto` in front of the body (`rdU32 (e - 4) = q`: the skip-`Goto` of a closure expression jumps to *its own*
`Closure` instruction).  The level structure `UpT` ignores jump operands; the segment structure `JSeg` of
`Lemmas/CaptureJumps.lean` does not: a block `(a, c)` of `C04c.compiled_seq_jump` has
`rdU32 bc (a + 1) = c % 2 ^ 32` (`BlkOK.tgt`), every `Closure` instruction is the `c` of a block
(`JSeg.clos`), and the label `(handle, a + 5)` is in the log (`BlkOK.lab`).

`compiled_closure_dispatch_full` is the complete statement for `p.bytecode.size < 2 ^ 32` (so that
`c % 2 ^ 32 = c`) under `C10b.ClosureHandlesDistinct`; `closure_dispatch_sized` proves the exact statement of
`C06.closure_dispatch_Full` with that one additional hypothesis (`closure_dispatch_Full_sized`).  How the hypotheses compare:
- `C06`'s `(sfin.labels.map (·.1)).Nodup` implies `ClosureHandlesDistinct` (`distinct_of_nodup`), which is
  weaker (it only constrains the handles of `Closure` instructions; `Nodup` fails for every program with a
  `Repeat` card);
- `C06`'s "`q` is a trace key holding the opcode `Closure`" implies `C10.IsInstr p q op.closure`
  (trace keys are instruction starts, `Compiler.Inv.trace`);
- `C06`'s statement has NO bound on the size of the bytecode.  Without one the last clause is not provable
  and presumably false in the model: `patchI32` writes `UInt32.ofNat size`, i.e. the target modulo `2 ^ 32`, so
  for a `Closure` instruction at an address `q ≥ 2 ^ 32` the operand read back is `q % 2 ^ 32 ≠ q`.  (No
  concrete witness: it needs a 4 GiB program.  The Rust compiler patches with the same wrap-around, `as i32`,
  but takes the label of the body by `u32::try_from(len).expect(..)` first: it panics where the model goes on,
  unless the body starts below `2 ^ 32` and the `Closure` instruction lies above.)
-/
namespace Cao.C08d
open Cao Cao.Compiler Cao.Bytecode Cao.C10 Cao.C10b

/-- **`compiled_closure_dispatch_full`** (C06 `closure_dispatch_Full` / C08c `closure_dispatch_Full'`, for
    every compiled program smaller than 4 GiB, under the no-collision hypothesis of `C10b`): as
    `C08c.compiled_closure_dispatch`, and the `Goto` at `e - 5` has **the operand `q`**; the instruction in
    front of `q` is a `Return`: the closure expression is `Goto q; ⟨body⟩ …; Return; Closure h arity; …`. -/
theorem compiled_closure_dispatch_full {m std : Module} {limit : Nat} {p : Program}
    (h : compile m std limit = .ok p) (hsz : p.bytecode.size < 2 ^ 32)
    (hd : ClosureHandlesDistinct m std limit p) (q : Nat) (hq : IsInstr p q op.closure) :
    ∃ e, p.labels.find? (fun l => l.1 == UInt32.ofNat (rdU32 p.bytecode (q + 1))) =
          some (UInt32.ofNat (rdU32 p.bytecode (q + 1)), e) ∧
      5 ≤ e ∧ e ≤ q ∧ p.bytecode.getD (e - 5) 0 = op.goto ∧ rdU32 p.bytecode (e - 4) = q ∧
      IsStartPos p (e - 5) ∧ IsStartPos p e ∧
      p.bytecode.getD (q - 1) 0 = op.ret ∧ IsStartPos p (q - 1) ∧ e + 1 ≤ q ∧
      ∃ nUp, UpT p.bytecode (labelLog m std limit) nUp e q := by
  obtain ⟨e, he, g1, g2, g3, g4, g5, g6⟩ := C08c.compiled_closure_dispatch h hd q hq
  obtain ⟨unit, Bs, _, G, _⟩ := C04c.compiled_seq_jump h
  obtain ⟨hst, hlt, hop⟩ := hq
  obtain ⟨B, hB, hBq⟩ := G.clos q hst hlt hop.symm
  have ok := G.blk B hB
  -- the entry `e` the label table designates is the entry `B.1 + 5` of the block that ends at `q`
  have hmem : (UInt32.ofNat (rdU32 p.bytecode (q + 1)), e) ∈ labelLog m std limit := by
    have := List.mem_of_find?_eq_some he
    rw [compile_labels h] at this
    exact resolveLog_subset _ _ this
  have hlabB : (UInt32.ofNat (rdU32 p.bytecode (q + 1)), B.1 + 5) ∈ labelLog m std limit := by
    have := ok.lab
    rw [hBq] at this
    exact this
  have hee : e = B.1 + 5 := hd q ⟨hst, hlt, hop⟩ _ hlabB _ hmem rfl rfl
  have hlen := ok.len
  have htgt := ok.tgt
  rw [hBq] at hlen htgt
  have hret := ok.ret
  have htr := ok.tr
  rw [hBq] at hret htr
  refine ⟨e, he, g1, g2, g3, ?_, g4, g5, hret, ⟨htr, by omega⟩, by omega, g6⟩
  have h4 : e - 4 = B.1 + 1 := by omega
  rw [h4, htgt]
  exact Nat.mod_eq_of_lt (by omega)

/-- the instance for the size bound of `C10b.compile_wf` -/
theorem compiled_closure_dispatch_full' {m std : Module} {limit : Nat} {p : Program}
    (h : compile m std limit = .ok p) (hsz : p.bytecode.size < 2 ^ 31)
    (hd : ClosureHandlesDistinct m std limit p) (q : Nat) (hq : IsInstr p q op.closure) :
    ∃ e, p.labels.find? (fun l => l.1 == UInt32.ofNat (rdU32 p.bytecode (q + 1))) =
          some (UInt32.ofNat (rdU32 p.bytecode (q + 1)), e) ∧
      5 ≤ e ∧ e ≤ q ∧ p.bytecode.getD (e - 5) 0 = op.goto ∧ rdU32 p.bytecode (e - 4) = q ∧
      IsStartPos p (e - 5) ∧ IsStartPos p e := by
  obtain ⟨e, a1, a2, a3, a4, a5, a6, a7, _⟩ :=
    compiled_closure_dispatch_full h (Nat.lt_trans hsz (by decide)) hd q hq
  exact ⟨e, a1, a2, a3, a4, a5, a6, a7⟩

/-- … in the vocabulary of C04 and for the interpreter's view of the program: what `CallFunction` on the
    closure object created at `q` looks up (`C06.closure_object`: the object carries the handle operand) is
    the entry of the body the `Goto q` in front of it skips -/
theorem compiled_closure_dispatch_full_vm {m std : Module} {limit : Nat} {p : Program}
    (h : compile m std limit = .ok p) (hsz : p.bytecode.size < 2 ^ 32)
    (hd : ClosureHandlesDistinct m std limit p)
    (q : Nat) (hq : C04.Start p q) (hop : p.bytecode.getD q 0 = op.closure) :
    ∃ e, (Vm.Prog.ofProgram p).labels.find?
          (fun l => l.1 == UInt32.ofNat (Vm.rdU32 (Vm.Prog.ofProgram p).bytecode (q + 1))) =
          some (UInt32.ofNat (Vm.rdU32 (Vm.Prog.ofProgram p).bytecode (q + 1)), e) ∧
      5 ≤ e ∧ e ≤ q ∧ p.bytecode.getD (e - 5) 0 = op.goto ∧
      Vm.rdU32 (Vm.Prog.ofProgram p).bytecode (e - 4) = q ∧ C04.Start p (e - 5) ∧ C04.Start p e := by
  obtain ⟨h1, h2⟩ := (C08c.start_iff h q).1 hq
  obtain ⟨e, he, g1, g2, g3, g4, g5, g6, _⟩ := compiled_closure_dispatch_full h hsz hd q ⟨h1, h2, hop.symm⟩
  exact ⟨e, he, g1, g2, g3, g4, (C08c.start_iff h _).2 g5, (C08c.start_iff h _).2 g6⟩

/-- `C08c.closure_dispatch_Full'` with the size hypothesis it lacks -/
def closure_dispatch_Full'_sized : Prop :=
  ∀ (m std : Module) (limit : Nat) (p : Program), compile m std limit = .ok p → p.bytecode.size < 2 ^ 32 →
    ClosureHandlesDistinct m std limit p → ∀ q, IsInstr p q op.closure →
      ∃ e, p.labels.find? (fun l => l.1 == UInt32.ofNat (rdU32 p.bytecode (q + 1))) =
            some (UInt32.ofNat (rdU32 p.bytecode (q + 1)), e) ∧
        5 ≤ e ∧ p.bytecode.getD (e - 5) 0 = op.goto ∧ rdU32 p.bytecode (e - 4) = q

theorem closure_dispatch_sized' : closure_dispatch_Full'_sized := fun m std limit p h hsz hd q hq => by
  obtain ⟨e, a1, a2, _, a4, a5, _⟩ := compiled_closure_dispatch_full h hsz hd q hq
  exact ⟨e, a1, a2, a4, a5⟩

theorem closure_dispatch_Full'_of_small
    (hsmall : ∀ (m std : Module) (limit : Nat) (p : Program), compile m std limit = .ok p →
      p.bytecode.size < 2 ^ 32) : C08c.closure_dispatch_Full' :=
  fun m std limit p h hd q hq => closure_dispatch_sized' m std limit p h (hsmall m std limit p h) hd q hq

theorem distinct_of_nodup {m std : Module} {limit : Nat} (p : Program)
    (h : ((labelLog m std limit).map (·.1)).Nodup) : ClosureHandlesDistinct m std limit p :=
  fun _ _ l1 h1 l2 h2 _ e => functional_of_pairwise _ h l1 h1 l2 h2 e

/-- the exact statement of `C06.closure_dispatch_Full`, plus the hypothesis `sfin.bytecode.size < 2 ^ 32` -/
def closure_dispatch_Full_sized : Prop :=
  ∀ (m std : Module) (limit : Nat) (unit : Array FunctionIr) (sfin : CState),
    intoIrStream m std limit = .ok unit → (compileUnit unit).run {} = .ok ((), sfin) →
    sfin.bytecode.size < 2 ^ 32 →
    (sfin.labels.map (·.1)).Nodup →
    ∀ q, (∃ t, (q, t) ∈ sfin.trace) → sfin.bytecode[q]? = some op.closure →
      ∃ e, (resolveLog sfin.labels).find? (fun l => l.1 == UInt32.ofNat (rdU32 sfin.bytecode (q + 1)))
          = some (UInt32.ofNat (rdU32 sfin.bytecode (q + 1)), e) ∧
        5 ≤ e ∧ sfin.bytecode[e - 5]? = some op.goto ∧ rdU32 sfin.bytecode (e - 4) = q

/-- **`C06.closure_dispatch_Full` for every compilation below 4 GiB** -/
theorem closure_dispatch_sized : closure_dispatch_Full_sized := by
  intro m std limit unit sfin hu hrun hsz hnd q ⟨t, ht⟩ hop
  have hC : CompileRun m std limit unit sfin := ⟨hu, hrun⟩
  have hp := hC.compiles
  have hlog := labelLog_eq hC
  have hstart := (Compiler.Wf.compileUnit_spec hrun).inv.trace (q, t) ht
  have hget : sfin.bytecode.getD q 0 = op.closure := by
    rw [Array.getD_eq_getD_getElem?, hop]; rfl
  obtain ⟨e, a1, a2, _, a4, a5, a6, _⟩ :=
    compiled_closure_dispatch_full hp hsz (distinct_of_nodup _ (by rw [hlog]; exact hnd)) q
      ⟨hstart.1, hstart.2, hget.symm⟩
  refine ⟨e, a1, a2, ?_, a5⟩
  have hlt : e - 5 < sfin.bytecode.size := a6.2
  have a4' : sfin.bytecode.getD (e - 5) 0 = op.goto := a4
  rw [Array.getD_eq_getD_getElem?, Array.getElem?_eq_getElem hlt] at a4'
  rw [Array.getElem?_eq_getElem hlt]
  exact congrArg some a4'

/-- how `C06.closure_dispatch_Full` relates: it is `closure_dispatch_Full_sized` without the size bound;
    it holds as soon as no successful compilation produces 4 GiB of bytecode -/
theorem closure_dispatch_Full_of_small
    (hsmall : ∀ (m std : Module) (limit : Nat) (unit : Array FunctionIr) (sfin : CState),
      intoIrStream m std limit = .ok unit → (compileUnit unit).run {} = .ok ((), sfin) →
      sfin.bytecode.size < 2 ^ 32) : C06.closure_dispatch_Full :=
  fun m std limit unit sfin hu hrun hnd q hq hop =>
    closure_dispatch_sized m std limit unit sfin hu hrun (hsmall m std limit unit sfin hu hrun) hnd q hq hop

/-! ## non-vacuity -/

/-- the two `Closure` instructions (at 31 and 46) of the two-level closure of `C10b`: the hypotheses hold
    (`C08c.twoLevel_dispatch`; the program has 60-odd bytes), and the conclusion: each skip-`Goto` targets
    its own `Closure` instruction -/
example : ∃ p e1 e2, compile twoLevel stdE = .ok p ∧
    p.labels.find? (fun l => l.1 == UInt32.ofNat (rdU32 p.bytecode 32)) =
      some (UInt32.ofNat (rdU32 p.bytecode 32), e1) ∧ 5 ≤ e1 ∧ rdU32 p.bytecode (e1 - 4) = 31 ∧
    p.labels.find? (fun l => l.1 == UInt32.ofNat (rdU32 p.bytecode 47)) =
      some (UInt32.ofNat (rdU32 p.bytecode 47), e2) ∧ 5 ≤ e2 ∧ rdU32 p.bytecode (e2 - 4) = 46 := by
  obtain ⟨p, hc, hd, h31, h46⟩ := C08c.twoLevel_dispatch
  obtain ⟨p', hc', hsz, _⟩ := hypsOK_sound twoLevel_hyps
  have hc'' : compile twoLevel stdE = .ok p' := hc'
  rw [hc] at hc''
  cases hc''
  obtain ⟨e1, a1, a2, _, _, a5, _⟩ := compiled_closure_dispatch_full' hc hsz hd 31 h31
  obtain ⟨e2, b1, b2, _, _, b5, _⟩ := compiled_closure_dispatch_full' hc hsz hd 46 h46
  exact ⟨p, e1, e2, hc, a1, a2, a5, b1, b2, b5⟩

end Cao.C08d
