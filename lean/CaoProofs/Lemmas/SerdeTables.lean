import CaoProofs.Props.C12
import CaoProofs.Props.C13
/-!
# Serialization of the two open-addressing tables (`handle_table/serde_impl.rs`,
# `hash_map/serde_impl.rs`)

Both `Serialize` impls emit the map of `(key, value)` entries in iteration order (`toList`), both
`Visitor::visit_map` impls do

```
let mut cap = map.size_hint().unwrap_or(128);
if !cap.is_power_of_two() { cap = cap.next_power_of_two(); }
let mut res = with_capacity(cap).expect("oom");
while let Some((k, v)) = map.next_entry()? { res.insert(k, v).expect("oom"); }
```

The text/binary formats are trusted: what a format hands to `visit_map` is the entry sequence that
was written, plus a size hint that depends on the format (`Some(len)` for bincode/CBOR, `None` for
JSON/YAML). The functions below take the requested capacity as a parameter, and the theorems hold
for *every* requested capacity.

`expect("oom")`: a refused allocation is reported as `allocErr` here (a panic in the Rust, where
the allocator is the system allocator), an `insert` that rejects the key (the null handle) as
`panic`.
-/
namespace Cao.Serde
open Cao

/-- the capacity `visit_map` asks for, from the size hint of the format -/
def hintCap (hint : Option Nat) : Nat := (hint.getD 128).nextPowerOfTwo

/-! ## allocation oracles without a failure -/

theorem next_noFail {al : Alloc} (h : al.failAt = none) :
    al.next.1 = true ∧ al.next.2.failAt = none := by
  simp [Alloc.next, h]

theorem allocStorage_noFail {al : Alloc} (h : al.failAt = none) :
    (HTable.allocStorage al).1 = true ∧ (HTable.allocStorage al).2.failAt = none := by
  simp [HTable.allocStorage, Alloc.next, h]

theorem allocStorage_failAt (al : Alloc) : (HTable.allocStorage al).2.failAt = al.failAt := by
  by_cases h : al.failAt = some al.n <;> simp [HTable.allocStorage, Alloc.next, h]

/-! ## deserializers that thread the allocation oracle -/

/-- `d` never panics, reports `allocErr` only when the oracle injects a failure, leaves the oracle's
    failure point alone, and otherwise returns something satisfying `Q` -/
def Safe {β : Type} (d : Alloc → Alloc × Res β) (Q : β → Prop) : Prop :=
  ∀ al, ∃ al' r, d al = (al', r) ∧ al'.failAt = al.failAt ∧
    ((r = .allocErr ∧ al.failAt ≠ none) ∨ ∃ b, r = .ok b ∧ Q b)

/-- sequencing as a derived `Deserialize` does it, field after field -/
def resBind {α β : Type} (x : Alloc × Res α) (k : α → Alloc → Alloc × Res β) : Alloc × Res β :=
  match x with
  | (al, .allocErr) => (al, .allocErr)
  | (al, .panic w) => (al, .panic w)
  | (al, .ok a) => k a al

theorem Safe.pure {β : Type} {Q : β → Prop} {b : β} (h : Q b) : Safe (fun al => (al, .ok b)) Q :=
  fun al => ⟨al, _, rfl, rfl, Or.inr ⟨b, rfl, h⟩⟩

theorem Safe.bind {α β : Type} {d : Alloc → Alloc × Res α} {k : α → Alloc → Alloc × Res β}
    {Q : α → Prop} {R : β → Prop} (hd : Safe d Q) (hk : ∀ a, Q a → Safe (k a) R) :
    Safe (fun al => resBind (d al) k) R := by
  intro al
  obtain ⟨al1, r, e, hfa, h⟩ := hd al
  rcases h with ⟨rfl, hne⟩ | ⟨a, rfl, hq⟩
  · exact ⟨al1, .allocErr, by simp only [e, resBind], hfa, Or.inl ⟨rfl, hne⟩⟩
  · obtain ⟨al2, r2, e2, hfa2, h2⟩ := hk a hq al1
    refine ⟨al2, r2, by simp only [e, resBind, e2], hfa2.trans hfa, ?_⟩
    rwa [hfa] at h2

theorem Safe.mono {β : Type} {d : Alloc → Alloc × Res β} {Q Q' : β → Prop} (h : Safe d Q)
    (hq : ∀ b, Q b → Q' b) : Safe d Q' := fun al =>
  let ⟨al', r, e, hfa, hr⟩ := h al
  ⟨al', r, e, hfa, hr.imp_right fun ⟨b, hb, hQ⟩ => ⟨b, hb, hq b hQ⟩⟩

theorem Safe.ok {β : Type} {d : Alloc → Alloc × Res β} {Q : β → Prop} (h : Safe d Q) (al : Alloc)
    (hal : al.failAt = none) : ∃ b al', d al = (al', .ok b) ∧ al'.failAt = none ∧ Q b := by
  obtain ⟨al', r, e, hfa, hr⟩ := h al
  rcases hr with ⟨_, hne⟩ | ⟨b, rfl, hq⟩
  · exact absurd hal hne
  · exact ⟨b, al', e, hfa.trans hal, hq⟩

theorem Safe.no_panic {β : Type} {d : Alloc → Alloc × Res β} {Q : β → Prop} (h : Safe d Q)
    (al : Alloc) (w : String) : (d al).2 ≠ .panic w := by
  obtain ⟨al', r, e, _, hr⟩ := h al
  rw [e]
  rcases hr with ⟨rfl, _⟩ | ⟨b, rfl, _⟩ <;> exact fun h => by cases h

/-! ## `HandleTable` -/
section HT
variable {V : Type}

/-- `Serialize for HandleTable`: the entries in iteration order -/
def htSerialize (t : HTable V) : List (UInt32 × V) := t.toList

/-- one `res.insert(k, v).expect("oom")` -/
def htDeStep (acc : Alloc × Res (HTable V)) (kv : UInt32 × V) : Alloc × Res (HTable V) :=
  match acc with
  | (al, .ok c) =>
    match c.insert kv.1 kv.2 al with
    | (c', al, .ok (.ok _)) => (al, .ok c')
    | (_, al, .ok (.error .alloc)) => (al, .allocErr)
    | (_, al, .ok (.error .invalidHandle)) => (al, .panic "insert: invalid handle")
    | (_, al, .allocErr) => (al, .allocErr)
    | (_, al, .panic w) => (al, .panic w)
  | other => other

/-- `Visitor::visit_map` with requested capacity `c` -/
def htDeserialize (c : Nat) (es : List (UInt32 × V)) (al : Alloc) : Alloc × Res (HTable V) :=
  match (HTable.withCapacity c al : Alloc × Res (HTable V)) with
  | (al, .ok fresh) => es.foldl htDeStep (al, .ok fresh)
  | (al, .allocErr) => (al, .allocErr)
  | (al, .panic w) => (al, .panic w)

structure HTEquiv (t t' : HTable V) : Prop where
  get : ∀ k, t'.get k = t.get k
  len : t'.count = t.count
  perm : t'.toList.Perm t.toList

theorem htDeStep_err (xs : List (UInt32 × V)) (al : Alloc) :
    xs.foldl htDeStep (al, (.allocErr : Res (HTable V))) = (al, .allocErr) := by
  induction xs with
  | nil => rfl
  | cons x xs ih => simp only [List.foldl_cons, htDeStep]; exact ih

theorem htDe_loop :
    ∀ (xs : List (UInt32 × V)) (c : HTable V), C13.HTInv c →
      (xs.map Prod.fst).Nodup → (∀ kv ∈ xs, kv.1 ≠ 0 ∧ c.get kv.1 = none) →
      Safe (fun al => xs.foldl htDeStep (al, .ok c)) fun c' =>
        C13.HTInv c' ∧ c'.get = xs.foldl (fun f kv => OA.fupd f kv.1 (some kv.2)) c.get := by
  intro xs
  induction xs with
  | nil => intro c hI _ _; exact Safe.pure ⟨hI, rfl⟩
  | cons kv xs ih =>
    intro c hI hnd hfresh al
    obtain ⟨k, v⟩ := kv
    simp only [List.map_cons, List.nodup_cons] at hnd
    obtain ⟨hk0, hk⟩ := hfresh (k, v) List.mem_cons_self
    obtain ⟨c1, hins, hI1, hget⟩ := C13.ht_insert_eq hI hk0 v al
    have hget' : c1.get = OA.fupd c.get k (some v) := funext hget
    have hfresh1 : ∀ kv ∈ xs, kv.1 ≠ 0 ∧ c1.get kv.1 = none := fun kv' h => by
      have hne : kv'.1 ≠ k := fun e => hnd.1 (e ▸ List.mem_map_of_mem (f := Prod.fst) h)
      rw [hget, if_neg hne]
      exact hfresh kv' (List.mem_cons_of_mem _ h)
    have hsa := allocStorage_failAt al
    rw [hk] at hins
    simp only [List.foldl_cons, htDeStep, hins, ← hget']
    cases HTable.needsGrow (c.count + 1) c.cap
    · exact ih c1 hI1 hnd.2 hfresh1 al
    · cases hal : (HTable.allocStorage al).1
      · exact ⟨_, .allocErr, by simp [htDeStep_err], hsa, Or.inl ⟨rfl, fun hnone => by
          rw [(allocStorage_noFail hnone).1] at hal; cases hal⟩⟩
      · obtain ⟨al', r, hf, hfa, hr⟩ := ih c1 hI1 hnd.2 hfresh1 (HTable.allocStorage al).2
        refine ⟨al', r, by simpa using hf, hfa.trans hsa, ?_⟩
        rwa [hsa] at hr

theorem ht_deserialize_list (c : Nat) (xs : List (UInt32 × V))
    (hnd : (xs.map Prod.fst).Nodup) (hnz : ∀ kv ∈ xs, kv.1 ≠ 0) :
    Safe (htDeserialize c xs) fun t' =>
      C13.HTInv t' ∧ (∀ k, t'.get k = AL.lookup xs k) ∧ t'.count = xs.length ∧ t'.toList.Perm xs := by
  intro al
  have hwi := C13.ht_withCapacity_inv (V := V) c al
  have hsa := allocStorage_failAt al
  unfold htDeserialize
  rw [C13.ht_withCapacity_eq] at hwi ⊢
  cases hal : (HTable.allocStorage al).1
  · exact ⟨_, .allocErr, by simp, hsa, Or.inl ⟨rfl, fun hnone => by
      rw [(allocStorage_noFail hnone).1] at hal; cases hal⟩⟩
  · simp only [hal, if_true] at hwi ⊢
    have hempty := fun k => OA.get_spec hwi.2.1 (OA.empty_abs _) k
    obtain ⟨al', r, hf, hfa, hr⟩ := htDe_loop xs _ hwi hnd
      (fun kv h => ⟨hnz kv h, hempty kv.1⟩) (HTable.allocStorage al).2
    refine ⟨al', r, hf, hfa.trans hsa, ?_⟩
    rw [hsa] at hr
    rcases hr with h | ⟨t', h1, h2, h3⟩
    · exact Or.inl h
    · have hget : ∀ k, t'.get k = AL.lookup xs k := fun k => by
        rw [h3, AL.foldl_fupd hnd]
        show (AL.lookup xs k).or (OA.get _ _ OA.empty k) = _
        rw [hempty k, Option.or_none]
      have hperm : (t'.toList).Perm xs :=
        AL.perm_of_lookup_eq (AL.WF_toList h2.2.1) hnd fun k =>
          (AL.lookup_toList h2.2.1 k).trans (hget k)
      exact Or.inr ⟨t', h1, h2, hget, by rw [h2.2.2.1]; exact hperm.length_eq, hperm⟩

theorem ht_toList_facts {t : HTable V} (hI : C13.HTInv t) :
    (t.toList.map Prod.fst).Nodup ∧ (∀ kv ∈ t.toList, kv.1 ≠ 0) ∧
    (∀ k, AL.lookup t.toList k = t.get k) ∧ t.toList.length = t.count := by
  refine ⟨OA.toList_keys_nodup hI.2.1.distinct, ?_, ?_, ?_⟩
  · rintro ⟨k, v⟩ hkv h0
    simp only at h0; subst h0
    exact hI.2.2.2.2 v (OA.mem_toList.mp hkv)
  · exact AL.lookup_toList hI.2.1
  · rw [hI.2.2.1]; rfl

theorem ht_roundtrip_safe {t : HTable V} (hI : C13.HTInv t) (c : Nat) :
    Safe (htDeserialize c (htSerialize t)) fun t' => C13.HTInv t' ∧ HTEquiv t t' := by
  obtain ⟨hnd, hnz, hlk, hlen⟩ := ht_toList_facts hI
  exact (ht_deserialize_list c t.toList hnd hnz).mono fun t' ⟨h2, h3, h4, h5⟩ =>
    ⟨h2, fun k => by rw [h3, hlk], by rw [h4, hlen], h5⟩

end HT

/-! ## `CaoHashMap` -/
section HM
variable {K V : Type} [DecidableEq K]

/-- `Serialize for CaoHashMap` -/
def hmSerialize (m : HMap K V) : List (K × V) := m.toList

/-- one `res.insert(k, v).expect("oom")` -/
def hmDeStep (hashOf : K → UInt64) (acc : Alloc × Res (HMap K V)) (kv : K × V) :
    Alloc × Res (HMap K V) :=
  match acc with
  | (al, .ok c) =>
    match c.insert hashOf kv.1 kv.2 al with
    | (c', al, .ok _) => (al, .ok c')
    | (_, al, .allocErr) => (al, .allocErr)
    | (_, al, .panic w) => (al, .panic w)
  | other => other

/-- `Visitor::visit_map` with requested capacity `c` -/
def hmDeserialize (hashOf : K → UInt64) (c : Nat) (es : List (K × V)) (al : Alloc) :
    Alloc × Res (HMap K V) :=
  match (HMap.withCapacity c al : Alloc × Res (HMap K V)) with
  | (al, .ok fresh) => es.foldl (hmDeStep hashOf) (al, .ok fresh)
  | (al, .allocErr) => (al, .allocErr)
  | (al, .panic w) => (al, .panic w)

structure HMEquiv (hashOf : K → UInt64) (m m' : HMap K V) : Prop where
  get : ∀ k, m'.get hashOf k = m.get hashOf k
  len : m'.count = m.count
  perm : m'.toList.Perm m.toList

/-- `visit_map` builds the table as `clone` does (`C12.clone_eq_fromList`), from the entries read
    and at the capacity asked for -/
theorem hmDeserialize_eq_fromList (hashOf : K → UInt64) (c : Nat) (es : List (K × V)) (al : Alloc) :
    hmDeserialize hashOf c es al = C12.fromList hashOf c es al := rfl

theorem hm_deserialize_list (hashOf : K → UInt64) (c : Nat) (xs : List (K × V))
    (hnd : (xs.map Prod.fst).Nodup) :
    Safe (hmDeserialize hashOf c xs) fun m' =>
      C12.HInv hashOf m' ∧ (∀ k, m'.get hashOf k = AL.lookup xs k) ∧ m'.count = xs.length ∧
        m'.toList.Perm xs := by
  intro al
  obtain ⟨m', h1, h2⟩ := C12.fromList_spec hashOf c xs hnd al
  obtain ⟨hfa, hnone⟩ := C12.specCloneLoop_failAt xs.length (max c 1) 0 al.next.2
  refine ⟨_, _, (hmDeserialize_eq_fromList hashOf c xs al).trans h1,
    by split <;> first | exact hfa | rfl, ?_⟩
  cases hc : C12.specCloneCap c xs.length al with
  | none =>
    refine Or.inl ⟨rfl, fun hn => ?_⟩
    unfold C12.specCloneCap at hc
    rw [(next_noFail hn).1, if_pos rfl] at hc
    exact hnone hc hn
  | some cap' =>
    obtain ⟨_, hcnt, hI', habs'⟩ := h2 cap' hc
    exact Or.inr ⟨m', rfl, hI', OA.get_spec hI'.2.1 habs', hcnt,
      (AL.perm_toList hI'.2.1 hnd habs').symm⟩

theorem hm_toList_facts {hashOf : K → UInt64} {m : HMap K V} (hI : C12.HInv hashOf m) :
    (m.toList.map Prod.fst).Nodup ∧ (∀ k, AL.lookup m.toList k = m.get hashOf k) ∧
    m.toList.length = m.count := by
  refine ⟨OA.toList_keys_nodup hI.2.1.distinct, ?_, ?_⟩
  · exact AL.lookup_toList hI.2.1
  · rw [hI.2.2.1]; rfl

theorem hm_roundtrip_safe {hashOf : K → UInt64} {m : HMap K V} (hI : C12.HInv hashOf m) (c : Nat) :
    Safe (hmDeserialize hashOf c (hmSerialize m)) fun m' =>
      C12.HInv hashOf m' ∧ HMEquiv hashOf m m' := by
  obtain ⟨hnd, hlk, hlen⟩ := hm_toList_facts hI
  exact (hm_deserialize_list hashOf c m.toList hnd).mono fun m' ⟨h2, h3, h4, h5⟩ =>
    ⟨h2, fun k => by rw [h3, hlk], by rw [h4, hlen], h5⟩

end HM

end Cao.Serde
