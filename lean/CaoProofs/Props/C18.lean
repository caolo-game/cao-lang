import CaoProofs.Props.C09
import CaoProofs.Lemmas.NoPanicExec
import CaoModel.Driver.VmEngine
/-!
# C18 — host functions

* (e) `callNativeBody_bal` (every registered host function, when it returns, leaves the call stack
  as it found it and the live value stack minus the `bodyPops name` slots it popped itself,
  provided the callback pops what was pushed for it: `Balanced`, `CbBalanced`;
  `callNativeBody_bal0`: nothing popped unless the name is `papply`), `callNative_stack_effect`, `callNative_count`,
  `callNative_error_wrapped`, `callNative_error_is_taskFailure`; proved with the success-only frame
  logic `PresOk` of `Lemmas/NativeLemmas.lean` (tactic `presok_step`).
* (g) `nativeConv_go`, `nativeConv_ok`, `nativeConv_err`, `nativeConv_order`, `toI64_*` and the
  evaluated examples (argument order, result, wrapped errors, unknown handle).
* (h) `register_reserved` — the registration step of the driver.
* (f) `exec_call_native` (a host function calling a native function value), `enterScript_ok`;
  after the repair of `run_function` (it pops the call stack back to its entry depth however the
  callee ended): `run_function_no_leak` (NO hypothesis, every outcome, every fuel: `run_function`
  never leaves a call frame behind), `run_function_frames` (programs with control-flow integrity
  `Cfi` — all compiled programs, `C04.call_cfi_eq`/`C04b.compiled_call_cfi_eq` — on a call stack of
  good return addresses: when `run_function` returns, the call stack is exactly as before),
  `run_function_frames_ok` (the state-level corollary), `run_function_frames_script` (script callees,
  a corollary of `enterScript_ok`), `exit_in_callee_no_leak` (K6: the witness of the repaired defect
  ends with the frames restored),
  `abort_in_callee_ends_only_callee` (what remains of K6: `Exit` in a callee of `run_function` ends
  the callee only, the script that called the host function continues),
  `run_function_frames_Full`/`not_run_function_frames_Full` (the statement without ANY hypothesis
  on the program is false, but only for ill-formed bytecode whose last instruction is not
  `Exit`: `badProg`), `run_function_frames_all_Full` (the `Cfi` statement for failing runs too; proved in
  `Props/C18b.lean`).
-/
namespace Cao.C18
open Cao Cao.Vm Cao.Gc Cao.C02 Cao.C05 Cao.Native Cao.C09

/-! ## (e) the stack effect of `callNative` -/

/-! As a class, `PresOk` is the index from which `presok_step` takes what is known of a building block. -/
attribute [class] PresOk
attribute [instance] presOk_pure presOk_throwE presOk_get presOk_peek presOk_dropGuard presOk_initTable
  presOk_initString presOk_tableInsert presOk_guardVal presOk_unguardVal presOk_guardRows presOk_unguardRows

-- one syntax-directed step of the success-only frame logic for `Bal`
macro "presok_step" : tactic => `(tactic| first
  | intro _
  | (with_reducible refine presOk_callKV ?_ _ _; with_reducible assumption)
  | (with_reducible refine presOk_call1 ?_ _; with_reducible assumption)
  | with_reducible apply presOk_bind | (with_reducible apply presOk_forIn; intro _ _)
  | with_reducible apply presOk_ite
  | with_reducible infer_instance
  | (refine presOk_modify (fun _ => ?_); exact ⟨StackSame.refl _, rfl⟩)
  | split)

theorem presOk_mkRow (k v b : Val) : PresOk Bal (mkRow k v b) := by
  unfold mkRow
  repeat presok_step

theorem presOk_mkRowG (es : List (Val × Val)) (k v b : Val) : PresOk Bal (mkRowG es k v b) := by
  unfold mkRowG
  repeat presok_step

theorem presOk_scanStep (isMin : Bool) {re : Reenter} {keyFn : Val} (hb : Balanced re keyFn 2)
    (x : Val × Val) (st : Val × Nat × Nat) : PresOk Bal (scanStep isMin re keyFn x st) := by
  unfold scanStep
  rw [callKV_bind_eq]
  repeat presok_step

theorem presOk_sortKeyStep {re : Reenter} {keyFn : Val} (hb : Balanced re keyFn 2)
    (x : Val × Val) (acc : List (Val × Val × Val)) : PresOk Bal (sortKeyStep re keyFn x acc) := by
  unfold sortKeyStep
  rw [callKV_bind_eq]
  repeat presok_step

theorem presOk_sortInsertStep (out : Nat) (x : Val × Val × Val) (u : PUnit) :
    PresOk Bal (sortInsertStep out x u) := by
  unfold sortInsertStep
  repeat presok_step

theorem presOk_sortDropStep (x : Val × Val × Val) (u : PUnit) : PresOk Bal (sortDropStep x u) := by
  unfold sortDropStep
  repeat presok_step

attribute [instance] presOk_mkRow presOk_mkRowG presOk_sortInsertStep presOk_sortDropStep

theorem presOk_sortTail (kd : List (Val × Val × Val)) (h : Heap) : PresOk Bal (sortTail kd h) := by
  unfold sortTail
  repeat presok_step

theorem presOk_sortTailG (es : List (Val × Val)) (kd : List (Val × Val × Val)) (h : Heap) :
    PresOk Bal (sortTailG es kd h) := by
  unfold sortTailG
  repeat presok_step

attribute [instance] presOk_sortTail presOk_sortTailG

-- `presok_step`, and the two loop bodies that call the key function `keyFn`
macro "presok_step2" : tactic => `(tactic| first
  | (with_reducible refine presOk_scanStep _ ?_ _ _; with_reducible assumption)
  | (with_reducible refine presOk_sortKeyStep ?_ _ _; with_reducible assumption)
  | presok_step)

/-- `__min` / `__max` leave the live stack and the call stack as they were, as soon as the key
    function pops the two arguments pushed for it -/
theorem minmaxBody_bal (isMin : Bool) {re : Reenter} {s s' : VmState} {r : Val}
    (hb : Balanced re (s.stack.peekLast 0) 2)
    (hok : (minmaxBody isMin re).go s = (.ok r, s')) : Bal s s' := by
  unfold minmaxBody at hok
  rw [go_bind_ok (go_get s), go_bind_ok (go_peek 0 s), go_bind_ok (go_peek 1 s)] at hok
  refine PresOk.ok ?_ s r s' hok
  generalize s.stack.peekLast 0 = keyFn at hb
  split
  · presok_step2
  · split
    · presok_step2
    · rw [callKV_bind_eq]
      repeat presok_step2

theorem sortBody_bal {re : Reenter} {s s' : VmState} {r : Val}
    (hb : Balanced re (s.stack.peekLast 0) 2)
    (hok : (sortBody re).go s = (.ok r, s')) : Bal s s' := by
  unfold sortBody at hok
  rw [go_bind_ok (go_get s), go_bind_ok (go_peek 0 s), go_bind_ok (go_peek 1 s)] at hok
  refine PresOk.ok ?_ s r s' hok
  generalize s.stack.peekLast 0 = keyFn at hb
  split
  · presok_step2
  · repeat presok_step2

/-- the test native `callback(f, x)`: pushes `x`, calls `f` -/
def callbackBody (re : Reenter) : M Val := do
  let _h := (← get).heap
  let x ← peek 0
  let f ← peek 1
  push x
  let r ← re f
  let h := (← get).heap
  modify fun s => { s with hostLog := s.hostLog ++ ["callback -> " ++ (ownD h r).toTok] }
  return r

theorem callNativeBody_callback (re : Reenter) : callNativeBody re "callback" = callbackBody re := by
  unfold callNativeBody
  simp (config := { decide := true }) only []
  rfl

theorem call1_bind_eq {β : Type} (re : Reenter) (f x : Val) (g : Val → M β) :
    (push x >>= fun _ => re f >>= g) = ((push x >>= fun _ => re f) >>= g) := by
  simp [bind_assoc]

theorem callbackBody_bal {re : Reenter} {s s' : VmState} {r : Val}
    (hb : Balanced re (s.stack.peekLast 1) 1)
    (hok : (callbackBody re).go s = (.ok r, s')) : Bal s s' := by
  unfold callbackBody at hok
  rw [go_bind_ok (go_get s), go_bind_ok (go_peek 0 s), go_bind_ok (go_peek 1 s)] at hok
  refine PresOk.ok ?_ s r s' hok
  generalize s.stack.peekLast 1 = f at hb
  rw [call1_bind_eq]
  repeat presok_step2


/-- the natives that do not call back -/
theorem presOk_simple (re : Reenter) {name : String}
    (h : name ≠ "__min" ∧ name ≠ "__max" ∧ name ≠ "__sort" ∧ name ≠ "callback" ∧ name ≠ "papply") :
    PresOk Bal (callNativeBody re name) := by
  unfold callNativeBody
  refine presOk_bind presOk_get (fun _ => ?_)
  split
  all_goals first | (exfalso; simp at h; done) | repeat presok_step2

/-- which function value a native calls back, and how many arguments it pushes for it
    (`papply` pops its callee and pushes nothing) -/
def cbSpec (name : String) (s : VmState) : Option (Val × Nat) :=
  if name = "__min" ∨ name = "__max" ∨ name = "__sort" then some (s.stack.peekLast 0, 2)
  else if name = "callback" then some (s.stack.peekLast 1, 1)
  else if name = "papply" then some (s.stack.peekLast 0, 0)
  else none

/-- how many values the *body* of a host function pops by itself (plain host functions such as
    `papply` take their arguments off the stack; the typed wrappers leave them to `callNative`) -/
def bodyPops (name : String) : Nat := if name = "papply" then 1 else 0

/-- the live stack is the entry stack minus its `n` top slots (same capacity, lower slots
    untouched), the call stack is as before -/
structure PoppedBy (n : Nat) (s s' : VmState) : Prop where
  pre : Prefix s'.stack s.stack
  count : s'.stack.count = s.stack.count - n
  frames : s'.frames = s.frames

theorem PoppedBy.of_bal {s s' : VmState} (h : Bal s s') : PoppedBy 0 s s' :=
  ⟨Prefix.of_stackSame h.1, h.1.count, h.2⟩

/-- the callback is balanced for the callee the native `name` will pass it in state `s` -/
def CbBalanced (re : Reenter) (name : String) (s : VmState) : Prop :=
  ∀ f n, cbSpec name s = some (f, n) → Balanced re f n

/-- natives that never call back need no hypothesis -/
theorem cbBalanced_trivial (re : Reenter) (name : String) (s : VmState)
    (h : name ≠ "__min" ∧ name ≠ "__max" ∧ name ≠ "__sort" ∧ name ≠ "callback" ∧ name ≠ "papply") :
    CbBalanced re name s := by
  intro f n hs
  simp [cbSpec, h.1, h.2.1, h.2.2.1, h.2.2.2.1, h.2.2.2.2] at hs

/-- the hypothesis is satisfiable for the natives that do call back: the ideal callback of C09 -/
example (φ : Val → Val → Val) (s : VmState) : CbBalanced (idealCallback φ) "__sort" s := by
  intro f n hs
  simp only [cbSpec, or_true, if_true, Option.some.injEq, Prod.mk.injEq] at hs
  rw [← hs.2]
  exact (pureCallback_ideal φ f).balanced

/-- every registered host function other than `papply`, when it returns, leaves the live value
    stack and the call stack exactly as it found them -/
theorem callNativeBody_bal0 (re : Reenter) (name : String) {s s' : VmState} {r : Val}
    (hp : name ≠ "papply")
    (hcb : CbBalanced re name s) (hok : (callNativeBody re name).go s = (.ok r, s')) :
    Bal s s' := by
  by_cases h1 : name = "__min"
  · subst h1; rw [callNativeBody_min] at hok
    exact minmaxBody_bal true (hcb _ _ (by simp [cbSpec])) hok
  by_cases h2 : name = "__max"
  · subst h2; rw [callNativeBody_max] at hok
    exact minmaxBody_bal false (hcb _ _ (by simp [cbSpec])) hok
  by_cases h3 : name = "__sort"
  · subst h3; rw [callNativeBody_sort] at hok
    exact sortBody_bal (hcb _ _ (by simp [cbSpec])) hok
  by_cases h4 : name = "callback"
  · subst h4; rw [callNativeBody_callback] at hok
    exact callbackBody_bal (hcb _ _ (by simp [cbSpec])) hok
  · exact (presOk_simple re ⟨h1, h2, h3, h4, hp⟩).ok _ _ _ hok

/-- the plain host function `papply(f)`: pops `f` itself and calls it with no arguments -/
def papplyBody (re : Reenter) : M Val := do
  let _h := (← get).heap
  let f ← pop
  let r ← re f
  let h := (← get).heap
  modify fun s => { s with hostLog := s.hostLog ++ ["papply -> " ++ (ownD h r).toTok] }
  return r

theorem callNativeBody_papply (re : Reenter) : callNativeBody re "papply" = papplyBody re := by
  unfold callNativeBody
  simp (config := { decide := true }) only []
  rfl

theorem papplyBody_popped {re : Reenter} {s s' : VmState} {r : Val}
    (hb : Balanced re (s.stack.peekLast 0) 0)
    (hok : (papplyBody re).go s = (.ok r, s')) : PoppedBy 1 s s' := by
  obtain ⟨hpre, hcnt, hval⟩ := pop_facts s.stack
  unfold papplyBody at hok
  rw [go_bind_ok (go_get s), go_bind_ok (go_pop s), hval] at hok
  obtain ⟨r0, t, hre, hrest⟩ := ok_bind hok
  obtain ⟨h1, h2, h3⟩ := hb _ r0 t (Nat.zero_le _) (fun h => absurd h (Nat.lt_irrefl 0)) hre
  dsimp only at h1 h2 h3
  have hbal : Bal t s' := by
    refine PresOk.ok ?_ t r s' hrest
    repeat presok_step2
  exact ⟨(Prefix.of_stackSame hbal.1).trans (h1.trans hpre),
    by rw [hbal.1.count, ← hcnt]; omega, hbal.2.trans h3⟩

/-- **every registered host function, when it returns, leaves the call stack as it found it and
    the live value stack equal to the entry stack minus the `bodyPops name` top slots it consumed
    itself** (0 for the typed wrappers — their arguments are still there, `callNative` pops them —
    and 1 for the plain `papply`) -/
theorem callNativeBody_bal (re : Reenter) (name : String) {s s' : VmState} {r : Val}
    (hcb : CbBalanced re name s) (hok : (callNativeBody re name).go s = (.ok r, s')) :
    PoppedBy (bodyPops name) s s' := by
  by_cases hp : name = "papply"
  · subst hp
    rw [callNativeBody_papply] at hok
    exact papplyBody_popped (hcb _ _ (by simp [cbSpec])) hok
  · have h0 : bodyPops name = 0 := by simp [bodyPops, hp]
    rw [h0]
    exact PoppedBy.of_bal (callNativeBody_bal0 re name hp hcb hok)


/-- is the value a string object? (the only typed parameter of the test family: `strlen(s)`) -/
def isStrVal (h : Heap) (v : Val) : Bool :=
  match v with
  | .obj a => match h.get a with
    | some (.str _) => true
    | _ => false
  | _ => false

/-- **(g)** the conversions run before the host function, read the arguments where they are and
    never change the machine: `strlen` rejects everything but a string object with
    `InvalidArgument`; the other natives take raw values (their own coercions are in the bodies) -/
theorem nativeConv_go (name : String) (s : VmState) :
    (nativeConv name).go s =
      if name = "strlen" ∧ isStrVal s.heap (s.stack.peekLast 0) = false
      then (.error .invalidArgument, s) else (.ok ⟨⟩, s) := by
  unfold nativeConv
  by_cases hn : name = "strlen"
  · subst hn
    simp (config := { decide := true }) only []
    rw [go_bind_ok (go_peek 0 s)]
    unfold isStrVal
    cases hv : s.stack.peekLast 0 with
    | obj a =>
      simp only []
      rw [go_bind_ok (go_get s)]
      split
      · rename_i heq; simp [heq]
      · rename_i hne
        split
        · rfl
        · rename_i h2
          simp at h2
    | _ => simp
  · split
    · exact absurd rfl hn
    · simp [hn]

theorem nativeConv_ok {name : String} {s s' : VmState} {u : PUnit}
    (h : (nativeConv name).go s = (.ok u, s')) : s' = s := by
  rw [nativeConv_go] at h
  split at h
  · simp at h
  · simp only [Prod.mk.injEq] at h; exact h.2.symm

theorem nativeConv_err {name : String} {s s' : VmState} {e : ErrKind}
    (h : (nativeConv name).go s = (.error e, s')) :
    name = "strlen" ∧ isStrVal s.heap (s.stack.peekLast 0) = false ∧ e = .invalidArgument ∧ s' = s := by
  rw [nativeConv_go] at h
  split at h
  · rename_i hc
    simp only [Prod.mk.injEq, Except.error.injEq] at h
    exact ⟨hc.1, hc.2, h.1.symm, h.2.symm⟩
  · simp at h

theorem nativeConv_snd (name : String) (s : VmState) : ((nativeConv name).go s).2 = s := by
  rw [nativeConv_go]; split <;> rfl

/-- `callNative` as an equation: look the name up, convert (the machine is untouched), run the body, pop the
arguments, push the result; the errors of conversion and body are wrapped -/
theorem callNative_go (re : Reenter) (h : UInt32) (s : VmState) : (callNative re h).go s =
    match nativeNames.find? (fun n => hName n == h) with
    | none => (.error .procedureNotFound, s)
    | some name =>
      match ((nativeConv name).go s).1 with
      | .error e => (.error (.taskFailure name e), s)
      | .ok _ =>
        match (callNativeBody re name).go s with
        | (.error e, s₁) =>
          (.error (.taskFailure name e), { s₁ with stack := (s₁.stack.popN (nativeArity name)).1 })
        | (.ok r, s₁) => (push r).go { s₁ with stack := (s₁.stack.popN (nativeArity name)).1 } := by
  unfold callNative
  cases nativeNames.find? (fun n => hName n == h) with
  | none => rfl
  | some name =>
    dsimp only
    have hs := nativeConv_snd name s
    rw [go_bind, go_tryCatch]
    rcases hc : (nativeConv name).go s with ⟨rc, sc⟩
    rw [hc] at hs
    cases hs
    cases rc with
    | error e => rfl
    | ok u =>
      dsimp only
      rw [go_bind, go_tryCatch]
      rcases (callNativeBody re name).go sc with ⟨rb, sb⟩
      cases rb with
      | error e => rfl
      | ok r => rfl
/-- **(e) the stack effect of a host function call.** When `callNative` returns: the call stack
    is unchanged; the `bodyPops` values the body consumed itself and the `arity` arguments the
    wrapper pops have been replaced by the single result — the height is
    `count - (arity + bodyPops) + 1` (`callNative_count`; natives called with fewer values on the
    stack pop what is there), the capacity is unchanged, every slot below the arguments is
    untouched and the result `r` of the host function is on top. Hypothesis: the callback is balanced for the
    callee this native passes to it (`CbBalanced`; vacuous for natives that do not call back). -/
theorem callNative_stack_effect (re : Reenter) (h : UInt32) {s s' : VmState} {u : PUnit}
    (hcb : ∀ name, nativeNames.find? (fun n => hName n == h) = some name → CbBalanced re name s)
    (hok : (callNative re h).go s = (.ok u, s')) :
    ∃ name r, nativeNames.find? (fun n => hName n == h) = some name ∧
      (∃ s₁, (callNativeBody re name).go s = (.ok r, s₁)) ∧
      s'.frames = s.frames ∧
      s'.stack.count = (s.stack.count - bodyPops name) -
        min (s.stack.count - bodyPops name) (nativeArity name) + 1 ∧
      s'.stack.data.length = s.stack.data.length ∧
      (∀ i, i < s.stack.count - bodyPops name - nativeArity name →
        s'.stack.data[i]? = s.stack.data[i]?) ∧
      s'.stack.peekLast 0 = r := by
  rw [callNative_go] at hok
  cases hfind : nativeNames.find? (fun n => hName n == h) with
  | none => rw [hfind] at hok; cases hok
  | some name =>
    rw [hfind] at hok
    dsimp only at hok
    split at hok
    · cases hok
    rcases hbody : (callNativeBody re name).go s with ⟨rb, s1⟩
    rw [hbody] at hok
    cases rb with
    | error e => cases hok
    | ok r =>
    obtain ⟨hroom, hs'⟩ := push_ok hok
    obtain ⟨hpre, hcount, hfr⟩ := callNativeBody_bal re name (hcb name hfind) hbody
    subst hs'
    dsimp only [VStack.popN] at hroom ⊢
    refine ⟨name, r, rfl, ⟨s1, hbody⟩, hfr, ?_, ?_, ?_, ?_⟩
    · rw [hcount]
    · rw [List.length_set, hpre.cap]
    · intro i hi
      rw [List.getElem?_set]
      have : ¬ s1.stack.count - min s1.stack.count (nativeArity name) = i := by
        rw [hcount]; omega
      simp only [this, if_false]
      exact hpre.slots i (by rw [hcount]; omega)
    · exact peekLast_push0 _ _ _ (by omega)

/-- the usual case: the script supplied all `arity + bodyPops` arguments -/
theorem callNative_count (re : Reenter) (h : UInt32) {s s' : VmState} {u : PUnit}
    (hcb : ∀ name, nativeNames.find? (fun n => hName n == h) = some name → CbBalanced re name s)
    (hok : (callNative re h).go s = (.ok u, s')) :
    ∃ name, nativeNames.find? (fun n => hName n == h) = some name ∧
      (nativeArity name + bodyPops name ≤ s.stack.count →
        s'.stack.count = s.stack.count - (nativeArity name + bodyPops name) + 1) := by
  obtain ⟨name, r, hf, -, -, hc, -⟩ := callNative_stack_effect re h hcb hok
  exact ⟨name, hf, fun hle => by rw [hc, Nat.min_eq_right (by omega)]; omega⟩

/-- **errors of host functions are wrapped**: a failing `callNative` raises
    * `ProcedureNotFound` (no function registered under the handle; machine untouched), or
    * `TaskFailure(name, e)` where `e` is the error of the argument conversion (the arguments are
      left on the stack, the machine is untouched) or of the host function body (the `arity`
      arguments are popped from the stack the body left behind), or
    * `Stackoverflow` when the *result* does not fit on the value stack (after the arguments
      have been popped; see `callNative_error_is_taskFailure` for when that is impossible). -/
theorem callNative_error_wrapped (re : Reenter) (h : UInt32) {s s' : VmState} {e : ErrKind}
    (herr : (callNative re h).go s = (.error e, s')) :
    (nativeNames.find? (fun n => hName n == h) = none ∧ e = .procedureNotFound ∧ s' = s) ∨
    ∃ name, nativeNames.find? (fun n => hName n == h) = some name ∧
      ((∃ e', e = .taskFailure name e' ∧ (nativeConv name).go s = (.error e', s) ∧ s' = s) ∨
       (∃ e' s₁, e = .taskFailure name e' ∧ (callNativeBody re name).go s = (.error e', s₁) ∧
          s' = { s₁ with stack := (s₁.stack.popN (nativeArity name)).1 }) ∨
       (∃ r s₁, e = .stackoverflow ∧ (callNativeBody re name).go s = (.ok r, s₁) ∧
          s' = { s₁ with stack := (s₁.stack.popN (nativeArity name)).1 })) := by
  rw [callNative_go] at herr
  cases hfind : nativeNames.find? (fun n => hName n == h) with
  | none =>
    rw [hfind] at herr
    cases herr
    exact Or.inl ⟨rfl, rfl, rfl⟩
  | some name =>
    rw [hfind] at herr
    refine Or.inr ⟨name, rfl, ?_⟩
    dsimp only at herr
    split at herr
    · next e' hc =>
      cases herr
      exact .inl ⟨e', rfl, Prod.ext hc (nativeConv_snd name s), rfl⟩
    rcases hbody : (callNativeBody re name).go s with ⟨rb, s1⟩
    rw [hbody] at herr
    cases rb with
    | error e' => cases herr; exact .inr (.inl ⟨e', s1, rfl, rfl, rfl⟩)
    | ok r =>
      obtain ⟨he, hs'⟩ := push_err herr
      exact .inr (.inr ⟨r, s1, he, rfl, hs'⟩)

/-- when at least one argument is popped and the stack was not over-full, the result always
    fits: every error of a registered host function is then a `TaskFailure` carrying its name -/
theorem callNative_error_is_taskFailure (re : Reenter) (h : UInt32) {s s' : VmState} {e : ErrKind}
    {name : String} (hfind : nativeNames.find? (fun n => hName n == h) = some name)
    (hcb : CbBalanced re name s)
    (har : 1 ≤ min (s.stack.count - bodyPops name) (nativeArity name))
    (hroom : s.stack.count < s.stack.data.length)
    (herr : (callNative re h).go s = (.error e, s')) : ∃ e', e = .taskFailure name e' := by
  rw [callNative_go, hfind] at herr
  dsimp only at herr
  split at herr
  · next e' _ => cases herr; exact ⟨e', rfl⟩
  rcases hbody : (callNativeBody re name).go s with ⟨rb, s₁⟩
  rw [hbody] at herr
  cases rb with
  | error e' => cases herr; exact ⟨e', rfl⟩
  | ok r =>
    -- the push of the result cannot fail
    obtain ⟨hpre, hcount, -⟩ := callNativeBody_bal re name hcb hbody
    dsimp only at herr
    rw [go_push, if_pos (by dsimp only [VStack.popN]; rw [hcount, hpre.cap]; omega)] at herr
    cases herr

/-! ### arguments arrive in declaration order; the result becomes the value of the call -/

/-- a machine whose value stack holds exactly the supplied arguments, first argument deepest -/
def argVm (vs : List Val) : VmState :=
  { VmState.fresh { stackSize := 8 } with
    stack := ⟨vs.length, vs ++ List.replicate (8 - vs.length) .nil⟩ }

/-- a callback that is never used -/
def noCb : Reenter := fun _ => throwE .unimplemented

/-- `three(a, b, c)` returns its FIRST declared parameter, `four(a, b, c, d)` its LAST: the host
    function sees the script's values in declaration order, and what it returns replaces them -/
example : (match (callNative noCb (hName "three")).go (argVm [.int 1, .int 2, .int 3]) with
  | (.ok _, s') => s'.stack.count == 1 && s'.stack.peekLast 0 == .int 1
  | _ => false) = true := by decide +kernel
example : (match (callNative noCb (hName "four")).go (argVm [.int 1, .int 2, .int 3, .int 4]) with
  | (.ok _, s') => s'.stack.count == 1 && s'.stack.peekLast 0 == .int 4
  | _ => false) = true := by decide +kernel
/-- `sum2(a, b)` below an unrelated value: that value is untouched -/
example : (match (callNative noCb (hName "sum2")).go (argVm [.int 7, .int 20, .int 22]) with
  | (.ok _, s') => s'.stack.count == 2 && s'.stack.peekLast 0 == .int 42 && s'.stack.peekLast 1 == .int 7
  | _ => false) = true := by decide +kernel
/-- an error of the host function is a task failure carrying its name; `fail` takes no argument,
    the value below stays -/
example : (match (callNative noCb (hName "fail")).go (argVm [.int 1]) with
  | (.error (.taskFailure "fail" .invalidArgument), s') => s'.stack.count == 1
  | _ => false) = true := by decide +kernel
/-- a rejected argument: `strlen(5)` is `TaskFailure(strlen, InvalidArgument)`, arguments left -/
example : (match (callNative noCb (hName "strlen")).go (argVm [.int 5]) with
  | (.error (.taskFailure "strlen" .invalidArgument), s') => s'.stack.count == 1
  | _ => false) = true := by decide +kernel
/-- the plain host function `papply(f)` below an unrelated value: the body pops `f`, the wrapper
    pops nothing (`arity = 0`), the callee's result replaces `f` -/
example : (match (callNative (fun _ => pure (.int 9)) (hName "papply")).go (argVm [.int 1, .int 5]) with
  | (.ok _, s') => s'.stack.count == 2 && s'.stack.peekLast 0 == .int 9 && s'.stack.peekLast 1 == .int 1
  | _ => false) = true := by decide +kernel
example : nativeNames.length = 13 ∧ nativeArity "papply" = 0 ∧ bodyPops "papply" = 1 := by decide
/-- an unknown handle -/
example : (match (callNative noCb (hName "nope")).go (argVm [.int 5]) with
  | (.error .procedureNotFound, s') => s'.stack.count == 1
  | _ => false) = true := by decide +kernel
/-- every registered name is found under its own handle (no collisions among the thirteen) -/
example : ∀ n ∈ nativeNames, nativeNames.find? (fun m => hName m == hName n) = some n := by
  decide +kernel

/-! ### (g) the conversion table -/

/- `i64` parameters (`sum2`): integers as they are, `nil ↦ 0`, reals by the saturating cast of
   the floating point unit, string objects by their length -/
theorem toI64_int (h : Heap) (i : Int64) : toI64 h (.int i) = i := by
  unfold toI64; rw [ownD_int]; rfl
theorem toI64_nil (h : Heap) : toI64 h .nil = 0 := by
  unfold toI64; rw [ownD_nil]; rfl
theorem toI64_real (h : Heap) (b : UInt64) : toI64 h (.real b) = hostF64.toInt b := by
  unfold toI64; rw [ownD_real]; rfl
theorem toI64_str {h : Heap} {a : Nat} {b : List UInt8} (hg : h.get a = some (.str b)) :
    toI64 h (.obj a) = Int64.ofNat b.length := by
  unfold toI64; rw [ownD_str hg]; rfl

/-- **(g) order of conversions.** In the model only `strlen` has a typed parameter, so "the first
    failing parameter determines the error" degenerates to: the conversion of that parameter
    decides, before the body runs and without touching the machine. -/
theorem nativeConv_order (name : String) (s : VmState) :
    ((nativeConv name).go s).2 = s ∧
    (((nativeConv name).go s).1 = .ok ⟨⟩ ∨
      (name = "strlen" ∧ isStrVal s.heap (s.stack.peekLast 0) = false ∧
        ((nativeConv name).go s).1 = .error .invalidArgument)) := by
  rw [nativeConv_go]
  split
  · rename_i hc; exact ⟨rfl, Or.inr ⟨hc.1, hc.2, rfl⟩⟩
  · exact ⟨rfl, Or.inl rfl⟩

/- Not expressible in the model (so there is no `nativeConv_order_Full : Prop` here): a host
   function with k > 1 *typed* parameters whose conversions can fail independently — the Rust
   wrappers `into_f1 … into_f4` convert the parameters last to first and return the first error
   met, i.e. that of the highest-numbered bad parameter — and an `InvalidArgument` error that names the parameter (the model's
   `ErrKind.invalidArgument` carries no payload; `sum2`, `three`, `four` take raw `Value`s). -/

/-! ### (h) reserved names -/

/-- the registration step of the driver (`nat register <name>`): exactly the names starting with
    `__` are refused -/
theorem register_reserved (name : String) :
    Driver.natStep ["register", name] =
      (if name.startsWith "__" then "err:InvalidArgument" else "ok") := rfl

/-- in particular the four library natives cannot be overridden, the test family can be registered -/
example : ∀ n ∈ ["__min", "__max", "__sort", "__to_array"],
    Driver.natStep ["register", n] = "err:InvalidArgument" := by decide +kernel
example : ∀ n ∈ ["log", "sum2", "fail", "callback", "strlen", "three", "four", "mktable", "papply"],
    Driver.natStep ["register", n] = "ok" := by decide +kernel

/-! ### (f) `run_function` -/

/-- **a host function calling a native function value**: the callee's result is handed back, the
    call stack is as before, the callee's `arity` arguments are gone and everything below them is
    untouched -/
theorem exec_call_native (p : Prog) (gas : Nat) {a : Nat} {h : UInt32} {s s' : VmState}
    {v : Option Val} (hget : s.heap.get a = some (.native h))
    (hcb : ∀ name, nativeNames.find? (fun n => hName n == h) = some name →
      CbBalanced (reenterOf p gas) name s)
    (hok : exec p (gas + 1) (.call (.obj a)) s = (s', .ok v)) :
    ∃ name r, nativeNames.find? (fun n => hName n == h) = some name ∧ v = some r ∧
      (∃ s₁, (callNativeBody (reenterOf p gas) name).go s = (.ok r, s₁)) ∧
      s'.frames = s.frames ∧
      s'.stack.count = (s.stack.count - bodyPops name) -
        min (s.stack.count - bodyPops name) (nativeArity name) ∧
      s'.stack.data.length = s.stack.data.length ∧
      (∀ i, i < s.stack.count - bodyPops name - nativeArity name →
        s'.stack.data[i]? = s.stack.data[i]?) := by
  rw [exec_call] at hok
  simp only [hget] at hok
  rcases hc : (callNative (reenterOf p gas) h).go s with ⟨rc, s1⟩
  rw [hc] at hok
  cases rc with
  | error e => simp [failAt] at hok
  | ok u =>
    simp only [Prod.mk.injEq, Except.ok.injEq] at hok
    obtain ⟨hs', hv⟩ := hok
    obtain ⟨name, r, hf, hb, hfr, hcnt, hcap, hslots, htop⟩ := callNative_stack_effect _ h hcb hc
    have hne : ¬ s1.stack.count = 0 := by omega
    have hpop : s1.stack.pop = (⟨s1.stack.count - 1, s1.stack.data.set (s1.stack.count - 1) default⟩,
        s1.stack.data.getD (s1.stack.count - 1) default) := by
      unfold VStack.pop; rw [if_neg hne]
    refine ⟨name, r, hf, ?_, hb, ?_, ?_, ?_, ?_⟩
    · rw [← hv, hpop, ← htop]
      unfold VStack.peekLast
      rw [if_pos (by omega)]; rfl
    · rw [← hs']; exact hfr
    · rw [← hs', hpop]; dsimp only; omega
    · rw [← hs', hpop]; dsimp only; rw [List.length_set]; exact hcap
    · intro i hi
      rw [← hs', hpop]; dsimp only
      rw [List.getElem?_set]
      have : ¬ s1.stack.count - 1 = i := by omega
      simp only [this, if_false]
      exact hslots i hi

/-- **a host function calling a script function or closure**: `run_function` pushes the callee's
    frame twice, runs the dispatch loop at the callee's label, and when the loop exits pops the
    call stack back to its entry depth (repaired; before: it popped ONE frame) and the result -/
theorem enterScript_ok (p : Prog) (gas : Nat) {s s' : VmState} {label : UInt32} {arity : Nat}
    {closure : Option Nat} {v : Option Val}
    (hok : enterScript p gas s label arity closure = (s', .ok v)) :
    ∃ l pos sL w, p.labels.find? (fun l => l.1 == label) = some (l, pos) ∧ arity ≤ s.stack.count ∧
      s.frames.length + 2 ≤ s.frameCap ∧
      exec p gas (.loop pos) { s with frames := s.frames ++
        [⟨pos, p.bytecode.size - 1, s.stack.count - arity, closure⟩,
         ⟨pos, p.bytecode.size - 1, s.stack.count - arity, closure⟩] } = (sL, .ok w) ∧
      s'.frames = sL.frames.take s.frames.length ∧ s'.stack = sL.stack.pop.1 ∧
      v = some sL.stack.pop.2 := by
  unfold enterScript at hok
  split at hok
  · simp [failAt] at hok
  · rename_i l pos hfind
    dsimp only at hok
    split at hok
    · simp [failAt] at hok
    · rename_i hcount
      split at hok
      · simp [failAt] at hok
      · rename_i hcap1
        split at hok
        · simp at hok
        · rename_i hcap2
          split at hok
          · rename_i sL w heq
            simp only [Prod.mk.injEq, Except.ok.injEq] at hok
            refine ⟨l, pos, sL, w, hfind, by omega, by omega, heq, ?_, ?_, hok.2.symm⟩
            · rw [← hok.1]
            · rw [← hok.1]
          · simp at hok

/-- "no call frame is left behind" -/
def NoLeak (s s' : VmState) : Prop := s'.frames.length ≤ s.frames.length

instance : Cross.SameFrames NoLeak where
  refl _ := Nat.le_refl _
  trans h1 h2 := Nat.le_trans h2 h1
  of_frames h := by unfold NoLeak; rw [h]; exact Nat.le_refl _

/-- **`run_function` never leaves a call frame behind** — for every program (well-formed or not),
    every callee value, every state, every amount of fuel and EVERY outcome (the callee returned,
    executed `Exit` itself, failed, the call stack overflowed, a host function failed, the budget
    or the fuel ran out): the call stack is not deeper afterwards than it was before.  (Before the
    repair: a failing script callee left two frames behind, K8, an `abort` in it one, K6.) -/
theorem run_function_no_leak (p : Prog) : ∀ (gas : Nat) (f : Val) (s : VmState),
    (exec p gas (.call f) s).1.frames.length ≤ s.frames.length := by
  intro gas f s
  have cut : ∀ {s₀ s : VmState} (s' : VmState), NoLeak s₀ s → (s'.frames.take s.frames.length).length ≤ s₀.frames.length :=
    fun s' h => Nat.le_trans (by rw [List.length_take]; exact Nat.min_le_left _ _) h
  have key := exec_rule p (ι := Unit) (Pre := fun _ _ _ => True) (LQ := fun _ _ => True) (LE := fun _ _ _ => True)
    (CPre := NoLeak) (CQ := NoLeak) (CE := fun s₀ _ => NoLeak s₀)
    (fun _ _ _ _ => ⟨trivial, fun _ => trivial, fun _ => trivial⟩) (fun _ _ _ h _ => h) ?run ?enter gas
  · exact (key.2 s f s (Nat.le_refl _)).state
  case run =>
    intro gas hre
    have hp : ∀ f, Pres NoLeak (reenterOf p gas f) := fun f => pres_of_callback fun s₀ => hre s₀ f
    exact ⟨fun _ _ _ _ _ => ⟨fun _ _ _ _ _ => by split <;> trivial, fun _ _ _ _ _ => trivial⟩,
      fun s₀ h => pres_iff_ho.1 (pres_callNative _ hp h) s₀⟩
  case enter =>
    intro s₀ s a l ar clo e h _ _
    exact ⟨h, (), trivial, fun s' _ => cut s' h, fun _ s' _ => cut s' h⟩

/-- **after `run_function` the call stack is as before** (false without a hypothesis on the program,
    see `not_run_function_frames_Full`): for a
    program with control-flow integrity (`Cfi p G`: the addresses in `G` hold instructions, are
    closed under fall-through and jumps, contain the labels, and the last instruction is `Exit` —
    every compiled program, `C04.wf_cfi`) and a call stack whose return addresses are in `G`,
    whenever `run_function` returns — whether the callee returned to the trap frame or executed
    `Exit` itself through an `abort` card — the call stack is exactly the one it was called on,
    for every fuel. -/
theorem run_function_frames {G : Nat → Prop} (p : Prog) (hc : Cfi p G) (gas : Nat) (f : Val)
    (s : VmState) (hg : Good G s.frames) :
    ExecPost (fun fs' => fs' = s.frames) (fun _ => True) (exec p gas (.call f) s) :=
  execPost_mono ((exec_cfi (E := fun _ => True) p hc gas).2 f s hg) (fun _ h => h.1)

/-- the same on states -/
theorem run_function_frames_ok {G : Nat → Prop} (p : Prog) (hc : Cfi p G) (gas : Nat) (f : Val)
    {s s' : VmState} {v : Option Val} (hg : Good G s.frames)
    (hok : exec p gas (.call f) s = (s', .ok v)) : s'.frames = s.frames :=
  (execPost_iff.1 (run_function_frames p hc gas f s hg)).ok hok

/-- the statement for failing runs too (proved in `Props/C18b.lean`, `run_function_frames_all`):
    `exec_cfi` (`Lemmas/NoPanicExec.lean`) describes the call stack only of runs that return;
    `FramePrefix.exec_frames` (same file) describes the final state of every run -/
def run_function_frames_all_Full : Prop :=
  ∀ (G : Nat → Prop) (p : Prog), Cfi p G → ∀ (gas : Nat) (f : Val) (s : VmState), Good G s.frames →
    (exec p gas (.call f) s).1.frames = s.frames

/-- script callees (a corollary of `enterScript_ok`): the call stack
    is the loop's call stack cut at the entry depth; so it is restored as soon as the loop ended on
    an extension of the caller's call stack (before the repair: only if it ended exactly one frame
    above it) -/
theorem run_function_frames_script (p : Prog) (gas : Nat) {s s' : VmState} {label : UInt32}
    {arity : Nat} {closure : Option Nat} {v : Option Val}
    (hok : enterScript p gas s label arity closure = (s', .ok v)) :
    ∃ (sL : VmState), s'.frames = sL.frames.take s.frames.length ∧
      (∀ rest, sL.frames = s.frames ++ rest → s'.frames = s.frames) := by
  obtain ⟨l, pos, sL, w, -, -, -, -, hfr, -, -⟩ := enterScript_ok p gas hok
  exact ⟨sL, hfr, fun rest h => by rw [hfr, h, List.take_left' rfl]⟩

/-- a program whose only instruction is `Exit`, as the callee of `run_function` -/
def exitProg : Prog :=
  { bytecode := #[Compiler.op.exit], data := #[], labels := [(0, 0)], varNames := [], trace := [] }
def exitVm : VmState :=
  { VmState.fresh { stackSize := 8, callStackSize := 8 } with
    heap := { objs := [(1, .fn 0 0)], next := 2 }, remaining := 10 }

/-- (K6) a script callee that executes `Exit` (the `abort` card) instead of
    `Return`: `run_function` succeeds — and the call stack is restored (before the repair it was
    one frame too deep) -/
theorem exit_in_callee_no_leak : ∃ s' v, exec exitProg 3 (.call (.obj 1)) exitVm = (s', .ok v) ∧
    s'.frames = exitVm.frames := by
  have h : (match exec exitProg 3 (.call (.obj 1)) exitVm with
    | (s', .ok _) => s'.frames.length == 0 && exitVm.frames.length == 0
    | _ => false) = true := by decide +kernel
  rcases hr : exec exitProg 3 (.call (.obj 1)) exitVm with ⟨s', (e | v)⟩
  · rw [hr] at h; simp at h
  · rw [hr] at h
    simp only [Bool.and_eq_true, beq_iff_eq, List.length_eq_zero_iff] at h
    exact ⟨s', v, rfl, by rw [h.1, h.2]⟩

/-- `exitProg` has control-flow integrity: the witness is an instance of `run_function_frames` -/
example : Cfi exitProg (fun a => a = 0) where
  valid src h := by subst h; decide
  seq src sp h _ hne := by subst h; exact absurd rfl hne
  jump src h hj := by subst h; revert hj; decide
  label l hl := by
    simp only [exitProg, List.mem_singleton] at hl
    subst hl; rfl
  last := rfl
  lastExit := rfl
example : Good (fun a => a = 0) exitVm.frames := fun _ h => nomatch h

/-- little-endian bytes of a handle -/
def le32 (n : Nat) : Array UInt8 :=
  #[UInt8.ofNat n, UInt8.ofNat (n / 256), UInt8.ofNat (n / 65536), UInt8.ofNat (n / 16777216)]

/-- `main` (at 0): `papply(h)`, then `global 0 := 42`, `Exit`; `h` (label 7, at 28): `Exit` -/
def contProg : Prog :=
  { bytecode := #[Compiler.op.functionPointer, 7, 0, 0, 0, 0, 0, 0, 0, Compiler.op.callNative] ++
      le32 (hName "papply").toNat ++
      #[Compiler.op.scalarInt, 42, 0, 0, 0, 0, 0, 0, 0, Compiler.op.setGlobalVar, 0, 0, 0, 0,
        Compiler.op.exit],
    data := #[], labels := [(7, 28)], varNames := [], trace := [] }

/-- **what remains of K6**: an `abort` (`Exit`) inside a function that a host function calls back
    through `run_function` does NOT stop the program: it ends only the callee — `run_function`
    returns `nil` to the host function (`papply` writes its log line and hands the `nil` on: it is
    the value left on the stack), and the script that called the host function continues (it
    writes `42` to the global `0` and ends normally, after 6 dispatched instructions: 2 before the
    callback, the callee's `Exit`, 3 after it), on an empty call stack -/
theorem abort_in_callee_ends_only_callee :
    (match run contProg 100 (VmState.fresh { stackSize := 8, callStackSize := 8 }) with
     | (s', none) => s'.globals == [.int 42] && s'.hostLog.length == 1 &&
         s'.stack.count == 1 && s'.stack.peekLast 0 == .nil &&
         s'.dispatches == 6 && s'.frames.length == 0
     | (_, some _) => false) = true := by decide +kernel

/-- the statement "after `run_function` the call stack is as before" WITHOUT a hypothesis on the
    program … -/
def run_function_frames_Full : Prop :=
  ∀ (p : Prog) (gas : Nat) (f : Val) (s s' : VmState) (v : Option Val),
    exec p gas (.call f) s = (s', .ok v) → s'.frames = s.frames

/-- ill-formed bytecode (never produced by the compiler, rejected by `Bytecode.WF`): the last
    instruction, to which the trap frame of `run_function` returns, is `Return` instead of `Exit` -/
def badProg : Prog :=
  { bytecode := #[Compiler.op.exit, Compiler.op.ret], data := #[], labels := [(0, 1)],
    varNames := [], trace := [] }
def badVm : VmState :=
  { VmState.fresh { stackSize := 8, callStackSize := 8 } with
    frames := [⟨0, 0, 0, none⟩, ⟨0, 1, 0, none⟩],
    heap := { objs := [(1, .fn 0 0)], next := 2 }, remaining := 10 }

/-- … is still FALSE in the model, but no longer because of `Exit` in a callee (K6): only for
    bytecode without control-flow integrity — here the callee's `Return` returns to a `Return`,
    which pops the CALLER's frames (popping back to the entry depth cannot restore those); the
    run ends one frame short -/
theorem bad_program_loses_frame : ∃ s' v, exec badProg 9 (.call (.obj 1)) badVm = (s', .ok v) ∧
    s'.frames.length + 1 = badVm.frames.length := by
  have h : (match exec badProg 9 (.call (.obj 1)) badVm with
    | (s', .ok _) => s'.frames.length == 1 && badVm.frames.length == 2
    | _ => false) = true := by decide +kernel
  rcases hr : exec badProg 9 (.call (.obj 1)) badVm with ⟨s', (e | v)⟩
  · rw [hr] at h; simp at h
  · rw [hr] at h
    simp only [Bool.and_eq_true, beq_iff_eq] at h
    exact ⟨s', v, rfl, by rw [h.1, h.2]⟩

theorem not_run_function_frames_Full : ¬ run_function_frames_Full := by
  intro hfull
  obtain ⟨s', v, hrun, hlen⟩ := bad_program_loses_frame
  have := hfull _ _ _ _ _ _ hrun
  rw [this] at hlen
  omega

end Cao.C18
