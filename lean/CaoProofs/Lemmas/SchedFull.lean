import CaoProofs.Lemmas.SchedLift
import CaoProofs.Lemmas.SchedNat
/-!
# Schedule independence for all instructions and host functions: overview

The files, each resting on those before it: `SchedSim.lean` (the relation `SchedEq` between two runs of one machine,
that it is an equivalence, and the statements about it as definitions); `SchedRel.lean` (the relation with a
configuration `Cfg`, of which `SchedEq` is the case `cfg0`; the two-run weakest precondition `W2`); `SchedPrim.lean`
(the allocation layer and the primitives); `SchedInstr.lean`, `SchedUpvalue.lean` (what several instructions share;
calls and upvalues); then side by side `SchedStepAll.lean` (all 47 opcodes of `step`) and `SchedNatDefs.lean`,
`SchedNat.lean` (all 13 host functions), whose conditions meet in `SchedCheck.lean` (the checks as Boolean functions,
the checked instruction `stepC` and host call `natC`); `SchedLift.lean` (from instructions to runs; the checked
interpreter `execC` / `runC`); this file (every host function and every instruction in one statement each);
`SchedEq.lean` (the statements of `SchedSim.lean` about `SchedEq`, as the case `cfg0`; in front of them the calculus
once more without a configuration, which nothing uses).

The statements of the properties are in `Props/C02b.lean`, `Props/C02c.lean` (schedule independence) and
`Props/C17b.lean` (a cleared VM behaves like a fresh one; it also uses the equivariance of the interpreter under a
uniform shift of all heap addresses, `Lemmas/EquivarianceRun.lean`).
-/
namespace Cao.SchedFull
open Cao Cao.Vm

/-- **every host function respects the relation** (all 13 of them; the iterating ones
    `__min`/`__max`/`__sort` for callbacks that satisfy `IterPost`) -/
theorem natSimHyp (c : Cfg) : NatSimHyp c :=
  fun re₁ re₂ hre hd hiter => natSim re₁ re₂ hre hd hiter

/-- **every instruction, with every host function plugged in**: related callbacks (which satisfy
    `IterPost` if the instruction calls an iterating host function), related states, `StepOk` -/
theorem step_sim_all {c : Cfg} (p : Prog) (re₁ re₂ : Reenter) (hre : ReSim c re₁ re₂)
    (hpost : IterPost re₁ ∧ IterPost re₂) (src : Nat) {K : Nat → Prop} {s t : VmState}
    (h : Agree c K s t) (hok : StepOk p src s) :
    W2 c (step p re₁ src) (step p re₂ src) (QStep c) s t :=
  step_sim p re₁ re₂ src (fun hd _ => natSim re₁ re₂ hre hd (fun _ => hpost)) h hok

/-- the same for instructions that do not call an iterating host function: no condition on the
    callbacks beyond `ReSim` -/
theorem step_sim_plain {c : Cfg} (p : Prog) (re₁ re₂ : Reenter) (hre : ReSim c re₁ re₂) (src : Nat)
    {K : Nat → Prop} {s t : VmState} (hsite : iterSite p src s = false)
    (h : Agree c K s t) (hok : StepOk p src s) :
    W2 c (step p re₁ src) (step p re₂ src) (QStep c) s t :=
  step_sim p re₁ re₂ src (fun hd hcall => natSim re₁ re₂ hre hd (fun hc => by
    have := calledAt_iter hcall hc
    rw [hsite] at this; cases this)) h hok

theorem execC_sim_all {c : Cfg} (p : Prog) (gas : Nat) (task : Task) {K : Nat → Prop} {s t : VmState}
    (h : Agree c K s t) (hok : TaskOk K task) : ExecEq c (execC p gas task s) (execC p gas task t) :=
  execC_sim (natSimHyp c) p gas task h hok

end Cao.SchedFull
