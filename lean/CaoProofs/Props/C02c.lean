import CaoProofs.Props.C02b
/-!
# C02c — schedule independence needs only the upvalue checks

`Props/C02b.lean` proves schedule independence for runs in which no check of the *checked interpreter* fires
(`SafeRun`); the check `stepOkB` has three components: `frameOkB` (at `ClearStack`/`Return`: the running frame
starts at or below the stack height), `upvOkB` (at `Return`/`CloseUpvalue`) and `readUpvOkB` (at
`ReadUpvalue`).  `VStack.clearUntil` only truncates (`count := if i < count then i else count`), so both
machines cut their stacks at `min i count` and nothing stale is exposed: **`frameOkB` is not needed**
(`SchedFull.step_sim_upv` asks for the two upvalue conditions only).  The checked interpreter with the
weaker check (`stepC'` / `runC'`) is another instance of the generic `stepBy` / `runG`.
-/
namespace Cao.C02c
open Cao Cao.Vm Cao.Gc Cao.C02 Cao.C05 Cao.RunInv Cao.SchedFull Cao.Native Cao.C02b

/-! ## 1. every instruction under the weaker condition -/

/-- `StepOk` without its `FrameOk` component: only the open upvalues matter -/
def StepOk' (p : Prog) (src : Nat) (s : VmState) : Prop :=
  ((p.bytecode.getD src 0 = Compiler.op.ret ∨ p.bytecode.getD src 0 = Compiler.op.closeUpvalue) → UpvOk s) ∧
  (p.bytecode.getD src 0 = Compiler.op.readUpvalue → ReadUpvOk (rdU32 p.bytecode (src + 1)) s)

theorem stepOk'_of_stepOk {p : Prog} {src : Nat} {s : VmState} (h : StepOk p src s) : StepOk' p src s :=
  ⟨h.2.1, h.2.2⟩

/-- **every instruction respects the relation when no stale upvalue slot is touched** (`step_sim` without
    `FrameOk`) -/
theorem step_sim' {c : Cfg} (p : Prog) (re₁ re₂ : Reenter) (src : Nat) {K : Nat → Prop} {s t : VmState}
    (hn : ∀ hd, CalledAt p src s hd → NatSimAt c re₁ re₂ hd)
    (h : Agree c K s t) (hok : StepOk' p src s) :
    W2 c (step p re₁ src) (step p re₂ src) (QStep c) s t :=
  step_sim_upv p re₁ re₂ src hn h hok.1 hok.2

/-- the statement of `C02b.step_schedule_independent` under the weaker side condition -/
theorem step_schedule_independent' {c : Cfg} (p : Prog) (re₁ re₂ : Reenter)
    (hn : ∀ hd, NatSimAt c re₁ re₂ hd) (src : Nat) {s t : VmState} (h : Rel c s t)
    (hok : StepOk' p src s) :
    ((step p re₂ src).run.run t).1 = ((step p re₁ src).run.run s).1 ∧
    Rel c ((step p re₁ src).run.run s).2 ((step p re₂ src).run.run t).2 := by
  obtain ⟨K, hA⟩ := h
  exact resEq_of_w2 (step_sim' p re₁ re₂ src (fun hd _ => hn hd) hA hok)

/-! ## 2. the checked interpreter with the weaker check -/

/-- `stepOkB` without `frameOkB` -/
def stepOkB' (p : Prog) (src : Nat) (s : VmState) : Bool :=
  (!(p.bytecode.getD src 0 == Compiler.op.ret || p.bytecode.getD src 0 == Compiler.op.closeUpvalue) || upvOkB s) &&
  (!(p.bytecode.getD src 0 == Compiler.op.readUpvalue) || readUpvOkB (rdU32 p.bytecode (src + 1)) s)

theorem stepOkB'_iff (p : Prog) (src : Nat) (s : VmState) : stepOkB' p src s = true ↔ StepOk' p src s := by
  unfold stepOkB' StepOk'
  rw [Bool.and_eq_true]
  exact and_congr (imp_iff_bool (by simp [Bool.or_eq_true]) (upvOkB_iff s))
    (imp_iff_bool (by simp) (readUpvOkB_iff _ s))

theorem stepOkB'_of_stepOkB {p : Prog} {src : Nat} {s : VmState} (h : stepOkB p src s = true) :
    stepOkB' p src s = true :=
  (stepOkB'_iff p src s).2 (stepOk'_of_stepOk ((stepOkB_iff p src s).1 h))

theorem stepOk'_congr {c : Cfg} {K : Nat → Prop} {s t : VmState} (p : Prog) (src : Nat) (h : Agree c K s t) :
    StepOk' p src t ↔ StepOk' p src s := by
  unfold StepOk'; rw [upvOk_congr h, readUpvOk_congr _ h]

theorem stepOkB'_congr {c : Cfg} {K : Nat → Prop} {s t : VmState} (p : Prog) (src : Nat) (h : Agree c K s t) :
    stepOkB' p src t = stepOkB' p src s :=
  Bool.eq_iff_iff.2 (by rw [stepOkB'_iff, stepOkB'_iff]; exact stepOk'_congr p src h)

/-- the checked instruction with the weaker check (the callback check of the iterating host functions
    stays) -/
def stepC' (p : Prog) (re : Reenter) (src : Nat) : M Ctl := do
  let s ← get
  if stepOkB' p src s then step p (if iterSite p src s then wrapIter re else re) src
  else throwE (.panic "stale stack slot")

theorem stepC'_sim {c : Cfg} (hnat : NatSimHyp c) (p : Prog) {re₁ re₂ : Reenter} (hre : ReSim c re₁ re₂)
    (src : Nat) {K : Nat → Prop} {s t : VmState} (h : Agree c K s t) :
    W2 c (stepC' p re₁ src) (stepC' p re₂ src) (QStep c) s t :=
  stepBy_sim hnat (stepOkB' p src) p src (stepOkB'_congr p src)
    (fun s hs => ((stepOkB'_iff p src s).1 hs).1) (fun s hs => ((stepOkB'_iff p src s).1 hs).2) hre h

/-- `Vm::run` with the weaker check: an instance of the generic `runG` of `Lemmas/SchedLift.lean` -/
def runC' (p : Prog) (n : Nat) (s : VmState) : VmState × Option RunErr := runG (stepC' p) natC p n s

/-! ## 3. whole runs -/

/-- no *upvalue* check (and no callback check) fires in this run -/
def SafeRun' (p : Prog) (n : Nat) (s : VmState) : Prop := runC' p n s = run p n s

instance (p : Prog) (n : Nat) (s : VmState) : Decidable (SafeRun' p n s) :=
  inferInstanceAs (Decidable (runC' p n s = run p n s))

theorem runC'_sched (p : Prog) (n : Nat) (s : VmState) (hi : C05.Inv s) (hg : s.guards = [])
    (sch₁ sch₂ : Sched) :
    (runC' p n { s with sched := sch₂ }).2 = (runC' p n { s with sched := sch₁ }).2 ∧
    Rel cfg0 (runC' p n { s with sched := sch₁ }).1 (runC' p n { s with sched := sch₂ }).1 :=
  runG_sched (stepC' p) p (fun hre src _ _ _ h => stepC'_sim (natSimHyp cfg0) p hre src h) n s hi hg sch₁ sch₂

/-- **`safeRun_of_upvalue_checks`**: schedule independence of `Vm::run` for runs in which no stale
    *upvalue* slot is touched (`SafeRun'`: the step check omits `frameOkB`) -/
theorem safeRun_of_upvalue_checks (p : Prog) (n : Nat) (s : VmState) (hi : C05.Inv s) (hg : s.guards = [])
    (hsafe : ∀ sch, SafeRun' p n { s with sched := sch }) : C05b.ScheduleIndependent p n s := by
  intro sch₁ sch₂
  have h := runC'_sched p n s hi hg sch₁ sch₂
  rw [hsafe sch₁, hsafe sch₂] at h
  exact ⟨rel_obsEq h.2, by rw [h.1], rel_hostLog h.2⟩

/-- the deep-value form for two given schedules -/
theorem safeRun'_deep (p : Prog) (n : Nat) (s : VmState) (hi : C05.Inv s) (hg : s.guards = [])
    (sch₁ sch₂ : Sched) (h1 : SafeRun' p n { s with sched := sch₁ }) (h2 : SafeRun' p n { s with sched := sch₂ }) :
    let r₁ := run p n { s with sched := sch₁ }
    let r₂ := run p n { s with sched := sch₂ }
    r₂.2 = r₁.2 ∧ r₂.1.stack.contents.map (ownD r₂.1.heap) = r₁.1.stack.contents.map (ownD r₁.1.heap) ∧
    r₂.1.globals.map (ownD r₂.1.heap) = r₁.1.globals.map (ownD r₁.1.heap) ∧ r₂.1.hostLog = r₁.1.hostLog := by
  have h := runC'_sched p n s hi hg sch₁ sch₂
  rw [h1, h2] at h
  exact ⟨h.1, rel_ownD_stack h.2, rel_ownD_globals h.2, (rel_hostLog h.2).symm⟩

/-! ## 4. non-vacuity -/

/-- `main` (at 0): `ScalarInt 1; FunctionPointer f/0; CallFunction; Exit`; `f` (label 7, at 20):
    `Pop; ClearStack; ScalarNil; Return`.  The frame of `f` starts at height 1 (no arguments); its `Pop` removes
    the caller's value, so at `ClearStack` the running frame starts ABOVE the stack height (1 > 0): `frameOkB`
    fails — the run is not `SafeRun` — although `ClearStack` (which only truncates) does nothing at all. -/
def highFrameProg : Prog :=
  { bytecode := #[Compiler.op.scalarInt, 1,0,0,0,0,0,0,0, Compiler.op.functionPointer, 7,0,0,0, 0,0,0,0,
                  Compiler.op.callFunction, Compiler.op.exit,
                  Compiler.op.pop, Compiler.op.clearStack, Compiler.op.scalarNil, Compiler.op.ret],
    data := #[], labels := [(7, 20)], varNames := [], trace := [] }

/-- the run ends normally (the slot `f` vacated is refilled by its `ScalarNil`, the result goes on top) -/
example : (run highFrameProg 100 { VmState.fresh smallCfg with sched := .every }).2 = none ∧
    (run highFrameProg 100 { VmState.fresh smallCfg with sched := .every }).1.stack.contents = [.nil, .nil] := by
  decide +kernel

/-- the check of `C02b` rejects it (at `ClearStack`) … -/
example : ¬ SafeRun highFrameProg 100 { VmState.fresh smallCfg with sched := .every } := by decide +kernel
example : (runC highFrameProg 100 { VmState.fresh smallCfg with sched := .every }).2.map (·.kind) =
    some (.panic "stale stack slot") := by decide +kernel

/-- … the check without `frameOkB` accepts it, under both schedules … -/
theorem highFrame_safe_none : SafeRun' highFrameProg 100 { VmState.fresh smallCfg with sched := .none } := by
  decide +kernel
theorem highFrame_safe_every : SafeRun' highFrameProg 100 { VmState.fresh smallCfg with sched := .every } := by
  decide +kernel

/-- … hence the two runs agree -/
example := safeRun'_deep highFrameProg 100 (VmState.fresh smallCfg) (fresh_inv smallCfg) rfl .none .every
  highFrame_safe_none highFrame_safe_every

/-- the programs of `C02b` are safe in the weaker sense too (an open upvalue is read and closed; an iterating
    host function calls back) -/
example : SafeRun' closureProg 100 { VmState.fresh smallCfg with sched := .every } := by decide +kernel
example : SafeRun' maxProg 100 { VmState.fresh smallCfg with sched := .every } := by decide +kernel

/-- the counter-example of `C05b` (an open upvalue over a slot dropped by `pop_n`) is still rejected: the
    upvalue checks are the ones that matter -/
example : ¬ SafeRun' C05b.staleProg 100 { VmState.fresh C05b.staleCfg with sched := .every } := by
  decide +kernel

end Cao.C02c
