import CaoProofs.Props.C01S
/-!
# C01: locals of `main` declared at function level (fragment F2)

The statements of F2 declare nothing (`isStmtL`: the body of a `While` is any such statement, compiled without a
scope of its own); in the card list of `main` (`isTops`) a `SetVar` of a new name adds a local that stays to the
end. With `sdepthL` and `tdepths` slots above the locals they are code in the sense of `C01S.lean`: `code_of_L`,
`block_of_tops`.
-/
namespace Cao.C01
open Cao Cao.Vm Cao.Sim Cao.Compiler

mutual
  /-- stack slots needed (above the locals) to execute the statement card -/
  def sdepthL : Card → Nat
    | .setGlobalVar _ e => edepth e
    | .setVar _ e => edepth e
    | .bin _ c b => max (edepth c) (sdepthL b)
    | .tri _ c t e => max (edepth c) (max (sdepthL t) (sdepthL e))
    | .composite _ cs => sdepthsL cs
    | _ => 0
  def sdepthsL : List Card → Nat
    | [] => 0
    | c :: cs => max (sdepthL c) (sdepthsL cs)
end

/-- stack slots needed above the locals that are in scope at the beginning of the cards -/
def tdepths (d : Int) : LCtx → List Card → Nat
  | _, [] => 0
  | L, c :: cs =>
    match declOf L c with
    | some (n, e) => max (edepth e) (1 + tdepths d (L ++ [(n, d)]) cs)
    | none => max (sdepthL c) (tdepths d L cs)

theorem isVal_of_expr {ft : Feat} {e : Card} (h : isExpr e = true) : isVal ft e = true := by
  unfold isVal; rw [h]; rfl

theorem vdepth_expr {e : Card} (h : isExpr e = true) : vdepth e = edepth e := by
  have : cdepth e = 0 := by cases e <;> first | rfl | (simp [isExpr] at h)
  unfold vdepth; rw [this]; exact Nat.max_eq_left (Nat.zero_le _)

theorem code_of_L {B : Array UInt8} {F : List (UInt32 × Nat)} (J : Compiler.JumpTable) (ft : Feat) (L : LCtx) :
    (∀ c, isStmtL L c = true → ∀ d pc pc' D, SCodeL B F L c pc pc' → sdepthL c ≤ D → Code B F J ft d L c pc pc' D) ∧
    (∀ cs, isStmtsL L cs = true → ∀ d pc pc' D, SCodesL B F L cs pc pc' → sdepthsL cs ≤ D → Codes B F J ft d L cs pc pc' D) := by
  apply isStmtL.mutual_induct
    (motive_1 := fun c => isStmtL L c = true → ∀ d pc pc' D, SCodeL B F L c pc pc' → sdepthL c ≤ D → Code B F J ft d L c pc pc' D)
    (motive_2 := fun cs => isStmtsL L cs = true → ∀ d pc pc' D, SCodesL B F L cs pc pc' → sdepthsL cs ≤ D →
      Codes B F J ft d L cs pc pc' D)
  case case1 =>
    intro n e hs d pc pc' D ⟨m, id, h1, h2, h3, h4, h5⟩ hD
    simp only [isStmtL, Bool.and_eq_true, Bool.not_eq_true'] at hs
    subst h5
    exact .setGlobal hs.1 (isVal_of_expr hs.2) (.inl h1) h2 h3 h4 (by rw [vdepth_expr hs.2]; exact hD)
  case case2 =>
    intro n e hs d pc pc' D ⟨m, i, h0, h1, h2, h3, h5⟩ hD
    simp only [isStmtL, Bool.and_eq_true] at hs
    subst h5
    exact .assign hs.1.1 h0 (isVal_of_expr hs.2) (.inl h1) h2 h3 (by rw [vdepth_expr hs.2]; exact hD)
  case case3 =>
    intro c b ih hs d pc pc' D ⟨m, h1, h2, h3, h4⟩ hD
    simp only [isStmtL, Bool.and_eq_true] at hs
    simp only [sdepthL] at hD
    exact .ifTrue hs.1 h1 h2 h3 (ih hs.2 d _ _ D h4 (by omega)) (by omega)
  case case4 =>
    intro c b ih hs d pc pc' D ⟨m, h1, h2, h3, h4⟩ hD
    simp only [isStmtL, Bool.and_eq_true] at hs
    simp only [sdepthL] at hD
    exact .ifFalse hs.1 h1 h2 h3 (ih hs.2 d _ _ D h4 (by omega)) (by omega)
  case case5 =>
    intro c b ih hs d pc pc' D ⟨m1, m2, h1, h2, h3, h4, h5, h6, h7⟩ hD
    simp only [isStmtL, Bool.and_eq_true] at hs
    simp only [sdepthL] at hD
    subst h7
    exact .whileP hs.1 h1 h2 h3 (ih hs.2 (d + 1) _ _ D h4 (by omega)) h5 h6 (by omega)
  case case6 =>
    intro c t e iht ihe hs d pc pc' D ⟨m1, m2, h1, h2, h3, h4, h5, h6, h7⟩ hD
    simp only [isStmtL, Bool.and_eq_true] at hs
    simp only [sdepthL] at hD
    exact .ifElse hs.1.1 h1 h2 h3 (iht hs.1.2 d _ _ D h4 (by omega)) h5 h6 (ihe hs.2 d _ _ D h7 (by omega)) (by omega)
  case case7 => exact fun ty cs ih hs d pc pc' D h hD => .composite (ih hs d pc pc' D h hD)
  case case8 => intro t _ d pc pc' D h _; cases h; exact .comment
  case case9 => intro t h1 h2 h3 h4 h5 h6 h7 h8 hs; rw [isStmtL.eq_9 L t h1 h2 h3 h4 h5 h6 h7 h8] at hs; cases hs
  case case10 => intro _ d pc pc' D h _; cases h; exact .nil
  case case11 =>
    intro c cs ihc ihs hs d pc pc' D ⟨m, h1, h2⟩ hD
    simp only [isStmtsL, Bool.and_eq_true] at hs
    simp only [sdepthsL] at hD
    exact .cons (ihc hs.1 d _ _ D h1 (by omega)) (ihs hs.2 d _ _ D h2 (by omega))

theorem block_of_tops {B : Array UInt8} {F : List (UInt32 × Nat)} (J : Compiler.JumpTable) (ft : Feat) (d : Int) :
    ∀ (cs : List Card) (L : LCtx) (pc pc' D : Nat), isTops d L cs = true → TCodes B F d L cs pc pc' → tdepths d L cs ≤ D →
      Block B F J ft d L cs (blockCtx d L cs) pc pc' D
  | [], L, pc, pc', D, _, h, _ => by cases h; exact .empty
  | c :: cs, L, pc, pc', D, hs, h, hD => by
    simp only [isTops] at hs
    simp only [TCodes] at h
    simp only [tdepths] at hD
    simp only [blockCtx]
    rcases hdecl : declOf L c with _ | ⟨n, e⟩ <;> simp only [hdecl, Bool.and_eq_true] at hs h hD ⊢
    · obtain ⟨m, h1, h2⟩ := h
      exact .stmt ((code_of_L J ft L).1 c hs.1 d pc m D h1 (by omega)) (block_of_tops J ft d cs L m pc' D hs.2 h2 (by omega))
    · obtain ⟨rfl, hnone⟩ := declOf_some hdecl
      obtain ⟨m, h1, hop, hrd, h2⟩ := h
      obtain ⟨D0, rfl⟩ : ∃ D0, D = D0 + 1 := ⟨D - 1, by omega⟩
      exact .decl hs.1.1 hnone (isVal_of_expr hs.1.2) (.inl h1) hop hrd
        (block_of_tops J ft d cs _ (m + 5) pc' D0 hs.2 h2 (by omega)) (by rw [vdepth_expr hs.1.2]; omega)

end Cao.C01
