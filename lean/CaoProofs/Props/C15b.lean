import CaoProofs.Lemmas.CrossLemmas
import CaoProofs.Props.C04
import CaoProofs.Props.C15
/-!
# C15b — where a run-time error is located, and what its trace consists of

Connects C04 (control-flow integrity of well-formed programs), the trace clauses of
`Bytecode.WF` (every trace key is an instruction start; every instruction start other than the raw
`Pop` / `CloseUpvalue` of `scope_end` has a trace entry — proved for compiled programs in C10:
`compile_trace_starts`, `compile_trace_complete`, `compile_wf_partial`) and C15 (every trace entry
of a compiled program resolves to a source card or is an epilogue entry; a trace entry keyed by a
`CallFunction` resolves to a `Call` / `DynamicCall` card).

The theorems here take `Bytecode.WF p` as a hypothesis; `C10b.compile_wf` provides it for
`compile m std limit = .ok p` under its four hypotheses, and `Props/C15c.lean` composes the two
(`compiled_error_located`, `compiled_error_trace'`, `compiled_sites_classified`: no `WF` hypothesis).

* `run_error_located` — for a well-formed program and a run from a machine without call frames
  (fresh, cleared, or after any earlier run): where the error is reported, which instruction raised
  it, when that address has a trace entry (always, except at a `Pop`: then the error is `Timeout`;
  or a `CloseUpvalue`: `Timeout`, or `InvalidArgument` on an empty stack) and what the frames of
  `e.frames` record (`SiteOK`). The part about addresses and frames is `run_located`
  (`Lemmas/NoPanicExec.lean`) at `G := C04.Start p`, `P := SiteOK p`.
* `errTrace_sites` — `errTrace` is the entry of the failing address followed by the entries of the
  call sites, innermost first.
* `compiled_error_trace` — for compiled programs: the head of `errTrace` resolves (C15); the
  entry of a `CallFunction` call site resolves to a `Call` / `DynamicCall` card.
-/
namespace Cao.C15b
open Cao Cao.Vm Cao.Compiler Cao.Bytecode Cao.Cross

/-! ## 1. what `WF` says about the trace table -/

theorem start_mem {p : Program} {a : Nat} (h : C04.Start p a) :
    (a, p.bytecode.getD a 0) ∈ C04.instrs p ∧ a < p.bytecode.size := by
  obtain ⟨⟨a', o⟩, hm, rfl⟩ := List.mem_map.1 h
  obtain ⟨rfl, hlt, _⟩ := decoded_next (C04.instrs_decoded hm) hm
  exact ⟨hm, hlt⟩

theorem lookup_of_mem {p : Prog} {a : Nat} (h : ∃ t ∈ p.trace, t.1 = a) : ∃ t, C15.lookup p a = some t := by
  obtain ⟨t, ht, e⟩ := h
  unfold C15.lookup
  cases hf : p.trace.find? (fun t => t.1 == a) with
  | some x => exact ⟨x.2, rfl⟩
  | none =>
    rw [List.find?_eq_none] at hf
    exact absurd (by simpa using e) (hf t ht)

/-- **every instruction start of a well-formed program whose opcode is not a raw `Pop` /
    `CloseUpvalue` has a trace entry** -/
theorem wf_lookup {p : Program} (h : WF p) {a : Nat} (ha : C04.Start p a)
    (hn : needsTrace (p.bytecode.getD a 0) = true) : ∃ t, C15.lookup (Prog.ofProgram p) a = some t :=
  lookup_of_mem ((C04.wf_facts h).2.2.2.2 a _ (start_mem ha).1 hn)

/-! ## 2. the two untraced opcodes -/

theorem step_pop_ok (p : Prog) (re : Reenter) (src : Nat) (h : p.bytecode.getD src 0 = op.pop) (s : VmState) :
    ∃ s', (step p re src).go s = (.ok { ip := src + 1 }, s') := by
  rw [Upv.step_pop p re src h]
  exact ⟨_, rfl⟩

theorem step_closeUpvalue_err (p : Prog) (re : Reenter) (src : Nat) (h : p.bytecode.getD src 0 = op.closeUpvalue)
    (s s' : VmState) (e : ErrKind) (he : (step p re src).go s = (.error e, s')) :
    e = .invalidArgument ∧ s.stack.count = 0 := by
  rw [Upv.step_closeUpvalue p re src h] at he
  unfold Upv.Instr.closeUpvalue at he
  simp only [go_bind, go_get] at he
  by_cases hc : (s.stack.count == 0) = true
  · simp only [hc, if_true, go_bind, go_throwE, Prod.mk.injEq, Except.error.injEq] at he
    exact ⟨he.1.symm, by simpa using hc⟩
  · simp only [hc, Bool.false_eq_true, if_false] at he
    cases he

theorem needsTrace_false {o : UInt8} (h : needsTrace o = false) : o = op.pop ∨ o = op.closeUpvalue := by
  unfold needsTrace at h
  by_cases h1 : o = op.pop
  · exact .inl h1
  · right
    have h1' : (o == op.pop) = false := by simpa using h1
    simpa [h1'] using h

/-! ## 3. the located error -/

/-- the kinds of call site recorded in a frame: (a) the address of a `CallFunction` instruction
    (`push_call_frame`), (b) `0` (the frame `run` pushes), (c) the position of a label (the two
    frames `run_function` pushes: it records the callee's entry, not a call instruction) -/
def SiteOK (p : Program) (a : Nat) : Prop :=
  (C04.Start p a ∧ p.bytecode.getD a 0 = op.callFunction) ∨ a = 0 ∨ ∃ l ∈ p.labels, l.2 = a

/-- **`run_error_located`** (VM side, any well-formed program) -/
theorem run_error_located {p : Program} (hwf : WF p) (n : Nat) (s : VmState) (hs : s.frames = [])
    (e : RunErr) (he : (run (Prog.ofProgram p) n s).2 = some e) :
    -- (1) the failing address is an instruction start …
    C04.Start p e.at_ ∧
    -- … the error is the budget's, or the instruction there raised it (or the run did not start)
    (e.kind = .timeout ∨
      (∃ (re : Reenter) (s0 s1 : VmState), (step (Prog.ofProgram p) re e.at_).go s0 = (.error e.kind, s1)) ∨
      (e = ⟨.callStackOverflow, 0, []⟩ ∧ s.frameCap = 0)) ∧
    -- … and it has a trace entry, except at the two raw opcodes of `scope_end`
    ((∃ t, C15.lookup (Prog.ofProgram p) e.at_ = some t) ∨
      (p.bytecode.getD e.at_ 0 = op.pop ∧ (e.kind = .timeout ∨ s.frameCap = 0)) ∨
      (p.bytecode.getD e.at_ 0 = op.closeUpvalue ∧
        (e.kind = .timeout ∨ e.kind = .invalidArgument ∨ s.frameCap = 0))) ∧
    -- (2) the frames of the moment of failure
    (∀ f ∈ e.frames, C04.Start p f.dst ∧ SiteOK p f.src) ∧
    (∀ f ∈ e.frames, p.bytecode.getD f.src 0 = op.callFunction → C04.Start p f.src →
      ∃ t, C15.lookup (Prog.ofProgram p) f.src = some t) := by
  obtain ⟨hcfi, h0⟩ := C04.wf_cfi hwf
  have hinv : FInv (C04.Start p) (SiteOK p) s.frames := by rw [hs]; exact FInv.nil _ _
  obtain ⟨hat, hfr, hsrc⟩ := run_located (G := C04.Start p) (P := SiteOK p) (Prog.ofProgram p) hcfi h0
    (fun l hl => .inr (.inr ⟨l, hl, rfl⟩)) (fun a ha ho => .inl ⟨ha, ho⟩) (.inr (.inl rfl)) n s hinv e he
  have hgas : e.kind ≠ .panic "gas exhausted" := C03.gas_suffices_toplevel _ n s e he
  have hlt : e.at_ < p.bytecode.size := (start_mem hat).2
  have hsource : e.kind = .timeout ∨
      (∃ (re : Reenter) (s0 s1 : VmState), (step (Prog.ofProgram p) re e.at_).go s0 = (.error e.kind, s1)) ∨
      (e = ⟨.callStackOverflow, 0, []⟩ ∧ s.frameCap = 0) := by
    rcases hsrc with (h | h | ⟨_, h⟩ | h) | ⟨h1, h2⟩
    · exact .inl h
    · exact absurd h hgas
    · exact absurd h (Nat.not_le.2 hlt)
    · exact .inr (.inl h)
    · refine .inr (.inr ⟨h1, ?_⟩)
      rw [hs] at h2
      simpa using h2
  refine ⟨hat, hsource, ?_, hfr, fun f hf ho hst => wf_lookup hwf hst (by rw [ho]; decide)⟩
  cases hn : needsTrace (p.bytecode.getD e.at_ 0) with
  | true => exact .inl (wf_lookup hwf hat hn)
  | false =>
    right
    rcases needsTrace_false hn with hop | hop
    · refine .inl ⟨hop, ?_⟩
      rcases hsource with h | ⟨re, s0, s1, h⟩ | ⟨_, h⟩
      · exact .inl h
      · obtain ⟨s', hok⟩ := step_pop_ok (Prog.ofProgram p) re e.at_ hop s0
        rw [hok] at h
        cases h
      · exact .inr h
    · refine .inr ⟨hop, ?_⟩
      rcases hsource with h | ⟨re, s0, s1, h⟩ | ⟨_, h⟩
      · exact .inl h
      · exact .inr (.inl (step_closeUpvalue_err (Prog.ofProgram p) re e.at_ hop s0 s1 _ h).1)
      · exact .inr (.inr h)

theorem run_error_located_fresh {p : Program} (hwf : WF p) (n : Nat) (c : Config) (e : RunErr)
    (he : (run (Prog.ofProgram p) n (VmState.fresh c)).2 = some e) :
    C04.Start p e.at_ ∧ (∀ f ∈ e.frames, C04.Start p f.dst ∧ SiteOK p f.src) :=
  let h := run_error_located hwf n (VmState.fresh c) rfl e he
  ⟨h.1, h.2.2.2.1⟩

theorem run_error_located_cleared {p : Program} (hwf : WF p) (n : Nat) (s : VmState) (e : RunErr)
    (he : (run (Prog.ofProgram p) n (clear s)).2 = some e) :
    C04.Start p e.at_ ∧ (∀ f ∈ e.frames, C04.Start p f.dst ∧ SiteOK p f.src) :=
  let h := run_error_located hwf n (clear s) rfl e he
  ⟨h.1, h.2.2.2.1⟩

theorem run_error_located_again {p : Program} (hwf : WF p) (q : Prog) (n k : Nat) (s : VmState)
    (hs : s.frames = []) (e : RunErr) (he : (run (Prog.ofProgram p) n (run q k s).1).2 = some e) :
    C04.Start p e.at_ ∧ (∀ f ∈ e.frames, C04.Start p f.dst ∧ SiteOK p f.src) :=
  let h := run_error_located hwf n (run q k s).1 (C17.run_frames_nil q k s hs) e he
  ⟨h.1, h.2.2.2.1⟩

/-! ## 4. the shape of the error trace -/

/-- the recorded call sites of the frames of the moment of failure, innermost first -/
def sites (e : RunErr) : List Nat := e.frames.reverse.map (·.src)

/-- **`errTrace` = entry of the failing address, then the entries of the call sites, innermost
    first** (sites without an entry are skipped) -/
theorem errTrace_sites (p : Prog) (e : RunErr) :
    errTrace p e = (C15.lookup p e.at_).toList ++ (sites e).filterMap (C15.lookup p) := by
  rw [C15.errTrace_shape, sites, List.filterMap_map]
  rfl

theorem sites_classified {p : Program} (hwf : WF p) (n : Nat) (s : VmState) (hs : s.frames = [])
    (e : RunErr) (he : (run (Prog.ofProgram p) n s).2 = some e) :
    ∀ a ∈ sites e, SiteOK p a ∧
      (C04.Start p a → p.bytecode.getD a 0 = op.callFunction →
        ∃ t, C15.lookup (Prog.ofProgram p) a = some t) := by
  obtain ⟨_, _, _, h1, h2⟩ := run_error_located hwf n s hs e he
  intro a ha
  unfold sites at ha
  obtain ⟨f, hf, rfl⟩ := List.mem_map.1 ha
  have hf' : f ∈ e.frames := List.mem_reverse.1 hf
  exact ⟨(h1 f hf').2, fun hst ho => h2 f hf' ho hst⟩

/-! ## 5. compiled programs -/

/-- **`compiled_error_trace`** (`WF p` from `C10b.compile_wf`):
    * an entry `t` keyed by the failing address (there is one, except at a raw `Pop` /
      `CloseUpvalue`: `run_error_located`) is the head of `errTrace` and designates a card of the
      source module that emitted the opcode at `e.at_`, or is an epilogue entry;
    * the entry keyed by a `CallFunction` call site resolves to a `Call` / `DynamicCall` card of
      the source. -/
theorem compiled_error_trace {m std : Module} {limit : Nat} {p : Program}
    (hc : compile m std limit = .ok p) (hwf : WF p) (n : Nat) (s : VmState) (hs : s.frames = [])
    (e : RunErr) (he : (run (Prog.ofProgram p) n s).2 = some e) :
    (∀ t, C15.lookup (Prog.ofProgram p) e.at_ = some t →
      errTrace (Prog.ofProgram p) e = t :: (sites e).filterMap (C15.lookup (Prog.ofProgram p)) ∧
      ∃ o, p.bytecode[e.at_]? = some o ∧
        (C15.CardEntry (withStd m std) t o ∨ C15.EpilogueEntry (withStd m std) t o)) ∧
    (∀ f ∈ e.frames, C04.Start p f.src → p.bytecode.getD f.src 0 = op.callFunction →
      ∃ t, C15.lookup (Prog.ofProgram p) f.src = some t ∧
        ∃ sub d, (withStd m std).descend t.ns = some sub ∧
          sub.getCard { function := t.function, indices := t.indices } = .ok d ∧ C15.IsCallCard d) := by
  obtain ⟨_, _, _, h1, h2⟩ := run_error_located hwf n s hs e he
  constructor
  · intro t ht
    refine ⟨by rw [errTrace_sites, ht]; rfl, ?_⟩
    exact C15.compile_trace_resolves hc _ (C15.lookup_mem ht)
  · intro f hf hst ho
    obtain ⟨t, ht⟩ := h2 f hf ho hst
    refine ⟨t, ht, ?_⟩
    have hmem := C15.lookup_mem ht
    have hlt := (start_mem hst).2
    have hbyte : p.bytecode[f.src]? = some op.callFunction := by
      rw [Array.getElem?_eq_getElem hlt]
      have : p.bytecode.getD f.src 0 = p.bytecode[f.src] := by simp [Array.getD, hlt]
      rw [← this, ho]
    exact C15.call_site_is_call_card hc (f.src, t) hmem hbyte

/-! ## 6. non-vacuity, and the entry frame's entry

`main` calls `f(7)`; `f(x)` calls the host function `fail`, which raises `InvalidArgument`.

```
 0: ScalarInt 7        [main, card 0.0]      20 (label f): CallNative "fail"   [f, card 0]
 9: FunctionPointer f 1 [main, card 0]       25: Pop; 26: ScalarNil; 27: Return (epilogue of f)
18: CallFunction       [main, card 0]                28: Exit
19: Exit
```
The run fails at 20 with the frames `[⟨src 0, dst 19⟩, ⟨src 18, dst 19⟩]`; the error trace is
`[f/[0], main/[0], main/[0,0]]`: the failing card, the `Call` card — and, as outermost entry, the
entry of **address 0** contributed by the frame `run` pushes (`src := 0`): the card `ScalarInt 7`,
which is not a call card. The Rust `payload_to_error` does the same (`trace.get(&t.src_instr_ptr)`
for every frame, including the one `run` pushes with `src_instr_ptr: 0`). -/

def exM : Module :=
  Module.mk [] [("main", ⟨[], [.call "f" [.scalarInt 7]]⟩), ("f", ⟨["x"], [.callNative "fail" []]⟩)] []
def exStd : Module := Module.mk [] [] []

def exCheck : Bool :=
  match compile exM exStd with
  | .error _ => false
  | .ok p =>
    decide (WF p) && p.bytecode.getD 18 0 == op.callFunction && p.bytecode.getD 0 0 == op.scalarInt &&
    match (run (Prog.ofProgram p) 1000 (VmState.fresh {})).2 with
    | none => false
    | some e =>
      (match e.kind with | .taskFailure _ .invalidArgument => true | _ => false) &&
      e.at_ == 20 && e.frames.map (fun f => (f.src, f.dst)) == [(0, 19), (18, 19)] &&
      (errTrace (Prog.ofProgram p) e).map (fun t => (t.function, t.indices)) == [(1, [0]), (0, [0]), (0, [0, 0])]

theorem exCheck_true : exCheck = true := by decide +kernel

/-- the hypotheses of `run_error_located` / `compiled_error_trace` are satisfiable, with a
    `CallFunction` frame on the stack at the moment of failure -/
theorem example_located : ∃ p e, compile exM exStd = .ok p ∧ WF p ∧
    (run (Prog.ofProgram p) 1000 (VmState.fresh {})).2 = some e ∧ e.at_ = 20 ∧
    e.frames.map (fun f => (f.src, f.dst)) = [(0, 19), (18, 19)] ∧
    p.bytecode.getD 18 0 = op.callFunction ∧ p.bytecode.getD 0 0 = op.scalarInt ∧
    (errTrace (Prog.ofProgram p) e).map (fun t => (t.function, t.indices)) = [(1, [0]), (0, [0]), (0, [0, 0])] := by
  have h := exCheck_true
  unfold exCheck at h
  split at h
  · cases h
  next p hp =>
  simp only [Bool.and_eq_true, decide_eq_true_eq, beq_iff_eq] at h
  obtain ⟨⟨⟨hwf, h18⟩, h0⟩, h⟩ := h
  split at h
  · cases h
  next e he =>
  simp only [Bool.and_eq_true, beq_iff_eq] at h
  exact ⟨p, e, hp, hwf, he, h.1.1.2, h.1.2, h18, h0, h.2⟩

/-- **the outermost entry of the error trace is not a call card in general**: it is the entry of
    the program's first instruction, contributed by the frame `run` pushes. Here: `ScalarInt 7`. -/
theorem entry_frame_entry_not_a_call_card :
    ∃ p e t, compile exM exStd = .ok p ∧ (run (Prog.ofProgram p) 1000 (VmState.fresh {})).2 = some e ∧
      (errTrace (Prog.ofProgram p) e).getLast? = some t ∧ (t.function, t.indices) = (0, [0, 0]) ∧
      ((withStd exM exStd).descend []).map (fun sub => sub.getCard { function := 0, indices := [0, 0] }) =
        some (.ok (.scalarInt 7)) := by
  obtain ⟨p, e, hc, _, he, _, _, _, _, htr⟩ := example_located
  cases hl : (errTrace (Prog.ofProgram p) e).getLast? with
  | none =>
    rw [List.getLast?_eq_none_iff] at hl
    rw [hl] at htr
    cases htr
  | some t =>
    refine ⟨p, e, t, hc, he, hl, ?_, rfl⟩
    have := congrArg List.getLast? htr
    rw [List.getLast?_map, hl] at this
    simpa using this

end Cao.C15b
