import CaoProofs.Lemmas.OpenAddr
/-!
# The open-addressing core against a finite map

`Lemmas/OpenAddr.lean` is the level of slots: the cyclic arithmetic of `dist`/`probe`, the
representation invariant `Inv`, and the facts that need that arithmetic (`find` finds:
`find_mem`, `find_absent`; filling the empty slot that `find` returns and the backward shift keep
`Inv`: `insert_new_inv`, `remove_inv`). This file is the level of operations and rests on those
(its only arithmetic is `probe_lt`): `CaoModel/OpenAddr.lean`
(`find/get/put/erase/toList/rehash/compact`) is related to a finite map `f : K → Option V` through
`Abs cap s f`; under `Inv` every core operation terminates (`find` never returns `none`) and
implements the corresponding map operation (`get_spec`, `put_spec`, `erase_spec`,
`rehash_compact`: result, `Inv`, `Abs` of the updated map, `size`).

The second part, `namespace Cao.AL`, is the finite map of the specifications: an association list
with `lookup`, `insert`, `erase`, `keys`, `WF` (no key twice), and its link with `toList` of the
core. It is the specification state of `Props/C12.lean` and `Props/C13.lean` and the vocabulary of
`Lemmas/TableLemmas.lean` (C07), `Lemmas/SerdeTables.lean` and `Lemmas/SerdeProgram.lean` (C11).
-/
namespace Cao.OA

variable {K V : Type}

/-! ### `toList`, `size` -/

theorem toList_succ (n : Nat) (s : Slots K V) : toList (n+1) s = toList n s ++ (s n).toList := by
  cases h : s n <;> simp [toList, List.range_succ, List.filterMap_append, h]

def size (cap : Nat) (s : Slots K V) : Nat := (toList cap s).length

@[simp] theorem size_zero (s : Slots K V) : size 0 s = 0 := by simp [size, toList]

theorem size_succ (n : Nat) (s : Slots K V) :
    size (n+1) s = size n s + (if (s n).isSome then 1 else 0) := by
  cases h : s n <;> simp [size, toList_succ, h]

theorem mem_toList {cap : Nat} {s : Slots K V} {k : K} {v : V} :
    (k, v) ∈ toList cap s ↔ Mem cap s k v := by
  simp [toList, Mem, List.mem_filterMap]

theorem mem_toList' {cap : Nat} {s : Slots K V} {kv : K × V} :
    kv ∈ toList cap s ↔ Mem cap s kv.1 kv.2 := mem_toList

theorem size_le (cap : Nat) (s : Slots K V) : size cap s ≤ cap := by
  induction cap with
  | zero => simp
  | succ n ih => rw [size_succ]; split <;> omega

theorem size_lt_of_empty {cap : Nat} {s : Slots K V} {e : Nat} (he : e < cap) (hs : s e = none) :
    size cap s < cap := by
  induction cap with
  | zero => omega
  | succ n ih =>
    rw [size_succ]
    by_cases hen : e = n
    · subst hen; simp [hs]; have := size_le e s; omega
    · have := ih (by omega); split <;> omega

theorem exists_empty_of_size_lt {cap : Nat} {s : Slots K V} (h : size cap s < cap) :
    ∃ e < cap, s e = none := by
  induction cap with
  | zero => omega
  | succ n ih =>
    rw [size_succ] at h
    cases hn : s n with
    | none => exact ⟨n, by omega, hn⟩
    | some kv =>
      simp [hn] at h
      obtain ⟨e, he, hse⟩ := ih h
      exact ⟨e, by omega, hse⟩

theorem size_lt_iff {cap : Nat} {s : Slots K V} : size cap s < cap ↔ ∃ e < cap, s e = none :=
  ⟨exists_empty_of_size_lt, fun ⟨_, he, hs⟩ => size_lt_of_empty he hs⟩

def EqBelow (cap : Nat) (s s' : Slots K V) : Prop := ∀ i < cap, s i = s' i

theorem toList_congr {cap : Nat} {s s' : Slots K V} (h : EqBelow cap s s') :
    toList cap s = toList cap s' := by
  induction cap with
  | zero => simp [toList]
  | succ n ih =>
    rw [toList_succ, toList_succ, ih (fun i hi => h i (by omega)), h n (by omega)]

theorem size_congr {cap : Nat} {s s' : Slots K V} (h : EqBelow cap s s') :
    size cap s = size cap s' := by unfold size; rw [toList_congr h]

theorem size_upd_ge {cap i : Nat} (s : Slots K V) (x : Option (K × V)) (h : cap ≤ i) :
    size cap (upd s i x) = size cap s :=
  size_congr (fun j hj => upd_other _ _ _ _ (by omega))

theorem size_upd {cap i : Nat} (s : Slots K V) (x : Option (K × V)) (h : i < cap) :
    size cap (upd s i x) + (if (s i).isSome then 1 else 0) =
      size cap s + (if x.isSome then 1 else 0) := by
  induction cap with
  | zero => omega
  | succ n ih =>
    rw [size_succ, size_succ]
    by_cases hin : i = n
    · subst hin
      rw [size_upd_ge s x (Nat.le_refl _), upd_same]
      omega
    · rw [upd_other _ _ _ _ (Ne.symm hin)]
      have := ih (by omega)
      omega

theorem size_upd_new {cap i : Nat} {s : Slots K V} (kv : K × V) (h : i < cap) (hs : s i = none) :
    size cap (upd s i (some kv)) = size cap s + 1 := by
  have := size_upd s (some kv) h; simp [hs] at this; exact this

theorem size_upd_over {cap i : Nat} {s : Slots K V} (kv : K × V) (h : i < cap)
    (hs : (s i).isSome = true) : size cap (upd s i (some kv)) = size cap s := by
  have := size_upd s (some kv) h; simp [hs] at this; exact this

theorem size_upd_none {cap i : Nat} {s : Slots K V} (h : i < cap) (hs : (s i).isSome = true) :
    size cap (upd s i none) + 1 = size cap s := by
  have := size_upd s none h; simp [hs] at this; exact this

theorem exists_two_empty {cap : Nat} {s : Slots K V} (h : size cap s + 1 < cap) :
    ∃ e1 < cap, ∃ e2 < cap, e1 ≠ e2 ∧ s e1 = none ∧ s e2 = none := by
  obtain ⟨e1, he1, hs1⟩ := exists_empty_of_size_lt (cap := cap) (s := s) (by omega)
  by_cases hex : ∃ j kv, s j = some kv
  · obtain ⟨j, kv, _⟩ := hex
    have hsz := size_upd_new (s := s) kv he1 hs1
    obtain ⟨e2, he2, hs2⟩ := exists_empty_of_size_lt (cap := cap) (s := upd s e1 (some kv))
      (by omega)
    have hne : e2 ≠ e1 := by intro e; subst e; simp at hs2
    rw [upd_other _ _ _ _ hne] at hs2
    exact ⟨e1, he1, e2, he2, Ne.symm hne, hs1, hs2⟩
  · have hall : ∀ j, s j = none := by
      intro j
      cases hj : s j with
      | none => rfl
      | some kv => exact absurd ⟨j, kv, hj⟩ hex
    exact ⟨0, by omega, 1, by omega, by omega, hall 0, hall 1⟩

@[simp] theorem toList_empty (cap : Nat) : toList cap (empty : Slots K V) = [] := by
  induction cap with
  | zero => simp [toList]
  | succ n ih => rw [toList_succ, ih]; simp [empty]

@[simp] theorem size_empty (cap : Nat) : size cap (empty : Slots K V) = 0 := by simp [size]

theorem toList_keys_nodup {cap : Nat} {s : Slots K V}
    (hd : ∀ i < cap, ∀ j < cap, ∀ k v w, s i = some (k, v) → s j = some (k, w) → i = j) :
    ((toList cap s).map Prod.fst).Nodup := by
  suffices h : ∀ n ≤ cap, ((toList n s).map Prod.fst).Nodup from h cap (Nat.le_refl _)
  intro n
  induction n with
  | zero => intro _; simp [toList]
  | succ n ih =>
    intro hn
    rw [toList_succ, List.map_append, List.nodup_append]
    refine ⟨ih (by omega), ?_, ?_⟩
    · cases s n <;> simp
    · intro a ha b hb
      cases hsn : s n with
      | none => simp [hsn] at hb
      | some kv =>
        obtain ⟨k, v⟩ := kv
        simp [hsn] at hb
        subst hb
        obtain ⟨⟨a', v'⟩, hmem, rfl⟩ := List.mem_map.mp ha
        obtain ⟨i, hi, hsi⟩ := mem_toList.mp hmem
        intro hab
        simp only at hab
        subst hab
        have := hd i (by omega) n (by omega) _ _ _ hsi hsn
        omega

theorem nodup_of_map {α β : Type} (f : α → β) {l : List α} (h : (l.map f).Nodup) : l.Nodup := by
  rw [List.nodup_iff_pairwise_ne, List.pairwise_map] at h
  exact h.imp (fun hab e => hab (by rw [e]))

theorem toList_nodup {cap : Nat} {s : Slots K V}
    (hd : ∀ i < cap, ∀ j < cap, ∀ k v w, s i = some (k, v) → s j = some (k, w) → i = j) :
    (toList cap s).Nodup := nodup_of_map _ (toList_keys_nodup hd)

/-! ### `find`, `get` -/

variable [DecidableEq K]

theorem find_spec {cap : Nat} {home : K → Nat} {s : Slots K V} (inv : Inv cap home s) (k : K) :
    ∃ i < cap, find cap home s k = some i ∧
      ((∃ w, s i = some (k, w)) ∨
       (s i = none ∧ (∀ w, ¬ Mem cap s k w) ∧
          ∀ m < dist cap (home k) i, occ s (probe cap (home k) m))) := by
  by_cases h : ∃ w, Mem cap s k w
  · obtain ⟨w, i, hi, hs⟩ := h
    exact ⟨i, hi, find_mem inv hi hs, Or.inl ⟨w, hs⟩⟩
  · have h' : ∀ w, ¬ Mem cap s k w := fun w hw => h ⟨w, hw⟩
    obtain ⟨i, hi, hf, hs, hp⟩ := find_absent inv h'
    exact ⟨i, hi, hf, Or.inr ⟨hs, h', hp⟩⟩

theorem find_ne_none {cap : Nat} {home : K → Nat} {s : Slots K V} (inv : Inv cap home s) (k : K) :
    find cap home s k ≠ none := by
  obtain ⟨i, _, hf, _⟩ := find_spec inv k
  rw [hf]; simp

omit [DecidableEq K] in
theorem Mem_unique {cap : Nat} {home : K → Nat} {s : Slots K V} (inv : Inv cap home s)
    {k : K} {v w : V} (h1 : Mem cap s k v) (h2 : Mem cap s k w) : v = w := by
  obtain ⟨i, hi, hsi⟩ := h1
  obtain ⟨j, hj, hsj⟩ := h2
  have := inv.distinct i hi j hj k v w hsi hsj
  subst this
  rw [hsi] at hsj
  simpa using hsj

theorem get_eq_some_iff {cap : Nat} {home : K → Nat} {s : Slots K V} (inv : Inv cap home s)
    (k : K) (v : V) : get cap home s k = some v ↔ Mem cap s k v := by
  obtain ⟨i, hi, hf, h⟩ := find_spec inv k
  unfold get
  rw [hf]
  rcases h with ⟨w, hs⟩ | ⟨hs, habs, _⟩
  · simp only [hs, Option.map_some]
    constructor
    · intro h; simp at h; subst h; exact ⟨i, hi, hs⟩
    · intro h; rw [Mem_unique inv h ⟨i, hi, hs⟩]
  · simp only [hs, Option.map_none]
    constructor
    · intro h; cases h
    · intro h; exact absurd h (habs v)

def Abs (cap : Nat) (s : Slots K V) (f : K → Option V) : Prop :=
  ∀ k v, f k = some v ↔ Mem cap s k v

theorem Abs_get {cap : Nat} {home : K → Nat} {s : Slots K V} (inv : Inv cap home s) :
    Abs cap s (get cap home s) := fun k v => get_eq_some_iff inv k v

omit [DecidableEq K] in
theorem Abs_unique {cap : Nat} {s : Slots K V} {f g : K → Option V}
    (hf : Abs cap s f) (hg : Abs cap s g) : f = g := by
  funext k
  cases hfk : f k with
  | none =>
    cases hgk : g k with
    | none => rfl
    | some v => have := (hf k v).mpr ((hg k v).mp hgk); rw [hfk] at this; cases this
  | some v => exact ((hg k v).mpr ((hf k v).mp hfk)).symm

theorem get_spec {cap : Nat} {home : K → Nat} {s : Slots K V} {f : K → Option V}
    (inv : Inv cap home s) (habs : Abs cap s f) (k : K) : get cap home s k = f k := by
  rw [Abs_unique habs (Abs_get inv)]

omit [DecidableEq K] in
theorem Abs_none {cap : Nat} {s : Slots K V} {f : K → Option V} (habs : Abs cap s f) {k : K} :
    f k = none ↔ ∀ w, ¬ Mem cap s k w := by
  constructor
  · intro h w hw; rw [(habs k w).mpr hw] at h; cases h
  · intro h
    cases hfk : f k with
    | none => rfl
    | some v => exact absurd ((habs k v).mp hfk) (h v)

theorem find_slot {cap : Nat} {home : K → Nat} {s : Slots K V} {f : K → Option V}
    (inv : Inv cap home s) (habs : Abs cap s f) {k : K} {i : Nat}
    (hf : find cap home s k = some i) : i < cap ∧ s i = (f k).map (fun w => (k, w)) := by
  obtain ⟨i', hi, hf', h⟩ := find_spec inv k
  rw [hf] at hf'
  obtain rfl : i = i' := by simpa using hf'
  refine ⟨hi, ?_⟩
  rcases h with ⟨w, hs⟩ | ⟨hs, hnone, _⟩
  · rw [(habs k w).mpr ⟨i, hi, hs⟩, hs]; rfl
  · rw [(Abs_none habs).mpr hnone, hs]; rfl

/-! ### `put` -/

def fupd (f : K → Option V) (k : K) (x : Option V) : K → Option V :=
  fun k' => if k' = k then x else f k'

@[simp] theorem fupd_same (f : K → Option V) (k : K) (x : Option V) : fupd f k x k = x := by
  simp [fupd]

theorem fupd_other (f : K → Option V) (k : K) (x : Option V) {k' : K} (h : k' ≠ k) :
    fupd f k x k' = f k' := by simp [fupd, h]

theorem overwrite_inv {cap : Nat} {home : K → Nat} {s : Slots K V} (inv : Inv cap home s)
    {k : K} {v w : V} {i : Nat} (hi : i < cap) (hsi : s i = some (k, w)) :
    Inv cap home (upd s i (some (k, v))) where
  capPos := inv.capPos
  homeLt := inv.homeLt
  path := by
    intro j hj k' v' hs m hm
    by_cases hji : j = i
    · subst hji
      simp at hs
      obtain ⟨rfl, rfl⟩ := hs
      exact occ_upd_some (inv.path j hj _ _ hsi m hm)
    · rw [upd_other _ _ _ _ hji] at hs
      exact occ_upd_some (inv.path j hj k' v' hs m hm)
  distinct := by
    intro a ha b hb k' v' w' hsa hsb
    by_cases hai : a = i <;> by_cases hbi : b = i
    · omega
    · subst hai
      simp at hsa
      rw [upd_other _ _ _ _ hbi] at hsb
      obtain ⟨rfl, _⟩ := hsa
      exact inv.distinct a ha b hb _ _ _ hsi hsb
    · subst hbi
      simp at hsb
      rw [upd_other _ _ _ _ hai] at hsa
      obtain ⟨rfl, _⟩ := hsb
      exact inv.distinct a ha b hb _ _ _ hsa hsi
    · rw [upd_other _ _ _ _ hai] at hsa
      rw [upd_other _ _ _ _ hbi] at hsb
      exact inv.distinct a ha b hb k' v' w' hsa hsb
  hasEmpty := by
    obtain ⟨e, he, hse⟩ := inv.hasEmpty
    have hne : e ≠ i := by intro h; rw [h, hsi] at hse; cases hse
    exact ⟨e, he, by rw [upd_other _ _ _ _ hne]; exact hse⟩

theorem Mem_upd_key {cap : Nat} {s : Slots K V} {k : K} {v : V} {i : Nat} (hi : i < cap)
    (hold : ∀ k' w, s i = some (k', w) → k' = k)
    (hothers : ∀ j < cap, ∀ w, s j = some (k, w) → j = i) (k' : K) (v' : V) :
    Mem cap (upd s i (some (k, v))) k' v' ↔ (k' = k ∧ v' = v) ∨ (k' ≠ k ∧ Mem cap s k' v') := by
  constructor
  · rintro ⟨j, hj, hs⟩
    by_cases hji : j = i
    · subst hji
      simp at hs
      exact Or.inl ⟨hs.1.symm, hs.2.symm⟩
    · rw [upd_other _ _ _ _ hji] at hs
      by_cases hk : k' = k
      · subst hk; exact absurd (hothers j hj _ hs) hji
      · exact Or.inr ⟨hk, j, hj, hs⟩
  · rintro (⟨rfl, rfl⟩ | ⟨hk, j, hj, hs⟩)
    · exact ⟨i, hi, by simp⟩
    · have hji : j ≠ i := by
        intro h; subst h; exact hk (hold _ _ hs)
      exact ⟨j, hj, by rw [upd_other _ _ _ _ hji]; exact hs⟩

/-- `hroom`: if the key is new, another empty slot must remain afterwards (`Inv.hasEmpty`) -/
theorem upd_find_spec {cap : Nat} {home : K → Nat} {s : Slots K V} {f : K → Option V}
    (inv : Inv cap home s) (habs : Abs cap s f) {k : K} (v : V) {i : Nat}
    (hf : find cap home s k = some i) (hroom : f k = none → size cap s + 1 < cap) :
    Inv cap home (upd s i (some (k, v))) ∧ Abs cap (upd s i (some (k, v))) (fupd f k (some v)) ∧
      size cap (upd s i (some (k, v))) = size cap s + (if (f k).isSome then 0 else 1) ∧
      s i = (f k).map (fun w => (k, w)) := by
  obtain ⟨i', hi, hf', h⟩ := find_spec inv k
  rw [hf] at hf'
  obtain rfl : i = i' := by simpa using hf'
  have hslot := (find_slot inv habs hf).2
  have hmem : ∀ k' v', Mem cap (upd s i (some (k, v))) k' v' ↔
      (k' = k ∧ v' = v) ∨ (k' ≠ k ∧ Mem cap s k' v') := by
    apply Mem_upd_key hi
    · intro k' w hs
      rcases h with ⟨w', hs'⟩ | ⟨hs', _⟩
      · rw [hs'] at hs; simp at hs; exact hs.1.symm
      · rw [hs'] at hs; cases hs
    · intro j hj w hs
      rcases h with ⟨w', hs'⟩ | ⟨_, hnone, _⟩
      · exact inv.distinct j hj i hi _ _ _ hs hs'
      · exact absurd ⟨j, hj, hs⟩ (hnone w)
  have habs' : Abs cap (upd s i (some (k, v))) (fupd f k (some v)) := by
    intro k' v'
    rw [hmem]
    by_cases hk : k' = k
    · subst hk; simp [eq_comm]
    · rw [fupd_other _ _ _ hk, habs k' v']; simp [hk]
  rcases h with ⟨w, hs⟩ | ⟨hs, hnone, hpath⟩
  · have hfk : f k = some w := (habs k w).mpr ⟨i, hi, hs⟩
    refine ⟨overwrite_inv inv hi hs, habs', ?_, hslot⟩
    rw [size_upd_over _ hi (by simp [hs]), hfk]; simp
  · have hfk : f k = none := (Abs_none habs).mpr hnone
    have hsz := size_upd_new (s := s) (k, v) hi hs
    refine ⟨?_, habs', ?_, hslot⟩
    · apply insert_new_inv inv hi hs hnone hpath
      have hlt : size cap (upd s i (some (k, v))) < cap := by rw [hsz]; exact hroom hfk
      obtain ⟨e, he, hse⟩ := exists_empty_of_size_lt hlt
      have hne : e ≠ i := by intro h; subst h; simp at hse
      rw [upd_other _ _ _ _ hne] at hse
      exact ⟨e, he, hne, hse⟩
    · rw [hsz, hfk]; simp

theorem put_spec {cap : Nat} {home : K → Nat} {s : Slots K V} {f : K → Option V}
    (inv : Inv cap home s) (habs : Abs cap s f) (k : K) (v : V)
    (hroom : f k = none → size cap s + 1 < cap) :
    ∃ s', put cap home s k v = some (s', (f k).map (fun w => (k, w))) ∧
      Inv cap home s' ∧ Abs cap s' (fupd f k (some v)) ∧
      size cap s' = size cap s + (if (f k).isSome then 0 else 1) := by
  obtain ⟨i, _, hf, _⟩ := find_spec inv k
  obtain ⟨h1, h2, h3, h4⟩ := upd_find_spec inv habs v hf hroom
  refine ⟨upd s i (some (k, v)), ?_, h1, h2, h3⟩
  unfold put
  simp only [hf, h4]

/-! ### backward shift preserves the stored entries -/

omit [DecidableEq K] in
theorem Mem_move {cap : Nat} {s : Slots K V} {hole j : Nat} {kj : K} {vj : V}
    (hh : hole < cap) (hj : j < cap) (hsh : s hole = none) (hsj : s j = some (kj, vj))
    (k : K) (v : V) :
    Mem cap (upd (upd s hole (some (kj, vj))) j none) k v ↔ Mem cap s k v := by
  have hne : j ≠ hole := by intro h; rw [h, hsh] at hsj; cases hsj
  constructor
  · rintro ⟨x, hx, hs⟩
    by_cases hxj : x = j
    · subst hxj; simp at hs
    rw [upd_other _ _ _ _ hxj] at hs
    by_cases hxh : x = hole
    · subst hxh
      simp at hs
      obtain ⟨rfl, rfl⟩ := hs
      exact ⟨j, hj, hsj⟩
    · rw [upd_other _ _ _ _ hxh] at hs
      exact ⟨x, hx, hs⟩
  · rintro ⟨x, hx, hs⟩
    by_cases hxj : x = j
    · subst hxj
      rw [hsj] at hs
      obtain ⟨rfl, rfl⟩ : k = kj ∧ v = vj := by simpa [eq_comm] using hs
      exact ⟨hole, hh, by rw [upd_other _ _ _ _ (Ne.symm hne)]; simp⟩
    · have hxh : x ≠ hole := by intro h; subst h; rw [hsh] at hs; cases hs
      exact ⟨x, hx, by rw [upd_other _ _ _ _ hxj, upd_other _ _ _ _ hxh]; exact hs⟩

omit [DecidableEq K] in
theorem size_move {cap : Nat} {s : Slots K V} {hole j : Nat} {kv : K × V}
    (hh : hole < cap) (hj : j < cap) (hsh : s hole = none) (hsj : s j = some kv) :
    size cap (upd (upd s hole (some kv)) j none) = size cap s := by
  have hne : j ≠ hole := by intro h; rw [h, hsh] at hsj; cases hsj
  have h1 := size_upd_new (s := s) kv hh hsh
  have h2 := size_upd_none (s := upd s hole (some kv)) hj
    (by rw [upd_other _ _ _ _ hne, hsj]; rfl)
  omega

omit [DecidableEq K] in
theorem shift_mem {cap : Nat} {home : K → Nat} (hc : 0 < cap) :
    ∀ (fuel : Nat) (s : Slots K V) (hole j : Nat), hole < cap → s hole = none →
      (∀ k v, Mem cap (shift cap home s hole j fuel) k v ↔ Mem cap s k v) ∧
      size cap (shift cap home s hole j fuel) = size cap s := by
  intro fuel
  induction fuel with
  | zero => intro s hole j _ _; simp [shift]
  | succ fuel ih =>
    intro s hole j hh hsh
    have hpl : probe cap j 1 < cap := probe_lt hc
    cases hsj : s (probe cap j 1) with
    | none => simp only [shift, hsj]; simp
    | some kv =>
      obtain ⟨kj, vj⟩ := kv
      simp only [shift, hsj]
      by_cases hyes : dist cap hole (probe cap j 1) ≤ dist cap (home kj) (probe cap j 1)
      · rw [if_pos hyes]
        obtain ⟨h1, h2⟩ := ih (upd (upd s hole (some (kj, vj))) (probe cap j 1) none)
          (probe cap j 1) (probe cap j 1) hpl (by simp)
        refine ⟨fun k v => ?_, ?_⟩
        · rw [h1, Mem_move hh hpl hsh hsj]
        · rw [h2, size_move hh hpl hsh hsj]
      · rw [if_neg hyes]
        exact ih s hole (probe cap j 1) hh hsh

/-! ### `erase` -/

theorem erase_spec {cap : Nat} {home : K → Nat} {s : Slots K V} {f : K → Option V}
    (inv : Inv cap home s) (habs : Abs cap s f) (k : K) :
    ∃ s', erase cap home s k = some (s', (f k).map (fun w => (k, w))) ∧
      Inv cap home s' ∧ Abs cap s' (fupd f k none) ∧
      size cap s' + (if (f k).isSome then 1 else 0) = size cap s ∧ (f k = none → s' = s) := by
  obtain ⟨i, hi, hf, h⟩ := find_spec inv k
  have hslot := (find_slot inv habs hf).2
  rcases h with ⟨w, hs⟩ | ⟨hs, hnone, _⟩
  · have hfk : f k = some w := (habs k w).mpr ⟨i, hi, hs⟩
    refine ⟨shift cap home (upd s i none) i i cap, ?_, remove_inv inv hi hs, ?_, ?_,
      fun h => by rw [hfk] at h; cases h⟩
    · unfold erase; rw [hf]; simp only [hs, hfk, Option.map_some]
    · obtain ⟨hm, _⟩ := shift_mem (home := home) inv.capPos cap (upd s i none) i i hi (by simp)
      intro k' v'
      rw [hm]
      constructor
      · intro h
        by_cases hk : k' = k
        · subst hk; simp at h
        · rw [fupd_other _ _ _ hk] at h
          obtain ⟨j, hj, hsj⟩ := (habs k' v').mp h
          have hji : j ≠ i := by intro e; subst e; rw [hs] at hsj; simp at hsj; exact hk hsj.1.symm
          exact ⟨j, hj, by rw [upd_other _ _ _ _ hji]; exact hsj⟩
      · rintro ⟨j, hj, hsj⟩
        have hji : j ≠ i := by intro e; subst e; simp at hsj
        rw [upd_other _ _ _ _ hji] at hsj
        have hk : k' ≠ k := by
          intro e; subst e; exact hji (inv.distinct j hj i hi _ _ _ hsj hs)
        rw [fupd_other _ _ _ hk]
        exact (habs k' v').mpr ⟨j, hj, hsj⟩
    · obtain ⟨_, hsz⟩ := shift_mem (home := home) inv.capPos cap (upd s i none) i i hi (by simp)
      rw [hsz, hfk]
      simpa using size_upd_none (s := s) hi (by rw [hs]; rfl)
  · have hfk : f k = none := (Abs_none habs).mpr hnone
    refine ⟨s, ?_, inv, ?_, ?_, fun _ => rfl⟩
    · unfold erase; rw [hf]; simp only [hs, hfk, Option.map_none]
    · intro k' v'
      by_cases hk : k' = k
      · subst hk; simp; exact hnone v'
      · rw [fupd_other _ _ _ hk]; exact habs k' v'
    · rw [hfk]; simp

/-! ### `empty`, `rehash`, `compact` -/

omit [DecidableEq K] in
theorem empty_inv {cap : Nat} {home : K → Nat} (hc : 0 < cap) (hh : ∀ k, home k < cap) :
    Inv cap home (empty : Slots K V) where
  capPos := hc
  homeLt := hh
  path := by intro i _ k v hs; simp [empty] at hs
  distinct := by intro i _ j _ k v w hs; simp [empty] at hs
  hasEmpty := ⟨0, hc, rfl⟩

omit [DecidableEq K] in
theorem empty_abs (cap : Nat) : Abs cap (empty : Slots K V) (fun _ => none) := by
  intro k v
  constructor
  · intro h; cases h
  · rintro ⟨i, _, hs⟩; simp [empty] at hs

theorem foldl_put_spec {cap : Nat} {home : K → Nat} :
    ∀ (l : List (K × V)) (s0 : Slots K V) (f0 : K → Option V), Inv cap home s0 → Abs cap s0 f0 →
      (l.map Prod.fst).Nodup → (∀ kv ∈ l, f0 kv.1 = none) → size cap s0 + l.length < cap →
      ∃ s', l.foldl (fun acc kv => match acc with
                | none => none
                | some s => (put cap home s kv.1 kv.2).map (·.1)) (some s0) = some s' ∧
        Inv cap home s' ∧ Abs cap s' (l.foldl (fun f kv => fupd f kv.1 (some kv.2)) f0) ∧
        size cap s' = size cap s0 + l.length := by
  intro l
  induction l with
  | nil => intro s0 f0 inv habs _ _ _; exact ⟨s0, rfl, inv, habs, rfl⟩
  | cons kv l ih =>
    intro s0 f0 inv habs hnd hfresh hsz
    obtain ⟨k, v⟩ := kv
    simp only [List.map_cons, List.nodup_cons, List.length_cons] at hnd hsz
    obtain ⟨s1, hput, inv1, habs1, hsz1⟩ := put_spec inv habs k v (fun _ => by omega)
    rw [hfresh (k, v) List.mem_cons_self] at hsz1
    obtain ⟨s', hfold, inv', habs', hsz'⟩ := ih s1 _ inv1 habs1 hnd.2
      (fun kv' h => by
        have hne : kv'.1 ≠ k := fun e => hnd.1 (e ▸ List.mem_map_of_mem (f := Prod.fst) h)
        rw [fupd_other _ _ _ hne]
        exact hfresh kv' (List.mem_cons_of_mem _ h))
      (by simp at hsz1; omega)
    refine ⟨s', ?_, inv', habs', by simp at hsz1; simp only [List.length_cons]; omega⟩
    simp only [List.foldl_cons, hput, Option.map_some]; exact hfold

omit [DecidableEq K] in
theorem compact_eq (cap : Nat) (s : Slots K V) : EqBelow cap (compact cap s) s := by
  intro i hi
  simp [compact, hi]

omit [DecidableEq K] in
theorem Mem_congr {cap : Nat} {s s' : Slots K V} (h : EqBelow cap s s') (k : K) (v : V) :
    Mem cap s k v ↔ Mem cap s' k v := by
  constructor
  · rintro ⟨i, hi, hs⟩; exact ⟨i, hi, by rw [← h i hi]; exact hs⟩
  · rintro ⟨i, hi, hs⟩; exact ⟨i, hi, by rw [h i hi]; exact hs⟩

omit [DecidableEq K] in
theorem Abs_congr {cap : Nat} {s s' : Slots K V} (h : EqBelow cap s s') {f : K → Option V}
    (habs : Abs cap s' f) : Abs cap s f :=
  fun k v => by rw [Mem_congr h]; exact habs k v

omit [DecidableEq K] in
theorem Inv_congr {cap : Nat} {home : K → Nat} {s s' : Slots K V} (h : EqBelow cap s s')
    (inv : Inv cap home s') : Inv cap home s where
  capPos := inv.capPos
  homeLt := inv.homeLt
  path := by
    intro i hi k v hs m hm
    rw [h i hi] at hs
    have := inv.path i hi k v hs m hm
    unfold occ at *
    rw [h _ (probe_lt inv.capPos)]; exact this
  distinct := by
    intro i hi j hj k v w hsi hsj
    rw [h i hi] at hsi; rw [h j hj] at hsj
    exact inv.distinct i hi j hj k v w hsi hsj
  hasEmpty := by
    obtain ⟨e, he, hse⟩ := inv.hasEmpty
    exact ⟨e, he, by rw [h e he]; exact hse⟩

theorem findFrom_congr {cap : Nat} (hc : 0 < cap) {s s' : Slots K V} (h : EqBelow cap s s')
    (hm : Nat) (k : K) : ∀ fuel n, findFrom cap s hm k n fuel = findFrom cap s' hm k n fuel := by
  intro fuel
  induction fuel with
  | zero => intro n; rfl
  | succ fuel ih =>
    intro n
    simp only [findFrom, h _ (probe_lt hc), ih]

theorem findFrom_lt {cap : Nat} (hc : 0 < cap) {s : Slots K V} {hm : Nat} {k : K} {i : Nat} :
    ∀ {fuel n}, findFrom cap s hm k n fuel = some i → i < cap := by
  intro fuel
  induction fuel with
  | zero => intro n h; cases h
  | succ fuel ih =>
    intro n h
    simp only [findFrom] at h
    split at h
    · obtain rfl : probe cap hm n = i := by simpa using h
      exact probe_lt hc
    · split at h
      · obtain rfl : probe cap hm n = i := by simpa using h
        exact probe_lt hc
      · exact ih h

theorem find_congr {cap : Nat} (hc : 0 < cap) {home : K → Nat} {s s' : Slots K V}
    (h : EqBelow cap s s') (k : K) : find cap home s k = find cap home s' k :=
  findFrom_congr hc h _ _ _ _

theorem get_congr {cap : Nat} (hc : 0 < cap) {home : K → Nat} {s s' : Slots K V}
    (h : EqBelow cap s s') (k : K) : get cap home s k = get cap home s' k := by
  unfold get
  rw [find_congr hc h]
  cases hf : find cap home s' k with
  | none => rfl
  | some i =>
    simp only [h i (findFrom_lt hc hf)]

end Cao.OA

/-! ## Association lists: the specification-level finite map -/
namespace Cao.AL

variable {K V : Type} [DecidableEq K]

def lookup : List (K × V) → K → Option V
  | [], _ => none
  | (k', v) :: t, k => if k' = k then some v else lookup t k

def erase (l : List (K × V)) (k : K) : List (K × V) := l.filter (fun kv => kv.1 ≠ k)

def insert (l : List (K × V)) (k : K) (v : V) : List (K × V) := (k, v) :: erase l k

def keys (l : List (K × V)) : List K := l.map Prod.fst

def WF (l : List (K × V)) : Prop := (keys l).Nodup

@[simp] theorem lookup_nil (k : K) : lookup ([] : List (K × V)) k = none := rfl

theorem lookup_cons (k' : K) (v : V) (t : List (K × V)) (k : K) :
    lookup ((k', v) :: t) k = if k' = k then some v else lookup t k := rfl

theorem erase_cons (k' : K) (v : V) (t : List (K × V)) (k : K) :
    erase ((k', v) :: t) k = if k' = k then erase t k else (k', v) :: erase t k := by
  by_cases h : k' = k <;> simp [erase, h]

theorem lookup_erase (l : List (K × V)) (k k' : K) :
    lookup (erase l k) k' = if k' = k then none else lookup l k' := by
  induction l with
  | nil => simp [erase]
  | cons kv t ih =>
    obtain ⟨a, v⟩ := kv
    rw [erase_cons]
    by_cases ha : a = k
    · rw [if_pos ha, ih, lookup_cons]
      by_cases hk : k' = k
      · simp [hk]
      · have : a ≠ k' := by intro e; exact hk (by rw [← e, ha])
        simp [hk, this]
    · rw [if_neg ha, lookup_cons, lookup_cons, ih]
      by_cases hk : k' = k
      · simp [hk, ha]
      · simp [hk]

theorem lookup_insert (l : List (K × V)) (k : K) (v : V) (k' : K) :
    lookup (insert l k v) k' = if k' = k then some v else lookup l k' := by
  unfold insert
  rw [lookup_cons, lookup_erase]
  by_cases hk : k' = k
  · simp [hk]
  · have : k ≠ k' := fun e => hk e.symm
    simp [hk, this]

theorem lookup_insert_fupd (l : List (K × V)) (k : K) (v : V) :
    OA.fupd (lookup l) k (some v) = lookup (insert l k v) := by
  funext k'; rw [lookup_insert]; rfl

theorem lookup_erase_fupd (l : List (K × V)) (k : K) :
    OA.fupd (lookup l) k none = lookup (erase l k) := by
  funext k'; rw [lookup_erase]; rfl

theorem mem_of_lookup {l : List (K × V)} {k : K} {v : V} (h : lookup l k = some v) :
    (k, v) ∈ l := by
  induction l with
  | nil => cases h
  | cons kv t ih =>
    obtain ⟨a, w⟩ := kv
    rw [lookup_cons] at h
    by_cases ha : a = k
    · rw [if_pos ha] at h
      obtain rfl : w = v := by simpa using h
      subst ha; simp
    · rw [if_neg ha] at h
      exact List.mem_cons_of_mem _ (ih h)

theorem lookup_eq_none {l : List (K × V)} {k : K} : lookup l k = none ↔ k ∉ keys l := by
  induction l with
  | nil => simp [keys]
  | cons kv t ih =>
    obtain ⟨a, w⟩ := kv
    rw [lookup_cons]
    by_cases ha : a = k
    · simp [ha, keys]
    · have : k ≠ a := fun e => ha e.symm
      simp only [if_neg ha, ih, keys, List.map_cons, List.mem_cons, not_or]
      simp [this]

theorem lookup_of_mem {l : List (K × V)} (wf : WF l) {k : K} {v : V} (h : (k, v) ∈ l) :
    lookup l k = some v := by
  induction l with
  | nil => cases h
  | cons kv t ih =>
    obtain ⟨a, w⟩ := kv
    unfold WF keys at wf
    simp only [List.map_cons, List.nodup_cons] at wf
    rw [lookup_cons]
    rcases List.mem_cons.mp h with e | h'
    · obtain ⟨rfl, rfl⟩ : k = a ∧ v = w := by simpa using e
      simp
    · have : a ≠ k := by
        intro e; subst e
        exact wf.1 (List.mem_map.mpr ⟨(a, v), h', rfl⟩)
      rw [if_neg this]
      exact ih wf.2 h'

theorem lookup_iff_mem {l : List (K × V)} (wf : WF l) (k : K) (v : V) :
    lookup l k = some v ↔ (k, v) ∈ l := ⟨mem_of_lookup, lookup_of_mem wf⟩

theorem keys_erase (l : List (K × V)) (k : K) : keys (erase l k) = (keys l).filter (· ≠ k) := by
  induction l with
  | nil => rfl
  | cons kv t ih =>
    obtain ⟨a, w⟩ := kv
    rw [erase_cons]
    by_cases ha : a = k
    · rw [if_pos ha, ih]; simp [keys, ha]
    · rw [if_neg ha]; simp only [keys] at ih ⊢; simp [ha, ih]

omit [DecidableEq K] in
theorem WF_nil : WF ([] : List (K × V)) := by simp [WF, keys]

theorem WF_erase {l : List (K × V)} (wf : WF l) (k : K) : WF (erase l k) := by
  unfold WF; rw [keys_erase]
  exact List.Nodup.sublist List.filter_sublist wf

theorem not_mem_keys_erase (l : List (K × V)) (k : K) : k ∉ keys (erase l k) := by
  rw [keys_erase]; simp

theorem WF_insert {l : List (K × V)} (wf : WF l) (k : K) (v : V) : WF (insert l k v) := by
  unfold WF insert keys
  simp only [List.map_cons, List.nodup_cons]
  exact ⟨not_mem_keys_erase l k, WF_erase wf k⟩

theorem WF_cons {l : List (K × V)} (wf : WF l) {k : K} (v : V) (h : lookup l k = none) :
    WF ((k, v) :: l) := by
  unfold WF keys
  simp only [List.map_cons, List.nodup_cons]
  exact ⟨lookup_eq_none.mp h, wf⟩

theorem erase_of_not_mem {l : List (K × V)} {k : K} (h : k ∉ keys l) : erase l k = l := by
  unfold erase
  rw [List.filter_eq_self]
  intro kv hkv
  have : kv.1 ≠ k := by
    intro e; exact h (List.mem_map.mpr ⟨kv, hkv, e⟩)
  simp [this]

theorem erase_of_lookup_none {l : List (K × V)} {k : K} (h : lookup l k = none) :
    erase l k = l := erase_of_not_mem (lookup_eq_none.mp h)

theorem perm_erase {l : List (K × V)} (wf : WF l) (k : K) :
    l.Perm (((lookup l k).map (fun w => (k, w))).toList ++ erase l k) := by
  induction l with
  | nil => simp [erase]
  | cons kv t ih =>
    obtain ⟨a, w⟩ := kv
    have wf' := wf
    unfold WF keys at wf'
    simp only [List.map_cons, List.nodup_cons] at wf'
    rw [lookup_cons, erase_cons]
    by_cases ha : a = k
    · subst ha
      rw [if_pos rfl, if_pos rfl, erase_of_not_mem wf'.1]
      simp
    · rw [if_neg ha, if_neg ha]
      exact (List.Perm.cons _ (ih wf'.2)).trans List.perm_middle.symm

theorem perm_insert {l : List (K × V)} (wf : WF l) (k : K) (v : V) :
    (insert l k v ++ ((lookup l k).map (fun w => (k, w))).toList).Perm (l ++ [(k, v)]) := by
  have hp := perm_erase wf k
  unfold insert
  rw [List.cons_append]
  refine (List.Perm.cons _ List.perm_append_comm).trans ?_
  refine (List.perm_append_singleton _ _).symm.trans ?_
  exact List.Perm.append_right _ hp.symm

theorem length_erase {l : List (K × V)} (wf : WF l) (k : K) :
    (erase l k).length + (if (lookup l k).isSome then 1 else 0) = l.length := by
  have := (perm_erase wf k).length_eq
  rw [this]
  cases lookup l k <;> simp <;> omega

theorem length_insert {l : List (K × V)} (wf : WF l) (k : K) (v : V) :
    (insert l k v).length = l.length + (if (lookup l k).isSome then 0 else 1) := by
  have := length_erase wf k
  unfold insert
  simp only [List.length_cons]
  split at this <;> simp_all <;> omega

omit [DecidableEq K] in
theorem nodup_of_WF {l : List (K × V)} (wf : WF l) : l.Nodup := OA.nodup_of_map _ wf

theorem perm_of_lookup_eq {l l' : List (K × V)} (wf : WF l) (wf' : WF l')
    (h : ∀ k, lookup l k = lookup l' k) : l.Perm l' := by
  rw [List.perm_ext_iff_of_nodup (nodup_of_WF wf) (nodup_of_WF wf')]
  rintro ⟨k, v⟩
  rw [← lookup_iff_mem wf, ← lookup_iff_mem wf', h]

omit [DecidableEq K] in
/-- accounting over a run: if a step turns `l0` (plus what it accepts) into `mid` (plus what it
    hands back), and the rest of the run does the same from `mid`, so does the whole run -/
theorem perm_accounting {l0 mid fin r1 ret a1 acc : List (K × V)}
    (hstep : (mid ++ r1).Perm (l0 ++ a1)) (hrest : (fin ++ ret).Perm (mid ++ acc)) :
    (fin ++ (r1 ++ ret)).Perm (l0 ++ (a1 ++ acc)) := by
  have e1 : (fin ++ (r1 ++ ret)).Perm (r1 ++ (fin ++ ret)) := by
    rw [← List.append_assoc, ← List.append_assoc]
    exact List.Perm.append_right _ List.perm_append_comm
  have e2 : (r1 ++ (mid ++ acc)).Perm ((mid ++ r1) ++ acc) := by
    rw [← List.append_assoc]
    exact List.Perm.append_right _ List.perm_append_comm
  rw [← List.append_assoc l0 a1 acc]
  exact e1.trans ((List.Perm.append_left r1 hrest).trans (e2.trans (hstep.append_right acc)))

/-! ### link with the open-addressing core -/

omit [DecidableEq K] in
theorem WF_toList {cap : Nat} {home : K → Nat} {s : OA.Slots K V} (inv : OA.Inv cap home s) :
    WF (OA.toList cap s) := OA.toList_keys_nodup inv.distinct

theorem abs_toList {cap : Nat} {home : K → Nat} {s : OA.Slots K V} (inv : OA.Inv cap home s) :
    OA.Abs cap s (lookup (OA.toList cap s)) := by
  intro k v
  rw [lookup_iff_mem (WF_toList inv), OA.mem_toList]

theorem lookup_toList {cap : Nat} {home : K → Nat} {s : OA.Slots K V} (inv : OA.Inv cap home s)
    (k : K) : lookup (OA.toList cap s) k = OA.get cap home s k :=
  congrFun (OA.Abs_unique (abs_toList inv) (OA.Abs_get inv)) k

theorem perm_toList {cap : Nat} {home : K → Nat} {s : OA.Slots K V} (inv : OA.Inv cap home s)
    {l : List (K × V)} (wf : WF l) (habs : OA.Abs cap s (lookup l)) :
    l.Perm (OA.toList cap s) := by
  apply perm_of_lookup_eq wf (WF_toList inv)
  intro k
  rw [OA.Abs_unique habs (abs_toList inv)]

theorem length_eq_size {cap : Nat} {home : K → Nat} {s : OA.Slots K V} (inv : OA.Inv cap home s)
    {l : List (K × V)} (wf : WF l) (habs : OA.Abs cap s (lookup l)) :
    l.length = OA.size cap s := (perm_toList inv wf habs).length_eq

theorem foldl_fupd {l : List (K × V)} (wf : WF l) (f0 : K → Option V) :
    l.foldl (fun f kv => OA.fupd f kv.1 (some kv.2)) f0 = fun k => (lookup l k).or (f0 k) := by
  induction l generalizing f0 with
  | nil => rfl
  | cons kv l ih =>
    obtain ⟨k, v⟩ := kv
    unfold WF keys at wf
    simp only [List.map_cons, List.nodup_cons] at wf
    rw [List.foldl_cons, ih wf.2]
    funext k'
    rw [lookup_cons]
    by_cases hk : k' = k
    · subst hk; rw [lookup_eq_none.mpr wf.1]; simp
    · rw [OA.fupd_other _ _ _ hk, if_neg (Ne.symm hk)]

end Cao.AL

namespace Cao.OA
variable {K V : Type} [DecidableEq K]

/-- the result is taken through `compact`, as the callers store it -/
theorem rehash_compact {oldCap newCap : Nat} {home home' : K → Nat} {old : Slots K V}
    {f : K → Option V} (inv : Inv oldCap home old) (habs : Abs oldCap old f)
    (hc : 0 < newCap) (hh : ∀ k, home' k < newCap) (hsz : size oldCap old < newCap) :
    ∃ s', rehash oldCap old newCap home' = some s' ∧ Inv newCap home' (compact newCap s') ∧
      Abs newCap (compact newCap s') f ∧ size newCap (compact newCap s') = size oldCap old := by
  obtain ⟨s', h1, h2, h3, h4⟩ := foldl_put_spec (cap := newCap) (home := home')
    (toList oldCap old) empty _ (empty_inv hc hh) (empty_abs _) (toList_keys_nodup inv.distinct)
    (fun _ _ => rfl) (by simpa [size] using hsz)
  rw [AL.foldl_fupd (AL.WF_toList inv), ← Abs_unique habs (AL.abs_toList inv)] at h3
  have he := compact_eq newCap s'
  refine ⟨s', h1, Inv_congr he h2, Abs_congr he (by simpa using h3), ?_⟩
  rw [size_congr he, h4]; simp [size]

end Cao.OA
