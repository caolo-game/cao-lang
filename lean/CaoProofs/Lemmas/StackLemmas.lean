import CaoModel.Vm
/-!
# The value stack by itself

What the operations of `CaoModel/Stack.lean` do to the live part of a stack of values (`contents`, membership in it) and to two
stacks that agree on their live slots (`Prefix`, `StackSame`); nothing here mentions the machine state or the heap.
-/
namespace Cao.Native
open Cao Cao.Vm

/-! ## the value stack through its live slots -/

/-- `st'` is `st` cut down to a smaller height: same capacity, same slots below the new height -/
structure Prefix (st' st : VStack Val) : Prop where
  le : st'.count ≤ st.count
  cap : st'.data.length = st.data.length
  slots : ∀ i, i < st'.count → st'.data[i]? = st.data[i]?

/-- same height, same capacity, same live slots (the stale slots above may differ) -/
structure StackSame (st st' : VStack Val) : Prop where
  count : st'.count = st.count
  cap : st'.data.length = st.data.length
  slots : ∀ i, i < st.count → st'.data[i]? = st.data[i]?

theorem StackSame.refl (st : VStack Val) : StackSame st st := ⟨rfl, rfl, fun _ _ => rfl⟩
theorem StackSame.trans {a b c : VStack Val} (h1 : StackSame a b) (h2 : StackSame b c) :
    StackSame a c :=
  ⟨h2.count.trans h1.count, h2.cap.trans h1.cap,
   fun i hi => (h2.slots i (by rw [h1.count]; exact hi)).trans (h1.slots i hi)⟩
theorem StackSame.symm {a b : VStack Val} (h : StackSame a b) : StackSame b a :=
  ⟨h.count.symm, h.cap.symm, fun i hi => (h.slots i (by rw [← h.count]; exact hi)).symm⟩
theorem StackSame.of_eq {a b : VStack Val} (h : b = a) : StackSame a b := h ▸ StackSame.refl a

theorem Prefix.refl (st : VStack Val) : Prefix st st := ⟨Nat.le_refl _, rfl, fun _ _ => rfl⟩
theorem Prefix.trans {a b c : VStack Val} (h1 : Prefix a b) (h2 : Prefix b c) : Prefix a c :=
  ⟨Nat.le_trans h1.le h2.le, h1.cap.trans h2.cap,
   fun i hi => (h1.slots i hi).trans (h2.slots i (Nat.lt_of_lt_of_le hi h1.le))⟩

theorem Prefix.push (st : VStack Val) (v : Val) :
    Prefix st ⟨st.count + 1, st.data.set st.count v⟩ :=
  ⟨Nat.le_succ _, by simp, fun i hi => by
    simp only [List.getElem?_set]
    have : ¬ st.count = i := by omega
    simp [this]⟩

theorem StackSame.of_prefix {st₀ st st' : VStack Val} (h0 : Prefix st₀ st) (h1 : Prefix st' st)
    (hc : st'.count = st₀.count) : StackSame st₀ st' :=
  ⟨hc, h1.cap.trans h0.cap.symm,
   fun i hi => (h1.slots i (by rw [hc]; exact hi)).trans (h0.slots i hi).symm⟩

theorem StackSame.contents {a b : VStack Val} (h : StackSame a b) : b.contents = a.contents := by
  unfold VStack.contents
  apply List.ext_getElem?
  intro i
  simp only [List.getElem?_take, h.count]
  split
  · exact h.slots i ‹_›
  · rfl

theorem StackSame.peekLast {a b : VStack Val} (h : StackSame a b) (n : Nat) :
    b.peekLast n = a.peekLast n := by
  unfold VStack.peekLast
  rw [h.count]
  split
  · rename_i hn
    have := h.slots (a.count - n - 1) (by omega)
    simp only [List.getD_eq_getElem?_getD, this]
  · rfl

theorem peekLast_push0 (c : Nat) (d : List Val) (v : Val) (h : c < d.length) :
    (⟨c + 1, d.set c v⟩ : VStack Val).peekLast 0 = v := by
  unfold VStack.peekLast
  simp only [Nat.zero_lt_succ, if_true, Nat.sub_zero, Nat.add_sub_cancel]
  rw [List.getD_eq_getElem?_getD, List.getElem?_set]
  simp [h]

theorem peekLast_succ_push (c : Nat) (d : List Val) (v : Val) (n : Nat) :
    (⟨c + 1, d.set c v⟩ : VStack Val).peekLast (n + 1) = (⟨c, d⟩ : VStack Val).peekLast n := by
  unfold VStack.peekLast
  simp only [Nat.add_lt_add_iff_right]
  split
  · rename_i hn
    rw [List.getD_eq_getElem?_getD, List.getD_eq_getElem?_getD, List.getElem?_set]
    have : ¬ c = c + 1 - (n + 1) - 1 := by omega
    simp only [this, if_false]
    congr 2; omega
  · rfl

theorem pop_facts (st : VStack Val) :
    Prefix st.pop.1 st ∧ st.pop.1.count = st.count - 1 ∧ st.pop.2 = st.peekLast 0 := by
  unfold VStack.pop VStack.peekLast
  by_cases hc : st.count = 0
  · rw [if_pos hc, if_neg (by omega)]
    exact ⟨Prefix.refl st, by show st.count = st.count - 1; omega, rfl⟩
  · rw [if_neg hc, if_pos (by omega)]
    refine ⟨⟨by dsimp only; omega, by simp, fun i hi => ?_⟩, rfl, rfl⟩
    dsimp only at hi ⊢
    rw [List.getElem?_set]
    have : ¬ st.count - 1 = i := by omega
    simp only [this, if_false]

theorem Prefix.of_stackSame {a b : VStack Val} (h : StackSame a b) : Prefix b a :=
  ⟨Nat.le_of_eq h.count, h.cap, fun i hi => h.slots i (by rw [← h.count]; exact hi)⟩

theorem Prefix.mem {st' st : VStack Val} (h : Prefix st' st) {v : Val} (hv : v ∈ st'.contents) :
    v ∈ st.contents := by
  unfold VStack.contents at hv ⊢
  obtain ⟨i, hi⟩ := List.mem_iff_getElem?.mp hv
  rw [List.getElem?_take] at hi
  split at hi
  · next h1 =>
    apply List.mem_iff_getElem?.mpr
    exact ⟨i, by rw [List.getElem?_take, if_pos (Nat.lt_of_lt_of_le h1 h.le), ← h.slots i h1]; exact hi⟩
  · cases hi

theorem mem_pop_contents {st : VStack Val} {v : Val} (h : v ∈ st.pop.1.contents) : v ∈ st.contents :=
  (pop_facts st).1.mem h

theorem mem_push_contents {st : VStack Val} {v w : Val} (h : w ∈ (st.push v).1.contents) :
    w = v ∨ w ∈ st.contents := by
  unfold VStack.push at h
  split at h
  · next hc =>
    unfold VStack.contents at h ⊢
    dsimp only at h
    rcases List.mem_take_iff_getElem.mp h with ⟨i, hi, rfl⟩
    rw [List.getElem_set]
    rw [List.length_set] at hi
    split
    · exact Or.inl rfl
    · exact Or.inr (List.mem_take_iff_getElem.mpr ⟨i, by omega, rfl⟩)
  · exact Or.inr h

/-! ## what the operations do to stacks with the same live slots -/

theorem StackSame.getD {a b : VStack Val} (h : StackSame a b) {i : Nat} (hi : i < a.count) :
    b.data.getD i .nil = a.data.getD i .nil := by
  rw [List.getD_eq_getElem?_getD, List.getD_eq_getElem?_getD, h.slots i hi]

theorem StackSame.last {a b : VStack Val} (h : StackSame a b) : b.last = a.last := by
  unfold VStack.last
  rw [h.count]
  split
  · exact StackSame.getD h (by omega)
  · rfl

theorem StackSame.get {a b : VStack Val} (h : StackSame a b) (i : Nat) : b.get i = a.get i := by
  unfold VStack.get
  rw [h.count]
  split
  · rfl
  · exact StackSame.getD h (by omega)

theorem StackSame.pop {a b : VStack Val} (h : StackSame a b) :
    StackSame a.pop.1 b.pop.1 ∧ b.pop.2 = a.pop.2 := by
  unfold VStack.pop
  rw [h.count]
  split
  · exact ⟨h, rfl⟩
  · next hc =>
    refine ⟨⟨by simp, by simp [h.cap], fun i hi => ?_⟩, StackSame.getD h (by omega)⟩
    dsimp only at hi ⊢
    rw [List.getElem?_set, List.getElem?_set]
    have : ¬ a.count - 1 = i := by omega
    simp only [this, if_false]
    exact h.slots i (by omega)

theorem StackSame.push {a b : VStack Val} (h : StackSame a b) (v : Val) :
    StackSame (a.push v).1 (b.push v).1 ∧ (b.push v).2 = (a.push v).2 := by
  unfold VStack.push
  rw [h.count, h.cap]
  split
  · next hc =>
    refine ⟨⟨rfl, by simp [h.cap], fun i hi => ?_⟩, rfl⟩
    dsimp only at hi ⊢
    rw [List.getElem?_set, List.getElem?_set, h.cap]
    split
    · rfl
    · exact h.slots i (by omega)
  · exact ⟨h, rfl⟩

theorem StackSame.popN {a b : VStack Val} (h : StackSame a b) (n : Nat) :
    StackSame (a.popN n).1 (b.popN n).1 := by
  unfold VStack.popN
  dsimp only
  rw [h.count]
  exact ⟨rfl, h.cap, fun i hi => h.slots i (by dsimp only at hi; omega)⟩

theorem StackSame.dataSet {a b : VStack Val} (h : StackSame a b) (i : Nat) (v : Val) :
    StackSame { a with data := a.data.set i v } { b with data := b.data.set i v } := by
  refine ⟨h.count, by simp [h.cap], fun j hj => ?_⟩
  dsimp only at hj ⊢
  rw [List.getElem?_set, List.getElem?_set, h.cap]
  split
  · rfl
  · exact h.slots j hj

theorem StackSame.set {a b : VStack Val} (h : StackSame a b) (i : Nat) (v : Val) :
    StackSame (a.set i v).1 (b.set i v).1 ∧ (b.set i v).2 = (a.set i v).2 := by
  unfold VStack.set
  by_cases h1 : i > a.count
  · have h1' : i > b.count := by rw [h.count]; exact h1
    simp only [if_pos h1, if_pos h1']; exact ⟨h, trivial⟩
  · have h1' : ¬ i > b.count := by rw [h.count]; exact h1
    simp only [if_neg h1, if_neg h1']
    by_cases h2 : i = a.count
    · have h2' : i = b.count := by rw [h.count]; exact h2
      simp only [if_pos h2, if_pos h2']
      obtain ⟨g1, g2⟩ := h.push v
      rcases ha : a.push v with ⟨a', ra⟩
      rcases hb : b.push v with ⟨b', rb⟩
      rw [ha, hb] at g1 g2
      dsimp only at g1 g2
      subst g2
      cases rb with
      | ok u => exact ⟨g1, rfl⟩
      | error e => exact ⟨g1, rfl⟩
    · have h2' : ¬ i = b.count := by rw [h.count]; exact h2
      simp only [if_neg h2, if_neg h2']
      exact ⟨h.dataSet i v, congrArg Except.ok (StackSame.getD h (by omega))⟩

/-- `clear_until` only truncates, so related stacks stay related whatever the index -/
theorem StackSame.clearUntil' {a b : VStack Val} (h : StackSame a b) (i : Nat) :
    StackSame (a.clearUntil i).1 (b.clearUntil i).1 ∧ (b.clearUntil i).2 = (a.clearUntil i).2 := by
  unfold VStack.clearUntil
  exact ⟨⟨by dsimp only; rw [h.count], h.cap,
    fun j hj => h.slots j (by dsimp only at hj; split at hj <;> omega)⟩, h.last⟩

set_option linter.unusedVariables false in
theorem StackSame.clearUntil {a b : VStack Val} (h : StackSame a b) {i : Nat} (hi : i ≤ a.count) :
    StackSame (a.clearUntil i).1 (b.clearUntil i).1 ∧ (b.clearUntil i).2 = (a.clearUntil i).2 :=
  h.clearUntil' i

theorem StackSame.popWOffset {a b : VStack Val} (h : StackSame a b) (off : Nat) :
    StackSame (a.popWOffset off).1 (b.popWOffset off).1 ∧ (b.popWOffset off).2 = (a.popWOffset off).2 := by
  unfold VStack.popWOffset
  rw [h.count]
  split
  · exact ⟨h, rfl⟩
  · exact h.pop

/-! ## membership in the live part -/

theorem getD_obj_mem {st : VStack Val} {i a : Nat} (hi : i < st.count) (h : st.data.getD i .nil = .obj a) :
    Val.obj a ∈ st.contents := by
  unfold VStack.contents
  rw [List.getD_eq_getElem?_getD] at h
  cases hd : st.data[i]? with
  | none => rw [hd] at h; cases h
  | some v =>
    rw [hd] at h
    exact List.mem_iff_getElem?.mpr ⟨i, by rw [List.getElem?_take, if_pos hi, hd]; exact congrArg some h⟩

theorem mem_popN_contents {st : VStack Val} {n : Nat} {v : Val} (h : v ∈ (st.popN n).1.contents) :
    v ∈ st.contents :=
  Prefix.mem (st := st) (st' := (st.popN n).1) ⟨by unfold VStack.popN; dsimp only; omega, rfl, fun i _ => rfl⟩ h

theorem mem_clearUntil_contents {st : VStack Val} {k : Nat} {v : Val}
    (h : v ∈ (st.clearUntil k).1.contents) : v ∈ st.contents :=
  Prefix.mem (st := st) (st' := (st.clearUntil k).1)
    ⟨by unfold VStack.clearUntil; dsimp only; split <;> omega, rfl, fun i _ => rfl⟩ h

theorem mem_dataSet_contents {st : VStack Val} {i : Nat} {v w : Val}
    (h : w ∈ ({ st with data := st.data.set i v } : VStack Val).contents) : w = v ∨ w ∈ st.contents := by
  unfold VStack.contents at h ⊢
  dsimp only at h
  obtain ⟨j, hj⟩ := List.mem_iff_getElem?.mp h
  rw [List.getElem?_take] at hj
  split at hj
  · next h1 =>
    rw [List.getElem?_set] at hj
    split at hj
    · split at hj
      · left; simpa using hj.symm
      · cases hj
    · right
      apply List.mem_iff_getElem?.mpr
      exact ⟨j, by rw [List.getElem?_take, if_pos h1]; exact hj⟩
  · cases hj

theorem mem_set_contents {st : VStack Val} {i : Nat} {v w : Val} (h : w ∈ (st.set i v).1.contents) :
    w = v ∨ w ∈ st.contents := by
  unfold VStack.set at h
  split at h
  · exact Or.inr h
  · split at h
    · have hp : ∀ x, x = st.push v → w ∈ x.1.contents := by
        intro x hx
        rw [← hx] at h
        rcases x with ⟨s', r⟩
        cases r <;> exact h
      exact mem_push_contents (hp _ rfl)
    · exact mem_dataSet_contents h

theorem mem_popWOffset_contents {st : VStack Val} {off : Nat} {v : Val}
    (h : v ∈ (st.popWOffset off).1.contents) : v ∈ st.contents := by
  unfold VStack.popWOffset at h
  split at h
  · exact h
  · exact mem_pop_contents h

theorem get_mem {st : VStack Val} {i a : Nat} (h : st.get i = .obj a) : Val.obj a ∈ st.contents := by
  unfold VStack.get at h
  split at h
  · cases h
  · exact getD_obj_mem (by omega) h

theorem last_mem {st : VStack Val} {a : Nat} (h : st.last = .obj a) : Val.obj a ∈ st.contents := by
  unfold VStack.last at h
  split at h
  · exact getD_obj_mem (by omega) h
  · cases h

theorem pop2_mem {st : VStack Val} {a : Nat} (h : st.pop.2 = .obj a) : Val.obj a ∈ st.contents := by
  unfold VStack.pop at h
  split at h
  · cases h
  · exact getD_obj_mem (by omega) h

/-! ## the live part from the top -/

theorem contents_length_of_le {st : VStack Val} (h : st.count ≤ st.data.length) :
    st.contents.length = st.count := by
  unfold VStack.contents
  rw [List.length_take]
  omega

theorem peekLast_congr {a b : VStack Val} (hc : a.contents = b.contents) (ha : a.count ≤ a.data.length)
    (hb : b.count ≤ b.data.length) (n : Nat) : a.peekLast n = b.peekLast n := by
  have hcnt : a.count = b.count := by
    rw [← contents_length_of_le ha, ← contents_length_of_le hb, hc]
  unfold VStack.peekLast
  rw [hcnt]
  split
  · next hn =>
    have e : ∀ (st : VStack Val) (i : Nat), i < st.count → st.data[i]? = st.contents[i]? := by
      intro st i hi
      unfold VStack.contents
      rw [List.getElem?_take, if_pos hi]
    rw [List.getD_eq_getElem?_getD, List.getD_eq_getElem?_getD, e a _ (by omega), e b _ (by omega), hc]
  · rfl

theorem contents_push (cnt : Nat) (d : List Val) (v : Val) (h : cnt < d.length) :
    (⟨cnt + 1, d.set cnt v⟩ : VStack Val).contents = (⟨cnt, d⟩ : VStack Val).contents ++ [v] := by
  unfold VStack.contents
  dsimp only
  rw [List.take_add_one, List.take_set, List.set_eq_of_length_le (by rw [List.length_take]; omega),
    List.getElem?_set_self h]
  rfl

end Cao.Native
