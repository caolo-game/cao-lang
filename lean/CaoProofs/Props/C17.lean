import CaoProofs.Lemmas.VmFrame
/-!
# C17 — `clear`, determinism, no leaked frames

"A cleared VM behaves like a fresh one; runs are deterministic and do not leak."

`clear` is `Vm::clear`; a cleared machine equals a freshly constructed one with the same limits in
every observable component (`EqObs`).
-/
namespace Cao.C17
open Cao Cao.Vm

/-! ## 1. what `clear` resets -/

theorem clear_fields (s : VmState) :
    (clear s).heap.objs = [] ∧ (clear s).globals = [] ∧ (clear s).frames = [] ∧
    (clear s).openUpvalues = [] ∧ (clear s).guards = [] ∧ (clear s).stack.count = 0 ∧
    (clear s).stack.data.length = s.stack.data.length ∧
    (clear s).mem.nextGc = Mem.initialGc s.mem.limit ∧ (clear s).mem.limit = s.mem.limit ∧
    (clear s).frameCap = s.frameCap := by
  simp [clear, VStack.clear]

theorem clear_contents (s : VmState) : (clear s).stack.contents = [] := by
  simp [clear, VStack.clear, VStack.contents]

/-! ## 2. accounting -/

/-- the ledger invariant of the allocator: what is charged is what the live objects cost
    (stated with the very fold `clear` uses) -/
def Ledger (s : VmState) : Prop :=
  s.mem.allocated = s.heap.objs.foldl (fun n p => n + Heap.chargeOf p.2) 0

theorem clear_accounting (s : VmState) (h : Ledger s) : (clear s).mem.allocated = 0 := by
  unfold Ledger at h
  simp only [clear]
  omega

/-- more generally `clear` refunds exactly the live objects: nothing is left charged iff nothing
    had leaked before -/
theorem clear_allocated (s : VmState) :
    (clear s).mem.allocated =
      s.mem.allocated - s.heap.objs.foldl (fun n p => n + Heap.chargeOf p.2) 0 := rfl

theorem clear_ledger (s : VmState) (h : Ledger s) : Ledger (clear s) := by
  unfold Ledger
  rw [clear_accounting s h]
  simp [clear]

/-- **Observable equality of machine states.** Excluded are
    * the *dead* slots of the value stack (`stack.data` at and above `count`): every `VStack`
      operation reads below `count` only (C14, `step_refines`), so they cannot influence a run — but the
      capacity `data.length` decides when `push` fails and is compared;
    * `heap.next`, the next fresh address: addresses are never observable (values are compared and
      printed through `ownD`, function values are never equal, tables are keyed by deep value);
    * `hostLog` (an output of the harness natives, append-only, never read);
    * the ghost counters `dispatches`, `gcRuns`, `allocIndex`, `forcedGcs` and the forced-GC
      schedule `sched` (verification hooks: they decide *when* a collection runs, which the `gc`
      engine shows to be unobservable), and `remaining`, which `run` overwrites
      (`run_ignores_counters`). -/
structure EqObs (a b : VmState) : Prop where
  count : a.stack.count = b.stack.count
  live : a.stack.contents = b.stack.contents
  cap : a.stack.data.length = b.stack.data.length
  frames : a.frames = b.frames
  frameCap : a.frameCap = b.frameCap
  globals : a.globals = b.globals
  objs : a.heap.objs = b.heap.objs
  mem : a.mem = b.mem
  guards : a.guards = b.guards
  openUpvalues : a.openUpvalues = b.openUpvalues

theorem EqObs.refl (a : VmState) : EqObs a a := ⟨rfl, rfl, rfl, rfl, rfl, rfl, rfl, rfl, rfl, rfl⟩
theorem EqObs.symm {a b : VmState} (h : EqObs a b) : EqObs b a :=
  ⟨h.1.symm, h.2.symm, h.3.symm, h.4.symm, h.5.symm, h.6.symm, h.7.symm, h.8.symm, h.9.symm,
   h.10.symm⟩
theorem EqObs.trans {a b c : VmState} (h : EqObs a b) (g : EqObs b c) : EqObs a c :=
  ⟨h.1.trans g.1, h.2.trans g.2, h.3.trans g.3, h.4.trans g.4, h.5.trans g.5, h.6.trans g.6,
   h.7.trans g.7, h.8.trans g.8, h.9.trans g.9, h.10.trans g.10⟩

/-- the configuration a machine was built with, as far as it can be read off the state -/
def configOf (s : VmState) : Config :=
  { memLimit := s.mem.limit, stackSize := s.stack.data.length, callStackSize := s.frameCap }

/-- **a cleared machine is a fresh machine** (up to the unobservable components) -/
theorem clear_eq_fresh (s : VmState) (h : Ledger s) : EqObs (clear s) (VmState.fresh (configOf s)) := by
  have hacc : s.mem.allocated - s.heap.objs.foldl (fun n p => n + Heap.chargeOf p.2) 0 = 0 := by
    unfold Ledger at h; omega
  constructor <;>
    simp [hacc, clear, VStack.clear, VmState.fresh, VStack.new, VStack.contents, configOf, Mem.new]

theorem clear_clear (s : VmState) (h : Ledger s) : EqObs (clear (clear s)) (clear s) := by
  have h1 := clear_eq_fresh (clear s) (clear_ledger s h)
  have h2 := clear_eq_fresh s h
  have hc : configOf (clear s) = configOf s := by
    simp [configOf, clear, VStack.clear]
  rw [hc] at h1
  exact h1.trans h2.symm

/-- The literal "behaves like a fresh one", for runs. `EqObs` does not carry through `run` by the
    one-state logic `Pres` (`Lemmas/VmLogic.lean`, for runs `Lemmas/VmFrame.lean`): `heap.next` differs, so the two heaps agree
    only up to a shift of addresses. `Props/C17b.lean` compares the runs: the statement is proved
    for safe runs (`C17b.clear_behaves_like_fresh`) and false as it stands
    (`C17b.clear_behaves_like_fresh_Full_false`: `clear` keeps the forced-collection schedule). -/
def clear_behaves_like_fresh_Full : Prop :=
  ∀ (p : Prog) (n : Nat) (s : VmState), Ledger s →
    ((run p n (clear s)).2.map (·.kind.name)) = ((run p n (VmState.fresh (configOf s))).2.map (·.kind.name))

/-! ## 3. frames -/

/-- **`run` pops the frames it pushed** (the entry frame and everything above it), also when the
    run ends with an error -/
theorem run_restores_frames (p : Prog) (n : Nat) (s : VmState) (h : s.frames.length < s.frameCap) :
    (run p n s).1.frames.length ≤ s.frames.length := by
  rw [run_room p n s h]
  simp only [List.length_take]
  omega

/-- on a full call stack `run` reports `CallStackOverflow` and leaves the machine untouched -/
theorem run_full_stack (p : Prog) (n : Nat) (s : VmState) (h : s.frames.length ≥ s.frameCap) :
    run p n s = (s, some ⟨.callStackOverflow, 0, []⟩) := run_no_room p n s h

theorem run_no_frame_leak (p : Prog) (n : Nat) (s : VmState) :
    (run p n s).1.frames.length ≤ s.frames.length := by
  by_cases h : s.frames.length < s.frameCap
  · exact run_restores_frames p n s h
  · rw [run_full_stack p n s (Nat.not_lt.1 h)]; exact Nat.le_refl _

theorem run_frames_nil (p : Prog) (n : Nat) (s : VmState) (h : s.frames = []) :
    (run p n s).1.frames = [] := by
  have := run_no_frame_leak p n s
  rw [h] at this
  exact List.eq_nil_of_length_eq_zero (Nat.le_zero.1 this)

theorem run_frameCap (p : Prog) (n : Nat) (s : VmState) : (run p n s).1.frameCap = s.frameCap := by
  by_cases h : s.frames.length < s.frameCap
  · rw [run_room p n s h]
    exact exec_frameCap p _ _ _
  · rw [run_full_stack p n s (Nat.not_lt.1 h)]

/-! ## 4. determinism -/

/-- the model of `run` is a function: equal inputs, equal outcome and equal final machine -/
theorem run_deterministic (p p' : Prog) (n n' : Nat) (s s' : VmState)
    (hp : p = p') (hn : n = n') (hs : s = s') : run p n s = run p' n' s' := by
  subst hp hn hs; rfl

/-- **the incoming budget counters do not matter**: `run` overwrites `remaining` and `dispatches`
    before the first instruction -/
theorem run_ignores_counters (p : Prog) (n r d : Nat) (s : VmState) (h : s.frames.length < s.frameCap) :
    run p n { s with remaining := r, dispatches := d } = run p n s := by
  rw [run_room p n s h, run_room p n { s with remaining := r, dispatches := d } h]
  rfl

/-- … and on a full call stack the machine (counters included) is returned as it came -/
theorem run_ignores_counters_full (p : Prog) (n r d : Nat) (s : VmState) (h : s.frames.length ≥ s.frameCap) :
    run p n { s with remaining := r, dispatches := d } =
      ({ s with remaining := r, dispatches := d }, some ⟨.callStackOverflow, 0, []⟩) :=
  run_no_room p n _ h

end Cao.C17
