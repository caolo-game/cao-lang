import CaoProofs.Lemmas.SchedCheck
/-!
# Schedule independence: from instructions to runs

`execG stp nat p` is the dispatch loop / `run_function` of `CaoModel/Vm.lean` with the instruction
(`stp`) and the host function call of `run_function` (`nat`) as parameters:
`exec p = execG (step p) callNative p` (`exec_eq_execG`), and the *checked interpreter* is
`execC p := execG (stepC p) natC p`. `execG_sim`: if instructions and host function calls respect
the relation, so do the loop, `run_function` and `run` — in particular the checked interpreter
does, given `NatSimHyp c` and, for `run`, a start state without guards (`execC_sim`, `runC_sim`);
`SchedFull.execC_sim_all` and `C02b.runC_sched` are the forms without `NatSimHyp`.
-/
namespace Cao.SchedFull
open Cao Cao.Vm Cao.Gc Cao.C02 Cao.C05 Cao.RunInv Cao.Native

abbrev ExecRes := VmState × Except RunErr (Option Val)

/-- `run_function` on a script callee, the loop given as a parameter -/
def enterBy (p : Prog) (k : Nat → VmState → ExecRes) (s : VmState) (label : UInt32) (arity : Nat)
    (closure : Option Nat) : ExecRes :=
  match p.labels.find? (fun l => l.1 == label) with
  | none => failAt s .procedureNotFound
  | some (_, pos) =>
    if s.stack.count < arity then failAt s .missingArgument else
    let fr : Frame := { src := pos, dst := p.bytecode.size - 1, stackOffset := s.stack.count - arity, closure := closure }
    if s.frames.length + 1 > s.frameCap then failAt s .callStackOverflow else
    if s.frames.length + 2 > s.frameCap then (s, .error ⟨.callStackOverflow, 0, s.frames ++ [fr]⟩) else
    match k pos { s with frames := s.frames ++ [fr, fr] } with
    | (s', .ok _) =>
      ({ s' with frames := s'.frames.take s.frames.length, stack := s'.stack.pop.1 }, .ok (some s'.stack.pop.2))
    | (s', .error e) => ({ s' with frames := s'.frames.take s.frames.length }, .error e)

/-- the dispatch loop and `run_function`, parametrised by the instruction and the host call -/
def execG (stp : Reenter → Nat → M Ctl) (nat : Reenter → UInt32 → M Unit) (p : Prog) :
    Nat → Task → VmState → ExecRes
  | 0, _, s => (s, .error ⟨.panic "gas exhausted", 0, s.frames⟩)
  | gas+1, .loop ip, s =>
    if ip ≥ p.bytecode.size then (s, .error ⟨.unexpectedEndOfInput, ip, s.frames⟩) else
    if s.remaining - 1 = 0 then
      ({ s with remaining := s.remaining - 1 }, .error ⟨.timeout, ip, s.frames⟩) else
    match (stp (fun f => liftRun (execG stp nat p gas (.call f))) ip).go s.tick with
    | (.error e, s') => (s', .error ⟨e, ip, s'.frames⟩)
    | (.ok ctl, s') => if ctl.exit then (s', .ok none) else execG stp nat p gas (.loop ctl.ip) s'
  | gas+1, .call f, s =>
    match f with
    | .obj a =>
      match s.heap.get a with
      | some (.native h) =>
        match (nat (fun g => liftRun (execG stp nat p gas (.call g))) h).go s with
        | (.ok (), s') => ({ s' with stack := s'.stack.pop.1 }, .ok (some s'.stack.pop.2))
        | (.error e, s') => failAt s' e
      | some (.fn h ar) => enterBy p (fun pos s' => execG stp nat p gas (.loop pos) s') s h ar.toNat none
      | some (.closure h ar _) =>
        enterBy p (fun pos s' => execG stp nat p gas (.loop pos) s') s h ar.toNat (some a)
      | _ => failAt s .invalidArgument
    | _ => failAt s .invalidArgument

/-- the callback `execG` hands to instructions and host functions -/
def reenterG (stp : Reenter → Nat → M Ctl) (nat : Reenter → UInt32 → M Unit) (p : Prog) (gas : Nat) : Reenter :=
  fun f => liftRun (execG stp nat p gas (.call f))

theorem execG_zero (stp nat p) (t : Task) (s : VmState) :
    execG stp nat p 0 t s = (s, .error ⟨.panic "gas exhausted", 0, s.frames⟩) := by
  unfold execG; rfl

theorem execG_loop (stp nat p) (gas ip : Nat) (s : VmState) :
    execG stp nat p (gas+1) (.loop ip) s =
      if ip ≥ p.bytecode.size then (s, .error ⟨.unexpectedEndOfInput, ip, s.frames⟩) else
      if s.remaining - 1 = 0 then
        ({ s with remaining := s.remaining - 1 }, .error ⟨.timeout, ip, s.frames⟩) else
      match (stp (reenterG stp nat p gas) ip).go s.tick with
      | (.error e, s') => (s', .error ⟨e, ip, s'.frames⟩)
      | (.ok ctl, s') => if ctl.exit then (s', .ok none) else execG stp nat p gas (.loop ctl.ip) s' := by
  rw [execG]; rfl

theorem execG_call (stp nat p) (gas : Nat) (f : Val) (s : VmState) :
    execG stp nat p (gas+1) (.call f) s =
      match f with
      | .obj a =>
        match s.heap.get a with
        | some (.native h) =>
          match (nat (reenterG stp nat p gas) h).go s with
          | (.ok (), s') => ({ s' with stack := s'.stack.pop.1 }, .ok (some s'.stack.pop.2))
          | (.error e, s') => failAt s' e
        | some (.fn h ar) => enterBy p (fun pos s' => execG stp nat p gas (.loop pos) s') s h ar.toNat none
        | some (.closure h ar _) =>
          enterBy p (fun pos s' => execG stp nat p gas (.loop pos) s') s h ar.toNat (some a)
        | _ => failAt s .invalidArgument
      | _ => failAt s .invalidArgument := by
  cases f with
  | obj a => rw [execG.eq_3]; rfl
  | nil => rw [execG]; intro a h; cases h
  | int _ => rw [execG]; intro a h; cases h
  | real _ => rw [execG]; intro a h; cases h

theorem enterScript_eq (p : Prog) (gas : Nat) (s : VmState) (l : UInt32) (ar : Nat) (c : Option Nat) :
    enterScript p gas s l ar c = enterBy p (fun pos s' => exec p gas (.loop pos) s') s l ar c := rfl

theorem exec_eq_execG (p : Prog) : ∀ (gas : Nat) (task : Task) (s : VmState),
    exec p gas task s = execG (step p) callNative p gas task s := by
  intro gas
  induction gas with
  | zero => intro task s; rw [exec_zero, execG_zero]
  | succ gas ih =>
    intro task s
    have hre : reenterOf p gas = reenterG (step p) callNative p gas := by
      funext f
      unfold reenterOf reenterG
      congr 1
      funext s'
      exact ih (.call f) s'
    have hloop : (fun pos s' => exec p gas (.loop pos) s') =
        (fun pos s' => execG (step p) callNative p gas (.loop pos) s') := by
      funext pos s'; exact ih _ _
    cases task with
    | loop ip =>
      rw [exec_loop, execG_loop, hre]
      by_cases h1 : ip ≥ p.bytecode.size
      · rw [if_pos h1, if_pos h1]
      rw [if_neg h1, if_neg h1]
      by_cases h2 : s.remaining - 1 = 0
      · rw [if_pos h2, if_pos h2]
      rw [if_neg h2, if_neg h2]
      rcases (step p (reenterG (step p) callNative p gas) ip).go s.tick with ⟨r, s'⟩
      cases r with
      | error e => rfl
      | ok ctl =>
        dsimp only
        split
        · rfl
        · exact ih _ _
    | call f =>
      rw [exec_call, execG_call, hre]
      cases f with
      | obj a =>
        dsimp only
        cases s.heap.get a with
        | none => rfl
        | some o => cases o <;> first | rfl | (dsimp only; rw [enterScript_eq, hloop])
      | nil => rfl
      | int _ => rfl
      | real _ => rfl

/-! ## the simulation -/

/-- result and final states of two runs of the loop agree; a returned value denotes the same
    thing in both machines -/
def ExecEq (c : Cfg) (r₁ r₂ : ExecRes) : Prop :=
  r₂.2 = r₁.2 ∧ Rel c r₁.1 r₂.1 ∧ ∀ v, r₁.2 = .ok (some v) → VRes c v r₁.1 r₂.1

section sim
variable {c : Cfg}

theorem liftRun_w2 {g₁ g₂ : VmState → ExecRes} {s t : VmState} (h : ExecEq c (g₁ s) (g₂ t)) :
    W2 c (liftRun g₁) (liftRun g₂) (fun a b s' t' => b = a ∧ VRes c a s' t') s t := by
  obtain ⟨h1, h2, h3⟩ := h
  have e1 : (liftRun g₁).go s = (match g₁ s with
      | (s', .ok (some v)) => ((.ok v : Except ErrKind Val), s')
      | (s', .ok none) => (.ok .nil, s')
      | (s', .error e) => (.error e.kind, s')) := rfl
  have e2 : (liftRun g₂).go t = (match g₂ t with
      | (s', .ok (some v)) => ((.ok v : Except ErrKind Val), s')
      | (s', .ok none) => (.ok .nil, s')
      | (s', .error e) => (.error e.kind, s')) := rfl
  rcases hg₁ : g₁ s with ⟨s', r⟩
  rcases hg₂ : g₂ t with ⟨t', r'⟩
  rw [hg₁] at e1 h1 h2 h3
  rw [hg₂] at e2 h1 h2 h3
  dsimp only at h1 h2 h3
  subst h1
  rcases r' with e | (_ | v)
  · exact w2_of_go_err e1 e2 h2
  · obtain ⟨K, hA⟩ := h2
    exact w2_of_go e1 e2 ⟨rfl, K, hA, VK.nil⟩
  · exact w2_of_go e1 e2 ⟨rfl, h3 v rfl⟩

theorem Agree.tick {K : Nat → Prop} {s t : VmState} (h : Agree c K s t) : Agree c K s.tick t.tick :=
  h.reroot rfl rfl rfl rfl h.stack h.globals h.frames h.openUpvalues h.guards
    (by show t.remaining - 1 = s.remaining - 1; rw [h.remaining])
    (by show t.dispatches + 1 = s.dispatches + 1; rw [h.dispatches])
    h.hostLog h.frameCap h.rootsK

theorem Agree.timeout {K : Nat → Prop} {s t : VmState} (h : Agree c K s t) :
    Agree c K { s with remaining := s.remaining - 1 } { t with remaining := t.remaining - 1 } :=
  h.reroot rfl rfl rfl rfl h.stack h.globals h.frames h.openUpvalues h.guards
    (by show t.remaining - 1 = s.remaining - 1; rw [h.remaining])
    h.dispatches h.hostLog h.frameCap h.rootsK

theorem execEq_err {s t : VmState} (h : Rel c s t) (e : ErrKind) (ip : Nat) :
    ExecEq c (s, .error ⟨e, ip, s.frames⟩) (t, .error ⟨e, ip, t.frames⟩) :=
  let ⟨_, hA⟩ := h
  ⟨by show Except.error _ = Except.error _; rw [hA.frames], h, fun v hv => by cases hv⟩

theorem Agree.pushFrames {K : Nat → Prop} {s t : VmState} (h : Agree c K s t) (frs : List Frame)
    (hfr : ∀ f ∈ frs, ∀ a, f.closure = some a → K a) :
    Agree c K { s with frames := s.frames ++ frs } { t with frames := t.frames ++ frs } :=
  h.frames_change (by rw [h.frames]) fun f hf a hfa =>
    (List.mem_append.mp hf).elim (fun hf => h.k_frame hf hfa) (fun hf => hfr f hf a hfa)

/-- the epilogue of a failed `run_function`: pop the call stack back to the entry depth -/
theorem Agree.takeFrames {K : Nat → Prop} {s t : VmState} (h : Agree c K s t) (n : Nat) :
    Agree c K { s with frames := s.frames.take n } { t with frames := t.frames.take n } :=
  h.frames_change (by rw [h.frames]) fun f hf a hfa => h.k_frame (List.mem_of_mem_take hf) hfa

theorem Agree.popStack {K : Nat → Prop} {s t : VmState} (h : Agree c K s t) :
    Agree c K { s with stack := s.stack.pop.1 } { t with stack := t.stack.pop.1 } :=
  h.stack_change (h.stack.map (fun x => x.pop.1) h.stack.1.pop.1)
    (fun _ hv => h.vk_stack (mem_pop_contents hv))

/-- the epilogue of `run_function`: pop the call stack back to the entry depth, pop the result
    (which stays in `K`) -/
theorem Agree.epilogue {K : Nat → Prop} {s t : VmState} (h : Agree c K s t) (n : Nat) :
    Agree c K { s with frames := s.frames.take n, stack := s.stack.pop.1 }
              { t with frames := t.frames.take n, stack := t.stack.pop.1 } :=
  (h.takeFrames n).popStack

theorem enterBy_sim (p : Prog) (k₁ k₂ : Nat → VmState → ExecRes)
    (ih : ∀ (pos : Nat) (s t : VmState), Rel c s t → ExecEq c (k₁ pos s) (k₂ pos t))
    {K : Nat → Prop} {s t : VmState} (h : Agree c K s t) (l : UInt32) (ar : Nat) (cl : Option Nat)
    (hc : ∀ a, cl = some a → K a) :
    ExecEq c (enterBy p k₁ s l ar cl) (enterBy p k₂ t l ar cl) := by
  unfold enterBy
  have ec : t.stack.count = s.stack.count := h.stack.count
  have ef : t.frames.length = s.frames.length := by rw [h.frames]
  have ecap : t.frameCap = s.frameCap := h.frameCap
  cases hl : p.labels.find? (fun l' => l'.1 == l) with
  | none => exact execEq_err h.rel _ _
  | some lp =>
    obtain ⟨_, pos⟩ := lp
    dsimp only
    by_cases c1 : s.stack.count < ar
    · have c1' : t.stack.count < ar := by omega
      rw [if_pos c1, if_pos c1']; exact execEq_err h.rel _ _
    have c1' : ¬ t.stack.count < ar := by omega
    rw [if_neg c1, if_neg c1']
    by_cases c2 : s.frames.length + 1 > s.frameCap
    · have c2' : t.frames.length + 1 > t.frameCap := by omega
      rw [if_pos c2, if_pos c2']; exact execEq_err h.rel _ _
    have c2' : ¬ t.frames.length + 1 > t.frameCap := by omega
    rw [if_neg c2, if_neg c2', ec]
    by_cases c3 : s.frames.length + 2 > s.frameCap
    · have c3' : t.frames.length + 2 > t.frameCap := by omega
      rw [if_pos c3, if_pos c3']
      exact ⟨by show Except.error _ = Except.error _; rw [h.frames], h.rel, fun v hv => by cases hv⟩
    have c3' : ¬ t.frames.length + 2 > t.frameCap := by omega
    rw [if_neg c3, if_neg c3', ef]
    have h0 := h.pushFrames [⟨pos, p.bytecode.size - 1, s.stack.count - ar, cl⟩,
        ⟨pos, p.bytecode.size - 1, s.stack.count - ar, cl⟩]
      (fun f hf a hfa => by
        simp only [List.mem_cons, List.not_mem_nil, or_false, or_self] at hf
        subst hf
        exact hc a hfa)
    obtain ⟨e1, e2, _⟩ := ih pos _ _ h0.rel
    rcases hx : k₁ pos _ with ⟨s', r⟩
    rcases hy : k₂ pos _ with ⟨t', r'⟩
    rw [hx, hy] at e1 e2
    dsimp only at e1 e2
    subst e1
    obtain ⟨K', hA'⟩ := e2
    cases r' with
    | error e => exact ⟨rfl, (hA'.takeFrames _).rel, fun v hv => by cases hv⟩
    | ok v =>
      refine ⟨?_, (hA'.epilogue _).rel, ?_⟩
      · show Except.ok (some t'.stack.pop.2) = Except.ok (some s'.stack.pop.2)
        rw [hA'.stack.1.pop.2]
      · intro w hw
        cases hw
        exact ⟨K', hA'.epilogue _, hA'.vk_pop⟩

/-- what a task needs: the callee of `run_function` denotes the same thing in both machines -/
def TaskOk (K : Nat → Prop) : Task → Prop
  | .loop _ => True
  | .call f => VK K f

theorem execG_zero_sim (stp : Reenter → Nat → M Ctl) (nat : Reenter → UInt32 → M Unit) (p : Prog) (task : Task)
    {K : Nat → Prop} {s t : VmState} (h : Agree c K s t) :
    ExecEq c (execG stp nat p 0 task s) (execG stp nat p 0 task t) := by
  rw [execG_zero, execG_zero]
  exact execEq_err h.rel _ _

theorem execG_loop_sim (stp : Reenter → Nat → M Ctl) (nat : Reenter → UInt32 → M Unit) (p : Prog) (gas : Nat)
    (hstp : ∀ src, src < p.bytecode.size → ∀ K s t, Agree c K s t →
      W2 c (stp (reenterG stp nat p gas) src) (stp (reenterG stp nat p gas) src) (QStep c) s t)
    (ih : ∀ ip K s t, Agree c K s t →
      ExecEq c (execG stp nat p gas (.loop ip) s) (execG stp nat p gas (.loop ip) t))
    (ip : Nat) (K : Nat → Prop) (s t : VmState) (h : Agree c K s t) :
    ExecEq c (execG stp nat p (gas+1) (.loop ip) s) (execG stp nat p (gas+1) (.loop ip) t) := by
  rw [execG_loop, execG_loop]
  split
  · exact execEq_err h.rel _ _
  next hip =>
  have erem : t.remaining - 1 = s.remaining - 1 := by rw [h.remaining]
  by_cases c0 : s.remaining - 1 = 0
  · rw [if_pos c0, if_pos (erem.trans c0)]
    exact execEq_err h.timeout.rel _ _
  rw [if_neg c0, if_neg (erem ▸ c0)]
  rcases (hstp ip (Nat.lt_of_not_le hip) K s.tick t.tick h.tick).cases with
    ⟨_, ctl, s', t', hx, hy, rfl, K', hA'⟩ | ⟨e, s', t', hx, hy, hr⟩ <;> rw [hx, hy]
  · dsimp only
    split
    · exact ⟨rfl, hA'.rel, fun v hv => by cases hv⟩
    · exact ih ctl.ip K' s' t' hA'
  · exact execEq_err hr _ _

theorem execG_sim_loop (stp : Reenter → Nat → M Ctl) (nat : Reenter → UInt32 → M Unit) (p : Prog)
    (hstp : ∀ re₁ re₂ src, src < p.bytecode.size → ∀ K s t, Agree c K s t →
      W2 c (stp re₁ src) (stp re₂ src) (QStep c) s t) :
    ∀ (gas ip : Nat) (K : Nat → Prop) (s t : VmState), Agree c K s t →
      ExecEq c (execG stp nat p gas (.loop ip) s) (execG stp nat p gas (.loop ip) t) := by
  intro gas
  induction gas with
  | zero => exact fun ip K s t h => execG_zero_sim stp nat p _ h
  | succ gas ih => exact execG_loop_sim stp nat p gas (hstp _ _) ih

theorem execG_sim (stp : Reenter → Nat → M Ctl) (nat : Reenter → UInt32 → M Unit) (p : Prog)
    (hstep : ∀ re₁ re₂, ReSim c re₁ re₂ → ∀ src, src < p.bytecode.size → ∀ K s t, Agree c K s t →
      W2 c (stp re₁ src) (stp re₂ src) (QStep c) s t)
    (hnat : ∀ re₁ re₂, ReSim c re₁ re₂ → ∀ hd K s t, Agree c K s t →
      W2 c (nat re₁ hd) (nat re₂ hd) (fun _ _ s' t' => Rel c s' t') s t) :
    ∀ (gas : Nat) (task : Task) (K : Nat → Prop) (s t : VmState), Agree c K s t → TaskOk K task →
      ExecEq c (execG stp nat p gas task s) (execG stp nat p gas task t) := by
  intro gas
  induction gas with
  | zero => exact fun task K s t h _ => execG_zero_sim stp nat p task h
  | succ gas ih =>
    intro task K s t h hok
    have hre : ReSim c (reenterG stp nat p gas) (reenterG stp nat p gas) :=
      fun f K s t hst hf => liftRun_w2 (ih (.call f) K s t hst hf)
    cases task with
    | loop ip =>
      exact execG_loop_sim stp nat p gas (hstep _ _ hre) (fun ip K s t h => ih (.loop ip) K s t h trivial)
        ip K s t h
    | call f =>
      rw [execG_call, execG_call]
      cases f with
      | obj a =>
        dsimp only
        have ha : K a := hok a rfl
        rw [h.agree a ha]
        cases hg : s.heap.get a with
        | none => exact execEq_err h.rel _ _
        | some o =>
          cases o with
          | native hd =>
            dsimp only
            rcases (hnat _ _ hre hd K s t h).cases with
              ⟨_, _, s', t', hx, hy, K', hA'⟩ | ⟨e, s', t', hx, hy, hr⟩ <;> rw [hx, hy]
            · refine ⟨?_, hA'.popStack.rel, ?_⟩
              · show Except.ok (some t'.stack.pop.2) = Except.ok (some s'.stack.pop.2)
                rw [hA'.stack.1.pop.2]
              · intro w hw'
                cases hw'
                exact ⟨K', hA'.popStack, hA'.vk_pop⟩
            · exact execEq_err hr _ _
          | fn hd ar =>
            exact enterBy_sim p _ _ (fun pos s t ⟨K', hst⟩ => ih (.loop pos) K' s t hst trivial) h _ _ _
              (fun a ha => by cases ha)
          | closure hd ar ups =>
            exact enterBy_sim p _ _ (fun pos s t ⟨K', hst⟩ => ih (.loop pos) K' s t hst trivial) h _ _ _
              (fun a' ha' => by cases ha'; exact ha)
          | _ => exact execEq_err h.rel _ _
      | _ => exact execEq_err h.rel _ _

end sim

/-! ## `run` -/

/-- `Vm::run`, over the generic loop -/
def runG (stp : Reenter → Nat → M Ctl) (nat : Reenter → UInt32 → M Unit) (p : Prog) (n : Nat) (s : VmState) :
    VmState × Option RunErr :=
  if s.frames.length ≥ s.frameCap then (s, some ⟨.callStackOverflow, 0, []⟩) else
  let r := execG stp nat p (gasFor (started n s) n) (.loop 0) (started n s)
  ({ r.1 with frames := r.1.frames.take s.frames.length, guards := s.guards },
   match r.2 with
   | .ok _ => none
   | .error e => some e)

theorem run_eq_runG (p : Prog) (n : Nat) (s : VmState) : run p n s = runG (step p) callNative p n s := by
  unfold runG
  by_cases h : s.frames.length ≥ s.frameCap
  · rw [if_pos h, run_no_room p n s h]
  · rw [if_neg h, run_room p n s (Nat.lt_of_not_le h), exec_eq_execG]
    rfl

/-- the checked interpreter -/
def execC (p : Prog) : Nat → Task → VmState → ExecRes := execG (stepC p) natC p
def runC (p : Prog) (n : Nat) (s : VmState) : VmState × Option RunErr := runG (stepC p) natC p n s

theorem runG_sim {c : Cfg} (stp : Reenter → Nat → M Ctl) (nat : Reenter → UInt32 → M Unit) (p : Prog) (n : Nat)
    (hexec : ∀ (gas : Nat) (K : Nat → Prop) (s t : VmState), Agree c K s t →
      ExecEq c (execG stp nat p gas (.loop 0) s) (execG stp nat p gas (.loop 0) t))
    {s t : VmState} (h : Rel c s t) (hg : s.guards = []) :
    (runG stp nat p n t).2 = (runG stp nat p n s).2 ∧ Rel c (runG stp nat p n s).1 (runG stp nat p n t).1 := by
  obtain ⟨K, hA⟩ := h
  unfold runG
  by_cases hroom : s.frames.length ≥ s.frameCap
  · have hroom' : t.frames.length ≥ t.frameCap := by rw [hA.frames, hA.frameCap]; exact hroom
    rw [if_pos hroom, if_pos hroom']
    exact ⟨rfl, K, hA⟩
  · have hroom' : ¬ t.frames.length ≥ t.frameCap := by rw [hA.frames, hA.frameCap]; exact hroom
    rw [if_neg hroom, if_neg hroom']
    have hst : Agree c K (started n s) (started n t) :=
      have h1 := hA.pushFrames [⟨0, 0, 0, none⟩] (fun f hf a hfa => by cases List.mem_singleton.mp hf; cases hfa)
      h1.reroot rfl rfl rfl rfl h1.stack h1.globals h1.frames h1.openUpvalues h1.guards rfl rfl
        h1.hostLog h1.frameCap h1.rootsK
    have hgas : gasFor (started n t) n = gasFor (started n s) n := by
      unfold gasFor started
      show 2 * n + 3 * t.frameCap + 3 * t.stack.data.length + 16 =
        2 * n + 3 * s.frameCap + 3 * s.stack.data.length + 16
      rw [hA.frameCap, hA.stack.cap]
    rw [hgas]
    obtain ⟨e1, ⟨K', hA'⟩, _⟩ := hexec (gasFor (started n s) n) K _ _ hst
    dsimp only
    refine ⟨by rw [e1], K', ?_⟩
    rw [hA.frames, hA.guards]
    exact ((hA'.takeFrames _).guards_change s.guards (fun a ha => by rw [hg] at ha; cases ha))

theorem runG_counters (stp : Reenter → Nat → M Ctl) (nat : Reenter → UInt32 → M Unit) (p : Prog) (n : Nat)
    (s : VmState) (hroom : s.frames.length < s.frameCap) (r d : Nat) :
    runG stp nat p n { s with remaining := r, dispatches := d } = runG stp nat p n s := by
  unfold runG
  rw [if_neg (Nat.not_le.2 hroom), if_neg (Nat.not_le.2 hroom)]
  rfl

theorem execC_sim {c : Cfg} (hnat : NatSimHyp c) (p : Prog) (gas : Nat) (task : Task) {K : Nat → Prop}
    {s t : VmState} (h : Agree c K s t) (hok : TaskOk K task) :
    ExecEq c (execC p gas task s) (execC p gas task t) :=
  execG_sim (stepC p) natC p (fun _ _ hre src _ _ _ _ h => stepC_sim hnat p hre src h)
    (fun _ _ hre hd _ _ _ h => natC_sim hnat hre hd h) gas task K s t h hok

theorem runG_natC_sim {c : Cfg} (hnat : NatSimHyp c) (stp : Reenter → Nat → M Ctl) (p : Prog)
    (hstp : ∀ {re₁ re₂}, ReSim c re₁ re₂ → ∀ src {K s t}, Agree c K s t →
      W2 c (stp re₁ src) (stp re₂ src) (QStep c) s t)
    (n : Nat) {s t : VmState} (h : Rel c s t) (hg : s.guards = []) :
    (runG stp natC p n t).2 = (runG stp natC p n s).2 ∧ Rel c (runG stp natC p n s).1 (runG stp natC p n t).1 :=
  runG_sim stp natC p n (fun gas K s t h => execG_sim stp natC p (fun _ _ hre src _ _ _ _ h => hstp hre src h)
    (fun _ _ hre hd _ _ _ h => natC_sim hnat hre hd h) gas (.loop 0) K s t h trivial) h hg

theorem runC_sim {c : Cfg} (hnat : NatSimHyp c) (p : Prog) (n : Nat) {s t : VmState} (h : Rel c s t)
    (hg : s.guards = []) :
    (runC p n t).2 = (runC p n s).2 ∧ Rel c (runC p n s).1 (runC p n t).1 :=
  runG_natC_sim hnat (stepC p) p (fun hre src _ _ _ h => stepC_sim hnat p hre src h) n h hg

/-- `run` overwrites the budget counters, so the machines need only be related up to them -/
theorem runC_sim' {c : Cfg} (hnat : NatSimHyp c) (p : Prog) (n : Nat) {s t : VmState}
    (h : Rel c { s with remaining := 0, dispatches := 0 } { t with remaining := 0, dispatches := 0 })
    (hg : s.guards = []) (hroom : s.frames.length < s.frameCap) :
    (runC p n t).2 = (runC p n s).2 ∧ Rel c (runC p n s).1 (runC p n t).1 := by
  have hroom' : t.frames.length < t.frameCap := by
    obtain ⟨K, hA⟩ := h
    rw [show t.frames = s.frames from hA.frames, show t.frameCap = s.frameCap from hA.frameCap]
    exact hroom
  have := runC_sim hnat p n h hg
  unfold runC at this ⊢
  rwa [runG_counters _ _ p n s hroom, runG_counters _ _ p n t hroom'] at this

end Cao.SchedFull
