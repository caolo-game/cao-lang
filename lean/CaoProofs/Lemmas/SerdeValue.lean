import CaoProofs.Lemmas.SerdeOwn
import CaoProofs.Props.C05
/-!
# `Vm::insert_value`: putting an owned value into a VM

`insertValue : OVal → M Val` mirrors `Vm::insert_value` (`vm.rs`): strings and tables are
allocated bottom-up with `init_string` / `init_table`; a table stays guarded while its entries are
built; the key is guarded while the value is built, both are guarded during `table.insert`
(which may grow the hash storage, an allocation that can run a collection).

Main result (`insertValue_correct`, by induction on the size of the tree in `insertValue_spec`):
from any state whose heap has unique addresses below `next`,
for every *storable* tree `o` (no function values; the keys of every table pairwise different)
the run either fails with `OutOfMemory` or returns a value whose deep unfolding in the new heap
is `o` again — whatever collections the allocations trigger — and it leaves every object that
was reachable from the roots, the roots themselves and the guard list untouched.
-/
namespace Cao.Serde
open Cao Cao.Vm Cao.Gc Cao.C02 Cao.C05

/-! ## the model of `insert_value` -/

/-- `ObjectGcGuard::new(o)` for object values -/
def guardValue : Val → M Unit
  | .obj a => modify fun s => { s with guards := a :: s.guards }
  | _ => pure ()

def unguardValue : Val → M Unit
  | .obj a => dropGuard a
  | _ => pure ()

mutual
  def insertValue : OVal → M Val
    | .nil => pure .nil
    | .int i => pure (.int i)
    | .real b => pure (.real b)
    | .str b => do
      let a ← initString b
      dropGuard a
      pure (.obj a)
    | .table es => do
      let t ← initTable
      insertEntries t es
      dropGuard t
      pure (.obj t)
    -- `OwnedValue` has no function values
    | .fn _ _ => throwE .invalidArgument
    | .native _ => throwE .invalidArgument
    | .closure _ _ => throwE .invalidArgument
  /-- the `for OwnedEntry { key, value } in o.iter()` loop -/
  def insertEntries (t : Nat) : List (OVal × OVal) → M Unit
    | [] => pure ()
    | (k, v) :: rest => do
      let kv ← insertValue k
      guardValue kv
      let vv ← insertValue v
      guardValue vv
      tableInsert t kv vv
      unguardValue vv
      unguardValue kv
      insertEntries t rest
end

/-- the host-level call: guards are scoped (RAII), so an error releases whatever was held -/
def insertValueHost (o : OVal) : M Val := do
  let g := (← get).guards
  try insertValue o
  catch e => do
    modify fun s => { s with guards := g }
    throw e

mutual
  /-- values `insert_value` accepts and reproduces: no function values, and the keys of every
      table are pairwise different (as deep values — a later equal key would overwrite) -/
  def Storable : OVal → Prop
    | .nil => True
    | .int _ => True
    | .real _ => True
    | .str _ => True
    | .table es => StorableL es
    | .fn _ _ => False
    | .native _ => False
    | .closure _ _ => False
  def StorableL : List (OVal × OVal) → Prop
    | [] => True
    | (k, v) :: r => Storable k ∧ Storable v ∧ (∀ e ∈ r, e.1 ≠ k) ∧ StorableL r
end

mutual
  def storableB : OVal → Bool
    | .nil => true
    | .int _ => true
    | .real _ => true
    | .str _ => true
    | .table es => storableLB es
    | .fn _ _ => false
    | .native _ => false
    | .closure _ _ => false
  def storableLB : List (OVal × OVal) → Bool
    | [] => true
    | (k, v) :: r =>
      storableB k && storableB v && r.all (fun e => decide (e.1 ≠ k)) && storableLB r
end

mutual
  theorem storableB_iff : ∀ o : OVal, storableB o = true ↔ Storable o
    | .nil => by simp [storableB, Storable]
    | .int _ => by simp [storableB, Storable]
    | .real _ => by simp [storableB, Storable]
    | .str _ => by simp [storableB, Storable]
    | .fn _ _ => by simp [storableB, Storable]
    | .native _ => by simp [storableB, Storable]
    | .closure _ _ => by simp [storableB, Storable]
    | .table es => by simp only [storableB, Storable]; exact storableLB_iff es
  theorem storableLB_iff : ∀ es : List (OVal × OVal), storableLB es = true ↔ StorableL es
    | [] => by simp [storableLB, StorableL]
    | (k, v) :: r => by
      simp only [storableLB, StorableL, Bool.and_eq_true, storableB_iff k, storableB_iff v,
        storableLB_iff r, List.all_eq_true, decide_eq_true_eq, and_assoc]
end

instance (o : OVal) : Decidable (Storable o) := decidable_of_iff _ (storableB_iff o)

theorem storableL_iff (oes : List (OVal × OVal)) :
    StorableL oes ↔ (∀ oe ∈ oes, Storable oe.1 ∧ Storable oe.2) ∧ (oes.map Prod.fst).Nodup := by
  induction oes with
  | nil => simp [StorableL]
  | cons x r ih =>
    obtain ⟨k, v⟩ := x
    simp only [StorableL, ih, List.mem_cons, forall_eq_or_imp, List.map_cons, List.nodup_cons,
      List.mem_map, not_exists, not_and]
    constructor
    · rintro ⟨h1, h2, h3, h4, h5⟩
      exact ⟨⟨⟨h1, h2⟩, h4⟩, fun e he => h3 e he, h5⟩
    · rintro ⟨⟨⟨h1, h2⟩, h4⟩, h3, h5⟩
      exact ⟨h1, h2, fun e he => h3 e he, h4, h5⟩

mutual
  def NoFn : OVal → Prop
    | .nil => True
    | .int _ => True
    | .real _ => True
    | .str _ => True
    | .table es => NoFnL es
    | .fn _ _ => False
    | .native _ => False
    | .closure _ _ => False
  def NoFnL : List (OVal × OVal) → Prop
    | [] => True
    | (k, v) :: r => NoFn k ∧ NoFn v ∧ NoFnL r
end

theorem noFnL_iff (oes : List (OVal × OVal)) :
    NoFnL oes ↔ ∀ oe ∈ oes, NoFn oe.1 ∧ NoFn oe.2 := by
  induction oes with
  | nil => simp [NoFnL]
  | cons x r ih =>
    obtain ⟨k, v⟩ := x
    simp only [NoFnL, ih, List.mem_cons, forall_eq_or_imp, and_assoc]

/-- the keys of every table of the heap are pairwise different as deep values — what
    `CaoLangTable::insert` establishes when it adds a key (it is *not* an invariant of the VM:
    mutating a table that is used as a key can make two keys equal afterwards) -/
def KeysDistinct (h : Heap) : Prop :=
  ∀ a cap es, h.get a = some (.table cap es) → (es.map (fun e => ownD h e.1)).Nodup

theorem storable_of_own {h : Heap} (hk : KeysDistinct h) :
    ∀ (f : Nat) (v : Val) (o : OVal), own h f v = some o → NoFn o → Storable o := by
  refine own_induct h (fun _ _ => trivial) (fun _ _ _ => trivial) (fun _ _ _ => trivial) ?_ ?_
  · intro f a ob o hg hnt ho hnf
    cases ob <;> simp [ownNT] at ho <;> subst ho <;> simp_all [Storable, NoFn]
  · intro f a cap es oes hg hall hnf
    simp only [Storable, NoFn] at hnf ⊢
    rw [storableL_iff]
    rw [noFnL_iff] at hnf
    constructor
    · intro oe hoe
      obtain ⟨e, _, _, h1, h2⟩ := hall.mem_right oe hoe
      exact ⟨h1 (hnf oe hoe).1, h2 (hnf oe hoe).2⟩
    · rw [← all2_map_ownD (hall.imp fun e oe he => he.1), List.map_map]
      exact hk a cap es hg

/-! ## heaps -/

def heapAbove (h : Heap) (n : Nat) : Heap :=
  { h with objs := h.objs.filter (fun p => decide (n ≤ p.1)) }

theorem heapAbove_get (h : Heap) (n b : Nat) :
    (heapAbove h n).get b = if n ≤ b then h.get b else none := by
  unfold heapAbove Heap.get
  simp only
  split
  · rename_i hb
    rw [find?_filter_of_imp]
    intro x _ hx
    have : x.1 = b := by simpa using hx
    simp [this, hb]
  · rename_i hb
    have : (h.objs.filter (fun p => decide (n ≤ p.1))).find? (fun x => x.1 == b) = none := by
      rw [List.find?_eq_none]
      intro x hx hxb
      have h1 : n ≤ x.1 := by simpa using (List.mem_filter.mp hx).2
      have h2 : x.1 = b := by simpa using hxb
      omega
    rw [this]; rfl

theorem heapAbove_sub (h : Heap) (n b : Nat) (ob : Obj) (hg : (heapAbove h n).get b = some ob) :
    n ≤ b ∧ h.get b = some ob := by
  rw [heapAbove_get] at hg
  split at hg
  · exact ⟨by assumption, hg⟩
  · cases hg

theorem heapAbove_mono (h : Heap) {n m : Nat} (hnm : n ≤ m) (b : Nat) (ob : Obj)
    (hg : (heapAbove h m).get b = some ob) : (heapAbove h n).get b = some ob := by
  obtain ⟨h1, h2⟩ := heapAbove_sub h m b ob hg
  rw [heapAbove_get, if_pos (by omega)]; exact h2

theorem get_none_of_ge {h : Heap} (hf : FreshNext h) {a : Nat} (ha : h.next ≤ a) :
    h.get a = none := by
  cases hg : h.get a with
  | none => rfl
  | some ob => have := get_lt_next hf hg; omega

/-! ## roots -/

/-- everything but the guard list -/
def SameRoots (s s' : VmState) : Prop :=
  s'.stack = s.stack ∧ s'.globals = s.globals ∧ s'.frames = s.frames ∧
  s'.openUpvalues = s.openUpvalues

theorem SameRoots.refl (s : VmState) : SameRoots s s := ⟨rfl, rfl, rfl, rfl⟩

theorem SameRoots.trans {s t u : VmState} (h1 : SameRoots s t) (h2 : SameRoots t u) :
    SameRoots s u :=
  ⟨h2.1.trans h1.1, h2.2.1.trans h1.2.1, h2.2.2.1.trans h1.2.2.1, h2.2.2.2.trans h1.2.2.2⟩

theorem rootAddrs_sub {s s' : VmState} (hr : SameRoots s s') (hg : ∀ a ∈ s.guards, a ∈ s'.guards) :
    ∀ a ∈ rootAddrs s, a ∈ rootAddrs s' := by
  intro a ha
  rw [mem_rootAddrs] at ha ⊢
  obtain ⟨h1, h2, h3, h4⟩ := hr
  rw [h1, h2, h3, h4]
  rcases ha with h | h | h | h | h
  · exact Or.inl h
  · exact Or.inr (Or.inl h)
  · exact Or.inr (Or.inr (Or.inl h))
  · exact Or.inr (Or.inr (Or.inr (Or.inl h)))
  · exact Or.inr (Or.inr (Or.inr (Or.inr (hg a h))))

/-! ## preservation of the reachable part of a heap -/

/-- the objects reachable from `rs` survive; those in `X` (the table under construction) may gain
    children -/
def KeepsR (rs : List Nat) (X : Nat → Prop) (h h' : Heap) : Prop :=
  ∀ b ob, Reach h rs b → h.get b = some ob →
    ∃ ob', h'.get b = some ob' ∧ (¬ X b → ob' = ob) ∧
      ∀ c, Val.obj c ∈ Heap.children ob → Val.obj c ∈ Heap.children ob'

theorem KeepsR.refl (rs : List Nat) (X : Nat → Prop) (h : Heap) : KeepsR rs X h h :=
  fun _ ob _ hg => ⟨ob, hg, fun _ => rfl, fun _ hc => hc⟩

theorem KeepsR.reach {rs : List Nat} {X : Nat → Prop} {h h' : Heap} (hk : KeepsR rs X h h')
    {b : Nat} (hb : Reach h rs b) : Reach h' rs b := by
  induction hb with
  | root hr => exact Reach.root hr
  | step hr ho hc ih =>
    obtain ⟨ob', h1, _, h3⟩ := hk _ _ hr ho
    exact Reach.step ih h1 (h3 _ hc)

theorem KeepsR.trans {rs : List Nat} {X : Nat → Prop} {h h1 h2 : Heap}
    (k1 : KeepsR rs X h h1) (k2 : KeepsR rs X h1 h2) : KeepsR rs X h h2 := by
  intro b ob hb hg
  obtain ⟨ob1, g1, e1, c1⟩ := k1 b ob hb hg
  obtain ⟨ob2, g2, e2, c2⟩ := k2 b ob1 (k1.reach hb) g1
  exact ⟨ob2, g2, fun hx => (e2 hx).trans (e1 hx), fun c hc => c2 c (c1 c hc)⟩

theorem KeepsR.mono_roots {rs rs' : List Nat} {X : Nat → Prop} {h h' : Heap}
    (hsub : ∀ a ∈ rs, a ∈ rs') (hk : KeepsR rs' X h h') : KeepsR rs X h h' :=
  fun b ob hb hg => hk b ob (Reach.mono (fun r hr => Reach.root (hsub r hr)) hb) hg

theorem KeepsR.mono_X {rs : List Nat} {X Y : Nat → Prop} {h h' : Heap}
    (hxy : ∀ b, X b → Y b) (hk : KeepsR rs X h h') : KeepsR rs Y h h' := by
  intro b ob hb hg
  obtain ⟨ob', g, e, c⟩ := hk b ob hb hg
  exact ⟨ob', g, fun hy => e (fun hx => hy (hxy b hx)), c⟩

theorem KeepsR.of_sub {rs : List Nat} {X : Nat → Prop} {h h' : Heap}
    (hsub : ∀ b ob, h.get b = some ob → h'.get b = some ob) : KeepsR rs X h h' :=
  fun b ob _ hg => ⟨ob, hsub b ob hg, fun _ => rfl, fun _ hc => hc⟩

theorem KeepsR.of_obsEq {s t : VmState} (X : Nat → Prop) (h : ObsEq s t) :
    KeepsR (rootAddrs s) X s.heap t.heap :=
  fun b ob hb hg => ⟨ob, by rw [h.fwd b hb]; exact hg, fun _ => rfl, fun _ hc => hc⟩

theorem Owns.keep_above {rs : List Nat} {X : Nat → Prop} {h h' : Heap} {n : Nat}
    (hk : KeepsR rs X h h') (hX : ∀ b, X b → b < n) {v : Val} {o : OVal}
    (hv : ∀ a, v = .obj a → Reach h rs a) (ho : Owns (heapAbove h n) v o) :
    Owns (heapAbove h' n) v o := by
  apply Owns.keep (fun b => Reach h rs b) ?_ ?_ hv ho
  · intro b ob hb hg
    obtain ⟨hnb, hg'⟩ := heapAbove_sub h n b ob hg
    obtain ⟨ob', g, e, _⟩ := hk b ob hb hg'
    have : ob' = ob := e (fun hx => by have := hX b hx; omega)
    rw [heapAbove_get, if_pos hnb, g, this]
  · intro b ob c hb hg hc
    exact Reach.step hb (heapAbove_sub h n b ob hg).2 hc

theorem OwnsEntry.keep_above {rs : List Nat} {X : Nat → Prop} {h h' : Heap} {n : Nat}
    (hk : KeepsR rs X h h') (hX : ∀ b, X b → b < n) {e : Val × Val} {oe : OVal × OVal}
    (h1 : ∀ a, e.1 = .obj a → Reach h rs a) (h2 : ∀ a, e.2 = .obj a → Reach h rs a)
    (ho : OwnsEntry (heapAbove h n) e oe) : OwnsEntry (heapAbove h' n) e oe :=
  ⟨Owns.keep_above hk hX h1 ho.1, Owns.keep_above hk hX h2 ho.2⟩

theorem Owns.of_above {h : Heap} {n : Nat} {v : Val} {o : OVal} (ho : Owns (heapAbove h n) v o) :
    Owns h v o :=
  Owns.mono_heap (fun b ob hg => (heapAbove_sub h n b ob hg).2) ho

theorem Owns.above_mono {h : Heap} {n m : Nat} (hnm : n ≤ m) {v : Val} {o : OVal}
    (ho : Owns (heapAbove h m) v o) : Owns (heapAbove h n) v o :=
  Owns.mono_heap (heapAbove_mono h hnm) ho

/-! ## the invariant and the shape of one step -/

structure HeapOk (s : VmState) : Prop where
  unique : UniqueAddrs s.heap
  fresh : FreshNext s.heap

structure Good (X : Nat → Prop) (s s' : VmState) : Prop where
  ok : HeapOk s'
  next_le : s.heap.next ≤ s'.heap.next
  roots : SameRoots s s'
  guards : s'.guards = s.guards
  keeps : KeepsR (rootAddrs s) X s.heap s'.heap

theorem Good.rootAddrs_eq {X : Nat → Prop} {s s' : VmState} (g : Good X s s') :
    rootAddrs s' = rootAddrs s := by
  unfold rootAddrs Vm.roots
  obtain ⟨h1, h2, h3, h4⟩ := g.roots
  rw [h1, h2, h3, h4, g.guards]

theorem Good.trans {X : Nat → Prop} {s t u : VmState} (g1 : Good X s t) (g2 : Good X t u) :
    Good X s u where
  ok := g2.ok
  next_le := Nat.le_trans g1.next_le g2.next_le
  roots := g1.roots.trans g2.roots
  guards := g2.guards.trans g1.guards
  keeps := g1.keeps.trans (by have := g2.keeps; rw [g1.rootAddrs_eq] at this; exact this)

theorem Good.mono_X {X Y : Nat → Prop} {s s' : VmState} (hxy : ∀ b, X b → Y b) (g : Good X s s') :
    Good Y s s' :=
  ⟨g.ok, g.next_le, g.roots, g.guards, g.keeps.mono_X hxy⟩

def noX : Nat → Prop := fun _ => False

/-! ## primitives -/

theorem allocPure_cases (c : Nat) (s : VmState) :
    (∃ s', allocPure c s = (.ok (), s')) ∨ ∃ s', allocPure c s = (.error .outOfMemory, s') := by
  unfold allocPure
  dsimp only
  split
  · exact Or.inr ⟨_, rfl⟩
  · exact Or.inl ⟨_, rfl⟩

theorem allocPure_good {c : Nat} {s s' : VmState} (hok : HeapOk s)
    (h : allocPure c s = (.ok (), s')) : Good noX s s' ∧ s'.heap.next = s.heap.next := by
  have hobs := allocBytes_obs c s
  have hun := allocBytes_unique c s hok.unique hok.fresh
  rw [allocBytes_run, h] at hobs hun
  exact ⟨⟨⟨hun.1, hun.2⟩, by rw [hobs.next]; exact Nat.le_refl _,
    ⟨hobs.stack, hobs.globals, hobs.frames, hobs.openUpvalues⟩, hobs.guards,
    KeepsR.of_obsEq _ hobs⟩, hobs.next⟩

theorem refund_good (c : Nat) {s : VmState} (hok : HeapOk s) : Good noX s (refund c s) :=
  ⟨⟨hok.unique, hok.fresh⟩, Nat.le_refl _, SameRoots.refl _, rfl, KeepsR.refl _ _ _⟩

theorem alloc2Pure_spec (c1 c2 : Nat) (ob : Obj) {s : VmState} (hok : HeapOk s) :
    (∃ s', alloc2Pure c1 c2 ob s = (.error .outOfMemory, s')) ∨
    ∃ s1 s', alloc2Pure c1 c2 ob s = (.ok s.heap.next, s') ∧ s' = withObject ob s1 ∧
      Good noX s s1 ∧ s1.heap.next = s.heap.next := by
  unfold alloc2Pure
  rcases allocPure_cases c1 s with ⟨s1, h1⟩ | ⟨s1, h1⟩
  · rw [h1]
    dsimp only
    obtain ⟨g1, n1⟩ := allocPure_good hok h1
    rcases allocPure_cases c2 s1 with ⟨s2, h2⟩ | ⟨s2, h2⟩
    · rw [h2]
      dsimp only
      obtain ⟨g2, n2⟩ := allocPure_good g1.ok h2
      refine Or.inr ⟨s2, _, ?_, rfl, g1.trans g2, by rw [n2, n1]⟩
      rw [n2, n1]
    · rw [h2]; exact Or.inl ⟨_, rfl⟩
  · rw [h1]; exact Or.inl ⟨_, rfl⟩

theorem withObject_facts (ob : Obj) {s : VmState} (hok : HeapOk s) :
    HeapOk (withObject ob s) ∧ SameRoots s (withObject ob s) ∧
    (withObject ob s).guards = s.heap.next :: s.guards ∧
    (withObject ob s).heap.next = s.heap.next + 1 ∧
    (withObject ob s).heap.get s.heap.next = some ob ∧
    (∀ b ob', s.heap.get b = some ob' → (withObject ob s).heap.get b = some ob') := by
  have hu := withObject_unique ob s hok.unique hok.fresh
  refine ⟨⟨hu.1, hu.2⟩, ⟨rfl, rfl, rfl, rfl⟩, rfl, rfl, ?_, ?_⟩
  · exact get_withObject_new ob s hok.fresh
  · intro b ob' hg
    have := get_lt_next hok.fresh hg
    rw [get_withObject_old ob s b (by omega)]; exact hg

theorem alloc2Pure_ok {c1 c2 : Nat} {ob : Obj} {s s' : VmState} {a : Nat} (hok : HeapOk s)
    (h : alloc2Pure c1 c2 ob s = (.ok a, s')) :
    a = s.heap.next ∧ HeapOk s' ∧ s'.heap.next = s.heap.next + 1 ∧ SameRoots s s' ∧
    s'.guards = s.heap.next :: s.guards ∧ s'.heap.get s.heap.next = some ob ∧
    KeepsR (rootAddrs s) noX s.heap s'.heap := by
  rcases alloc2Pure_spec c1 c2 ob hok with ⟨s'', h'⟩ | ⟨s1, s'', h', rfl, g1, n1⟩
  · rw [h'] at h; cases h
  · rw [h'] at h
    simp only [Prod.mk.injEq, Except.ok.injEq] at h
    obtain ⟨rfl, rfl⟩ := h
    obtain ⟨w1, w2, w3, w4, w5, w6⟩ := withObject_facts ob g1.ok
    refine ⟨rfl, w1, by rw [w4, n1], g1.roots.trans w2, by rw [w3, n1, g1.guards],
      by rw [← n1]; exact w5, g1.keeps.trans (KeepsR.of_sub w6)⟩

theorem alloc2Pure_err {c1 c2 : Nat} {ob : Obj} {s s' : VmState} {e : ErrKind} (hok : HeapOk s)
    (h : alloc2Pure c1 c2 ob s = (.error e, s')) : e = .outOfMemory := by
  rcases alloc2Pure_spec c1 c2 ob hok with ⟨s'', h'⟩ | ⟨s1, s'', h', _⟩
  · rw [h'] at h; cases h; rfl
  · rw [h'] at h; cases h

theorem children_entry {cap : Nat} {es : List (Val × Val)} {e : Val × Val} (he : e ∈ es) {a : Nat}
    (ha : e.1 = .obj a ∨ e.2 = .obj a) : Val.obj a ∈ Heap.children (.table cap es) := by
  simp only [Heap.children, List.mem_flatMap]
  refine ⟨e, he, ?_⟩
  rcases ha with h | h <;> simp [h]

theorem children_append {cap cap' : Nat} {es : List (Val × Val)} (e : Val × Val) {c : Nat}
    (hc : Val.obj c ∈ Heap.children (.table cap es)) :
    Val.obj c ∈ Heap.children (.table cap' (es ++ [e])) := by
  simp only [Heap.children, List.flatMap_append, List.mem_append] at hc ⊢
  exact Or.inl hc

theorem set_keeps (rs : List Nat) {h : Heap} {t : Nat} {ob ob' : Obj} (hg : h.get t = some ob)
    (hc : ∀ c, Val.obj c ∈ Heap.children ob → Val.obj c ∈ Heap.children ob') :
    KeepsR rs (fun b => b = t) h (h.set t ob') := by
  intro b ob1 _ hb
  by_cases hbt : b = t
  · subst hbt
    rw [hg] at hb; cases hb
    exact ⟨ob', by rw [get_set, if_pos rfl, hg]; rfl, fun hx => absurd rfl hx, hc⟩
  · exact ⟨ob1, by rw [get_set, if_neg hbt]; exact hb, fun _ => rfl, fun _ h => h⟩

theorem tableInsert_spec {s : VmState} (hok : HeapOk s) {t cap : Nat} {esV : List (Val × Val)}
    (hget : s.heap.get t = some (.table cap esV)) (hroot : t ∈ s.guards) (kv vv : Val)
    (hfresh : ∀ e ∈ esV, ownD s.heap e.1 ≠ ownD s.heap kv) :
    (∃ s', tableInsertPure t kv vv s = (.error .outOfMemory, s')) ∨
    ∃ s' cap', tableInsertPure t kv vv s = (.ok (), s') ∧ Good (fun b => b = t) s s' ∧
      s'.heap.get t = some (.table cap' (esV ++ [(kv, vv)])) := by
  unfold tableInsertPure
  rw [hget]
  dsimp only
  have hfind : findEntry s.heap esV (ownD s.heap kv) = none := by
    unfold findEntry
    rw [List.find?_eq_none]
    intro e he
    simpa using hfresh e he
  simp only [hfind, Option.isSome_none, Bool.false_eq_true, if_false]
  by_cases hgrow : HMap.needsGrow (esV.length + 1) cap = true
  · simp only [hgrow, if_true]
    rcases allocPure_cases (Heap.tableCharge (HMap.growCap cap)) s with ⟨s1, h1⟩ | ⟨s1, h1⟩
    · rw [h1]
      dsimp only
      obtain ⟨g1, n1⟩ := allocPure_good hok h1
      have hget1 : s1.heap.get t = some (.table cap esV) := by
        obtain ⟨ob', q1, q2, _⟩ := g1.keeps t _ (reach_of_guard hroot) hget
        rw [q1, q2 (fun h => h)]
      refine Or.inr ⟨_, HMap.growCap cap, rfl, ?_, ?_⟩
      · refine ⟨⟨set_unique _ _ _ g1.ok.unique, set_fresh _ _ _ g1.ok.fresh⟩, g1.next_le, g1.roots,
          g1.guards, ?_⟩
        exact (g1.keeps.mono_X (fun _ h => h.elim)).trans
          (set_keeps _ hget1 (fun c hc => children_append _ hc))
      · show ((refund _ s1).heap.set t _).get t = _
        rw [get_set, if_pos rfl]
        show (s1.heap.get t).map _ = _
        rw [hget1]; rfl
    · rw [h1]; exact Or.inl ⟨_, rfl⟩
  · simp only [hgrow, Bool.false_eq_true, if_false]
    refine Or.inr ⟨_, cap, rfl, ?_, ?_⟩
    · exact ⟨⟨set_unique _ _ _ hok.unique, set_fresh _ _ _ hok.fresh⟩, Nat.le_refl _,
        SameRoots.refl _, rfl, set_keeps _ hget (fun c hc => children_append _ hc)⟩
    · show (s.heap.set t _).get t = _
      rw [get_set, if_pos rfl, hget]; rfl

/-! ## guards -/

def pushL (v : Val) (g : List Nat) : List Nat :=
  match v with
  | .obj a => a :: g
  | _ => g

def pushG (v : Val) (s : VmState) : VmState := { s with guards := pushL v s.guards }

def dropL (v : Val) (g : List Nat) : List Nat :=
  match v with
  | .obj a => g.erase a
  | _ => g

def dropG (v : Val) (s : VmState) : VmState := { s with guards := dropL v s.guards }

theorem dropL_pushL (v : Val) (g : List Nat) : dropL v (pushL v g) = g := by
  cases v <;> simp [dropL, pushL]

theorem guardValue_run (v : Val) (s : VmState) : (guardValue v).run.run s = (.ok (), pushG v s) := by
  cases v <;> rfl

theorem unguardValue_run (v : Val) (s : VmState) : (unguardValue v).run.run s = (.ok (), dropG v s) := by
  cases v <;> rfl

theorem dropGuard_run (a : Nat) (s : VmState) :
    (dropGuard a).run.run s = (.ok (), { s with guards := s.guards.erase a }) := rfl

/-! ## a state in the middle of an operation: `G` are the guards pushed since it started -/

structure Mid (X : Nat → Prop) (G : List Nat) (s0 s : VmState) : Prop where
  ok : HeapOk s
  next_le : s0.heap.next ≤ s.heap.next
  roots : SameRoots s0 s
  guards : s.guards = G ++ s0.guards
  keeps : KeepsR (rootAddrs s0) X s0.heap s.heap

theorem Mid.refl (X : Nat → Prop) {s : VmState} (hok : HeapOk s) : Mid X [] s s :=
  ⟨hok, Nat.le_refl _, SameRoots.refl _, rfl, KeepsR.refl _ _ _⟩

theorem Mid.roots_sub {X : Nat → Prop} {G : List Nat} {s0 s : VmState} (m : Mid X G s0 s) :
    ∀ a ∈ rootAddrs s0, a ∈ rootAddrs s :=
  rootAddrs_sub m.roots (fun a ha => by rw [m.guards]; exact List.mem_append_right _ ha)

theorem Mid.step {X Y : Nat → Prop} {G : List Nat} {s0 s s' : VmState} (m : Mid X G s0 s)
    (g : Good Y s s') (hyx : ∀ b, Y b → X b) : Mid X G s0 s' where
  ok := g.ok
  next_le := Nat.le_trans m.next_le g.next_le
  roots := m.roots.trans g.roots
  guards := by rw [g.guards, m.guards]
  keeps := m.keeps.trans ((g.keeps.mono_roots m.roots_sub).mono_X hyx)

theorem Mid.push {X : Nat → Prop} {G : List Nat} {s0 s : VmState} (m : Mid X G s0 s) (v : Val) :
    Mid X (pushL v G) s0 (pushG v s) where
  ok := ⟨m.ok.unique, m.ok.fresh⟩
  next_le := m.next_le
  roots := m.roots
  guards := by
    show pushL v s.guards = _
    rw [m.guards]; cases v <;> rfl
  keeps := m.keeps

theorem Mid.drop {X : Nat → Prop} {G : List Nat} {s0 s : VmState} {v : Val}
    (m : Mid X (pushL v G) s0 s) : Mid X G s0 (dropG v s) where
  ok := ⟨m.ok.unique, m.ok.fresh⟩
  next_le := m.next_le
  roots := m.roots
  guards := by
    show dropL v s.guards = _
    rw [m.guards]
    cases v <;> simp [dropL, pushL]
  keeps := m.keeps

theorem Mid.good {X : Nat → Prop} {s0 s : VmState} (m : Mid X [] s0 s) : Good X s0 s :=
  ⟨m.ok, m.next_le, m.roots, by rw [m.guards]; rfl, m.keeps⟩

theorem KeepsR.restrict {rs : List Nat} {X : Nat → Prop} {h h' : Heap} (hk : KeepsR rs X h h')
    (hx : ∀ b ob, h.get b = some ob → ¬ X b) : KeepsR rs noX h h' := by
  intro b ob hb hg
  obtain ⟨ob', g, e, c⟩ := hk b ob hb hg
  exact ⟨ob', g, fun _ => e (hx b ob hg), c⟩

/-! ## the loop invariant of `insertEntries` -/

/-- the table under construction is guarded, and its entries unfold (above the table's address)
    to the entries done so far -/
structure LoopInv (t : Nat) (s : VmState) (cap : Nat) (esV : List (Val × Val))
    (done : List (OVal × OVal)) : Prop where
  guarded : t ∈ s.guards
  get : s.heap.get t = some (.table cap esV)
  all : All2 (OwnsEntry (heapAbove s.heap (t + 1))) esV done

theorem LoopInv.reach {t : Nat} {s : VmState} {cap : Nat} {esV : List (Val × Val)}
    {done : List (OVal × OVal)} (li : LoopInv t s cap esV done) :
    Reach s.heap (rootAddrs s) t := reach_of_guard li.guarded

theorem LoopInv.entry_reach {t : Nat} {s : VmState} {cap : Nat} {esV : List (Val × Val)}
    {done : List (OVal × OVal)} (li : LoopInv t s cap esV done) {e : Val × Val} (he : e ∈ esV)
    {a : Nat} (ha : e.1 = .obj a ∨ e.2 = .obj a) : Reach s.heap (rootAddrs s) a :=
  Reach.step li.reach li.get (children_entry he ha)

theorem LoopInv.keep {t : Nat} {s s' : VmState} {cap : Nat} {esV : List (Val × Val)}
    {done : List (OVal × OVal)} (li : LoopInv t s cap esV done)
    (hk : KeepsR (rootAddrs s) noX s.heap s'.heap) (hg : t ∈ s'.guards) :
    LoopInv t s' cap esV done where
  guarded := hg
  get := by
    obtain ⟨ob', q1, q2, _⟩ := hk t _ li.reach li.get
    rw [q1, q2 (fun h => h)]
  all := by
    apply li.all.imp_mem
    intro e he oe hoe
    exact OwnsEntry.keep_above hk (fun _ h => h.elim)
      (fun a ha => li.entry_reach he (Or.inl ha)) (fun a ha => li.entry_reach he (Or.inr ha)) hoe

theorem LoopInv.push {t : Nat} {s : VmState} {cap : Nat} {esV : List (Val × Val)}
    {done : List (OVal × OVal)} (li : LoopInv t s cap esV done) (v : Val) :
    LoopInv t (pushG v s) cap esV done where
  guarded := by
    show t ∈ pushL v s.guards
    cases v <;> simp [pushL, li.guarded]
  get := li.get
  all := li.all

theorem LoopInv.keys {t : Nat} {s : VmState} {cap : Nat} {esV : List (Val × Val)}
    {done : List (OVal × OVal)} (li : LoopInv t s cap esV done) {e : Val × Val} (he : e ∈ esV) :
    ∃ oe ∈ done, ownD s.heap e.1 = oe.1 := by
  obtain ⟨oe, hoe, h1, _⟩ := li.all.mem_left e he
  exact ⟨oe, hoe, (Owns.of_above h1).ownD⟩

/-! ## specification of `insertValue` / `insertEntries` -/

theorem inv_guards {s : VmState} (g : List Nat) (h : C05.Inv s) : C05.Inv { s with guards := g } :=
  ⟨h.ledger, h.within, h.unique, h.fresh, h.threshold⟩

theorem inv_pushG {s : VmState} (v : Val) (h : C05.Inv s) : C05.Inv (pushG v s) := inv_guards _ h
theorem inv_dropG {s : VmState} (v : Val) (h : C05.Inv s) : C05.Inv (dropG v s) := inv_guards _ h

def PostV (s : VmState) (o : OVal) : Except ErrKind Val × VmState → Prop
  | (.error e, s') => e = .outOfMemory ∧ (C05.Inv s → C05.Inv s')
  | (.ok v', s') => Good noX s s' ∧ Owns (heapAbove s'.heap s.heap.next) v' o ∧
      (C05.Inv s → C05.Inv s')

def SpecV (o : OVal) : Prop :=
  ∀ s, HeapOk s → Storable o → PostV s o ((insertValue o).run.run s)

def PostE (t : Nat) (s : VmState) (all : List (OVal × OVal)) : Except ErrKind Unit × VmState → Prop
  | (.error e, s') => e = .outOfMemory ∧ (C05.Inv s → C05.Inv s')
  | (.ok (), s') => Good (fun b => b = t) s s' ∧ (∃ cap' esV', LoopInv t s' cap' esV' all) ∧
      (C05.Inv s → C05.Inv s')

def SpecE (es : List (OVal × OVal)) : Prop :=
  ∀ (s : VmState) (t cap : Nat) (esV : List (Val × Val)) (done : List (OVal × OVal)),
    HeapOk s → StorableL es → LoopInv t s cap esV done →
    (∀ oe ∈ done, ∀ oe' ∈ es, oe.1 ≠ oe'.1) →
    PostE t s (done ++ es) ((insertEntries t es).run.run s)

theorem specV_scalar : SpecV .nil ∧ (∀ i, SpecV (.int i)) ∧ (∀ b, SpecV (.real b)) := by
  refine ⟨?_, ?_, ?_⟩
  · intro s hok _
    rw [insertValue]
    exact ⟨(Mid.refl noX hok).good, Owns.nil _, id⟩
  · intro i s hok _
    rw [insertValue]
    exact ⟨(Mid.refl noX hok).good, Owns.int _ i, id⟩
  · intro b s hok _
    rw [insertValue]
    exact ⟨(Mid.refl noX hok).good, Owns.real _ b, id⟩

theorem specV_fn : (∀ hd ar, SpecV (.fn hd ar)) ∧ (∀ hd, SpecV (.native hd)) ∧
    (∀ hd ar, SpecV (.closure hd ar)) :=
  ⟨fun _ _ _ _ h => h.elim, fun _ _ _ h => h.elim, fun _ _ _ _ h => h.elim⟩

theorem specV_str (b : List UInt8) : SpecV (.str b) := by
  intro s hok _
  rw [insertValue]
  have hinv : C05.Inv s → C05.Inv ((initString b).run.run s).2 := C05.initString_inv b s
  simp only [run_bind, initString_run] at hinv ⊢
  rcases ha : alloc2Pure Heap.objCharge (Heap.strCharge b.length) (.str b) s with ⟨r, s1⟩
  rw [ha] at hinv
  cases r with
  | error e => exact ⟨alloc2Pure_err hok ha, hinv⟩
  | ok a =>
    obtain ⟨rfl, hok1, hn1, hr1, hg1, hget1, hk1⟩ := alloc2Pure_ok hok ha
    simp only [dropGuard_run, run_pure]
    refine ⟨⟨⟨hok1.unique, hok1.fresh⟩, by show s.heap.next ≤ s1.heap.next; omega, hr1, ?_, hk1⟩, ?_,
      fun hi => inv_guards _ (hinv hi)⟩
    · show s1.guards.erase s.heap.next = s.guards
      rw [hg1]; simp
    · apply Owns.str
      show (heapAbove s1.heap s.heap.next).get s.heap.next = _
      rw [heapAbove_get, if_pos (Nat.le_refl _)]; exact hget1

theorem specE_of (es : List (OVal × OVal)) (hIH : ∀ oe ∈ es, SpecV oe.1 ∧ SpecV oe.2) :
    SpecE es := by
  induction es with
  | nil =>
    intro s t cap esV done hok _ li _
    rw [insertEntries]
    refine ⟨(Mid.refl _ hok).good, ⟨cap, esV, ?_⟩, id⟩
    rw [List.append_nil]; exact li
  | cons kvp rest ih =>
    obtain ⟨k, v⟩ := kvp
    have ihR : SpecE rest := ih (fun oe h => hIH oe (List.mem_cons_of_mem _ h))
    obtain ⟨ihK, ihV⟩ := hIH (k, v) List.mem_cons_self
    intro s0 t cap esV done hok hst li hdis
    simp only [StorableL] at hst
    obtain ⟨hsk, hsv, hnk, hsr⟩ := hst
    have htlt : t < s0.heap.next := get_lt_next hok.fresh li.get
    rw [insertEntries]
    simp only [run_bind, guardValue_run, unguardValue_run, tableInsert_run]
    -- key
    have pk := ihK s0 hok hsk
    rcases hk : (insertValue k).run.run s0 with ⟨rk, s1⟩
    rw [hk] at pk
    cases rk with
    | error e => exact pk
    | ok kv =>
      obtain ⟨g1, o1, i1⟩ := pk
      have m1 : Mid (fun b => b = t) [] s0 s1 := (Mid.refl _ hok).step g1 (fun _ h => h.elim)
      have li1 : LoopInv t s1 cap esV done := li.keep g1.keeps (by rw [g1.guards]; exact li.guarded)
      have m2 := m1.push kv
      have li2 := li1.push kv
      have i2 : C05.Inv s0 → C05.Inv (pushG kv s1) := fun hi => inv_pushG kv (i1 hi)
      have kvroot : ∀ a, kv = .obj a → Reach (pushG kv s1).heap (rootAddrs (pushG kv s1)) a := by
        intro a ha
        apply reach_of_guard
        show a ∈ pushL kv s1.guards
        subst ha; simp [pushL]
      -- value
      have pv := ihV (pushG kv s1) m2.ok hsv
      simp only
      rcases hv : (insertValue v).run.run (pushG kv s1) with ⟨rv, s3⟩
      rw [hv] at pv
      cases rv with
      | error e => exact ⟨pv.1, fun hi => pv.2 (i2 hi)⟩
      | ok vv =>
        obtain ⟨g3, o3, i3'⟩ := pv
        have i3 : C05.Inv s0 → C05.Inv s3 := fun hi => i3' (i2 hi)
        have m3 := m2.step g3 (fun _ h => h.elim)
        have li3 : LoopInv t s3 cap esV done :=
          li2.keep g3.keeps (by rw [g3.guards]; exact li2.guarded)
        have o1' : Owns (heapAbove s3.heap s0.heap.next) kv k :=
          Owns.keep_above g3.keeps (fun _ h => h.elim) kvroot o1
        have m4 := m3.push vv
        have li4 := li3.push vv
        have hg4 : (pushG vv s3).guards = pushL vv (pushL kv s0.guards) := by
          have := m4.guards
          rw [this]
          cases vv <;> cases kv <;> simp [pushL]
        have kvroot4 : ∀ a, kv = .obj a →
            Reach (pushG vv s3).heap (rootAddrs (pushG vv s3)) a := by
          intro a ha
          apply reach_of_guard
          rw [hg4]
          subst ha; cases vv <;> simp [pushL]
        have vvroot4 : ∀ a, vv = .obj a →
            Reach (pushG vv s3).heap (rootAddrs (pushG vv s3)) a := by
          intro a ha
          apply reach_of_guard
          rw [hg4]
          subst ha; simp [pushL]
        -- table.insert
        have hkd : ownD (pushG vv s3).heap kv = k := (Owns.of_above o1').ownD
        have hfresh : ∀ e ∈ esV, ownD (pushG vv s3).heap e.1 ≠ ownD (pushG vv s3).heap kv := by
          intro e he
          obtain ⟨oe, hoe, hq⟩ := li4.keys he
          rw [hq, hkd]
          exact hdis oe hoe (k, v) List.mem_cons_self
        have i5 : C05.Inv s0 → C05.Inv (tableInsertPure t kv vv (pushG vv s3)).2 := by
          intro hi
          have := C05.tableInsert_inv t kv vv (pushG vv s3) (inv_pushG vv (i3 hi)) li4.reach
          rwa [tableInsert_run] at this
        simp only
        rcases tableInsert_spec m4.ok li4.get li4.guarded kv vv hfresh with
          ⟨s5, h5⟩ | ⟨s5, cap5, h5, g5, hget5⟩
        · rw [h5] at i5 ⊢; exact ⟨rfl, i5⟩
        · rw [h5] at i5 ⊢
          simp only at i5 ⊢
          have m5 := m4.step g5 (fun _ h => h)
          have hn3 : s0.heap.next ≤ (pushG kv s1).heap.next := m2.next_le
          have all5 : All2 (OwnsEntry (heapAbove s5.heap (t + 1))) (esV ++ [(kv, vv)])
              (done ++ [(k, v)]) := by
            apply All2.append
            · apply li4.all.imp_mem
              intro e he oe hoe
              exact OwnsEntry.keep_above g5.keeps (fun b hb => by subst hb; omega)
                (fun a ha => li4.entry_reach he (Or.inl ha))
                (fun a ha => li4.entry_reach he (Or.inr ha)) hoe
            · refine .cons ⟨?_, ?_⟩ .nil
              · exact Owns.keep_above g5.keeps (fun b hb => by subst hb; omega) kvroot4
                  (Owns.above_mono (by omega) o1')
              · exact Owns.keep_above g5.keeps (fun b hb => by subst hb; omega) vvroot4
                  (Owns.above_mono (by omega) o3)
          have m6 : Mid (fun b => b = t) (pushL kv []) s0 (dropG vv s5) := Mid.drop (v := vv) m5
          have m7 : Mid (fun b => b = t) [] s0 (dropG kv (dropG vv s5)) := Mid.drop m6
          have i7 : C05.Inv s0 → C05.Inv (dropG kv (dropG vv s5)) :=
            fun hi => inv_dropG kv (inv_dropG vv (i5 hi))
          have li7 : LoopInv t (dropG kv (dropG vv s5)) cap5 (esV ++ [(kv, vv)])
              (done ++ [(k, v)]) :=
            ⟨by rw [m7.guards]; exact li.guarded, hget5, all5⟩
          have hdis7 : ∀ oe ∈ done ++ [(k, v)], ∀ oe' ∈ rest, oe.1 ≠ oe'.1 := by
            intro oe hoe oe' hoe'
            rcases List.mem_append.mp hoe with h | h
            · exact hdis oe h oe' (List.mem_cons_of_mem _ hoe')
            · rw [List.mem_singleton] at h; subst h
              exact fun e => hnk oe' hoe' e.symm
          have pr := ihR _ t cap5 _ _ m7.ok hsr li7 hdis7
          rcases hr : (insertEntries t rest).run.run (dropG kv (dropG vv s5)) with ⟨rr, s8⟩
          rw [hr] at pr
          cases rr with
          | error e => exact ⟨pr.1, fun hi => pr.2 (i7 hi)⟩
          | ok u =>
            obtain ⟨g8, ⟨cap8, esV8, li8⟩, i8⟩ := pr
            refine ⟨(m7.step g8 (fun _ h => h)).good, ⟨cap8, esV8, ?_⟩, fun hi => i8 (i7 hi)⟩
            have : done ++ (k, v) :: rest = (done ++ [(k, v)]) ++ rest := by simp
            rw [this]; exact li8

theorem specV_table (es : List (OVal × OVal)) (hE : SpecE es) : SpecV (.table es) := by
  intro s hok hst
  simp only [Storable] at hst
  rw [insertValue]
  have hinv : C05.Inv s → C05.Inv (initTable.run.run s).2 := C05.initTable_inv s
  simp only [run_bind, initTable_run] at hinv ⊢
  rcases ha : alloc2Pure Heap.objCharge (Heap.tableCharge Gen.tableInitCap)
    (.table Gen.tableInitCap []) s with ⟨r, s1⟩
  rw [ha] at hinv
  cases r with
  | error e => exact ⟨alloc2Pure_err hok ha, hinv⟩
  | ok a =>
    obtain ⟨rfl, hok1, hn1, hr1, hg1, hget1, hk1⟩ := alloc2Pure_ok hok ha
    simp only at hinv ⊢
    have li1 : LoopInv s.heap.next s1 Gen.tableInitCap [] [] :=
      ⟨by rw [hg1]; exact List.mem_cons_self, hget1, .nil⟩
    have pe := hE s1 s.heap.next _ _ _ hok1 hst li1 (fun _ h => by cases h)
    rcases he : (insertEntries s.heap.next es).run.run s1 with ⟨re, s2⟩
    rw [he] at pe
    cases re with
    | error e => exact ⟨pe.1, fun hi => pe.2 (hinv hi)⟩
    | ok u =>
      obtain ⟨g2, ⟨cap2, esV2, li2⟩, i2⟩ := pe
      simp only [dropGuard_run, run_pure]
      have hsub : ∀ a ∈ rootAddrs s, a ∈ rootAddrs s1 :=
        rootAddrs_sub hr1 (fun a ha => by rw [hg1]; exact List.mem_cons_of_mem _ ha)
      refine ⟨⟨⟨g2.ok.unique, g2.ok.fresh⟩, ?_, hr1.trans g2.roots, ?_, ?_⟩, ?_,
        fun hi => inv_guards _ (i2 (hinv hi))⟩
      · show s.heap.next ≤ s2.heap.next
        have := g2.next_le; omega
      · show s2.guards.erase s.heap.next = s.guards
        rw [g2.guards, hg1]; simp
      · show KeepsR (rootAddrs s) noX s.heap s2.heap
        have k12 : KeepsR (rootAddrs s) (fun b => b = s.heap.next) s.heap s2.heap :=
          (hk1.mono_X (fun _ h => h.elim)).trans (g2.keeps.mono_roots hsub)
        exact k12.restrict (fun b ob hb hx => by
          have := get_lt_next hok.fresh hb
          omega)
      · show Owns (heapAbove s2.heap s.heap.next) (.obj s.heap.next) (.table es)
        have hget2 : (heapAbove s2.heap s.heap.next).get s.heap.next = some (.table cap2 esV2) := by
          rw [heapAbove_get, if_pos (Nat.le_refl _)]; exact li2.get
        apply Owns.table_intro hget2
        have := li2.all
        rw [List.nil_append] at this
        exact this.imp (fun e oe ⟨q1, q2⟩ =>
          ⟨Owns.above_mono (Nat.le_succ _) q1, Owns.above_mono (Nat.le_succ _) q2⟩)

/-- **`insert_value` is correct for every storable tree** -/
theorem insertValue_spec : ∀ (n : Nat) (o : OVal), osize o ≤ n → SpecV o := by
  intro n
  induction n with
  | zero =>
    intro o ho
    have : 1 ≤ osize o := by cases o <;> simp [osize]
    omega
  | succ n ih =>
    intro o ho
    cases o with
    | nil => exact specV_scalar.1
    | int i => exact specV_scalar.2.1 i
    | real b => exact specV_scalar.2.2 b
    | str b => exact specV_str b
    | fn hd ar => exact specV_fn.1 hd ar
    | native hd => exact specV_fn.2.1 hd
    | closure hd ar => exact specV_fn.2.2 hd ar
    | table es =>
      apply specV_table
      apply specE_of
      intro oe hoe
      have := osize_mem hoe
      simp only [osize] at ho
      have h1 : 1 ≤ osize oe.1 := by cases oe.1 <;> simp [osize]
      have h2 : 1 ≤ osize oe.2 := by cases oe.2 <;> simp [osize]
      exact ⟨ih _ (by omega), ih _ (by omega)⟩

theorem insertValue_correct (o : OVal) : SpecV o := insertValue_spec (osize o) o (Nat.le_refl _)

end Cao.Serde
