import CaoProofs.Lemmas.Dispatch
/-!
# The rule of the dispatch loop

`exec` runs the loop and `run_function` by recursion on one fuel, and each calls the other: an instruction reaches
`run_function` through the callback of a host function, `run_function` runs the loop on a script callee. `exec_rule` is
the induction on that fuel, done once for what is said about one run (the statements about two runs, `exec_sh2` of
`Lemmas/EquivarianceRun.lean` and `execG_sim` of `Lemmas/SchedLift.lean`, have inductions of their own). Given a
specification of the loop (`Pre i ip` before the instruction at `ip`, `LQ i` when it exits, `LE i` for the error record
and the state of a failure) and one of `run_function` (`CPre k`, `CQ k`, `CE k`), where the ghost values `i`, `k` tie an
outcome to the start, it asks for what is particular to the two: the errors they raise themselves, one instruction and
one host function under a callback that meets the second specification, and the entry into a script callee.
-/
namespace Cao.Vm

/-! ## outcomes of a run -/

/-- outcome of a run of `exec`: `Q` for the state it returns in, `X` for its error record and the state after the
error -/
def OutPost (Q : VmState → Prop) (X : RunErr → VmState → Prop) (r : VmState × Except RunErr (Option Val)) : Prop :=
  match r.2 with
  | .ok _ => Q r.1
  | .error e => X e r.1

section outcome
variable {Q Q' : VmState → Prop} {X X' : RunErr → VmState → Prop} {r : VmState × Except RunErr (Option Val)}

theorem OutPost.ok {s' : VmState} {v : Option Val} (h : OutPost Q X r) (hr : r = (s', .ok v)) : Q s' := by
  subst hr; exact h

theorem OutPost.error {s' : VmState} {e : RunErr} (h : OutPost Q X r) (hr : r = (s', .error e)) : X e s' := by
  subst hr; exact h

theorem OutPost.mono (h : OutPost Q X r) (hq : ∀ s, Q s → Q' s) (hx : ∀ e s, X e s → X' e s) : OutPost Q' X' r := by
  rcases r with ⟨s', e | v⟩
  · exact hx e s' h
  · exact hq s' h

theorem OutPost.state (h : OutPost Q (fun _ => Q) r) : Q r.1 := by
  rcases r with ⟨s', e | v⟩ <;> exact h

theorem OutPost.of_error (h : OutPost Q X r) {e : RunErr} (he : r.2 = .error e) : X e r.1 := by
  rcases r with ⟨s', e' | v⟩
  · cases he; exact h
  · cases he

theorem ho_liftRun_out {P : VmState → Prop} {g : VmState → VmState × Except RunErr (Option Val)}
    (h : ∀ s, P s → OutPost Q X (g s)) :
    Ho P (liftRun g) (fun _ => Q) (fun e s' => ∃ r, r.kind = e ∧ X r s') :=
  ho_liftRun (fun s _ _ hs hg => (h s hs).ok hg) (fun s _ _ hs hg => (h s hs).error hg)

end outcome

theorem pres_of_callback {α : Type} {R : VmState → VmState → Prop} [StateOrder R] {m : M α}
    (h : ∀ s₀, Ho (R s₀) m (fun _ => R s₀) (fun e s' => ∃ r : RunErr, r.kind = e ∧ R s₀ s')) : Pres R m :=
  pres_iff_ho.2 fun s₀ => (h s₀).conseq (fun _ h => h) (fun _ _ h => h) (fun _ _ ⟨_, _, h⟩ => h)

/-! ## the rule -/

/-- the frame `run_function` pushes, twice, for a script callee -/
def entryFrame (p : Prog) (s : VmState) (pos ar : Nat) (clo : Option Nat) : Frame :=
  { src := pos, dst := p.bytecode.size - 1, stackOffset := s.stack.count - ar, closure := clo }

@[simp] theorem entryFrame_src (p : Prog) (s : VmState) (pos ar : Nat) (clo : Option Nat) :
    (entryFrame p s pos ar clo).src = pos := rfl
@[simp] theorem entryFrame_dst (p : Prog) (s : VmState) (pos ar : Nat) (clo : Option Nat) :
    (entryFrame p s pos ar clo).dst = p.bytecode.size - 1 := rfl
@[simp] theorem entryFrame_closure (p : Prog) (s : VmState) (pos ar : Nat) (clo : Option Nat) :
    (entryFrame p s pos ar clo).closure = clo := rfl

/-- **The rule of the dispatch loop and of `run_function`.**
* `hstop`, `hfail`: the errors that the loop and `run_function` raise themselves are allowed;
* `hrun`: if `run_function` meets its specification with some fuel, then under it as the callback one instruction
  ends the loop in `LQ i` or leads to the next one in `Pre i`, and a host function ends in `CQ k` once its result is
  popped;
* `henter`: a script callee (the first label `e` with the handle of the function object) is entered in a state that
  meets some `Pre i` whose outcomes, with the call stack cut back to its entry depth, are outcomes of `k`; so is the
  overflow of the call stack by the second frame. -/
theorem exec_rule (p : Prog) {ι κ : Type}
    {Pre : ι → Nat → VmState → Prop} {LQ : ι → VmState → Prop} {LE : ι → RunErr → VmState → Prop}
    {CPre : κ → VmState → Prop} {CQ : κ → VmState → Prop} {CE : κ → RunErr → VmState → Prop}
    (hstop : ∀ i ip s, Pre i ip s →
      LE i ⟨.panic "gas exhausted", 0, s.frames⟩ s ∧
      (p.bytecode.size ≤ ip → LE i ⟨.unexpectedEndOfInput, ip, s.frames⟩ s) ∧
      (s.remaining - 1 = 0 → LE i ⟨.timeout, ip, s.frames⟩ { s with remaining := s.remaining - 1 }))
    (hfail : ∀ k s e, CPre k s → e.isPlain = true ∨ e = .panic "gas exhausted" → CE k ⟨e, 0, s.frames⟩ s)
    (hrun : ∀ gas,
      (∀ k f, Ho (CPre k) (reenterOf p gas f) (fun _ => CQ k) (fun e s' => ∃ r, r.kind = e ∧ CE k r s')) →
      (∀ i ip s, Pre i ip s → s.remaining - 1 ≠ 0 →
        Ho (fun t => t = s.tick) (step p (reenterOf p gas) ip)
          (fun ctl s' => if ctl.exit = true then LQ i s' else Pre i ctl.ip s')
          (fun e s' => LE i ⟨e, ip, s'.frames⟩ s')) ∧
      ∀ k h, Ho (CPre k) (callNative (reenterOf p gas) h)
        (fun _ s' => CQ k { s' with stack := s'.stack.pop.1 }) (fun e s' => CE k ⟨e, 0, s'.frames⟩ s'))
    (henter : ∀ k s a l ar clo e, CPre k s →
      (s.heap.get a = some (.fn l ar) ∧ clo = none ∨ ∃ ups, s.heap.get a = some (.closure l ar ups) ∧ clo = some a) →
      p.labels.find? (fun x => x.1 == l) = some e →
      CE k ⟨.callStackOverflow, 0, s.frames ++ [entryFrame p s e.2 ar.toNat clo]⟩ s ∧
      ∃ i, Pre i e.2 { s with frames := s.frames ++ [entryFrame p s e.2 ar.toNat clo, entryFrame p s e.2 ar.toNat clo] } ∧
        (∀ s', LQ i s' → CQ k { s' with frames := s'.frames.take s.frames.length, stack := s'.stack.pop.1 }) ∧
        ∀ r s', LE i r s' → CE k r { s' with frames := s'.frames.take s.frames.length }) :
    ∀ gas,
      (∀ i ip s, Pre i ip s → OutPost (LQ i) (LE i) (exec p gas (.loop ip) s)) ∧
      (∀ k f s, CPre k s → OutPost (CQ k) (CE k) (exec p gas (.call f) s)) := by
  intro gas
  induction gas with
  | zero =>
    exact ⟨fun i ip s h => by rw [exec_zero]; exact (hstop i ip s h).1,
      fun k f s h => by rw [exec_zero]; exact hfail k s _ h (.inr rfl)⟩
  | succ gas ih =>
    obtain ⟨hstep, hnat⟩ := hrun gas fun k f => ho_liftRun_out fun s hs => ih.2 k f s hs
    constructor
    · intro i ip s hpre
      rw [exec_loop]
      split
      · next hge => exact (hstop i ip s hpre).2.1 hge
      split
      · next hrem => exact (hstop i ip s hpre).2.2 hrem
      next hrem =>
      have hst := hstep i ip s hpre hrem
      split
      · next e s' heq => exact hst.err s.tick e s' rfl heq
      · next ctl s' heq =>
        have post := hst.ok s.tick ctl s' rfl heq
        split
        · next hx => rw [if_pos hx] at post; exact post
        · next hx => rw [if_neg hx] at post; exact ih.1 i ctl.ip s' post
    · intro k f s hpre
      have enter : ∀ a l ar clo, (s.heap.get a = some (.fn l ar) ∧ clo = none ∨
          ∃ ups, s.heap.get a = some (.closure l ar ups) ∧ clo = some a) →
          OutPost (CQ k) (CE k) (enterScript p gas s l ar.toNat clo) := by
        intro a l ar clo hobj
        unfold enterScript
        split
        · exact hfail k s _ hpre (.inl rfl)
        next pos hfind =>
        obtain ⟨hfull, i, hi, hq, he⟩ := henter k s a l ar clo _ hpre hobj hfind
        dsimp only
        split
        · exact hfail k s _ hpre (.inl rfl)
        split
        · exact hfail k s _ hpre (.inl rfl)
        split
        · exact hfull
        have key := ih.1 i pos _ hi
        unfold entryFrame at key
        rcases hex : exec p gas (.loop pos) { s with frames := s.frames ++ [_, _] } with ⟨s', e | v⟩
        · exact he e s' (key.error hex)
        · exact hq s' (key.ok hex)
      rw [exec_call]
      split
      · split
        · next a h hget =>
          split
          · next s' heq => exact (hnat k h).ok s () s' hpre heq
          · next e s' heq => exact (hnat k h).err s e s' hpre heq
        · next a _ l ar hget => exact enter a l ar none (.inl ⟨hget, rfl⟩)
        · next a _ l ar ups hget => exact enter a l ar (some a) (.inr ⟨ups, hget, rfl⟩)
        · exact hfail k s _ hpre (.inl rfl)
      · exact hfail k s _ hpre (.inl rfl)

end Cao.Vm
