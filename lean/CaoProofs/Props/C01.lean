import CaoProofs.Props.C01Sem
import CaoProofs.Lemmas.SimLocals
/-!
# C01 — the compiled program computes what the card semantics defines

The property: running the compiled bytecode on a fresh VM agrees with the reference semantics
(`Sem.run`). The doc comment of `compile_correct_Full` (`C01E.lean`) states it in full and lists what is covered.

The method is a forward simulation: from an execution of the reference semantics that ends with `ok`
(for the statements of `C01S.lean` also with a `Return`, `okRet`), build a counted run of the VM
(`Reach P n pc vs pc' vs'`) over the bytes that the code predicates (`ECode`, `SCode`, …) describe, with
the number of dispatches `n` determined by the reference execution.

This file has what all fragments share on the side of the VM: the relation between the globals of the two
sides (`GRel`), the slots that relate compile-time locals to cells (`Slot`, `LookRel`, `LocalsAt`), the
simulation of expressions (`eval_simS`), and the way from a `Reach` over the code of `main` to `Vm.run`
(`vm_run_of_reach`) with what the two runs are compared on (`Agree`).

The reference semantics by itself is in `C01Sem`, the invariants of a frame with locals in `C01L`, the code
and the simulation of the statements of F2 to F5 in `C01S` with `C01R` (`Repeat`) and `C01C` (static calls,
`Return`); `C01F1` simulates the statements of F1, `C01F2` shows that those of F2 are code in the sense of
`C01S`; `C01Fuel` has the two facts about the reference semantics alone (no error, no dependence on the
fuel); `C01E` has the fragments and their theorems, `C01Ex` concrete programs.
-/
namespace Cao.C01
open Cao Cao.Vm Cao.Sim Cao.Compiler

/-! ## values and globals on both sides -/

/-- not a reference to a heap object: the value is its own deep value on both sides (`ownD_scalar`) -/
def Scalar : Val → Prop
  | .obj _ => False
  | _ => True

theorem ownD_scalar {v : Val} (h : Scalar v) (hp : Heap) (s : Sem.St) : ownD hp v = Sem.deepV s v := by
  cases v <;> first | rfl | exact absurd h id

theorem scalar_numVal (x : OVal) : Scalar (numVal x) := by
  cases x <;> trivial

theorem scalar_boolVal (b : Bool) : Scalar (Vm.boolVal b) := trivial

theorem scalar_binVal (k : BinKind) (a b : OVal) : Scalar (binVal k a b) := by
  cases k <;> first | exact scalar_numVal _ | exact scalar_boolVal _ | trivial

theorem truthy_eq {x : Val} (hx : Scalar x) (hp : Heap) (σ : Sem.St) :
    OVal.asBool hostF64 (ownD hp x) = Sem.truthy σ x := by
  rw [ownD_scalar hx hp σ]; rfl

/-- distinct names in `N` have distinct 32-bit handles (`hName`) -/
def HInj (N : String → Prop) : Prop := ∀ a b, N a → N b → hName a = hName b → a = b

/-- the globals of the reference semantics (by name) and of the VM (by id) hold the same values; a VM
    slot that holds `nil` may belong to a global that was never written -/
structure GRel (F : List (UInt32 × Nat)) (N : String → Prop) (g : List (String × Val)) (vg : List Val) : Prop where
  sem_vm : ∀ n v, glookup g n = some v → N n ∧ Scalar v ∧ ∃ id, gidOf F n = some id ∧ vg[id]? = some v
  vm_sem : ∀ id v, vg[id]? = some v → v ≠ .nil → ∃ n, glookup g n = some v ∧ gidOf F n = some id

/-- everything except the value stack, the globals and the two counters is unchanged -/
def SameRest (a b : VmState) : Prop :=
  b = { a with stack := b.stack, globals := b.globals, remaining := b.remaining, dispatches := b.dispatches }

theorem SameRest.refl (a : VmState) : SameRest a a := rfl
theorem SameRest.trans {a b c : VmState} (h1 : SameRest a b) (h2 : SameRest b c) : SameRest a c := by
  unfold SameRest at *
  rw [h1] at h2
  exact h2

theorem SameRest.tick_stack (s : VmState) (st : VStack Val) : SameRest s { tick s with stack := st } := rfl

/-! ## stack depth of expressions -/

/-- stack slots needed to evaluate the expression card -/
def edepth : Card → Nat
  | .un _ c => edepth c
  | .bin _ a b => max (edepth a) (edepth b + 1)
  | _ => 1

theorem edepth_pos (e : Card) : 1 ≤ edepth e := by
  fun_induction edepth e <;> omega

/-- an environment without locals (scopes that declare nothing) -/
def NoEnv (env : Sem.Env) : Prop := ∀ n, Sem.lookupEnv env n = none

theorem noEnv_base : NoEnv [[]] := fun _ => rfl

theorem noEnv_cons {env : Sem.Env} (h : NoEnv env) : NoEnv ([] :: env) := fun n => by
  have := h n
  unfold Sem.lookupEnv at this ⊢
  rw [List.findSome?_cons]
  exact this

/-! ## slots: the compile-time locals of the current function and the cells they show -/

/-- One stack slot of the current frame, in the order of declaration. `named n d c`: the local `n`
    declared at scope depth `d`; the reference semantics keeps its value in the cell `c`. `hidden d v`: a
    local that the compiler declares under the empty name (the bound and the counter of `Repeat`); it holds
    `v` and has no cell. -/
inductive Slot where
  | named (n : String) (d : Int) (c : Nat)
  | hidden (d : Int) (v : Val)

def Slot.ctx : Slot → String × Int
  | .named n d _ => (n, d)
  | .hidden d _ => ("", d)

def ctxOf (S : List Slot) : LCtx := S.map Slot.ctx

def Slot.val (σ : Sem.St) : Slot → Val
  | .named _ _ c => σ.cells[c]?.getD .nil
  | .hidden _ v => v

def Slot.cell : Slot → Option Nat
  | .named _ _ c => some c
  | .hidden _ _ => none

/-- the values of the slots as a piece of the value stack (top first) -/
def baseOf (S : List Slot) (σ : Sem.St) : List Val := (S.map (Slot.val σ)).reverse

/-- name lookup in the environment of the reference semantics finds the cell of the slot that the
    compiler resolves the name to -/
def LookRel (env : Sem.Env) (S : List Slot) : Prop :=
  ∀ n, n.isEmpty = false →
    Sem.lookupEnv env n = (lidx (ctxOf S) n).bind (fun j => (S[j]?).bind Slot.cell)

theorem slot_of_lidx {S : List Slot} {n : String} {j : Nat} (h : lidx (ctxOf S) n = some j)
    (hn : n.isEmpty = false) : ∃ d c, S[j]? = some (.named n d c) := by
  have hj := lidx_lt h
  have hp := List.find?_some h
  simp only [ctxOf, List.length_map] at hj
  simp only [ctxOf, List.getD_eq_getElem?_getD, List.getElem?_map, List.getElem?_eq_getElem hj, Option.map_some,
    Option.getD_some, beq_iff_eq] at hp
  rcases hs : S[j] with ⟨n', d, c⟩ | ⟨d, v⟩
  · rw [hs] at hp
    simp only [Slot.ctx] at hp
    subst hp
    exact ⟨d, c, by rw [List.getElem?_eq_getElem hj, hs]⟩
  · rw [hs] at hp
    simp only [Slot.ctx] at hp
    rw [← hp] at hn
    exact absurd hn (by decide)

theorem lookRel_noEnv {env : Sem.Env} (h : NoEnv env) : LookRel env [] := fun n _ => h n

/-! ## single instructions in terms of `StackIs` -/

section instr
variable {P : Prog}

theorem reach_push {ip ip' : Nat} {vs : VmState} {cap : Nat} {stk : List Val} (v : Val)
    (hin : ip < P.bytecode.size) (hst : StackIs vs.stack cap stk) (hroom : stk.length + 1 < cap)
    (hrun : ∀ re st', (tick vs).stack.push v = (st', .ok ()) →
      runM (step P re ip) (tick vs) = (.ok { ip := ip' }, { tick vs with stack := st' })) :
    ∃ vs', Reach P 1 ip vs ip' vs' ∧ StackIs vs'.stack cap (v :: stk) ∧ SameRest vs vs' ∧
      vs'.globals = vs.globals := by
  obtain ⟨st', hp, hst'⟩ := hst.push v hroom
  exact ⟨{ tick vs with stack := st' }, Reach.one ⟨hin, rfl, fun re => hrun re st' hp⟩, hst', rfl, rfl⟩

theorem reach_not {ip : Nat} {vs : VmState} {cap : Nat} {stk : List Val} {a : Val}
    (hin : ip < P.bytecode.size) (hop : P.bytecode.getD ip 0 = Compiler.op.not)
    (hst : StackIs vs.stack cap (a :: stk)) (hroom : stk.length + 1 < cap) :
    ∃ vs', Reach P 1 ip vs (ip + 1) vs' ∧
      StackIs vs'.stack cap (Vm.boolVal (!(OVal.asBool hostF64 (ownD vs.heap a))) :: stk) ∧
      SameRest vs vs' ∧ vs'.globals = vs.globals := by
  obtain ⟨hv, hst1⟩ := hst.pop
  obtain ⟨st', hp, hst'⟩ := hst1.push (Vm.boolVal (!(OVal.asBool hostF64 (ownD vs.heap a)))) hroom
  refine ⟨{ tick vs with stack := st' }, Reach.one ⟨hin, rfl, fun re => ?_⟩, hst', rfl, rfl⟩
  exact step_not (s := tick vs) hop (by
    show vs.stack.pop.1.push (Vm.boolVal (!(OVal.asBool hostF64 (ownD vs.heap vs.stack.pop.2)))) = _
    rw [hv]; exact hp)

theorem reach_bin {ip : Nat} {vs : VmState} {cap : Nat} {stk : List Val} {a b : Val} (k : BinKind)
    (hk : isValOp k = true)
    (hin : ip < P.bytecode.size) (hop : P.bytecode.getD ip 0 = Compiler.binOp k)
    (hst : StackIs vs.stack cap (b :: a :: stk)) (hroom : stk.length + 1 < cap) :
    ∃ vs', Reach P 1 ip vs (ip + 1) vs' ∧
      StackIs vs'.stack cap (binVal k (ownD vs.heap a) (ownD vs.heap b) :: stk) ∧
      SameRest vs vs' ∧ vs'.globals = vs.globals := by
  obtain ⟨hvb, hst1⟩ := hst.pop
  obtain ⟨hva, hst2⟩ := hst1.pop
  obtain ⟨st', hp, hst'⟩ := hst2.push (binVal k (ownD vs.heap a) (ownD vs.heap b)) hroom
  refine ⟨{ tick vs with stack := st' }, Reach.one ⟨hin, rfl, fun re => ?_⟩, hst', rfl, rfl⟩
  exact step_bin (s := tick vs) k hk hop (by
    show vs.stack.pop.1.pop.1.push (binVal k (ownD vs.heap vs.stack.pop.1.pop.2) (ownD vs.heap vs.stack.pop.2)) = _
    rw [hva, hvb]; exact hp)

end instr

theorem reach_lit {P : Prog} {F : List (UInt32 × Nat)} {L : LCtx} {e : Card} {v : Val} (hv : litVal e = some v)
    {pc pc' : Nat} (hcode : ECodeL P.bytecode F L e pc pc') (hsz : pc' ≤ P.bytecode.size)
    {vs : VmState} {cap : Nat} {stk : List Val} (hst : StackIs vs.stack cap stk) (hroom : stk.length + 1 < cap) :
    ∃ vs', Reach P 1 pc vs pc' vs' ∧ StackIs vs'.stack cap (v :: stk) ∧ SameRest vs vs' ∧
      vs'.globals = vs.globals := by
  cases e <;> simp only [litVal, Option.some.injEq, reduceCtorEq] at hv <;> subst hv <;> simp only [ECodeL] at hcode
  · obtain ⟨h1, rfl⟩ := hcode
    exact reach_push (P := P) .nil (by omega) hst hroom
      fun re st' hp => step_scalarNil (re := re) h1 (s := tick vs) hp
  · obtain ⟨h1, h2, rfl⟩ := hcode
    exact reach_push (P := P) (.int _) (by omega) hst hroom
      fun re st' hp => step_scalarInt (re := re) h1 (s := tick vs) (by rw [h2, Int64.toInt64_toUInt64]; exact hp)
  · obtain ⟨h1, h2, rfl⟩ := hcode
    exact reach_push (P := P) (.real _) (by omega) hst hroom
      fun re st' hp => step_scalarFloat (re := re) h1 (s := tick vs) (by rw [h2]; exact hp)

/-! ## frames: the locals of the current function start at the stack offset of the innermost frame -/

def FrameAt (vs : VmState) (off : Nat) : Prop := ∃ f, vs.frames.getLast? = some f ∧ f.stackOffset = off

theorem SameRest.frameAt {a b : VmState} (h : SameRest a b) {off : Nat} (hf : FrameAt a off) : FrameAt b off := by
  unfold SameRest at h
  unfold FrameAt
  rw [h]; exact hf

section instrAt
variable {P : Prog}

theorem reach_readLocalAt {ip i off : Nat} {vs : VmState} {cap : Nat} {stk : List Val}
    (hin : ip < P.bytecode.size) (hop : P.bytecode.getD ip 0 = Compiler.op.readLocalVar)
    (hi : rdU32 P.bytecode (ip + 1) = i) (hf : FrameAt vs off)
    (hst : StackIs vs.stack cap stk) (hlt : off + i < stk.length) (hroom : stk.length + 1 < cap) :
    ∃ vs', Reach P 1 ip vs (ip + 5) vs' ∧ StackIs vs'.stack cap (stk.reverse.getD (off + i) .nil :: stk) ∧
      SameRest vs vs' ∧ vs'.globals = vs.globals := by
  obtain ⟨f, hf1, hf2⟩ := hf
  refine reach_push (P := P) (stk.reverse.getD (off + i) .nil) hin hst hroom fun re st' hp => ?_
  exact step_readLocalVar (s := tick vs) (f := f) hop hf1 (by
    rw [hf2, hi]
    show vs.stack.push (vs.stack.get (off + i)) = _
    rw [hst.get hlt]; exact hp)

end instrAt

/-- the slots `S` of the current frame are in place below the temporaries: a named slot holds the value
    of its cell, a scalar -/
def LocalsAt (S : List Slot) (σ : Sem.St) (vs : VmState) (stk : List Val) : Prop :=
  ∀ j n d c, S[j]? = some (.named n d c) → ∃ off, FrameAt vs off ∧ off + j < stk.length ∧
    stk.reverse.getD (off + j) .nil = σ.cells[c]?.getD .nil ∧ Scalar (σ.cells[c]?.getD .nil)

theorem localsAt_nil (σ : Sem.St) (vs : VmState) (stk : List Val) : LocalsAt [] σ vs stk :=
  fun j n d c h => by simp at h

theorem LocalsAt.push {S : List Slot} {σ : Sem.St} {vs vs' : VmState} {stk : List Val} (h : LocalsAt S σ vs stk)
    (hs : SameRest vs vs') (v : Val) : LocalsAt S σ vs' (v :: stk) := by
  intro j n d c hj
  obtain ⟨off, hfr, hlt, hval, hsc⟩ := h j n d c hj
  refine ⟨off, hs.frameAt hfr, by simp only [List.length_cons]; omega, ?_, hsc⟩
  rw [List.reverse_cons, List.getD_eq_getElem?_getD, List.getElem?_append_left (by simpa using hlt),
    ← List.getD_eq_getElem?_getD]
  exact hval

/-! ## simulation of expression cards -/

theorem ecodeL_lt {B : Array UInt8} {F : List (UInt32 × Nat)} {L : LCtx} {e : Card} {pc pc' : Nat} :
    ECodeL B F L e pc pc' → pc < pc' := by
  fun_induction ECodeL B F L e pc pc' with
  | case1 | case2 | case3 | case6 => intro h; omega
  | case4 c pc pc' ih => intro ⟨m, h1, _, h3⟩; have := ih m h1; omega
  | case5 k a b pc pc' iha ihb => intro ⟨m1, m2, h1, h2, _, h3⟩; have := iha m1 h1; have := ihb m1 m2 h2; omega
  | case7 => intro ⟨_, _, _, _, h⟩; omega
  | case8 => exact False.elim

section sim
variable {P : Prog} {F : List (UInt32 × Nat)} {N : String → Prop} {cx : Sem.Ctx} (hout : cx.outer = [])
include hout

/-- The simulation of expression cards: the code of `e` pushes the value the reference semantics
    computes, in as many dispatches as the reference evaluation determines (at most one per byte). The
    state of the reference semantics does not change. -/
theorem eval_simS (S : List Slot) (env : Sem.Env) (henv : LookRel env S) (e : Card) :
    isExpr e = true → ∀ (fuel : Nat) (σ σ' : Sem.St) (env' : Sem.Env) (v : Val) (pc pc' : Nat),
      Sem.eval cx fuel env σ e = (σ', env', .ok v) → ECodeL P.bytecode F (ctxOf S) e pc pc' → pc' ≤ P.bytecode.size →
      σ' = σ ∧ env = env' ∧ ∃ n, n ≤ pc' - pc ∧
        ∀ (vs : VmState) (cap : Nat) (stk : List Val), StackIs vs.stack cap stk → stk.length + edepth e < cap →
          GRel F N σ.globals vs.globals → LocalsAt S σ vs stk →
          Scalar v ∧ ∃ vs', Reach P n pc vs pc' vs' ∧ StackIs vs'.stack cap (v :: stk) ∧ SameRest vs vs' ∧
            vs'.globals = vs.globals := by
  fun_induction isExpr e with
  | case1 | case2 | case3 =>
    intro _ fuel σ σ' env' v pc pc' hev hcode hsz
    obtain ⟨f, rfl⟩ := eval_fuel hev id
    rw [eval_lit _ _ _ _ rfl] at hev
    cases hev
    have hlt := ecodeL_lt hcode
    exact ⟨rfl, rfl, 1, by omega, fun vs cap stk hst hroom _ _ => ⟨trivial, reach_lit rfl hcode hsz hst hroom⟩⟩
  | case4 c ih =>
    intro he fuel σ σ' env' v pc pc' hev hcode hsz
    obtain ⟨f, rfl⟩ := eval_fuel hev id
    rw [eval_not] at hev
    obtain ⟨σ1, env1, v1, hc, hev⟩ := andThen_ok hev
    cases hev
    simp only [ECodeL] at hcode
    obtain ⟨m, hc1, hop, rfl⟩ := hcode
    obtain ⟨rfl, rfl, n1, hn1, hsim1⟩ := ih he f σ σ' env' v1 pc m hc hc1 (by omega)
    have hlt := ecodeL_lt hc1
    refine ⟨rfl, rfl, n1 + 1, by omega, fun vs cap stk hst hroom hg hloc => ?_⟩
    simp only [edepth] at hroom
    obtain ⟨hs1, vs1, hr1, hst1, hsame1, hg1⟩ := hsim1 vs cap stk hst hroom hg hloc
    have hpos := edepth_pos c
    obtain ⟨vs2, hr2, hst2, hsame2, hg2⟩ := reach_not (P := P) (ip := m) (by omega) hop hst1 (by omega)
    rw [ownD_scalar hs1 vs1.heap σ'] at hst2
    exact ⟨trivial, vs2, hr1.trans hr2 rfl, hst2, hsame1.trans hsame2, hg2.trans hg1⟩
  | case5 k a b iha ihb =>
    intro he fuel σ σ' env' v pc pc' hev hcode hsz
    simp only [Bool.and_eq_true] at he
    obtain ⟨⟨hk, hea⟩, heb⟩ := he
    obtain ⟨f, rfl⟩ := eval_fuel hev id
    rw [eval_bin _ _ _ _ k hk] at hev
    obtain ⟨σ1, env1, va, hca, hev⟩ := andThen_ok hev
    obtain ⟨σ2, env2, vb, hcb, hev⟩ := andThen_ok hev
    cases hev
    simp only [ECodeL] at hcode
    obtain ⟨m1, m2, hc1, hc2, hop, rfl⟩ := hcode
    have hlt1 := ecodeL_lt hc1
    have hlt2 := ecodeL_lt hc2
    obtain ⟨rfl, rfl, n1, hn1, hsim1⟩ := iha hea f σ σ1 env1 va pc m1 hca hc1 (by omega)
    obtain ⟨rfl, rfl, n2, hn2, hsim2⟩ := ihb heb f σ1 σ' env' vb m1 m2 hcb hc2 (by omega)
    refine ⟨rfl, rfl, n1 + n2 + 1, by omega, fun vs cap stk hst hroom hg hloc => ?_⟩
    simp only [edepth] at hroom
    obtain ⟨hsa, vs1, hr1, hst1, hsame1, hg1⟩ := hsim1 vs cap stk hst (by omega) hg hloc
    obtain ⟨hsb, vs2, hr2, hst2, hsame2, hg2⟩ := hsim2 vs1 cap (va :: stk) hst1
      (by simp only [List.length_cons]; omega) (by rw [hg1]; exact hg) (hloc.push hsame1 va)
    obtain ⟨vs3, hr3, hst3, hsame3, hg3⟩ := reach_bin (P := P) (ip := m2) k hk (by omega) hop hst2 (by omega)
    rw [ownD_scalar hsa vs2.heap σ', ownD_scalar hsb vs2.heap σ'] at hst3
    exact ⟨scalar_binVal _ _ _, vs3, (hr1.trans hr2 rfl).trans hr3 rfl, hst3,
      (hsame1.trans hsame2).trans hsame3, (hg3.trans hg2).trans hg1⟩
  | case6 n =>
    intro he fuel σ σ' env' v pc pc' hev hcode hsz
    have hne := (simpleName_iff.1 he).2
    obtain ⟨f, rfl⟩ := eval_fuel hev id
    rw [eval_readVar, readVar_env hout he, henv n hne] at hev
    simp only [ECodeL] at hcode
    rcases hli : lidx (ctxOf S) n with _ | i
    · -- a global
      rw [hli] at hev hcode
      simp only [Option.bind_none] at hev hcode
      obtain ⟨id, hid, hop, hrd, rfl⟩ := hcode
      rcases hl : glookup σ.globals n with _ | x <;> rw [hl] at hev <;> cases hev
      refine ⟨rfl, rfl, 1, by omega, fun vs cap stk hst hroom hg _ => ?_⟩
      simp only [edepth] at hroom
      obtain ⟨_, hsx, id', hid', hv⟩ := hg.sem_vm n v hl
      rw [hid] at hid'
      cases hid'
      exact ⟨hsx, reach_push (P := P) (ip := pc) (ip' := pc + 5) v (by omega) hst hroom
        fun re st' hp => step_readGlobalVar (re := re) hop (s := tick vs) (st' := st') (v := v) (by rw [hrd]; exact hv) hp⟩
    · -- a local: its slot shows the cell the reference semantics reads
      obtain ⟨d, c, hsj⟩ := slot_of_lidx hli hne
      rw [hli] at hev hcode
      simp only [Option.bind_some, hsj, Slot.cell] at hev hcode
      cases hev
      obtain ⟨hop, hrd, rfl⟩ := hcode
      refine ⟨rfl, rfl, 1, by omega, fun vs cap stk hst hroom hg hloc => ?_⟩
      simp only [edepth] at hroom
      obtain ⟨off, hfr, hlen, hval, hsc⟩ := hloc i n d c hsj
      obtain ⟨vs', hr, hs', hsame, hg'⟩ := reach_readLocalAt (P := P) (ip := pc) (by omega) hop hrd hfr hst hlen hroom
      rw [hval] at hs'
      exact ⟨hsc, vs', hr, hs', hsame, hg'⟩
  | case7 => intro he; cases he
end sim

theorem ecodeL_of_ecode {B : Array UInt8} {F : List (UInt32 × Nat)} {e : Card} {pc pc' : Nat} :
    ECode B F e pc pc' → ECodeL B F [] e pc pc' := by
  fun_induction ECode B F e pc pc' with
  | case1 | case2 | case3 | case6 => exact id
  | case4 c pc pc' ih => exact fun ⟨m, h1, h2⟩ => ⟨m, ih m h1, h2⟩
  | case5 k a b pc pc' iha ihb => exact fun ⟨m1, m2, h1, h2, h3⟩ => ⟨m1, m2, iha m1 h1, ihb m1 m2 h2, h3⟩
  | case7 => exact False.elim

theorem ecode_lt {B : Array UInt8} {F : List (UInt32 × Nat)} {e : Card} {pc pc' : Nat} (h : ECode B F e pc pc') :
    pc < pc' := ecodeL_lt (ecodeL_of_ecode h)

section sim
variable {P : Prog} {F : List (UInt32 × Nat)} {N : String → Prop} {cx : Sem.Ctx} (hout : cx.outer = [])
include hout

/-- `eval_simS` without locals -/
theorem eval_sim (env : Sem.Env) (henv : NoEnv env) :
    ∀ (e : Card), isExpr e = true → ∀ (fuel : Nat) (σ σ' : Sem.St) (env' : Sem.Env) (v : Val) (pc pc' : Nat),
      Sem.eval cx fuel env σ e = (σ', env', .ok v) → ECode P.bytecode F e pc pc' → pc' ≤ P.bytecode.size →
      σ' = σ ∧ env = env' ∧ ∃ n, n ≤ pc' - pc ∧
        ∀ (vs : VmState) (cap : Nat) (stk : List Val), StackIs vs.stack cap stk → stk.length + edepth e < cap →
          GRel F N σ.globals vs.globals →
          Scalar v ∧ ∃ vs', Reach P n pc vs pc' vs' ∧ StackIs vs'.stack cap (v :: stk) ∧ SameRest vs vs' ∧
            vs'.globals = vs.globals := by
  intro e he fuel σ σ' env' v pc pc' hev hcode hsz
  obtain ⟨h1, h2, n, hn, hsim⟩ := eval_simS (P := P) (F := F) (N := N) hout [] env (lookRel_noEnv henv) e he fuel σ σ' env' v pc pc'
    hev (ecodeL_of_ecode hcode) hsz
  exact ⟨h1, h2, n, hn, fun vs cap stk hst hroom hg => hsim vs cap stk hst hroom hg (localsAt_nil _ _ _)⟩
end sim

/-! ## assignment to a global on both sides -/

theorem glookup_cons (p : String × Val) (g : List (String × Val)) (n' : String) :
    glookup (p :: g) n' = if p.1 = n' then some p.2 else glookup g n' := by
  unfold glookup
  rw [List.find?_cons]
  by_cases h : p.1 = n'
  · simp [h]
  · have hb : (p.1 == n') = false := by simpa using h
    simp [h, hb]

theorem glookup_map_upd (g : List (String × Val)) (n : String) (x : Val) (n' : String) :
    glookup (g.map (fun p => if p.1 == n then (n, x) else p)) n' =
      if n' = n then (if g.any (·.1 == n) then some x else none) else glookup g n' := by
  induction g with
  | nil => simp [glookup]
  | cons p g ih =>
    rw [List.map_cons, glookup_cons, ih, glookup_cons, List.any_cons]
    by_cases h1 : p.1 = n
    · by_cases h2 : n' = n
      · subst h2; simp [h1]
      · have : ¬ (n = n') := fun h => h2 h.symm
        simp [h1, h2, this]
    · have hb : (p.1 == n) = false := by simpa using h1
      by_cases h2 : n' = n
      · subst h2; rw [hb, Bool.false_or]; simp [h1]
      · rw [hb]; simp [h2]

theorem glookup_append_single (g : List (String × Val)) (n : String) (x : Val) (n' : String)
    (hany : g.any (·.1 == n) = false) :
    glookup (g ++ [(n, x)]) n' = if n' = n then some x else glookup g n' := by
  induction g with
  | nil =>
    rw [List.nil_append, glookup_cons]
    by_cases h : n' = n
    · subst h; simp
    · have : ¬ (n = n') := fun h' => h h'.symm
      simp [h, this, glookup]
  | cons p g ih =>
    rw [List.any_cons, Bool.or_eq_false_iff] at hany
    rw [List.cons_append, glookup_cons, ih hany.2, glookup_cons]
    have hp : ¬ (p.1 = n) := by simpa using hany.1
    by_cases h2 : n' = n
    · subst h2; simp [hp]
    · simp [h2]

theorem glookup_gupd (g : List (String × Val)) (n : String) (x : Val) (n' : String) :
    glookup (gupd g n x) n' = if n' = n then some x else glookup g n' := by
  unfold gupd
  by_cases hany : g.any (·.1 == n) = true
  · rw [if_pos hany, glookup_map_upd, hany]; simp
  · rw [if_neg hany, glookup_append_single _ _ _ _ (by simpa only [Bool.not_eq_true] using hany)]

/-- `SetGlobalVar` of the VM on the list of globals -/
def vmset (vg : List Val) (id : Nat) (x : Val) : List Val :=
  (if vg.length ≤ id then vg ++ List.replicate (id + 1 - vg.length) .nil else vg).set id x

theorem vmset_self (vg : List Val) (id : Nat) (x : Val) : (vmset vg id x)[id]? = some x := by
  unfold vmset
  split
  · rw [List.getElem?_set_self (by simp; omega)]
  · rw [List.getElem?_set_self (by omega)]

theorem vmset_other (vg : List Val) (id : Nat) (x : Val) (j : Nat) (hj : j ≠ id) :
    (vmset vg id x)[j]? = vg[j]? ∨ ((vmset vg id x)[j]? = some .nil ∧ vg[j]? = none) := by
  unfold vmset
  split
  · rename_i h
    rw [List.getElem?_set_ne (by omega)]
    by_cases hlt : j < vg.length
    · left; rw [List.getElem?_append_left hlt]
    · by_cases hlt2 : j < id + 1
      · right
        refine ⟨?_, by simp; omega⟩
        rw [List.getElem?_append_right (by omega), List.getElem?_replicate]
        rw [if_pos (by omega)]
      · left
        rw [List.getElem?_eq_none (by simp; omega), List.getElem?_eq_none (by omega)]
  · left; rw [List.getElem?_set_ne (by omega)]

def FInj (F : List (UInt32 × Nat)) : Prop := ∀ a b, a ∈ F → b ∈ F → a.2 = b.2 → a = b

theorem gidOf_mem {F : List (UInt32 × Nat)} {n : String} {id : Nat} (h : gidOf F n = some id) :
    (Vm.hName n, id) ∈ F := by
  unfold gidOf at h
  rcases hf : List.find? (fun p => p.fst == Vm.hName n) F with _ | ⟨a, b⟩
  · rw [hf] at h; cases h
  · rw [hf] at h
    simp only [Option.map_some, Option.some.injEq] at h
    subst h
    have h1 := List.find?_some hf
    have h2 := List.mem_of_find?_eq_some hf
    simp only [beq_iff_eq] at h1
    rw [← h1]; exact h2

theorem gidOf_inj {F : List (UInt32 × Nat)} {N : String → Prop} (hF : FInj F) (hN : HInj N) {a b : String}
    {id : Nat} (ha : N a) (hb : N b) (h1 : gidOf F a = some id) (h2 : gidOf F b = some id) : a = b := by
  have := hF _ _ (gidOf_mem h1) (gidOf_mem h2) rfl
  exact hN a b ha hb (by simpa using congrArg Prod.fst this)

theorem GRel.set {F : List (UInt32 × Nat)} {N : String → Prop} {g : List (String × Val)} {vg : List Val}
    {n : String} {x : Val} {id : Nat} (h : GRel F N g vg) (hF : FInj F) (hN : HInj N) (hn : N n)
    (hx : Scalar x) (hid : gidOf F n = some id) : GRel F N (gupd g n x) (vmset vg id x) := by
  constructor
  · intro n' v hl
    rw [glookup_gupd] at hl
    by_cases hnn : n' = n
    · subst hnn
      simp only [if_true, Option.some.injEq] at hl
      subst hl
      exact ⟨hn, hx, id, hid, vmset_self _ _ _⟩
    · rw [if_neg hnn] at hl
      obtain ⟨hn', hv, id', hid', hv'⟩ := h.sem_vm n' v hl
      refine ⟨hn', hv, id', hid', ?_⟩
      have hne : id' ≠ id := fun e => hnn (gidOf_inj hF hN hn' hn hid' (e ▸ hid))
      rcases vmset_other vg id x id' hne with h1 | ⟨_, h2⟩
      · rw [h1]; exact hv'
      · rw [h2] at hv'; cases hv'
  · intro j v hj hv
    by_cases hji : j = id
    · subst hji
      rw [vmset_self] at hj
      simp only [Option.some.injEq] at hj
      subst hj
      exact ⟨n, by rw [glookup_gupd]; simp, hid⟩
    · rcases vmset_other vg id x j hji with h1 | ⟨h1, _⟩
      · rw [h1] at hj
        obtain ⟨n', hl, hid'⟩ := h.vm_sem j v hj hv
        refine ⟨n', ?_, hid'⟩
        rw [glookup_gupd, if_neg]
        · exact hl
        · intro e; subst e; rw [hid] at hid'; cases hid'; exact hji rfl
      · rw [h1] at hj; cases hj; exact absurd rfl hv

/-! ## statements: stack depth, loop-freeness, assigned globals -/

mutual
  /-- stack slots needed to execute the statement card -/
  def sdepth : Card → Nat
    | .setGlobalVar _ e => edepth e
    | .bin _ c b => max (edepth c) (sdepth b)
    | .tri _ c t e => max (edepth c) (max (sdepth t) (sdepth e))
    | .composite _ cs => sdepths cs
    | _ => 0
  def sdepths : List Card → Nat
    | [] => 0
    | c :: cs => max (sdepth c) (sdepths cs)
end

def noCall : Card → Bool
  | .call _ _ => false
  | _ => true

theorem noCall_expr {e : Card} (h : isExpr e = true) : noCall e = true := by
  cases e <;> first | rfl | (simp [isExpr] at h)

mutual
  /-- no `While` or `Repeat` inside and no static call in a value position; for such a statement
      of the fragments the number of dispatches is at most the length of its code -/
  def loopFree : Card → Bool
    | .bin .while _ _ => false
    | .repeat _ _ _ => false
    | .setVar _ e => noCall e
    | .setGlobalVar _ e => noCall e
    | .un _ e => noCall e
    | .bin _ _ b => loopFree b
    | .tri _ _ t e => loopFree t && loopFree e
    | .composite _ cs => loopFrees cs
    | _ => true
  def loopFrees : List Card → Bool
    | [] => true
    | c :: cs => loopFree c && loopFrees cs
end

mutual
  /-- the names of the globals assigned by the statement card -/
  def snames : Card → List String
    | .setGlobalVar n _ => [n]
    | .bin _ _ b => snames b
    | .repeat _ _ b => snames b
    | .tri _ _ t e => snames t ++ snames e
    | .composite _ cs => snamess cs
    | _ => []
  def snamess : List Card → List String
    | [] => []
    | c :: cs => snames c ++ snamess cs
end

/-! ## the instructions of statements: `SetGlobalVar` and the jumps -/

section instr2
variable {P : Prog}

theorem reach_setGlobal {ip id : Nat} {vs : VmState} {cap : Nat} {stk : List Val} {x : Val}
    (hin : ip < P.bytecode.size) (hop : P.bytecode.getD ip 0 = Compiler.op.setGlobalVar)
    (hid : rdU32 P.bytecode (ip + 1) = id) (hst : StackIs vs.stack cap (x :: stk)) :
    ∃ vs', Reach P 1 ip vs (ip + 5) vs' ∧ StackIs vs'.stack cap stk ∧ SameRest vs vs' ∧
      vs'.globals = vmset vs.globals id x := by
  obtain ⟨hv, hst1⟩ := hst.pop
  refine ⟨{ tick vs with stack := vs.stack.pop.1, globals := vmset vs.globals id x },
    Reach.one ⟨hin, rfl, fun re => ?_⟩, hst1, rfl, rfl⟩
  rw [step_setGlobalVar (s := tick vs) hop, hid]
  show _ = (_, { tick vs with stack := vs.stack.pop.1, globals := vmset vs.globals id x })
  rw [← hv]
  rfl

theorem reach_goto {ip : Nat} {vs : VmState} (hin : ip < P.bytecode.size)
    (hop : P.bytecode.getD ip 0 = Compiler.op.goto) :
    ∃ vs', Reach P 1 ip vs (rdU32 P.bytecode (ip + 1)) vs' ∧ vs'.stack = vs.stack ∧ SameRest vs vs' ∧
      vs'.globals = vs.globals :=
  ⟨tick vs, Reach.one ⟨hin, rfl, fun _ => step_goto (s := tick vs) hop⟩, rfl, rfl, rfl⟩

end instr2

def jumpOp : Bool → UInt8
  | true => Compiler.op.gotoIfTrue
  | false => Compiler.op.gotoIfFalse

theorem reach_gotoIf {P : Prog} (jt : Bool) {ip : Nat} {vs : VmState} {cap : Nat} {stk : List Val} {x : Val}
    (hin : ip < P.bytecode.size) (hop : P.bytecode.getD ip 0 = jumpOp jt) (hst : StackIs vs.stack cap (x :: stk)) :
    ∃ vs', Reach P 1 ip vs (if OVal.asBool hostF64 (ownD vs.heap x) = jt then rdU32 P.bytecode (ip + 1) else ip + 5) vs' ∧
      StackIs vs'.stack cap stk ∧ SameRest vs vs' ∧ vs'.globals = vs.globals := by
  obtain ⟨hv, hst1⟩ := hst.pop
  refine ⟨{ tick vs with stack := vs.stack.pop.1 }, Reach.one ⟨hin, rfl, fun re => ?_⟩, hst1, rfl, rfl⟩
  have hx : (tick vs).stack.pop.2 = x := hv
  have hh : (tick vs).heap = vs.heap := rfl
  cases jt
  · rw [step_gotoIfFalse (s := tick vs) hop, hx, hh]
    cases hb : OVal.asBool hostF64 (ownD vs.heap x) <;> simp only [Bool.false_eq_true, reduceIte, Nat.add_assoc] <;> rfl
  · rw [step_gotoIfTrue (s := tick vs) hop, hx, hh]
    cases hb : OVal.asBool hostF64 (ownD vs.heap x) <;> simp only [Bool.false_eq_true, reduceIte, Nat.add_assoc] <;> rfl

/-! ## from a `Reach` over the code of `main` to `Vm.run` -/

/-- the machine state in which `Vm.run` starts the dispatch loop on a fresh VM -/
def startState (cfg : Config) (maxInstr : Nat) : VmState :=
  { VmState.fresh cfg with
    frames := (VmState.fresh cfg).frames ++ [{ src := 0, dst := 0, stackOffset := 0, closure := none }],
    remaining := maxInstr, dispatches := 0 }

/-- if `n` dispatches lead from the start state to an `Exit` and the budget allows them, `Vm.run` succeeds
    in the state they reach (after the dispatch of `Exit`, with the frame of `main` popped) -/
theorem vm_run_of_reach {P : Prog} {cfg : Config} {maxInstr n mainEnd : Nat} {vsK : VmState}
    (hcs : 0 < cfg.callStackSize)
    (hr : Reach P n 0 (startState cfg maxInstr) mainEnd vsK)
    (hexit : P.bytecode.getD mainEnd 0 = Compiler.op.exit) (hin : mainEnd < P.bytecode.size)
    (hbud : n + 2 ≤ maxInstr) :
    Vm.run P maxInstr (VmState.fresh cfg) =
      ({ tick vsK with frames := (tick vsK).frames.take 0, guards := (VmState.fresh cfg).guards }, none) := by
  unfold Vm.run
  have hf : ¬ ((VmState.fresh cfg).frames.length ≥ (VmState.fresh cfg).frameCap) := by
    simp [VmState.fresh]; omega
  rw [if_neg hf]
  simp only
  have hstart : ({ VmState.fresh cfg with
      frames := (VmState.fresh cfg).frames ++ [{ src := 0, dst := 0, stackOffset := 0, closure := none }],
      remaining := maxInstr, dispatches := 0 } : VmState) = startState cfg maxInstr := rfl
  rw [hstart]
  have hrem : (startState cfg maxInstr).remaining = maxInstr := rfl
  have hgas : ∃ g, gasFor (startState cfg maxInstr) maxInstr = (g + 1) + n :=
    ⟨gasFor (startState cfg maxInstr) maxInstr - n - 1, by unfold gasFor; omega⟩
  obtain ⟨g, hg⟩ := hgas
  have hK := hr.remaining
  have e1 : exec P (gasFor (startState cfg maxInstr) maxInstr) (.loop 0) (startState cfg maxInstr) =
      (tick vsK, .ok none) := by
    rw [hg, exec_reach hr (by rw [hrem]; omega), exec_exit hin hexit (by rw [hK, hrem]; omega)]
  unfold runLoop
  rw [e1]
  rfl

/-! ## what the two runs are compared on -/

/-- value of the global `n` after a VM run, as a deep value (`nil` if it was never assigned) -/
def vmGlobal (p : Program) (vs : VmState) (n : String) : OVal :=
  match gidOf p.varIds n with
  | some id => ((vs.globals[id]?).map (ownD vs.heap)).getD .nil
  | none => .nil

theorem stackIs_new (size : Nat) : StackIs (VStack.new size : VStack Val) size [] :=
  ⟨rfl, by simp [VStack.new], by simp [VStack.new]⟩

theorem grel_empty (F : List (UInt32 × Nat)) (N : String → Prop) : GRel F N [] [] :=
  ⟨fun n v h => (by cases h), fun id v h => (by simp at h)⟩

/-- what `Vm.run` on a fresh VM and `Sem.run` agree on: success, the host log, and the value of
    every global assigned by `main` -/
structure Agree (p : Program) (names : List String) (r : VmState × Option RunErr) (o : Sem.Outcome) : Prop where
  ok : r.2.isNone = true ∧ o.result = "ok"
  log : r.1.hostLog = o.log
  globals : ∀ g ∈ names, vmGlobal p r.1 g = semGlobal o g

theorem globals_agree {p : Program} {N : String → Prop} {σ' : Sem.St} {env' : Sem.Env} {r : Sem.Res Unit}
    {vs : VmState} (hg : GRel p.varIds N σ'.globals vs.globals) (hFinj : FInj p.varIds) (hinj : HInj N)
    {g : String} (hgN : N g) :
    vmGlobal p vs g = semGlobal (render (σ', env', r)) g := by
  rw [semGlobal_render]
  show (match gidOf p.varIds g with
    | some id => ((vs.globals[id]?).map (ownD vs.heap)).getD .nil
    | none => .nil) = _
  rcases hl : glookup σ'.globals g with _ | v
  · simp only [Option.map_none, Option.getD_none]
    rcases hid : gidOf p.varIds g with _ | id
    · rfl
    · simp only
      rcases hv : vs.globals[id]? with _ | v
      · rfl
      · simp only [Option.map_some, Option.getD_some]
        by_cases hnil : v = .nil
        · subst hnil; rfl
        · obtain ⟨g', hl', hid'⟩ := hg.vm_sem id v hv hnil
          obtain ⟨hg', _, _⟩ := hg.sem_vm g' v hl'
          have := gidOf_inj hFinj hinj hg' hgN hid' hid
          subst this
          rw [hl] at hl'; cases hl'
  · obtain ⟨_, hsv, id, hid, hv⟩ := hg.sem_vm g v hl
    simp only [hid, hv, Option.map_some, Option.getD_some]
    exact ownD_scalar hsv _ _

end Cao.C01
