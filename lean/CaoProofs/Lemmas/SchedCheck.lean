import CaoProofs.Lemmas.SchedStepAll
import CaoProofs.Lemmas.SchedNatDefs
/-!
# Schedule independence: the checked interpreter's instruction

`stepC p re src`: the instruction `step p re src`, preceded by the check `stepOkB` (the decidable
form of `StepOk`: no stale stack slot is read or exposed), and with the callback checked by
`wrapIter` when the instruction calls one of the iterating host functions. `stepC_sim`: the
checked instruction respects the relation with no condition on the state or on the callbacks
beyond `ReSim` (the checks have the same outcome in related states), given `NatSimHyp c`, which
`SchedFull.natSimHyp` proves.
-/
namespace Cao.SchedFull
open Cao Cao.Vm Cao.Gc Cao.C02 Cao.C05 Cao.RunInv Cao.Native

/-! ## the stack-safety check -/

def frameOkB (s : VmState) : Bool :=
  match s.frames.getLast? with
  | some f => decide (f.stackOffset ≤ s.stack.count)
  | none => true

def upvOkB (s : VmState) : Bool :=
  s.openUpvalues.all (fun a => match s.heap.get a with
    | some (.upvalue (.stack i)) => decide (i < s.stack.count)
    | _ => true)

def readUpvOkB (index : Nat) (s : VmState) : Bool :=
  match s.frames.getLast? with
  | some fr =>
    match fr.closure with
    | some c =>
      match s.heap.get c with
      | some (.closure _ _ ups) =>
        match ups[index]? with
        | some u =>
          match s.heap.get u with
          | some (.upvalue (.stack i)) => decide (i < s.stack.count)
          | _ => true
        | none => true
      | _ => true
    | none => true
  | none => true

def stepOkB (p : Prog) (src : Nat) (s : VmState) : Bool :=
  (!(p.bytecode.getD src 0 == Compiler.op.clearStack || p.bytecode.getD src 0 == Compiler.op.ret) || frameOkB s) &&
  ((!(p.bytecode.getD src 0 == Compiler.op.ret || p.bytecode.getD src 0 == Compiler.op.closeUpvalue) || upvOkB s) &&
   (!(p.bytecode.getD src 0 == Compiler.op.readUpvalue) || readUpvOkB (rdU32 p.bytecode (src + 1)) s))

theorem frameOkB_iff (s : VmState) : frameOkB s = true ↔ FrameOk s := by
  unfold frameOkB FrameOk
  cases s.frames.getLast? with
  | none => exact ⟨fun _ f hf => (by cases hf), fun _ => rfl⟩
  | some f =>
    simp only [decide_eq_true_eq, Option.some.injEq]
    exact ⟨fun h f' hf' => hf' ▸ h, fun h => h f rfl⟩

theorem upvOkB_iff (s : VmState) : upvOkB s = true ↔ UpvOk s := by
  unfold upvOkB UpvOk
  rw [List.all_eq_true]
  refine forall_congr' fun a => forall_congr' fun ha => ?_
  cases hg : s.heap.get a with
  | none => simp
  | some o => rcases o with _ | _ | _ | _ | _ | (_ | _) <;> simp

theorem readUpvOkB_iff (index : Nat) (s : VmState) : readUpvOkB index s = true ↔ ReadUpvOk index s := by
  unfold readUpvOkB ReadUpvOk
  constructor
  · intro h fr c hd ar ups u i h1 h2 h3 h4 h5
    simpa only [h1, h2, h3, h4, h5, decide_eq_true_eq] using h
  · intro h
    cases h1 : s.frames.getLast? with
    | none => rfl
    | some fr =>
      dsimp only
      cases h2 : fr.closure with
      | none => rfl
      | some c =>
        dsimp only
        cases h3 : s.heap.get c with
        | none => rfl
        | some o =>
          cases o with
          | closure hd ar ups =>
            dsimp only
            cases h4 : ups[index]? with
            | none => rfl
            | some u =>
              dsimp only
              cases h5 : s.heap.get u with
              | none => rfl
              | some o' =>
                cases o' with
                | upvalue loc =>
                  cases loc with
                  | stack i => simpa using h fr c hd ar ups u i h1 h2 h3 h4 h5
                  | closed _ => rfl
                | _ => rfl
          | _ => rfl

theorem imp_iff_bool {a : Bool} {b : Bool} {P Q : Prop} (ha : a = true ↔ P) (hb : b = true ↔ Q) :
    ((!a || b) = true) ↔ (P → Q) := by
  cases a <;> cases b <;> simp_all

theorem stepOkB_iff (p : Prog) (src : Nat) (s : VmState) : stepOkB p src s = true ↔ StepOk p src s := by
  unfold stepOkB StepOk
  rw [Bool.and_eq_true, Bool.and_eq_true]
  refine and_congr (imp_iff_bool (by simp [Bool.or_eq_true]) (frameOkB_iff s))
    (and_congr (imp_iff_bool (by simp [Bool.or_eq_true]) (upvOkB_iff s))
      (imp_iff_bool (by simp) (readUpvOkB_iff _ s)))

section inv
variable {c : Cfg} {K : Nat → Prop} {s t : VmState}

theorem frameOk_congr (h : Agree c K s t) : FrameOk t ↔ FrameOk s := by
  unfold FrameOk; rw [h.frames, h.stack.count]

theorem upvOk_congr (h : Agree c K s t) : UpvOk t ↔ UpvOk s := by
  unfold UpvOk
  rw [h.openUpvalues, h.stack.count]
  constructor
  · intro ht a ha i hg
    exact ht a ha i (by rw [h.agree a (h.k_upv ha)]; exact hg)
  · intro hs a ha i hg
    exact hs a ha i (by rw [← h.agree a (h.k_upv ha)]; exact hg)

theorem readUpvOk_congr (index : Nat) (h : Agree c K s t) : ReadUpvOk index t ↔ ReadUpvOk index s := by
  unfold ReadUpvOk
  rw [h.frames, h.stack.count]
  constructor
  · intro ht fr cl hd ar ups u i h1 h2 h3 h4 h5
    have hk : K cl := h.k_frame (List.mem_of_getLast? h1) h2
    exact ht fr cl hd ar ups u i h1 h2 (by rw [h.agree cl hk]; exact h3) h4
      (by rw [h.agree u (h.k_captured hk h3 h4)]; exact h5)
  · intro hs fr cl hd ar ups u i h1 h2 h3 h4 h5
    have hk : K cl := h.k_frame (List.mem_of_getLast? h1) h2
    have h3' : s.heap.get cl = some (.closure hd ar ups) := by rw [← h.agree cl hk]; exact h3
    exact hs fr cl hd ar ups u i h1 h2 h3' h4 (by rw [← h.agree u (h.k_captured hk h3' h4)]; exact h5)

theorem stepOk_congr (p : Prog) (src : Nat) (h : Agree c K s t) : StepOk p src t ↔ StepOk p src s := by
  unfold StepOk; rw [frameOk_congr h, upvOk_congr h, readUpvOk_congr _ h]

theorem stepOkB_congr (p : Prog) (src : Nat) (h : Agree c K s t) : stepOkB p src t = stepOkB p src s :=
  Bool.eq_iff_iff.2 (by rw [stepOkB_iff, stepOkB_iff]; exact stepOk_congr p src h)

end inv

/-! ## which callbacks are checked -/

/-- the instruction at `src`, started in `s`, calls one of the iterating host functions -/
def iterSite (p : Prog) (src : Nat) (s : VmState) : Bool :=
  (p.bytecode.getD src 0 == Compiler.op.callNative && isIter (UInt32.ofNat (rdU32 p.bytecode (src + 1)))) ||
  (p.bytecode.getD src 0 == Compiler.op.callFunction &&
    match s.stack.pop.2 with
    | .obj a => match s.heap.get a with
      | some (.native hd) => isIter hd
      | _ => false
    | _ => false)

theorem calledAt_iter {p : Prog} {src : Nat} {s : VmState} {hd : UInt32} (h : CalledAt p src s hd) :
    isIter hd = true → iterSite p src s = true := by
  intro hi
  unfold iterSite
  rcases h with ⟨h1, rfl⟩ | ⟨h1, a, h2, h3⟩
  · simp [h1, hi]
  · have hne : ¬ (Compiler.op.callFunction = Compiler.op.callNative) := by decide
    simp [h1, h2, h3, hi]

theorem iterSite_congr {c : Cfg} {K : Nat → Prop} {s t : VmState} (p : Prog) (src : Nat) (h : Agree c K s t) :
    iterSite p src t = iterSite p src s := by
  unfold iterSite
  rw [h.stack.1.pop.2]
  cases hv : s.stack.pop.2 with
  | obj a => dsimp only; rw [h.agree a (h.vk_pop a hv)]
  | _ => rfl

/-! ## the checked callback -/
section wrap
variable {c : Cfg}

theorem wrapIter_post (re : Reenter) : IterPost (wrapIter re) := by
  intro f x r x' hgo
  unfold wrapIter at hgo
  rw [go_bind] at hgo
  simp only [go_get] at hgo
  rw [go_bind] at hgo
  rcases h1 : (re f).go x with ⟨r1, x1⟩
  rw [h1] at hgo
  cases r1 with
  | error e => cases hgo
  | ok r0 =>
    dsimp only at hgo
    rw [go_bind] at hgo
    simp only [go_get] at hgo
    by_cases hc : (iterOkB x x1 && decide (x.stack.count ≤ x.stack.data.length)) = true
    · rw [if_pos hc] at hgo
      simp only [go_pure, Prod.mk.injEq, Except.ok.injEq] at hgo
      obtain ⟨_, rfl⟩ := hgo
      simp only [Bool.and_eq_true] at hc
      exact (iterOkB_iff x x1).mp hc.1
    · rw [if_neg hc] at hgo
      cases hgo

theorem peek3_mem_dropLast2 {st : VStack Val} {a : Nat} (hc : st.count ≤ st.data.length)
    (h : st.peekLast 3 = .obj a) : Val.obj a ∈ st.contents.dropLast.dropLast := by
  unfold VStack.peekLast at h
  split at h
  · next h3 =>
    have hlen : st.contents.length = st.count := by
      unfold VStack.contents; rw [List.length_take]; omega
    have hget : st.contents[st.count - 3 - 1]? = some (.obj a) := by
      unfold VStack.contents
      rw [List.getElem?_take, if_pos (by omega)]
      rw [List.getD_eq_getElem?_getD] at h
      cases hd : st.data[st.count - 3 - 1]? with
      | none => rw [hd] at h; cases h
      | some v => rw [hd] at h; simp only [Option.getD_some] at h; rw [h]
    apply List.mem_iff_getElem?.mpr
    refine ⟨st.count - 3 - 1, ?_⟩
    rw [List.dropLast_eq_take, List.dropLast_eq_take, List.getElem?_take, List.getElem?_take]
    simp only [List.length_take, hlen]
    rw [if_pos (by omega), if_pos (by omega)]
    exact hget
  · cases h

theorem iterOk_congr {K K' : Nat → Prop} {x y x' y' : VmState} (h : Agree c K x y) (h' : Agree c K' x' y')
    (hc : x.stack.count ≤ x.stack.data.length) : IterOk y y' ↔ IterOk x x' := by
  unfold IterOk
  rw [h.guards, h'.guards, h.stack.contents, h'.stack.contents, h.stack.peekLast]
  refine and_congr_right (fun _ => and_congr_right (fun h2 => ?_))
  constructor
  · intro hy a cap es hp hg
    have hka : K a := h.vk_peek 3 a hp
    have hka' : K' a := h'.vk_stack (by rw [h2]; exact peek3_mem_dropLast2 hc hp) a rfl
    obtain ⟨cap', es', hg', hsub⟩ := hy a cap es hp (by rw [h.agree a hka]; exact hg)
    exact ⟨cap', es', by rw [← h'.agree a hka']; exact hg', hsub⟩
  · intro hx a cap es hp hg
    have hka : K a := h.vk_peek 3 a hp
    have hka' : K' a := h'.vk_stack (by rw [h2]; exact peek3_mem_dropLast2 hc hp) a rfl
    obtain ⟨cap', es', hg', hsub⟩ := hx a cap es hp (by rw [← h.agree a hka]; exact hg)
    exact ⟨cap', es', by rw [h'.agree a hka']; exact hg', hsub⟩

theorem wrapIter_sim {re₁ re₂ : Reenter} (hre : ReSim c re₁ re₂) : ReSim c (wrapIter re₁) (wrapIter re₂) := by
  intro f K s t h hf
  unfold wrapIter
  refine w2_get' ?_
  refine w2_bind (w2_mono (hre f K s t h hf) fun r r' s1 t1 hq => ?_)
  obtain ⟨rfl, K1, hA1, hr⟩ := hq
  refine w2_get' ?_
  have e : (iterOkB t t1 && decide (t.stack.count ≤ t.stack.data.length)) =
      (iterOkB s s1 && decide (s.stack.count ≤ s.stack.data.length)) := by
    rw [h.stack.count, h.stack.cap]
    by_cases hc : s.stack.count ≤ s.stack.data.length
    · have := iterOk_congr h hA1 hc
      rw [← iterOkB_iff, ← iterOkB_iff] at this
      cases h1 : iterOkB t t1 <;> cases h2 : iterOkB s s1 <;> simp_all
    · simp [hc]
  rw [e]
  by_cases hc : (iterOkB s s1 && decide (s.stack.count ≤ s.stack.data.length)) = true
  · rw [if_pos hc]; exact w2_pure ⟨rfl, K1, hA1, hr⟩
  · rw [if_neg hc]; exact w2_throwE hA1.rel

end wrap

/-! ## the checked instruction -/

/-- the instruction at `src` preceded by a check `ok` of the state, its callback checked by
    `wrapIter` where it calls one of the iterating host functions -/
def stepBy (ok : VmState → Bool) (p : Prog) (re : Reenter) (src : Nat) : M Ctl := do
  let s ← get
  if ok s then step p (if iterSite p src s then wrapIter re else re) src
  else throwE (.panic "stale stack slot")

def stepC (p : Prog) (re : Reenter) (src : Nat) : M Ctl := do
  let s ← get
  if stepOkB p src s then step p (if iterSite p src s then wrapIter re else re) src
  else throwE (.panic "stale stack slot")

theorem stepC_go_of_ok (p : Prog) (re : Reenter) (src : Nat) (s : VmState) (h1 : stepOkB p src s = true)
    (h2 : iterSite p src s = false) : (stepC p re src).go s = (step p re src).go s := by
  unfold stepC
  rw [go_bind]
  simp only [go_get, h1, h2, if_true, Bool.false_eq_true, if_false]

theorem stepC_go_of_not_ok (p : Prog) (re : Reenter) (src : Nat) (s : VmState) (h1 : stepOkB p src s = false) :
    (stepC p re src).go s = (.error (.panic "stale stack slot"), s) := by
  unfold stepC
  rw [go_bind]
  simp only [go_get, h1, Bool.false_eq_true, if_false]
  rfl

/-- the checked host function call of `run_function` -/
def natC (re : Reenter) (hd : UInt32) : M Unit :=
  callNative (if isIter hd then wrapIter re else re) hd

/-- what is assumed about host functions: related callbacks (satisfying `IterPost` when the host
    function is an iterating one) give related runs — proved in `Lemmas/SchedNat.lean` -/
def NatSimHyp (c : Cfg) : Prop :=
  ∀ (re₁ re₂ : Reenter), ReSim c re₁ re₂ → ∀ (hd : UInt32),
    (isIter hd = true → IterPost re₁ ∧ IterPost re₂) → NatSimAt c re₁ re₂ hd

theorem natC_sim {c : Cfg} (hnat : NatSimHyp c) {re₁ re₂ : Reenter} (hre : ReSim c re₁ re₂) (hd : UInt32)
    {K : Nat → Prop} {s t : VmState} (h : Agree c K s t) :
    W2 c (natC re₁ hd) (natC re₂ hd) (fun _ _ s' t' => Rel c s' t') s t := by
  unfold natC
  cases hi : isIter hd with
  | true =>
    simp only [if_true]
    exact hnat _ _ (wrapIter_sim hre) hd (fun _ => ⟨wrapIter_post re₁, wrapIter_post re₂⟩) K s t h
  | false =>
    simp only [Bool.false_eq_true, if_false]
    exact hnat _ _ hre hd (fun hc => by rw [hi] at hc; cases hc) K s t h

theorem stepBy_sim {c : Cfg} (hnat : NatSimHyp c) (ok : VmState → Bool) (p : Prog) (src : Nat)
    (hcongr : ∀ {K s t}, Agree c K s t → ok t = ok s)
    (hokU : ∀ s, ok s = true →
      (p.bytecode.getD src 0 = Compiler.op.ret ∨ p.bytecode.getD src 0 = Compiler.op.closeUpvalue) → UpvOk s)
    (hokR : ∀ s, ok s = true →
      p.bytecode.getD src 0 = Compiler.op.readUpvalue → ReadUpvOk (rdU32 p.bytecode (src + 1)) s)
    {re₁ re₂ : Reenter} (hre : ReSim c re₁ re₂) {K : Nat → Prop} {s t : VmState} (h : Agree c K s t) :
    W2 c (stepBy ok p re₁ src) (stepBy ok p re₂ src) (QStep c) s t := by
  unfold stepBy
  refine w2_get' ?_
  rw [hcongr h, iterSite_congr p src h]
  cases hok : ok s with
  | false => simp only [Bool.false_eq_true, if_false]; exact w2_throwE h.rel
  | true =>
    simp only [if_true]
    cases hi : iterSite p src s with
    | true =>
      simp only [if_true]
      exact step_sim_upv p _ _ src
        (fun hd _ => hnat _ _ (wrapIter_sim hre) hd (fun _ => ⟨wrapIter_post re₁, wrapIter_post re₂⟩)) h
        (hokU s hok) (hokR s hok)
    | false =>
      simp only [Bool.false_eq_true, if_false]
      exact step_sim_upv p _ _ src
        (fun hd hcall => hnat _ _ hre hd (fun hc => by
          have := calledAt_iter hcall hc
          rw [hi] at this; cases this)) h (hokU s hok) (hokR s hok)

theorem stepC_sim {c : Cfg} (hnat : NatSimHyp c) (p : Prog) {re₁ re₂ : Reenter} (hre : ReSim c re₁ re₂)
    (src : Nat) {K : Nat → Prop} {s t : VmState} (h : Agree c K s t) :
    W2 c (stepC p re₁ src) (stepC p re₂ src) (QStep c) s t :=
  stepBy_sim hnat (stepOkB p src) p src (stepOkB_congr p src)
    (fun s hs => ((stepOkB_iff p src s).1 hs).2.1) (fun s hs => ((stepOkB_iff p src s).1 hs).2.2) hre h

end Cao.SchedFull
