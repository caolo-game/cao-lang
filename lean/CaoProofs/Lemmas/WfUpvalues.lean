import CaoProofs.Lemmas.WfLemmas
import CaoProofs.Lemmas.WfFinal
/-!
# Upvalue operands are below the number of upvalues their closure registers (C10, clause `checkUp`)

`UpT bc L n a b`: the byte range `[a, b)` of `bc` is the code of one *nesting level* whose closure
registers `n` upvalues: a sequence of plain instructions (anything but `Closure` / `CopyLast` /
`RegisterUpvalue`), where every `ReadUpvalue i` / `SetUpvalue i` has `i < n`, and of closure blocks
`Goto _; ⟨body⟩; Closure h arity; (CopyLast; RegisterUpvalue j l)^m`, where `⟨body⟩` is the code of a level
with `m` upvalues, the label `(h, start of body)` is in the label log `L`, and the non-local captures
(`l = 0`) have `j < n`.  The predicate looks only at the emitted bytes and the label log, and not at jump
operands, so back-patching does not disturb it.

`Up m`: the Hoare triple that threads `UpT` (and the consistency `US` of the compiler's upvalue
tables) through the compiler; `closureCode_up` (from `closure_region_upvalues`) is the rule for `closureCode`,
`upLogic` the instance of `CodeLogic`.  A back-patched jump is never looked at before its patch: the block behind it is code
of the level from the state behind the jump on, and the patched jump is put in front as one more plain
instruction (`hole_block_patch_up`).
-/
namespace Cao.Compiler
open Cao Cao.Bytecode Cao.Compiler.Wf

/-! ## the level structure of a byte range -/

/-- the opcodes that only occur in the tail of a closure expression -/
def isClosPart (o : UInt8) : Bool := o == op.closure || o == op.copyLast || o == op.registerUpvalue

def isUpAcc (o : UInt8) : Bool := o == op.setUpvalue || o == op.readUpvalue

/-- `m` pairs `CopyLast; RegisterUpvalue j l` start at `at_`; the non-local ones (`l = 0`) have `j < n` -/
def Pairs (bc : Array UInt8) (n : Nat) : Nat → Nat → Prop
  | 0, _ => True
  | m+1, at_ => bc.getD at_ 0 = op.copyLast ∧ bc.getD (at_ + 1) 0 = op.registerUpvalue ∧
      (bc.getD (at_ + 3) 0 = 0 → (bc.getD (at_ + 2) 0).toNat < n) ∧ Pairs bc n m (at_ + 4)

inductive UpT (bc : Array UInt8) (L : List (UInt32 × Nat)) : Nat → Nat → Nat → Prop
  | nil (n a : Nat) : UpT bc L n a a
  | plain {n a k b : Nat} : Gen.spanOf (bc.getD a 0) = some k → isClosPart (bc.getD a 0) = false →
      (isUpAcc (bc.getD a 0) = true → rdU32 bc (a + 1) < n) → UpT bc L n (a + k) b → UpT bc L n a b
  | clos {n m a c b : Nat} : bc.getD a 0 = op.goto → UpT bc L m (a + 5) c → bc.getD c 0 = op.closure →
      (UInt32.ofNat (rdU32 bc (c + 1)), a + 5) ∈ L → m ≤ 255 → Pairs bc n m (c + 9) →
      UpT bc L n (c + 9 + 4 * m) b → UpT bc L n a b

theorem Pairs.mono {bc bc' : Array UInt8} {n n' : Nat} (hn : n ≤ n') : ∀ {m at_ : Nat}, Pairs bc n m at_ →
    (∀ i, at_ ≤ i → i < at_ + 4 * m → bc'.getD i 0 = bc.getD i 0) → Pairs bc' n' m at_
  | 0, _, _, _ => trivial
  | m+1, at_, h, he => by
    obtain ⟨h1, h2, h3, h4⟩ := h
    refine ⟨by rw [he _ (by omega) (by omega)]; exact h1, by rw [he _ (by omega) (by omega)]; exact h2, ?_,
      Pairs.mono hn h4 fun i hi1 hi2 => he i (by omega) (by omega)⟩
    rw [he _ (by omega) (by omega), he _ (by omega) (by omega)]
    intro hz; exact Nat.lt_of_lt_of_le (h3 hz) hn

theorem Pairs.tiled {bc : Array UInt8} {n : Nat} : ∀ {m at_ : Nat}, Pairs bc n m at_ →
    Tiled bc at_ (at_ + 4 * m)
  | 0, _, _ => .nil _
  | m+1, at_, h => by
    obtain ⟨h1, h2, _, h4⟩ := h
    have e : at_ + 4 * (m + 1) = at_ + 1 + 3 + 4 * m := by omega
    rw [e]
    refine .cons (n := 1) (by rw [h1]; decide) (.cons (n := 3) (by rw [h2]; decide) ?_)
    have := Pairs.tiled h4
    rwa [show at_ + 4 + 4 * m = at_ + 1 + 3 + 4 * m by omega] at this

theorem Pairs.starts {bc : Array UInt8} {n : Nat} : ∀ {m at_ pos : Nat}, Pairs bc n m at_ →
    Tiled bc at_ pos → pos < at_ + 4 * m →
    (bc.getD pos 0 = op.copyLast) ∨
    (bc.getD pos 0 = op.registerUpvalue ∧ (bc.getD (pos + 2) 0 = 0 → (bc.getD (pos + 1) 0).toNat < n))
  | 0, _, _, _, ht, hlt => by have := ht.le; omega
  | m+1, at_, pos, h, ht, hlt => by
    obtain ⟨h1, h2, h3, h4⟩ := h
    cases ht with
    | nil => exact .inl h1
    | @cons _ k _ hs ht' =>
      rw [h1] at hs
      have : k = 1 := by
        have : Gen.spanOf op.copyLast = some 1 := by decide
        rw [this] at hs; cases hs; rfl
      subst this
      cases ht' with
      | nil => exact .inr ⟨h2, h3⟩
      | @cons _ k' _ hs' ht'' =>
        rw [h2] at hs'
        have : k' = 3 := by
          have : Gen.spanOf op.registerUpvalue = some 3 := by decide
          rw [this] at hs'; cases hs'; rfl
        subst this
        exact Pairs.starts h4 (by rwa [show at_ + 1 + 3 = at_ + 4 by omega] at ht'') (by omega)

theorem isUpAcc_span {o : UInt8} (h : isUpAcc o = true) : Gen.spanOf o = some 5 := by
  simp only [isUpAcc, Bool.or_eq_true, beq_iff_eq] at h
  rcases h with h | h <;> subst h <;> decide

theorem UpT.le {bc : Array UInt8} {L : List (UInt32 × Nat)} {n a b : Nat} (h : UpT bc L n a b) : a ≤ b := by
  induction h with
  | nil => exact Nat.le_refl _
  | plain hs _ _ _ ih => have := span_pos hs; omega
  | clos _ _ _ _ _ _ _ ih1 ih2 => omega

theorem UpT.mono {bc bc' : Array UInt8} {L L' : List (UInt32 × Nat)} {n n' a b : Nat} (h : UpT bc L n a b)
    (he : ∀ i, a ≤ i → i < b → bc'.getD i 0 = bc.getD i 0) (hL : ∀ l ∈ L, l ∈ L') (hn : n ≤ n') :
    UpT bc' L' n' a b := by
  induction h generalizing n' with
  | nil => exact .nil _ _
  | @plain n a k b hs hc hu ht ih =>
    have hk := span_pos hs
    have hle := ht.le
    have e0 := he a (Nat.le_refl _) (by omega)
    refine .plain (by rw [e0]; exact hs) (by rw [e0]; exact hc) ?_
      (ih (fun i h1 h2 => he i (by omega) h2) hn)
    rw [e0]
    intro hacc
    have hk5 := isUpAcc_span hacc
    rw [hs] at hk5; cases hk5
    rw [rdU32_congr (bc := bc) fun i h1 h2 => he i (by omega) (by omega)]
    exact Nat.lt_of_lt_of_le (hu hacc) hn
  | @clos n m a c b hg hb hcl hl hm hp ht ihb iht =>
    have h1 := hb.le
    have h2 := ht.le
    refine .clos (by rw [he a (Nat.le_refl _) (by omega)]; exact hg)
      (ihb (fun i h1 h2 => he i (by omega) (by omega)) (Nat.le_refl _))
      (by rw [he c (by omega) (by omega)]; exact hcl) ?_ hm
      (hp.mono hn fun i h1 h2 => he i (by omega) (by omega))
      (iht (fun i h1 h2 => he i (by omega) h2) hn)
    rw [rdU32_congr (bc := bc) fun i h1 h2 => he i (by omega) (by omega)]
    exact hL _ hl

theorem UpT.append {bc : Array UInt8} {L : List (UInt32 × Nat)} {n a b c : Nat} (h1 : UpT bc L n a b)
    (h2 : UpT bc L n b c) : UpT bc L n a c := by
  induction h1 with
  | nil => exact h2
  | plain hs hc hu _ ih => exact .plain hs hc hu (ih h2)
  | clos hg hb hcl hl hm hp _ _ ih => exact .clos hg hb hcl hl hm hp (ih h2)

theorem UpT.tiled {bc : Array UInt8} {L : List (UInt32 × Nat)} {n a b : Nat} (h : UpT bc L n a b) :
    Tiled bc a b := by
  induction h with
  | nil => exact .nil _
  | plain hs _ _ _ ih => exact .cons hs ih
  | @clos n m a c b hg _ hcl _ _ hp _ ihb iht =>
    refine .cons (n := 5) (by rw [hg]; decide) (ihb.trans ?_)
    refine .cons (n := 9) (by rw [hcl]; decide) ?_
    exact hp.tiled.trans iht

/-- every `Closure` instruction of a level, or of a level nested in it, has the label of its own body in the
log, at some `a' + 5` in `[a + 5, c]` (5: the `Goto` of `UpT.clos`, of which the statement says nothing) -/
theorem UpT.closure_label {bc : Array UInt8} {L : List (UInt32 × Nat)} {n a b : Nat} (h : UpT bc L n a b) :
    ∀ c, Tiled bc a c → c < b → bc.getD c 0 = op.closure →
      ∃ a', a ≤ a' ∧ a' + 5 ≤ c ∧ (UInt32.ofNat (rdU32 bc (c + 1)), a' + 5) ∈ L := by
  induction h with
  | nil => intro c ht hlt; have := ht.le; omega
  | @plain n a k b hs hc hu ht ih =>
    intro c htc hlt hcl
    cases htc with
    | nil => rw [hcl] at hc; exact absurd hc (by decide)
    | @cons _ k' _ hs' ht' =>
      rw [hs] at hs'; cases hs'
      obtain ⟨a', h1, h2, h3⟩ := ih c ht' hlt hcl
      exact ⟨a', by omega, h2, h3⟩
  | @clos n m a c0 b hg hb hcl0 hl hm hp ht ihb iht =>
    intro c htc hlt hcl
    have hble := hb.le
    rcases Tiled.locate (by rw [hg]; decide) hb.tiled (by rw [hcl0]; decide) hp.tiled htc with
      rfl | ⟨h, h'⟩ | rfl | ⟨h, h'⟩ | h
    · rw [hg] at hcl; exact absurd hcl (by decide)
    · obtain ⟨a', h1, h2, h3⟩ := ihb c h h' hcl
      exact ⟨a', by omega, h2, h3⟩
    · exact ⟨a, Nat.le_refl _, hble, hl⟩
    · rcases hp.starts h h' with h | ⟨h, _⟩ <;> rw [hcl] at h <;> exact absurd h (by decide)
    · obtain ⟨a', h1, h2, h3⟩ := iht c h hlt hcl
      exact ⟨a', by omega, h2, h3⟩

/-! ## actions that only touch tables other than the upvalue lists -/

/-- what the upvalue argument looks at -/
def ucore (s : CState) := (s.bytecode, s.labels, s.upvalues, s.functionId)

structure Keep {α : Type} (m : CM α) : Prop where
  run : ∀ s a s', m s = .ok (a, s') → ucore s' = ucore s

theorem keep_sat {α : Type} {m : CM α} :
    Keep m ↔ Sat (fun _ => True) (fun s s' => ucore s' = ucore s) (fun _ => True) m :=
  ⟨fun h s a s' hr _ => ⟨h.run s a s' hr, trivial⟩, fun h => ⟨fun s a s' hr => (h s a s' hr trivial).1⟩⟩

theorem keep_stable : Sat.Stable (fun _ => True) (fun s s' => ucore s' = ucore s) :=
  ⟨fun _ => rfl, fun _ h1 h2 => h2.trans h1, fun _ _ => trivial⟩

theorem keep_pure {α : Type} {a : α} : Keep (pure a : CM α) := keep_sat.2 (.pure keep_stable trivial)

theorem keep_get : Keep (get : CM CState) := ⟨fun _ _ _ hr => by cases hr; rfl⟩

theorem keep_modify {f : CState → CState} (h : ∀ s, ucore (f s) = ucore s) : Keep (modify f : CM Unit) :=
  keep_sat.2 (.modify fun s _ => h s)

theorem keep_bind {α β : Type} {m : CM α} {f : α → CM β} (hm : Keep m) (hf : ∀ a, Keep (f a)) :
    Keep (m >>= f) :=
  keep_sat.2 ((keep_sat.1 hm).bind keep_stable fun a _ => keep_sat.1 (hf a))

theorem keep_throw {α : Type} {e : CErr} : Keep (throw e : CM α) := keep_sat.2 .throw

theorem keep_fail {α : Type} {e : CErrKind} : Keep (fail e : CM α) := keep_sat.2 .fail

theorem keep_throw_bind {α β : Type} {e : CErr} {f : α → CM β} : Keep ((throw e : CM α) >>= f) :=
  keep_sat.2 .throw_bind

theorem keep_fail_bind {α β : Type} {e : CErrKind} {f : α → CM β} : Keep ((fail e : CM α) >>= f) :=
  keep_sat.2 .fail_bind

theorem pushSub_keep (i : Nat) : Keep (pushSub i) := keep_modify fun _ => rfl
theorem popSub_keep : Keep popSub := keep_modify fun _ => rfl
theorem scopeBegin_keep : Keep scopeBegin := keep_modify fun _ => rfl
theorem curTrace_keep : Keep curTrace := keep_bind keep_get fun _ => keep_pure

theorem validateVarName_keep (n : String) : Keep (validateVarName n) := by
  unfold validateVarName
  split
  · exact keep_fail
  · exact keep_pure

theorem addLocalUnchecked_keep (n : String) : Keep (addLocalUnchecked n) := by
  unfold addLocalUnchecked
  refine keep_bind keep_get fun s => ?_
  dsimp only
  split
  · exact keep_fail_bind
  · exact keep_bind (keep_modify fun _ => rfl) fun _ => keep_pure

theorem addLocal_keep (n : String) : Keep (addLocal n) :=
  keep_bind (validateVarName_keep n) fun _ => addLocalUnchecked_keep n

theorem addLocals_keep : ∀ ps, Keep (addLocals ps)
  | [] => keep_pure
  | p :: ps => keep_bind (addLocal_keep p) fun _ => addLocals_keep ps

theorem globalId_keep (n : String) : Keep (globalId n) := by
  constructor
  intro s id s' hr
  rcases globalId_cases n s with ⟨_, he⟩ | ⟨_, id', s1, s2, h2, h1, hn⟩
  · rw [he] at hr; cases hr
  · rw [h2] at hr
    obtain ⟨_, rfl⟩ := Prod.mk.inj (Except.ok.inj hr)
    rcases h1 with ⟨_, _, _, rfl⟩ | ⟨_, _, rfl⟩ <;> rcases hn with ⟨_, rfl⟩ | ⟨_, rfl⟩ <;> rfl

theorem addFunctions_keep : ∀ fs, Keep (addFunctions fs)
  | [] => keep_pure
  | f :: fs => by
    refine keep_bind (keep_bind keep_get fun s => ?_) fun _ => addFunctions_keep fs
    split
    · exact keep_fail_bind
    · exact keep_modify fun _ => rfl

/-! ## the upvalue tables -/

/-- number of upvalues registered so far for the closure being compiled -/
def nUp (s : CState) : Nat := (s.upvalues.getD s.functionId []).length

/-- consistency of the upvalue tables: one list per context, the empty one for the top level, and every
non-local capture of level `lvl + 1` refers to an upvalue that level `lvl` already has -/
structure US (s : CState) : Prop where
  len : s.upvalues.length = s.functionId + 1
  base : s.upvalues.getD 0 [] = []
  le : ∀ lvl, (s.upvalues.getD lvl []).length ≤ 255
  nonloc : ∀ lvl j, (false, j) ∈ s.upvalues.getD (lvl + 1) [] → j.toNat < (s.upvalues.getD lvl []).length

theorem US.of_core {s s' : CState} (h : US s) (hc : ucore s' = ucore s) : US s' := by
  simp only [ucore, Prod.mk.injEq] at hc
  obtain ⟨_, _, h3, h4⟩ := hc
  exact ⟨by rw [h3, h4]; exact h.len, by rw [h3]; exact h.base, by rw [h3]; exact h.le, by rw [h3]; exact h.nonloc⟩

structure UTab (s s' : CState) : Prop where
  fid : s'.functionId = s.functionId
  grow : ∀ lvl, ∃ ext, s'.upvalues.getD lvl [] = s.upvalues.getD lvl [] ++ ext
  labels : ∃ l, s'.labels = s.labels ++ l

theorem UTab.of_eq {s s' : CState} (hl : s'.labels = s.labels) (hu : s'.upvalues = s.upvalues)
    (hf : s'.functionId = s.functionId) : UTab s s' :=
  ⟨hf, fun lvl => ⟨[], by rw [hu]; simp⟩, ⟨[], by rw [hl]; simp⟩⟩

theorem UTab.trans {s s1 s2 : CState} (h1 : UTab s s1) (h2 : UTab s1 s2) : UTab s s2 :=
  ⟨by rw [h2.fid, h1.fid], fun lvl => grows_trans (h1.grow lvl) (h2.grow lvl), grows_trans h1.labels h2.labels⟩

theorem UTab.nUp_le {s s' : CState} (h : UTab s s') : nUp s ≤ nUp s' := by
  obtain ⟨ext, he⟩ := h.grow s.functionId
  unfold nUp
  rw [h.fid, he, List.length_append]; omega

theorem UTab.labels_sub {s s' : CState} (h : UTab s s') : ∀ l ∈ s.labels, l ∈ s'.labels := grows_sub h.labels

/-- what a block does: same context, the upvalue lists and the label log only grow, the old bytecode
is untouched, and the new bytes are code of the current level -/
structure UR (s s' : CState) : Prop where
  fid : s'.functionId = s.functionId
  grow : ∀ lvl, ∃ ext, s'.upvalues.getD lvl [] = s.upvalues.getD lvl [] ++ ext
  labels : ∃ l, s'.labels = s.labels ++ l
  size_le : s.bytecode.size ≤ s'.bytecode.size
  pref : ∀ i, i < s.bytecode.size → s'.bytecode.getD i 0 = s.bytecode.getD i 0
  seg : UpT s'.bytecode s'.labels (nUp s') s.bytecode.size s'.bytecode.size

theorem UR.tab {s s' : CState} (h : UR s s') : UTab s s' := ⟨h.fid, h.grow, h.labels⟩

theorem UR.of_core {s s' : CState} (hc : ucore s' = ucore s) : UR s s' := by
  simp only [ucore, Prod.mk.injEq] at hc
  obtain ⟨h1, h2, h3, h4⟩ := hc
  exact ⟨h4, fun lvl => ⟨[], by rw [h3]; simp⟩, ⟨[], by rw [h2]; simp⟩, by rw [h1]; exact Nat.le_refl _,
    fun i _ => by rw [h1], by rw [h1]; exact .nil _ _⟩

theorem UR.refl (s : CState) : UR s s := UR.of_core rfl

theorem UR.tables {s s' : CState} (hb : s'.bytecode = s.bytecode) (hf : s'.functionId = s.functionId)
    (hg : ∀ lvl, ∃ ext, s'.upvalues.getD lvl [] = s.upvalues.getD lvl [] ++ ext)
    (hl : ∃ l, s'.labels = s.labels ++ l) : UR s s' :=
  ⟨hf, hg, hl, by rw [hb]; exact Nat.le_refl _, fun i _ => by rw [hb], by rw [hb]; exact .nil _ _⟩

theorem UR.trans {s s1 s2 : CState} (h1 : UR s s1) (h2 : UR s1 s2) : UR s s2 := by
  have t := h1.tab.trans h2.tab
  refine ⟨t.fid, t.grow, t.labels, Nat.le_trans h1.size_le h2.size_le, fun i hi => ?_, ?_⟩
  · rw [h2.pref i (Nat.lt_of_lt_of_le hi h1.size_le), h1.pref i hi]
  · exact (h1.seg.mono (fun i _ hi => h2.pref i hi) h2.tab.labels_sub h2.tab.nUp_le).append h2.seg

structure Up {α : Type} (m : CM α) : Prop where
  run : ∀ s a s', m s = .ok (a, s') → US s → US s' ∧ UR s s'

theorem up_sat {α : Type} {m : CM α} :
    Up m ↔ Sat US (fun s s' => US s' ∧ UR s s') (fun _ => True) m :=
  ⟨fun h s a s' hr hu => ⟨h.run s a s' hr hu, trivial⟩, fun h => ⟨fun s a s' hr hu => (h s a s' hr hu).1⟩⟩

theorem up_stable : Sat.Stable US (fun s s' => US s' ∧ UR s s') :=
  ⟨fun h => ⟨h, UR.refl _⟩, fun _ h1 h2 => ⟨h2.1, h1.2.trans h2.2⟩, fun _ h => h.1⟩

theorem up_of_keep {α : Type} {m : CM α} (h : Keep m) : Up m :=
  ⟨fun s a s' hr hu => ⟨hu.of_core (h.run s a s' hr), UR.of_core (h.run s a s' hr)⟩⟩

theorem up_pure {α : Type} {a : α} : Up (pure a : CM α) := up_of_keep keep_pure
theorem up_get : Up (get : CM CState) := up_of_keep keep_get
theorem up_throw {α : Type} {e : CErr} : Up (throw e : CM α) := up_of_keep keep_throw

theorem up_fail {α : Type} {e : CErrKind} : Up (fail e : CM α) := up_of_keep keep_fail
theorem up_throw_bind {α β : Type} {e : CErr} {f : α → CM β} : Up ((throw e : CM α) >>= f) :=
  up_of_keep keep_throw_bind
theorem up_fail_bind {α β : Type} {e : CErrKind} {f : α → CM β} : Up ((fail e : CM α) >>= f) :=
  up_of_keep keep_fail_bind

theorem up_bind {α β : Type} {m : CM α} {f : α → CM β} (hm : Up m) (hf : ∀ a, Up (f a)) : Up (m >>= f) :=
  up_sat.2 ((up_sat.1 hm).bind up_stable fun a _ => up_sat.1 (hf a))

theorem up_unit_bind {β : Type} {m : CM Unit} {f : Unit → CM Unit} {g : Unit → CM β}
    (hu : Up (m >>= f)) (hg : Up (g ())) : Up (m >>= fun a => f a >>= g) :=
  bind_assoc m f g ▸ up_bind hu fun _ => hg

theorem up_modify {f : CState → CState} (hb : ∀ s, (f s).bytecode = s.bytecode)
    (hu : ∀ s, (f s).upvalues = s.upvalues) (hf : ∀ s, (f s).functionId = s.functionId)
    (hl : ∀ s, ∃ l, (f s).labels = s.labels ++ l) : Up (modify f : CM Unit) := by
  constructor
  intro s a s' hr hus
  simp only [modify_run, Except.ok.injEq, Prod.mk.injEq] at hr
  obtain ⟨_, rfl⟩ := hr
  refine ⟨⟨by rw [hu, hf]; exact hus.len, by rw [hu]; exact hus.base, by rw [hu]; exact hus.le,
    by rw [hu]; exact hus.nonloc⟩, UR.tables (hb s) (hf s) (fun lvl => ⟨[], by rw [hu]; simp⟩) (hl s)⟩

theorem withSub_up {i : Nat} {m : CM Unit} (hm : Up m) : Up (withSub i m) :=
  up_bind (up_of_keep (pushSub_keep i)) fun _ => up_bind hm fun _ => up_of_keep popSub_keep

theorem insertLabel_up (h : UInt32) (pos : Nat) : Up (insertLabel h pos) := by
  unfold insertLabel
  split
  · exact up_throw_bind
  · exact up_modify (fun _ => rfl) (fun _ => rfl) (fun _ => rfl) (fun _ => ⟨_, rfl⟩)

theorem cardLabel_up : Up cardLabel := by
  unfold cardLabel
  exact up_bind up_get fun _ => insertLabel_up _ _

/-! ## instruction units -/

theorem US.of_eq {s s' : CState} (h : US s) (hu : s'.upvalues = s.upvalues) (hf : s'.functionId = s.functionId) :
    US s' :=
  ⟨by rw [hu, hf]; exact h.len, by rw [hu]; exact h.base, by rw [hu]; exact h.le, by rw [hu]; exact h.nonloc⟩

theorem instr_step {s s' : CState} {o : UInt8} {bs : List UInt8} (hu : US s)
    (hb : s'.bytecode = s.bytecode ++ (o :: bs).toArray) (hl : ∃ l, s'.labels = s.labels ++ l)
    (hups : s'.upvalues = s.upvalues) (hf : s'.functionId = s.functionId)
    (hsp : Gen.spanOf o = some (bs.length + 1)) (hc : isClosPart o = false)
    (ha : isUpAcc o = true → u32L bs 0 < nUp s) : US s' ∧ UR s s' := by
  have hsz : s'.bytecode.size = s.bytecode.size + (bs.length + 1) := by rw [hb]; simp
  have ho : s'.bytecode.getD s.bytecode.size 0 = o := by rw [hb]; exact getD_append_op _ _ _
  have hn : nUp s' = nUp s := by unfold nUp; rw [hups, hf]
  refine ⟨hu.of_eq hups hf, hf, fun lvl => ⟨[], by rw [hups]; simp⟩, hl, by omega,
    fun i hi => by rw [hb]; exact getD_append_left hi, ?_⟩
  rw [hsz]
  refine .plain (by rw [ho]; exact hsp) (by rw [ho]; exact hc) ?_ (.nil _ _)
  rw [ho, hn]
  intro hacc
  have h5 := isUpAcc_span hacc
  rw [hsp] at h5
  have hlen : bs.length = 4 := by simpa using h5
  have := rdU32_opBytes s'.bytecode s.bytecode.size bs.length 0 (by omega)
  rw [Nat.add_zero] at this
  rw [this, hb, opBytes_append]
  exact ha hacc

theorem instr_up {o : UInt8} {bs : List UInt8} (hsp : Gen.spanOf o = some (bs.length + 1))
    (hc : isClosPart o = false) (ha : isUpAcc o = false) : Up (pushInstr o >>= fun _ => emitBytes bs) := by
  constructor
  intro s a s' hr hu
  rw [pushInstr_emit_run] at hr
  simp only [Except.ok.injEq, Prod.mk.injEq] at hr
  obtain ⟨_, rfl⟩ := hr
  exact instr_step hu rfl ⟨[], by simp [afterInstr]⟩ rfl rfl hsp hc (by rw [ha]; intro h; cases h)

theorem instr0_up {o : UInt8} (hsp : Gen.spanOf o = some 1) (hc : isClosPart o = false)
    (ha : isUpAcc o = false) : Up (pushInstr o) :=
  instr_up (bs := []) hsp hc ha

theorem instrU32_up {o : UInt8} {x : Nat} (hsp : Gen.spanOf o = some 5) (hc : isClosPart o = false)
    (ha : isUpAcc o = false) : Up (pushInstr o >>= fun _ => emitU32 x) :=
  instr_up (bs := le32 (UInt32.ofNat x)) (by rw [le32_length]; exact hsp) hc ha

theorem upAcc_run {o : UInt8} {x : Nat} {s s' : CState} {u : Unit} (ho : isUpAcc o = true)
    (hr : (pushInstr o >>= fun _ => emitU32 x) s = .ok (u, s')) (hu : US s) (hx : x < nUp s) :
    US s' ∧ UR s s' := by
  change (pushInstr o >>= fun _ => emitBytes (le32 (UInt32.ofNat x))) s = _ at hr
  rw [pushInstr_emit_run] at hr
  simp only [Except.ok.injEq, Prod.mk.injEq] at hr
  obtain ⟨_, rfl⟩ := hr
  refine instr_step hu rfl ⟨[], by simp [afterInstr]⟩ rfl rfl (by rw [le32_length]; exact isUpAcc_span ho) ?_ ?_
  · simp only [isUpAcc, Bool.or_eq_true, beq_iff_eq] at ho
    rcases ho with ho | ho <;> subst ho <;> decide
  · intro _
    rw [u32L_ofNat]
    exact Nat.lt_of_le_of_lt (Nat.mod_le _ _) hx

theorem readLocalVar_up (i : Nat) : Up (readLocalVar i) := instrU32_up (by decide) (by decide) (by decide)
theorem writeLocalVar_up (i : Nat) : Up (writeLocalVar i) := instrU32_up (by decide) (by decide) (by decide)

theorem raw_up {bytes : List UInt8} (h : ∀ b ∈ bytes, b = op.pop ∨ b = op.closeUpvalue) :
    Up (emitBytes bytes) :=
  up_sat.2 <| .emitBytes up_stable fun b hb s u s' hr hu => by
    rw [emitBytes_run] at hr
    obtain ⟨_, rfl⟩ := Prod.mk.inj (Except.ok.inj hr)
    have hb1 : Gen.spanOf b = some 1 ∧ isClosPart b = false ∧ isUpAcc b = false := by
      rcases h b hb with h | h <;> subst h <;> decide
    exact ⟨instr_step (o := b) (bs := []) hu rfl ⟨[], by simp⟩ rfl rfl hb1.1 hb1.2.1
      (by rw [hb1.2.2]; intro h; cases h), trivial⟩

theorem scopeEnd_up : Up scopeEnd := by
  unfold scopeEnd
  refine up_bind (up_of_keep (keep_modify fun _ => rfl)) fun _ => up_bind up_get fun st => ?_
  dsimp only
  exact up_bind (up_of_keep (keep_modify fun _ => rfl)) fun _ => raw_up (scopeEnd_bytes _)

theorem strInstr_up {o : UInt8} (hsp : Gen.spanOf o = some 5) (hc : isClosPart o = false)
    (ha : isUpAcc o = false) (str : String) : Up (pushInstr o >>= fun _ => pushStr str) := by
  constructor
  intro s a s' hr hu
  obtain rfl := strInstr_ok hr
  exact instr_step (o := o) (bs := le32 (UInt32.ofNat s.data.size)) hu (by simp [afterInstr])
    ⟨[], by simp [afterInstr]⟩ rfl rfl (by rw [le32_length]; exact hsp) hc (by rw [ha]; intro h; cases h)

theorem fnpInstr_up (name : String) : Up (pushInstr op.functionPointer >>= fun _ => encodeJump name) := by
  constructor
  intro s a s' hr hu
  obtain ⟨h, arity, _, rfl⟩ := fnpInstr_ok hr
  exact instr_step (o := op.functionPointer) (bs := le32 h ++ le32 arity) hu (by simp [afterInstr])
    ⟨[], by simp [afterInstr]⟩ rfl rfl (by rw [List.length_append, le32_length, le32_length]; decide)
    (by decide) (by intro h; exact absurd h (by decide))

theorem setGlobalTail_up (name : String) : Up (setGlobalTail name) := by
  constructor
  intro s a s' hr hu
  obtain ⟨id, s1, h1, rfl⟩ := setGlobalTail_ok hr
  have hc := (globalId_keep name).run _ _ _ h1
  simp only [ucore, Prod.mk.injEq] at hc
  obtain ⟨c1, c2, c3, c4⟩ := hc
  exact instr_step (o := op.setGlobalVar) (bs := le32 (UInt32.ofNat id)) hu (by simp [afterInstr, c1])
    ⟨[], by simp [afterInstr, c2]⟩ (by simp [afterInstr, c3]) (by simp [afterInstr, c4])
    (by rw [le32_length]; decide) (by decide) (by intro h; exact absurd h (by decide))

theorem readProps_up : ∀ ps, Up (readProps ps)
  | [] => up_pure
  | p :: ps => by
    unfold readProps
    split
    · exact up_unit_bind (strInstr_up (by decide) (by decide) (by decide) p) <|
        up_bind (instr0_up (by decide) (by decide) (by decide)) fun _ => readProps_up ps
    · exact readProps_up ps

/-! ## variable resolution: the indices handed out are below the current number of upvalues -/

structure UG (s s' : CState) : Prop where
  bc : s'.bytecode = s.bytecode
  labels : s'.labels = s.labels
  fid : s'.functionId = s.functionId
  grow : ∀ lvl, ∃ ext, s'.upvalues.getD lvl [] = s.upvalues.getD lvl [] ++ ext

theorem UG.ur {s s' : CState} (h : UG s s') : UR s s' :=
  UR.tables h.bc h.fid h.grow ⟨[], by rw [h.labels]; simp⟩

theorem resolveUpvalue_spec (name : String) (fid : Nat) {s s' : CState} {v : Variable}
    (h : resolveUpvalue name fid s = .ok (v, s')) (hu : US s) (hf : fid ≤ s.functionId) :
    US s' ∧ UG s s' ∧ ∀ u, v = .upvalue u → u < (s'.upvalues.getD fid []).length := by
  obtain ⟨c, hv, hl⟩ := resolveUpvalue_ok name fid h
  have hl := hl (by rw [hu.len]; omega) hu.le
  obtain ⟨L, U, rfl⟩ := c.rest
  refine ⟨⟨c.nUpvalues.trans hu.len, hl.base.trans hu.base, c.upvalues_le hu.le, fun lvl j hj => ?_⟩,
    ⟨rfl, rfl, rfl, fun lvl => (c.upvalues lvl).imp fun _ h => h.1⟩, fun u hvu => ?_⟩
  · rcases hl.link lvl j hj with hj | hj
    · obtain ⟨ext, e, _⟩ := c.upvalues lvl
      exact Nat.lt_of_lt_of_le (hu.nonloc lvl j hj) (by rw [e, List.length_append]; omega)
    · exact hj
  · rcases hv with rfl | ⟨u', rfl, hlt, _⟩
    · cases hvu
    · cases hvu; exact hlt (by rw [hu.len]; omega)

theorem resolveVar_spec {name : String} {s s' : CState} {v : Variable}
    (h : resolveVar name s = .ok (v, s')) (hu : US s) :
    US s' ∧ UG s s' ∧ ∀ u, v = .upvalue u → u < nUp s' := by
  rw [resolveVar_run] at h
  split at h
  · cases h
  · split at h
    · cases h
      exact ⟨hu, ⟨rfl, rfl, rfl, fun _ => ⟨[], (List.append_nil _).symm⟩⟩, fun u hv => nomatch hv⟩
    · obtain ⟨a1, a2, a3⟩ := resolveUpvalue_spec name _ h hu (Nat.le_refl _)
      exact ⟨a1, a2, fun u hv => by unfold nUp; rw [a2.fid]; exact a3 u hv⟩

def UpAt {α : Type} (s : CState) (m : CM α) : Prop := ∀ a s', m s = .ok (a, s') → US s → US s' ∧ UR s s'

theorem Up.at {α : Type} {m : CM α} (h : Up m) (s : CState) : UpAt s m := fun a s' hr hu => h.run s a s' hr hu

theorem upAt_bind {α β : Type} {s : CState} {m : CM α} {f : α → CM β} (hm : UpAt s m) (hf : ∀ a, Up (f a)) :
    UpAt s (m >>= f) := by
  intro b s'' hr hu
  obtain ⟨a, s', h1, h2⟩ := bind_ok.1 hr
  obtain ⟨u1, r1⟩ := hm a s' h1 hu
  obtain ⟨u2, r2⟩ := (hf a).run s' b s'' h2 u1
  exact ⟨u2, r1.trans r2⟩

theorem readUpvalue_at {i : Nat} {s : CState} (h : i < nUp s) : UpAt s (readUpvalue i) :=
  fun _ _ hr hu => upAcc_run (by decide) hr hu h
theorem writeUpvalue_at {i : Nat} {s : CState} (h : i < nUp s) : UpAt s (writeUpvalue i) :=
  fun _ _ hr hu => upAcc_run (by decide) hr hu h

theorem resolveVar_bind_up {β : Type} {name : String} {f : Variable → CM β}
    (hf : ∀ v s1, (∀ u, v = .upvalue u → u < nUp s1) → UpAt s1 (f v)) : Up (resolveVar name >>= f) := by
  constructor
  intro s b s'' hr hu
  obtain ⟨v, s1, h1, h2⟩ := bind_ok.1 hr
  obtain ⟨u1, g1, r1⟩ := resolveVar_spec h1 hu
  obtain ⟨u2, r2⟩ := hf v s1 r1 b s'' h2 u1
  exact ⟨u2, g1.ur.trans r2⟩

theorem readVarCard_up (x : String) : Up (readVarCard x) := by
  unfold readVarCard
  split
  all_goals
    refine resolveVar_bind_up fun v s1 hv => ?_
    dsimp only
    split
    · exact (up_bind (readLocalVar_up _) fun _ => readProps_up _).at s1
    · exact upAt_bind (readUpvalue_at (hv _ rfl)) fun _ => readProps_up _
    · exact (up_bind (up_of_keep (globalId_keep _)) fun _ =>
        up_unit_bind (instrU32_up (by decide) (by decide) (by decide)) (readProps_up _)).at s1

theorem setVarTarget_up (n : String) : Up (setVarTarget n) := by
  rw [setVarTarget_eq]
  split
  · refine resolveVar_bind_up fun v s1 hv => ?_
    split
    · exact (writeLocalVar_up _).at s1
    · exact (up_bind (up_of_keep (addLocal_keep n)) fun _ => writeLocalVar_up _).at s1
    · exact writeUpvalue_at (hv _ rfl)
  · exact up_bind (readVarCard_up _) fun _ =>
      up_unit_bind (strInstr_up (by decide) (by decide) (by decide) _) (instr0_up (by decide) (by decide) (by decide))

/-! ## back-patching -/

theorem patchI32_spec {at_ v : Nat} {s s' : CState} {u : Unit} (h : patchI32 at_ v s = .ok (u, s'))
    (hle : at_ + 4 ≤ s.bytecode.size) :
    s'.bytecode.size = s.bytecode.size ∧
    (∀ i, ¬ (at_ ≤ i ∧ i < at_ + 4) → s'.bytecode.getD i 0 = s.bytecode.getD i 0) ∧
    rdU32 s'.bytecode at_ = v % 2 ^ 32 ∧
    s'.labels = s.labels ∧ s'.upvalues = s.upvalues ∧ s'.functionId = s.functionId := by
  obtain ⟨bc', rfl, h1, hg⟩ := patchI32_ok h
  refine ⟨h1, fun i hi => (hg hle i).trans (if_neg hi), ?_, rfl, rfl, rfl⟩
  have g : ∀ j, j < 4 → bc'.getD (at_ + j) 0 = (le32 (UInt32.ofNat v)).getD j 0 := by
    intro j hj
    rw [hg hle, if_pos (by omega), Nat.add_sub_cancel_left]
  have e := u32L_ofNat v
  simp only [u32L, Nat.zero_add] at e
  rw [← e]
  show rdU32 bc' at_ = _
  rw [rdU32_eq, ← g 0 (by omega), ← g 1 (by omega), ← g 2 (by omega), ← g 3 (by omega)]
  rfl

theorem isJump_plain {o : UInt8} (h : isJump o = true) : isClosPart o = false ∧ isUpAcc o = false := by
  simp only [isJump, Bool.or_eq_true, beq_iff_eq] at h
  rcases h with (h | h) | h <;> subst h <;> decide

theorem UpT.jump_cons {bc : Array UInt8} {L : List (UInt32 × Nat)} {n a b : Nat} (hj : isJump (bc.getD a 0) = true)
    (h : UpT bc L n (a + 5) b) : UpT bc L n a b :=
  .plain (isJump_span hj) (isJump_plain hj).1 (by rw [(isJump_plain hj).2]; intro h; cases h) h

theorem hole_block_patch_up {s s3 s4 : CState} {o : UInt8} {x v : Nat} {u : Unit} (ho : isJump o = true)
    (u3 : US s3) (r3 : UR (afterJump s o x) s3)
    (hp : patchI32 (s.bytecode.size + 1) v s3 = .ok (u, s4)) : US s4 ∧ UR s s4 := by
  have z1 := afterJump_size s o x
  have z3 := r3.size_le
  obtain ⟨p1, p2, _, p3, p4, p5⟩ := patchI32_spec hp (by omega)
  have hn : nUp s4 = nUp s3 := by unfold nUp; rw [p4, p5]
  refine ⟨u3.of_eq p4 p5, by rw [p5]; exact r3.fid, by rw [p4]; exact r3.grow, by rw [p3]; exact r3.labels,
    by omega, fun i hi => ?_, ?_⟩
  · rw [p2 i (by omega), r3.pref i (by omega), afterJump_pref _ _ _ _ hi]
  · rw [p1, p3, hn]
    have h0 : s4.bytecode.getD s.bytecode.size 0 = o := by
      rw [p2 _ (by omega), r3.pref _ (by omega), afterJump_op]
    have g := r3.seg
    rw [z1] at g
    exact .jump_cons (by rw [h0]; exact ho) (g.mono (fun i h1 h2 => p2 i (by omega)) (fun _ h => h) (Nat.le_refl _))

theorem isStr_plain {o : UInt8} (h : isStr o = true) :
    Gen.spanOf o = some 5 ∧ isClosPart o = false ∧ isUpAcc o = false := by
  simp only [isStr, Bool.or_eq_true, beq_iff_eq] at h
  rcases h with h | h <;> subst h <;> decide

theorem isEach_plain {o : UInt8} (h : isEach o = true) :
    Gen.spanOf o = some 21 ∧ isClosPart o = false ∧ isUpAcc o = false := by
  simp only [isEach, Bool.or_eq_true, beq_iff_eq] at h
  rcases h with h | h <;> subst h <;> decide

/-- the bytes and tables at the end of `ifElseCode`, from the states its runs pass through -/
theorem ifElse_layout {s1' s3 s5 s5' s6 s' : CState} {u : Unit}
    (h5 : patchI32 (s1'.bytecode.size + 1) (afterJump s3 op.goto 0xEEF).bytecode.size (afterJump s3 op.goto 0xEEF) =
      .ok ((), s5))
    (h5' : popSub s5 = .ok ((), s5')) (h7 : patchI32 (s3.bytecode.size + 1) s6.bytecode.size s6 = .ok (u, s'))
    (z3 : s1'.bytecode.size + 5 ≤ s3.bytecode.size) :
    (s5'.bytecode.size = s3.bytecode.size + 5 ∧ s5'.labels = s3.labels ∧ s5'.upvalues = s3.upvalues ∧
    s5'.functionId = s3.functionId) ∧
    (s5'.bytecode.size ≤ s6.bytecode.size →
    (∀ i, i < s5'.bytecode.size → s6.bytecode.getD i 0 = s5'.bytecode.getD i 0) →
    s'.bytecode.size = s6.bytecode.size ∧ s'.labels = s6.labels ∧ s'.upvalues = s6.upvalues ∧
    s'.functionId = s6.functionId ∧
    (∀ i, i < s3.bytecode.size → ¬ (s1'.bytecode.size + 1 ≤ i ∧ i < s1'.bytecode.size + 1 + 4) →
      s'.bytecode.getD i 0 = s3.bytecode.getD i 0) ∧
    rdU32 s'.bytecode (s1'.bytecode.size + 1) = (s3.bytecode.size + 5) % 2 ^ 32 ∧
    s'.bytecode.getD s3.bytecode.size 0 = op.goto ∧
    rdU32 s'.bytecode (s3.bytecode.size + 1) = s6.bytecode.size % 2 ^ 32 ∧
    (∀ i, s3.bytecode.size + 5 ≤ i → s'.bytecode.getD i 0 = s6.bytecode.getD i 0)) := by
  have z4 := afterJump_size s3 op.goto 0xEEF
  obtain ⟨p1, p2, prd1, p3, p4, p5⟩ := patchI32_spec h5 (by omega)
  obtain ⟨_, rfl⟩ := Prod.mk.inj (Except.ok.inj h5')
  refine ⟨⟨by show s5.bytecode.size = _; omega, p3, p4, p5⟩, fun z6 pre6 => ?_⟩
  change s5.bytecode.size ≤ _ at z6
  change ∀ i, i < s5.bytecode.size → s6.bytecode.getD i 0 = s5.bytecode.getD i 0 at pre6
  obtain ⟨q1, q2, prd2, q3, q4, q5⟩ := patchI32_spec h7 (by omega)
  have mid : ∀ i, i < s3.bytecode.size + 5 → ¬ (s3.bytecode.size + 1 ≤ i ∧ i < s3.bytecode.size + 1 + 4) →
      s'.bytecode.getD i 0 = s5.bytecode.getD i 0 := fun i hi hn => by rw [q2 i hn, pre6 i (by omega)]
  refine ⟨q1, q3, q4, q5, fun i hi hn => ?_, ?_, ?_, prd2, fun i hi => q2 i (by omega)⟩
  · rw [mid i (by omega) (by omega), p2 i hn, afterJump_pref _ _ _ _ hi]
  · rw [rdU32_congr (bc := s5.bytecode) fun i h1 h2 => mid i (by omega) (by omega), prd1, z4]
  · rw [mid _ (by omega) (by omega), p2 _ (by omega), afterJump_op]

theorem encodeIfThen_up {skip : UInt8} (hs : isJump skip = true) {m : CM Unit} (hm : Up m) :
    Up (encodeIfThen skip m) := by
  constructor
  intro s a s' hr hu
  obtain ⟨s3, h1, h2⟩ := encodeIfThen_ok hr
  obtain ⟨u3, r3⟩ := hm.run _ _ _ h1 (hu.of_eq rfl rfl)
  exact hole_block_patch_up hs u3 r3 h2

/-! ## `IfElse`: two back-patched jumps -/

theorem ifElseCode_up {c t e : CM Unit} (hc : Up c) (ht : Up t) (he : Up e) : Up (ifElseCode c t e) := by
  constructor
  intro s a s' hr hu
  obtain ⟨s1, s1', s3, s5, s5', s6, h1, h1', h3, h5, h5', h6, h7⟩ := ifElseCode_ok hr
  obtain ⟨u1, r1⟩ := (withSub_up hc).run _ _ _ h1 hu
  obtain ⟨u1', r1'⟩ := (up_of_keep (pushSub_keep 1)).run _ _ _ h1' u1
  -- the two branches, each from the state behind its jump
  have z2 := afterJump_size s1' op.gotoIfFalse 0
  obtain ⟨u3, r3⟩ := ht.run _ _ _ h3 (u1'.of_eq rfl rfl)
  have z3 := r3.size_le
  obtain ⟨⟨e1, e2, e3, e4⟩, lay⟩ := ifElse_layout h5 h5' h7 (by omega)
  obtain ⟨u6, r6⟩ := (withSub_up he).run _ _ _ h6 (u3.of_eq e3 e4)
  have z6 := r6.size_le
  obtain ⟨q1, q3, q4, q5, low, _, hgoto, _, high⟩ := lay z6 r6.pref
  refine ⟨u6.of_eq q4 q5, r1.trans (r1'.trans ?_)⟩
  have t6 : UTab s6 s' := UTab.of_eq q3 q4 q5
  have t36 : UTab s3 s' := (UTab.of_eq e2 e3 e4).trans (r6.tab.trans t6)
  have tab : UTab s1' s' := UTab.trans ⟨r3.fid, r3.grow, r3.labels⟩ t36
  refine ⟨tab.fid, tab.grow, tab.labels, by omega, fun i hi => ?_, ?_⟩
  · rw [low i (by omega) (by omega), r3.pref i (by omega), afterJump_pref _ _ _ _ hi]
  · -- the code of the branches in the final state, each behind its patched jump
    have gt := r3.seg
    rw [z2] at gt
    have ge : UpT s'.bytecode s'.labels (nUp s') (s3.bytecode.size + 5) s'.bytecode.size := by
      rw [q1, ← e1]
      exact r6.seg.mono (fun i h1 _ => high i (by omega)) t6.labels_sub t6.nUp_le
    refine .jump_cons ?_ ((gt.mono (fun i h1 h2 => low i h2 (by omega)) t36.labels_sub t36.nUp_le).append
      (.jump_cons (by rw [hgoto]; rfl) ge))
    rw [low _ (by omega) (by omega), r3.pref _ (by omega), afterJump_op]; rfl

/-! ## closures -/

theorem getD_append_nil {α : Type} (l : List (List α)) (i : Nat) : (l ++ [[]]).getD i [] = l.getD i [] := by
  simp only [List.getD_eq_getElem?_getD]
  by_cases h : i < l.length
  · rw [List.getElem?_append_left h]
  · rw [List.getElem?_append_right (by omega), List.getElem?_eq_none (by omega : l.length ≤ i)]
    cases i - l.length with
    | zero => simp
    | succ k => simp

theorem getD_dropLast {α : Type} (l : List (List α)) (i : Nat) :
    l.dropLast.getD i [] = if i + 1 < l.length then l.getD i [] else [] := by
  simp only [List.getD_eq_getElem?_getD, List.getElem?_dropLast]
  by_cases h : i + 1 < l.length
  · rw [if_pos (by omega), if_pos h]
  · rw [if_neg (by omega), if_neg h]; rfl

def upvalueBytes (ups : List (Bool × UInt8)) : List UInt8 :=
  ups.flatMap (fun u => [op.copyLast, op.registerUpvalue, u.2, if u.1 then 1 else 0])

theorem upvalueBytes_length (ups : List (Bool × UInt8)) : (upvalueBytes ups).length = 4 * ups.length := by
  induction ups with
  | nil => rfl
  | cons u rest ih =>
    simp only [upvalueBytes, List.flatMap_cons, List.length_append, List.length_cons, List.length_nil] at ih ⊢
    omega

theorem emitUpvalues_spec : ∀ (ups : List (Bool × UInt8)) (s s' : CState),
    emitUpvalues ups s = .ok ((), s') →
    s'.bytecode = s.bytecode ++ (upvalueBytes ups).toArray ∧ s'.labels = s.labels ∧
    s'.upvalues = s.upvalues ∧ s'.functionId = s.functionId
  | [], s, s', h => by
    unfold emitUpvalues at h
    simp only [pure_run, Except.ok.injEq, Prod.mk.injEq, true_and] at h
    subst h
    simp [upvalueBytes]
  | (l, i) :: rest, s, s', h => by
    unfold emitUpvalues at h
    rw [pushInstr_bind_run, pushInstr_bind_run, emitBytes_bind_run] at h
    obtain ⟨h1, h2, h3, h4⟩ := emitUpvalues_spec rest _ _ h
    refine ⟨?_, by rw [h2]; rfl, by rw [h3]; rfl, by rw [h4]; rfl⟩
    rw [h1]
    simp only [afterInstr, upvalueBytes, List.flatMap_cons]
    apply Array.ext'
    simp

/-- the bytes and tables at the end of `closureCode`, in terms of the state `s7` at the end of the body:
`Goto c; ⟨body⟩; ScalarNil; Return; c: Closure fh n; (CopyLast; RegisterUpvalue _ _)^m` -/
structure ClosureLayout (s s7 s' : CState) (fh : UInt32) (n : Nat) : Prop where
  labels : s'.labels = s7.labels
  upvalues : s'.upvalues = s7.upvalues.dropLast
  fid : s'.functionId = s7.functionId - 1
  size : s'.bytecode.size = s7.bytecode.size + 2 + 9 + 4 * (s7.upvalues.getD s7.functionId []).length
  goto : s'.bytecode.getD s.bytecode.size 0 = op.goto
  tgt : rdU32 s'.bytecode (s.bytecode.size + 1) = (s7.bytecode.size + 2) % 2 ^ 32
  body : ∀ i, i < s7.bytecode.size → ¬ (s.bytecode.size + 1 ≤ i ∧ i < s.bytecode.size + 1 + 4) →
    s'.bytecode.getD i 0 = s7.bytecode.getD i 0
  pref : ∀ i, i < s.bytecode.size → s'.bytecode.getD i 0 = s.bytecode.getD i 0
  nil : s'.bytecode.getD s7.bytecode.size 0 = op.scalarNil
  ret : s'.bytecode.getD (s7.bytecode.size + 1) 0 = op.ret
  clos : s'.bytecode.getD (s7.bytecode.size + 2) 0 = op.closure
  handle : UInt32.ofNat (rdU32 s'.bytecode (s7.bytecode.size + 2 + 1)) = fh
  arity : UInt32.ofNat (rdU32 s'.bytecode (s7.bytecode.size + 2 + 1 + 4)) = UInt32.ofNat n
  pairs : ∀ i, i < 4 * (s7.upvalues.getD s7.functionId []).length →
    s'.bytecode.getD (s7.bytecode.size + 2 + 9 + i) 0 = (upvalueBytes (s7.upvalues.getD s7.functionId [])).getD i 0

theorem ClosureLayout.of_runs {s s7 s10 s12 s' : CState} {fh : UInt32} {n : Nat} {u : Unit}
    (h10 : patchI32 (s.bytecode.size + 1) (afterInstr (afterInstr s7 op.scalarNil []) op.ret []).bytecode.size
      (afterInstr (afterInstr s7 op.scalarNil []) op.ret []) = .ok ((), s10))
    (h12 : emitUpvalues ((afterInstr s10 op.closure (le32 fh ++ le32 (UInt32.ofNat n))).upvalues.getD
        (afterInstr s10 op.closure (le32 fh ++ le32 (UInt32.ofNat n))).functionId [])
      (afterInstr s10 op.closure (le32 fh ++ le32 (UInt32.ofNat n))) = .ok ((), s12))
    (h13 : compileEnd s12 = .ok (u, s')) (z7 : s.bytecode.size + 5 ≤ s7.bytecode.size)
    (pr7 : ∀ i, i < s.bytecode.size + 5 → s7.bytecode.getD i 0 = (afterJump s op.goto 0xEEF).bytecode.getD i 0) :
    ClosureLayout s s7 s' fh n := by
  -- `ScalarNil; Return`
  have e9 : (afterInstr (afterInstr s7 op.scalarNil []) op.ret []).bytecode =
      (s7.bytecode ++ [op.scalarNil].toArray) ++ [op.ret].toArray := rfl
  have z8 : (s7.bytecode ++ [op.scalarNil].toArray).size = s7.bytecode.size + 1 := by simp
  have z9 : (afterInstr (afterInstr s7 op.scalarNil []) op.ret []).bytecode.size = s7.bytecode.size + 2 := by
    rw [afterInstr_size, afterInstr_size]
  have n9 : (afterInstr (afterInstr s7 op.scalarNil []) op.ret []).bytecode.getD s7.bytecode.size 0 =
      op.scalarNil := by rw [e9, getD_append_left (by omega)]; exact getD_append_op _ _ _
  have t9 : (afterInstr (afterInstr s7 op.scalarNil []) op.ret []).bytecode.getD (s7.bytecode.size + 1) 0 =
      op.ret := by rw [e9, ← z8]; exact getD_append_op _ _ _
  have pr9 : ∀ i, i < s7.bytecode.size →
      (afterInstr (afterInstr s7 op.scalarNil []) op.ret []).bytecode.getD i 0 = s7.bytecode.getD i 0 := by
    intro i hi; rw [e9, getD_append_left (by omega), getD_append_left hi]
  have l9 : (afterInstr (afterInstr s7 op.scalarNil []) op.ret []).labels = s7.labels := rfl
  have up9 : (afterInstr (afterInstr s7 op.scalarNil []) op.ret []).upvalues = s7.upvalues := rfl
  have fi9 : (afterInstr (afterInstr s7 op.scalarNil []) op.ret []).functionId = s7.functionId := rfl
  generalize afterInstr (afterInstr s7 op.scalarNil []) op.ret [] = s9 at h10 z9 n9 t9 pr9 l9 up9 fi9
  clear e9 z8
  -- the back-patch, the `Closure` instruction, the registrations, the end of the context
  obtain ⟨p1, p2, prd, p3, p4, p5⟩ := patchI32_spec h10 (by omega)
  obtain ⟨e12b, e12l, e12u, e12f⟩ := emitUpvalues_spec _ _ _ h12
  obtain ⟨_, rfl⟩ := Prod.mk.inj (Except.ok.inj h13)
  rw [afterInstr_upvalues, afterInstr_functionId, p4, p5, up9, fi9] at e12b
  have e11b : (afterInstr s10 op.closure (le32 fh ++ le32 (UInt32.ofNat n))).bytecode =
      s10.bytecode ++ (op.closure :: (le32 fh ++ le32 (UInt32.ofNat n))).toArray := rfl
  have z11 : (afterInstr s10 op.closure (le32 fh ++ le32 (UInt32.ofNat n))).bytecode.size =
      s7.bytecode.size + 2 + 9 := by rw [e11b]; simp [le32_length, p1, z9]
  have b11 : ∀ i, i < s7.bytecode.size + 2 + 9 → s12.bytecode.getD i 0 =
      (afterInstr s10 op.closure (le32 fh ++ le32 (UInt32.ofNat n))).bytecode.getD i 0 :=
    fun i hi => by rw [e12b]; exact getD_append_left (by omega)
  have b10 : ∀ i, i < s7.bytecode.size + 2 → s12.bytecode.getD i 0 = s10.bytecode.getD i 0 :=
    fun i hi => by rw [b11 i (by omega), e11b]; exact getD_append_left (by omega)
  have b9 : ∀ i, i < s7.bytecode.size + 2 → ¬ (s.bytecode.size + 1 ≤ i ∧ i < s.bytecode.size + 1 + 4) →
      s12.bytecode.getD i 0 = s9.bytecode.getD i 0 := fun i hi hn => (b10 i hi).trans (p2 i hn)
  have b7 : ∀ i, i < s7.bytecode.size → ¬ (s.bytecode.size + 1 ≤ i ∧ i < s.bytecode.size + 1 + 4) →
      s12.bytecode.getD i 0 = s7.bytecode.getD i 0 := fun i hi hn => by rw [b9 i (by omega) hn, pr9 i hi]
  have b1 : ∀ i, i < s.bytecode.size + 5 → ¬ (s.bytecode.size + 1 ≤ i ∧ i < s.bytecode.size + 1 + 4) →
      s12.bytecode.getD i 0 = (afterJump s op.goto 0xEEF).bytecode.getD i 0 := fun i hi hn => by
    rw [b7 i (by omega) hn, pr7 i hi]
  -- the two operands of the `Closure` instruction
  have hops : ∀ off, off + 4 ≤ 8 → rdU32 s12.bytecode (s7.bytecode.size + 2 + 1 + off) =
      u32L (le32 fh ++ le32 (UInt32.ofNat n)) off := fun off hoff => by
    rw [rdU32_congr (bc := (afterInstr s10 op.closure (le32 fh ++ le32 (UInt32.ofNat n))).bytecode)
      fun i _ _ => b11 i (by omega)]
    have := rdU32_opBytes (afterInstr s10 op.closure (le32 fh ++ le32 (UInt32.ofNat n))).bytecode s10.bytecode.size
      (le32 fh ++ le32 (UInt32.ofNat n)).length off (by simp [le32_length]; omega)
    rw [p1, z9] at this
    rw [this, ← z9, ← p1, e11b, opBytes_append]
  refine ⟨by show s12.labels = _; rw [e12l, afterInstr_labels, p3, l9],
    by show s12.upvalues.dropLast = _; rw [e12u, afterInstr_upvalues, p4, up9],
    by show s12.functionId - 1 = _; rw [e12f, afterInstr_functionId, p5, fi9],
    by show s12.bytecode.size = _; rw [e12b, Array.size_append, z11]; simp [upvalueBytes_length],
    by show s12.bytecode.getD _ 0 = _; rw [b1 _ (by omega) (by omega), afterJump_op], ?_, b7, fun i hi => ?_,
    by show s12.bytecode.getD _ 0 = _; rw [b9 _ (by omega) (by omega), n9],
    by show s12.bytecode.getD _ 0 = _; rw [b9 _ (by omega) (by omega), t9], ?_, ?_, ?_, fun i hi => ?_⟩
  · show rdU32 s12.bytecode _ = _
    rw [rdU32_congr (bc := s10.bytecode) fun i h1 h2 => b10 i (by omega), prd, z9]
  · show s12.bytecode.getD i 0 = _
    rw [b1 i (by omega) (by omega), afterJump_pref _ _ _ _ hi]
  · show s12.bytecode.getD _ 0 = _
    rw [b11 _ (by omega), e11b, ← z9, ← p1]; exact getD_append_op _ _ _
  · show UInt32.ofNat (rdU32 s12.bytecode _) = _
    rw [← Nat.add_zero (_ + 1), hops 0 (by omega), u32L_append_left _ _ _ (by rw [le32_length]; omega), u32L_le32,
      UInt32.ofNat_toNat]
  · show UInt32.ofNat (rdU32 s12.bytecode _) = _
    rw [hops 4 (by omega), u32L_append_right _ _ _ (by rw [le32_length]; omega), le32_length, Nat.sub_self, u32L_le32,
      UInt32.ofNat_toNat]
  · show s12.bytecode.getD _ 0 = _
    rw [e12b, getD_append_right (by omega), getD_toArray, z11, Nat.add_sub_cancel_left]

/-- **what a run of `closureCode args body` does around its body**: the body runs from `closureCtx s fh` to some
`s7` (`fh` is the key of the body's label), and if it keeps the bytes in front of it, the final bytes and tables
are those of `ClosureLayout` -/
theorem closure_frame {args : List String} {body : CM Unit} {s s' : CState} {u : Unit}
    (hr : closureCode args body s = .ok (u, s')) :
    ∃ fh s7,
      fh = s.fnHandle ^^^ Hash.handleFromBytes (s.curIndices.flatMap fun i => le32 (UInt32.ofNat i)) ^^^
        Hash.handleFromU64 closureMask ∧
      (scopeBegin >>= fun _ => addLocals args.reverse >>= fun _ => body >>= fun _ => scopeEnd)
        (closureCtx s fh) = .ok ((), s7) ∧
      (s.bytecode.size + 5 ≤ s7.bytecode.size →
       (∀ i, i < s.bytecode.size + 5 → s7.bytecode.getD i 0 = (closureCtx s fh).bytecode.getD i 0) →
       ClosureLayout s s7 s' fh args.length) := by
  obtain ⟨fh, s7, s10, s12, hfh, h7, h10, h12, h13⟩ := closureCode_ok hr
  exact ⟨fh, s7, hfh, h7, .of_runs h10 h12 h13⟩

theorem pairs_of_ups (bc : Array UInt8) (n : Nat) : ∀ (ups : List (Bool × UInt8)) (at_ : Nat),
    (∀ i, i < 4 * ups.length → bc.getD (at_ + i) 0 = (upvalueBytes ups).getD i 0) →
    (∀ j, (false, j) ∈ ups → j.toNat < n) → Pairs bc n ups.length at_
  | [], _, _, _ => trivial
  | (l, idx) :: rest, at_, hb, hn => by
    have e : upvalueBytes ((l, idx) :: rest) =
        [op.copyLast, op.registerUpvalue, idx, if l then 1 else 0] ++ upvalueBytes rest := rfl
    have h0 := hb 0 (by simp only [List.length_cons]; omega)
    have h1 := hb 1 (by simp only [List.length_cons]; omega)
    have h2 := hb 2 (by simp only [List.length_cons]; omega)
    have h3 := hb 3 (by simp only [List.length_cons]; omega)
    rw [e] at h0 h1 h2 h3
    simp only [List.cons_append, List.nil_append, List.getD_cons_zero, List.getD_cons_succ, Nat.add_zero] at h0 h1 h2 h3
    refine ⟨h0, h1, ?_, pairs_of_ups bc n rest (at_ + 4) (fun i hi => ?_) (fun j hj => hn j (List.mem_cons_of_mem _ hj))⟩
    · rw [h3, h2]
      intro hz
      cases l with
      | true => exact absurd hz (by decide)
      | false => exact hn idx (List.mem_cons_self ..)
    · have := hb (4 + i) (by simp only [List.length_cons]; omega)
      rw [e] at this
      rw [show at_ + 4 + i = at_ + (4 + i) by omega, this]
      simp only [List.getD_eq_getElem?_getD]
      rw [List.getElem?_append_right (by simp)]
      simp

/-- **the closure rule.**  One run of `closureCode args body`, the body being code of its own level (`Up body`), emits
`Goto _; ⟨body⟩; Closure h arity; (CopyLast; RegisterUpvalue j l)^m`, where `⟨body⟩ = [size s + 5, c)` is the code of a
level with `m` upvalues: `m` is the length of the closure's upvalue list at the end of the body, and `emitUpvalues`
emits exactly `m` pairs. -/
theorem closure_region_upvalues {args : List String} {body : CM Unit} (hb : Up body) {s s' : CState} {u : Unit}
    (hr : closureCode args body s = .ok (u, s')) (hu : US s) :
    ∃ c m, s'.bytecode.getD s.bytecode.size 0 = op.goto ∧
      UpT s'.bytecode s'.labels m (s.bytecode.size + 5) c ∧
      s'.bytecode.getD c 0 = op.closure ∧
      (UInt32.ofNat (rdU32 s'.bytecode (c + 1)), s.bytecode.size + 5) ∈ s'.labels ∧
      m ≤ 255 ∧ Pairs s'.bytecode (nUp s') m (c + 9) ∧ s'.bytecode.size = c + 9 + 4 * m ∧
      US s' ∧ UTab s s' ∧ (∀ i, i < s.bytecode.size → s'.bytecode.getD i 0 = s.bytecode.getD i 0) := by
  obtain ⟨fh, s7, _, h7, lay⟩ := closure_frame hr
  have zc := closureCtx_size s fh
  -- the body in its scope: code of the new level
  obtain ⟨u7, r7⟩ := (up_bind (up_of_keep scopeBegin_keep) fun _ => up_bind (up_of_keep (addLocals_keep _)) fun _ =>
    up_bind hb fun _ => scopeEnd_up).run _ _ _ h7
    ⟨by show (s.upvalues ++ [[]]).length = s.functionId + 1 + 1; rw [List.length_append, hu.len]; rfl,
     by show (s.upvalues ++ [[]]).getD 0 [] = []; rw [getD_append_nil]; exact hu.base,
     fun lvl => by show ((s.upvalues ++ [[]]).getD lvl []).length ≤ 255; rw [getD_append_nil]; exact hu.le lvl,
     fun lvl j hj => by
      change (false, j) ∈ (s.upvalues ++ [[]]).getD (lvl + 1) [] at hj
      show j.toNat < ((s.upvalues ++ [[]]).getD lvl []).length
      rw [getD_append_nil] at hj ⊢; exact hu.nonloc lvl j hj⟩
  have z7 := r7.size_le
  have lay := lay (by omega) fun i hi => r7.pref i (by omega)
  -- tables of the final state in terms of `s7`
  have f7 : s7.functionId = s.functionId + 1 := r7.fid
  have len7 : s7.upvalues.length = s.functionId + 2 := by rw [u7.len, f7]
  have fid' : s'.functionId = s.functionId := by rw [lay.fid, f7]; rfl
  have ups' : ∀ lvl, s'.upvalues.getD lvl [] = if lvl ≤ s.functionId then s7.upvalues.getD lvl [] else [] := by
    intro lvl
    rw [lay.upvalues, getD_dropLast, len7]
    by_cases h : lvl ≤ s.functionId
    · rw [if_pos (by omega), if_pos h]
    · rw [if_neg (by omega), if_neg h]
  have hsz := lay.size
  have hbytes := lay.pairs
  rw [f7] at hsz hbytes
  generalize hups7 : s7.upvalues.getD (s.functionId + 1) [] = ups at hsz hbytes
  have hm7 : nUp s7 = ups.length := by unfold nUp; rw [f7, hups7]
  have hn' : nUp s' = (s7.upvalues.getD s.functionId []).length := by
    unfold nUp; rw [fid', ups', if_pos (Nat.le_refl _)]
  have hlab : (fh, s.bytecode.size + 5) ∈ s'.labels := by
    rw [lay.labels]; exact r7.tab.labels_sub _ (by rw [closureCtx_labels]; simp)
  have tab : UTab s s' := by
    refine ⟨fid', fun lvl => ?_, ?_⟩
    · rw [ups']
      by_cases h : lvl ≤ s.functionId
      · rw [if_pos h]
        obtain ⟨x, hx⟩ := r7.grow lvl
        change _ = (s.upvalues ++ [[]]).getD lvl [] ++ x at hx
        rw [getD_append_nil] at hx
        exact ⟨x, hx⟩
      · rw [if_neg h]
        refine ⟨[], ?_⟩
        have : s.upvalues.length ≤ lvl := by rw [hu.len]; omega
        simp [List.getD_eq_getElem?_getD, List.getElem?_eq_none this]
    · obtain ⟨x, hx⟩ := r7.labels
      exact ⟨(fh, s.bytecode.size + 5) :: x, by rw [lay.labels, hx, closureCtx_labels]; simp⟩
  have g := r7.seg
  rw [zc, hm7] at g
  refine ⟨s7.bytecode.size + 2, ups.length, lay.goto, ?_, lay.clos, by rw [lay.handle]; exact hlab,
    by rw [← hups7]; exact u7.le _, ?_, hsz, ?_, tab, lay.pref⟩
  · refine (g.mono (fun i h1 h2 => lay.body i h2 (by omega)) (fun l h => by rw [lay.labels]; exact h)
      (Nat.le_refl _)).append ?_
    exact .plain (k := 1) (by rw [lay.nil]; decide) (by rw [lay.nil]; decide) (by rw [lay.nil]; intro h; cases h)
      (.plain (k := 1) (by rw [lay.ret]; decide) (by rw [lay.ret]; decide) (by rw [lay.ret]; intro h; cases h)
        (.nil _ _))
  · refine pairs_of_ups _ _ ups _ hbytes fun j hj => ?_
    rw [hn']
    rw [← hups7] at hj
    exact u7.nonloc _ _ hj
  · refine ⟨by rw [lay.upvalues, List.length_dropLast, len7, fid']; rfl, ?_, fun lvl => ?_, fun lvl j hj => ?_⟩
    · rw [ups', if_pos (Nat.zero_le _)]; exact u7.base
    · rw [ups']; split
      · exact u7.le lvl
      · exact Nat.zero_le _
    · rw [ups'] at hj ⊢
      by_cases h : lvl + 1 ≤ s.functionId
      · rw [if_pos h] at hj; rw [if_pos (by omega)]; exact u7.nonloc lvl j hj
      · rw [if_neg h] at hj; cases hj

theorem closureCode_up {args : List String} {body : CM Unit} (hb : Up body) : Up (closureCode args body) := by
  constructor
  intro s u s' hr hu
  obtain ⟨c, m, h1, h2, h3, h4, h5, h6, h7, h8, h9, h10⟩ := closure_region_upvalues hb hr hu
  have hle := h2.le
  refine ⟨h8, h9.fid, h9.grow, h9.labels, by omega, h10, ?_⟩
  exact .clos h1 h2 h3 h4 h5 h6 (by rw [h7]; exact .nil _ _)

/-! ## the logic, and whole compilation units -/

theorem plain_of_unconstrained {o : UInt8} (hc : constrained o = false) (h : o ≠ op.copyLast) :
    isClosPart o = false ∧ isUpAcc o = false := by
  simp only [constrained, isSlot, isClos, isReg, Bool.or_eq_false_iff, beq_eq_false_iff_ne] at hc
  simp only [isClosPart, isUpAcc, Bool.or_eq_false_iff, beq_eq_false_iff_ne]
  exact ⟨⟨⟨hc.1.1.1.1.2, h⟩, hc.2⟩, hc.1.1.1.2.1.2, hc.1.1.1.2.2⟩

theorem upLogic : CodeLogic (fun _ => True) fun _ _ _ _ Q m => Sat US (fun s s' => US s' ∧ UR s s') Q m where
  A_path _ _ := trivial
  A_up _ := trivial
  pure := .pure up_stable
  bind := .bind up_stable
  get_bind h := .get_bind fun st _ => h st
  pushSub i := up_sat.1 (up_of_keep (pushSub_keep i))
  popSub := up_sat.1 (up_of_keep popSub_keep)
  scopeBegin := up_sat.1 (up_of_keep scopeBegin_keep)
  scopeEnd := up_sat.1 scopeEnd_up
  cardLabel := up_sat.1 cardLabel_up
  addLocalUnchecked n _ := (up_sat.1 (up_of_keep (addLocalUnchecked_keep n))).and_val fun _ _ _ => addLocalUnchecked_lt
  addLocal n _ := (up_sat.1 (up_of_keep (addLocal_keep n))).and_val fun _ _ _ => addLocal_lt
  instr h1 h2 h3 := up_sat.1 (instr_up h1 (plain_of_unconstrained h2 h3).1 (plain_of_unconstrained h2 h3).2)
  readLocalVar _ := up_sat.1 (readLocalVar_up _)
  writeLocalVar _ := up_sat.1 (writeLocalVar_up _)
  jump hj _ := up_sat.1 (instrU32_up (isJump_span hj) (isJump_plain hj).1 (isJump_plain hj).2)
  str hs s := up_sat.1 (strInstr_up (isStr_plain hs).1 (isStr_plain hs).2.1 (isStr_plain hs).2.2 s)
  fnp name := up_sat.1 (fnpInstr_up name)
  each ho _ _ _ _ _ := up_sat.1 (instr_up (by simp only [List.length_append, le32_length]; exact (isEach_plain ho).1)
    (isEach_plain ho).2.1 (isEach_plain ho).2.2)
  setGlobalTail name := up_sat.1 (setGlobalTail_up name)
  readVarCard x := up_sat.1 (readVarCard_up x)
  setVarTarget x _ := up_sat.1 (setVarTarget_up x)
  encodeIfThen hs hm := up_sat.1 (encodeIfThen_up hs (up_sat.2 (hm _ (Nat.le_refl _))))
  ifElseCode _ hc ht he := up_sat.1 (ifElseCode_up (up_sat.2 (hc default 0 (fun _ => False) trivial))
    (up_sat.2 (ht default 0 (fun _ => False) trivial)) (up_sat.2 (he default 0 (fun _ => False) trivial)))
  closureCode _ hb := up_sat.1 (closureCode_up (up_sat.2 (hb default 0 (fun _ => False) trivial)))

theorem processCard_up (c : Card) : Up (processCard c) :=
  up_sat.2 (upLogic.processCard c default 0 (fun _ => False) trivial)
theorem compileSubexprFrom_up (i : Nat) (cs : List Card) : Up (compileSubexprFrom i cs) :=
  up_sat.2 (upLogic.compileSubexprFrom i cs default 0 (fun _ => False) trivial)

theorem processFunction_up (f : FunctionIr) : Up (processFunction f) :=
  up_bind (up_of_keep (keep_modify fun _ => rfl)) fun _ => up_bind (up_of_keep (addLocals_keep _)) fun _ =>
    up_sat.2 (upLogic.processFunctionCards 0 f.cards default 0 (fun _ => False) trivial)

theorem compileFunctions_up : ∀ fs, Up (compileFunctions fs)
  | [] => up_pure
  | f :: fs => up_bind
      (up_bind (up_of_keep (keep_modify fun _ => rfl)) fun _ => up_bind up_get fun _ =>
        up_bind (insertLabel_up _ _) fun _ => up_bind (up_of_keep scopeBegin_keep) fun _ =>
        up_bind (processFunction_up f) fun _ => up_bind scopeEnd_up fun _ =>
        up_bind (instr0_up (by decide) (by decide) (by decide)) fun _ => instr0_up (by decide) (by decide) (by decide))
      fun _ => compileFunctions_up fs

theorem compileUnit_up (unit : Array FunctionIr) : Up (compileUnit unit) := by
  unfold compileUnit
  split
  · exact up_fail_bind
  · exact up_bind (up_of_keep (addFunctions_keep _)) fun _ => up_bind (up_of_keep (keep_modify fun _ => rfl)) fun _ =>
      up_bind (up_of_keep scopeBegin_keep) fun _ => up_bind (processFunction_up _) fun _ =>
      up_bind (up_of_keep (keep_modify fun _ => rfl)) fun _ => up_bind scopeEnd_up fun _ =>
      up_bind (processCard_up .abort) fun _ => up_bind (compileFunctions_up _) fun _ =>
      up_bind (up_of_keep (keep_modify fun _ => rfl)) fun _ => instr0_up (by decide) (by decide) (by decide)

theorem US.init : US ({} : CState) := ⟨rfl, rfl, fun lvl => by
  cases lvl with
  | zero => exact Nat.zero_le _
  | succ k => exact Nat.zero_le _, fun lvl j hj => by simp [List.getD_eq_getElem?_getD] at hj⟩

/-- **the whole bytecode of a compiled unit is top-level code**: a level with no upvalues -/
theorem compileUnit_level {unit : Array FunctionIr} {s' : CState}
    (hr : (compileUnit unit).run {} = .ok ((), s')) : UpT s'.bytecode s'.labels 0 0 s'.bytecode.size := by
  change compileUnit unit {} = _ at hr
  obtain ⟨u, r⟩ := (compileUnit_up unit).run _ _ _ hr US.init
  have h0 : nUp s' = 0 := by
    unfold nUp
    rw [r.fid]
    show (s'.upvalues.getD 0 []).length = 0
    rw [u.base]; rfl
  have := r.seg
  rw [h0] at this
  exact this

/-! ## non-vacuity -/

/-- the hypotheses of `closure_region_upvalues` are satisfiable: the initial state has consistent
tables, a compiled card list is level code, and the run succeeds -/
example : US ({} : CState) ∧ Up (compileSubexprFrom 0 [.scalarNil]) ∧
    (match closureCode [] (compileSubexprFrom 0 [.scalarNil]) {} with
     | .ok _ => true
     | .error _ => false) = true :=
  ⟨US.init, compileSubexprFrom_up _ _, by decide +kernel⟩

/-- a concrete level: `ScalarNil; ReadUpvalue 1; Return` is code of a level with two upvalues (of a level with
one it is not: `plain` would ask for `1 < 1`) -/
example : UpT #[op.scalarNil, op.readUpvalue, 1, 0, 0, 0, op.ret] [] 2 0 7 :=
  .plain (k := 1) (by decide) (by decide) (by decide)
    (.plain (k := 5) (by decide) (by decide) (by decide) (.plain (k := 1) (by decide) (by decide) (by decide) (.nil _ _)))

end Cao.Compiler
