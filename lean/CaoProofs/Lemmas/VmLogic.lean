import Lean
import CaoProofs.Lemmas.GcLemmas
import CaoProofs.Lemmas.Instr
/-!
# The program logic of the interpreter monad `M`

`Ho P m Q E`: from a state that satisfies `P`, the computation `m` returns `a` in a state that satisfies `Q a`, or
raises `e` in a state that satisfies `E e`. Errors keep the machine state, so the error postcondition sees it.

Almost everything that is proved about `step` and the host functions is an invariant. `Kp K X E φ m` is the triple in
that shape (the value satisfies `φ`, the errors satisfy `E` and leave a state that satisfies `X`); its rules need no
intermediate assertion, and the tactic `kp_auto` applies them syntax-directed. The other judgements are instances
(`…_iff_kp`, `…_iff_ho`): `Pres R m` (a preorder relates the state before to the state after, also on errors) is
`Kp (R s₀) (R s₀)` for every `s₀`, `Throws P m` is `Kp` of the trivial invariant; so are `Fr` and `Quiet` of
`Lemmas/NoPanic.lean` and `St`, `Keeps` and `Hl` of `Lemmas/CaptureInv.lean`.

A primitive has one specification, `Prim K m`. Those that only read keep every `K`; `StateKeep K` makes the others
that stay off the heap keep `K`; `PlainKeep K` adds the allocating ones, the closing of upvalues, a write through an
upvalue, and an insertion into a table that is rooted. The host functions and the instructions that only run
primitives and fall through (`plainOps`) are walked through once, for every `PlainKeep` (`kp_callNative`,
`kp_step_plain`); `kp_step` adds the ten other instructions, each through its equation (`Lemmas/Instr.lean`).
-/
namespace Cao.Vm
open Cao.Gc

/-! ## running a computation -/

def M.go {α : Type} (m : M α) (s : VmState) : Except ErrKind α × VmState := m.run.run s

theorem run_run_eq_go {α : Type} (m : M α) (s : VmState) : m.run.run s = m.go s := rfl

@[simp] theorem go_pure {α : Type} (a : α) (s : VmState) : (pure a : M α).go s = (.ok a, s) := rfl
@[simp] theorem go_get (s : VmState) : (get : M VmState).go s = (.ok s, s) := rfl
@[simp] theorem go_set (x s : VmState) : (set x : M PUnit).go s = (.ok ⟨⟩, x) := rfl
@[simp] theorem go_modify (f : VmState → VmState) (s : VmState) :
    (modify f : M PUnit).go s = (.ok ⟨⟩, f s) := rfl
@[simp] theorem go_throw {α : Type} (e : ErrKind) (s : VmState) :
    (throw e : M α).go s = (.error e, s) := rfl
@[simp] theorem go_throwE {α : Type} (e : ErrKind) (s : VmState) :
    (throwE e : M α).go s = (.error e, s) := rfl

theorem go_bind {α β : Type} (m : M α) (f : α → M β) (s : VmState) :
    (m >>= f).go s = match m.go s with
      | (.ok a, s') => (f a).go s'
      | (.error e, s') => (.error e, s') := run_bind m f s

theorem go_tryCatch {α : Type} (m : M α) (h : ErrKind → M α) (s : VmState) :
    (tryCatch m h).go s = match m.go s with
      | (.ok a, s') => (.ok a, s')
      | (.error e, s') => (h e).go s' := run_tryCatch m h s

theorem go_orElse {α : Type} (m : M α) (h : Unit → M α) (s : VmState) :
    (m <|> h ()).go s = match m.go s with
      | (.ok a, s') => (.ok a, s')
      | (.error _, s') => (h ()).go s' := go_tryCatch m (fun _ => h ()) s

theorem liftRun_go (f : VmState → VmState × Except RunErr (Option Val)) (s : VmState) :
    (liftRun f).go s = match f s with
      | (s', .ok (some v)) => (.ok v, s')
      | (s', .ok none) => (.ok .nil, s')
      | (s', .error e) => (.error e.kind, s') := rfl

theorem liftRun_go_state (f : VmState → VmState × Except RunErr (Option Val)) (s : VmState) :
    ((liftRun f).go s).2 = (f s).1 := by
  rw [liftRun_go]
  split <;> simp_all

/-! ## the triple -/

/-- a structure, so that tactics never unfold it by accident -/
structure Ho {α : Type} (P : VmState → Prop) (m : M α) (Q : α → VmState → Prop)
    (E : ErrKind → VmState → Prop) : Prop where
  ok : ∀ s a s', P s → m.go s = (.ok a, s') → Q a s'
  err : ∀ s e s', P s → m.go s = (.error e, s') → E e s'

section triple
variable {α β : Type} {P : VmState → Prop} {Q : α → VmState → Prop} {E : ErrKind → VmState → Prop}

theorem ho_iff {m : M α} : Ho P m Q E ↔ ∀ s, P s →
    match m.go s with
    | (.ok a, s') => Q a s'
    | (.error e, s') => E e s' := by
  constructor
  · intro h s hs
    split
    · next heq => exact h.ok s _ _ hs heq
    · next heq => exact h.err s _ _ hs heq
  · intro h
    exact ⟨fun s a s' hs hg => by have := h s hs; rw [hg] at this; exact this,
      fun s e s' hs hg => by have := h s hs; rw [hg] at this; exact this⟩

theorem Ho.conseq {m : M α} {P' : VmState → Prop} {Q' : α → VmState → Prop} {E' : ErrKind → VmState → Prop}
    (h : Ho P' m Q' E') (hp : ∀ s, P s → P' s) (hq : ∀ a s, Q' a s → Q a s) (he : ∀ e s, E' e s → E e s) :
    Ho P m Q E :=
  ⟨fun s a s' hs hg => hq _ _ (h.ok s a s' (hp s hs) hg), fun s e s' hs hg => he _ _ (h.err s e s' (hp s hs) hg)⟩

theorem Ho.of_at {m : M α} (h : ∀ s, P s → Ho (fun t => t = s) m Q E) : Ho P m Q E :=
  ⟨fun s a s' hs hg => (h s hs).ok s a s' rfl hg, fun s e s' hs hg => (h s hs).err s e s' rfl hg⟩

theorem Ho.at {m : M α} (h : Ho P m Q E) {s : VmState} (hs : P s) : Ho (fun t => t = s) m Q E :=
  h.conseq (fun _ ht => ht ▸ hs) (fun _ _ hq => hq) (fun _ _ he => he)

theorem Ho.final {m : M α} (h : Ho P m Q E) {s : VmState} (hs : P s) {C : VmState → Prop}
    (hq : ∀ a s', Q a s' → C s') (he : ∀ e s', E e s' → C s') : C (m.go s).2 := by
  rcases hg : m.go s with ⟨e | a, s'⟩
  · exact he e s' (h.err s e s' hs hg)
  · exact hq a s' (h.ok s a s' hs hg)

theorem ho_pure {a : α} (h : ∀ s, P s → Q a s) : Ho P (pure a : M α) Q E :=
  ho_iff.2 h

theorem ho_get {Q : VmState → VmState → Prop} (h : ∀ s, P s → Q s s) : Ho P (get : M VmState) Q E :=
  ho_iff.2 h

theorem ho_set {x : VmState} {Q : PUnit → VmState → Prop} (h : ∀ s, P s → Q ⟨⟩ x) : Ho P (set x : M PUnit) Q E :=
  ho_iff.2 h

theorem ho_modify {g : VmState → VmState} {Q : PUnit → VmState → Prop} (h : ∀ s, P s → Q ⟨⟩ (g s)) :
    Ho P (modify g : M PUnit) Q E :=
  ho_iff.2 h

theorem ho_throwE {e : ErrKind} (h : ∀ s, P s → E e s) : Ho P (throwE e : M α) Q E :=
  ho_iff.2 h

theorem Ho.bind {m : M α} {f : α → M β} {J : α → VmState → Prop} {Q : β → VmState → Prop}
    (hm : Ho P m J E) (hf : ∀ a, Ho (J a) (f a) Q E) : Ho P (m >>= f) Q E :=
  ho_iff.2 fun s hs => by
    have h1 := ho_iff.1 hm s hs
    rw [go_bind]
    generalize m.go s = r at h1 ⊢
    rcases r with ⟨e | a, s1⟩
    · exact h1
    · exact ho_iff.1 (hf a) s1 h1

theorem ho_tryCatch {m : M α} {h : ErrKind → M α} {E' : ErrKind → VmState → Prop} (hm : Ho P m Q E')
    (hh : ∀ e, Ho (E' e) (h e) Q E) : Ho P (tryCatch m h) Q E :=
  ho_iff.2 fun s hs => by
    have h1 := ho_iff.1 hm s hs
    rw [go_tryCatch]
    generalize m.go s = r at h1 ⊢
    rcases r with ⟨e | a, s1⟩
    · exact ho_iff.1 (hh e) s1 h1
    · exact h1

theorem ho_forIn {γ σ : Type} {I : σ → VmState → Prop} (l : List γ) (init : σ) (f : γ → σ → M (ForInStep σ))
    (hf : ∀ x b, Ho (I b) (f x b) (fun r => I r.value) E) : Ho (I init) (forIn l init f) I E := by
  induction l generalizing init with
  | nil => rw [List.forIn_nil]; exact ho_pure fun _ h => h
  | cons x xs ih =>
    rw [List.forIn_cons]
    refine (hf x init).bind fun r => ?_
    cases r with
    | done b => exact ho_pure fun _ h => h
    | yield b => exact ih b

theorem ho_liftRun {Q : VmState → Prop} {X : RunErr → VmState → Prop}
    {g : VmState → VmState × Except RunErr (Option Val)}
    (hok : ∀ s s' v, P s → g s = (s', .ok v) → Q s') (herr : ∀ s s' r, P s → g s = (s', .error r) → X r s') :
    Ho P (liftRun g) (fun _ => Q) (fun e s' => ∃ r, r.kind = e ∧ X r s') :=
  ho_iff.2 fun s hs => by
    rw [liftRun_go]
    rcases hg : g s with ⟨s', r | _ | v⟩
    · exact ⟨r, rfl, herr s s' r hs hg⟩
    · exact hok s s' _ hs hg
    · exact hok s s' _ hs hg

theorem ho_at_bind {m : M α} {f : α → M β} {s : VmState} {J : α → VmState → Prop} {Q : β → VmState → Prop}
    (hm : Ho (fun t => t = s) m J E) (hf : ∀ a s', J a s' → Ho (fun t => t = s') (f a) Q E) :
    Ho (fun t => t = s) (m >>= f) Q E :=
  hm.bind fun a => Ho.of_at (hf a)

theorem ho_go_bind {m : M α} {f : α → M β} {s s' : VmState} {a : α} {Q : β → VmState → Prop}
    (h : m.go s = (.ok a, s')) (hf : Ho (fun t => t = s') (f a) Q E) : Ho (fun t => t = s) (m >>= f) Q E :=
  ho_at_bind (J := fun a' t => a' = a ∧ t = s')
    ⟨fun _ _ _ ht hg => by subst ht; rw [h] at hg; cases hg; exact ⟨rfl, rfl⟩,
     fun _ _ _ ht hg => by subst ht; rw [h] at hg; cases hg⟩
    fun _ _ ⟨ha, ht⟩ => by subst ha ht; exact hf

end triple

/-! ## the triple of an invariant -/

structure Kp {α : Type} (K X : VmState → Prop) (E : ErrKind → Prop) (φ : α → Prop) (m : M α) : Prop where
  ok : ∀ s a s', K s → m.go s = (.ok a, s') → K s' ∧ φ a
  err : ∀ s e s', K s → m.go s = (.error e, s') → E e ∧ X s'

/-- the invariant also holds where an error is raised by the code itself (`X` is `K`, or everything) -/
class ErrSt (K X : VmState → Prop) : Prop where
  sub : ∀ s, K s → X s

instance (K : VmState → Prop) : ErrSt K K := ⟨fun _ h => h⟩
instance (K : VmState → Prop) : ErrSt K (fun _ => True) := ⟨fun _ _ => trivial⟩

theorem kp_iff_ho {α : Type} {K X : VmState → Prop} {E : ErrKind → Prop} {φ : α → Prop} {m : M α} :
    Kp K X E φ m ↔ Ho K m (fun a s => K s ∧ φ a) (fun e s => E e ∧ X s) :=
  ⟨fun h => ⟨h.ok, h.err⟩, fun h => ⟨h.ok, h.err⟩⟩

section rules
variable {α β : Type} {K X : VmState → Prop} {E : ErrKind → Prop} {φ : α → Prop}

theorem Kp.at {m : M α} (h : Kp K X E φ m) {s : VmState} (hs : K s) :
    Ho (fun t => t = s) m (fun a s' => K s' ∧ φ a) (fun e s' => E e ∧ X s') := (kp_iff_ho.1 h).at hs

theorem Kp.of_at {m : M α}
    (h : ∀ s, K s → Ho (fun t => t = s) m (fun a s' => K s' ∧ φ a) (fun e s' => E e ∧ X s')) : Kp K X E φ m :=
  kp_iff_ho.2 (Ho.of_at h)

theorem kp_mono {X' : VmState → Prop} {E' : ErrKind → Prop} {ψ : α → Prop} {m : M α} (hm : Kp K X' E' ψ m)
    (he : ∀ e, E' e → E e) (hx : ∀ s, X' s → X s) (hv : ∀ a, ψ a → φ a) : Kp K X E φ m :=
  ⟨fun s a s' hs hg => ⟨(hm.ok s a s' hs hg).1, hv _ (hm.ok s a s' hs hg).2⟩,
   fun s e s' hs hg => ⟨he _ (hm.err s e s' hs hg).1, hx _ (hm.err s e s' hs hg).2⟩⟩

theorem kp_pure {a : α} (h : φ a) : Kp K X E φ (pure a : M α) :=
  kp_iff_ho.2 (ho_pure fun _ hs => ⟨hs, h⟩)
theorem kp_get : Kp K X E (fun _ => True) (get : M VmState) :=
  kp_iff_ho.2 (ho_get fun _ hs => ⟨hs, trivial⟩)
theorem kp_set {x : VmState} (h : K x) : Kp K X E (fun _ => True) (set x : M PUnit) :=
  kp_iff_ho.2 (ho_set fun _ _ => ⟨h, trivial⟩)
theorem kp_modify {g : VmState → VmState} (h : ∀ s, K s → K (g s)) :
    Kp K X E (fun _ => True) (modify g : M PUnit) :=
  kp_iff_ho.2 (ho_modify fun s hs => ⟨h s hs, trivial⟩)
theorem kp_throwE [ErrSt K X] {e : ErrKind} (h : E e) : Kp K X E φ (throwE e : M α) :=
  kp_iff_ho.2 (ho_throwE fun s hs => ⟨h, ErrSt.sub s hs⟩)
theorem kp_throw [ErrSt K X] {e : ErrKind} (h : E e) : Kp K X E φ (throw e : M α) := kp_throwE h

theorem kp_bind {m : M α} {f : α → M β} {ψ : β → Prop} (hm : Kp K X E (fun _ => True) m)
    (hf : ∀ a, Kp K X E ψ (f a)) : Kp K X E ψ (m >>= f) :=
  kp_iff_ho.2 (((kp_iff_ho.1 hm).conseq (fun _ h => h) (fun _ _ h => h.1) (fun _ _ h => h)).bind
    fun a => kp_iff_ho.1 (hf a))

theorem kp_get_bind {f : VmState → M β} {ψ : β → Prop} (hf : ∀ s, K s → Kp K X E ψ (f s)) :
    Kp K X E ψ (get >>= f) :=
  .of_at fun s hs => ho_go_bind rfl ((hf s hs).at hs)

theorem kp_set_bind {x : VmState} {f : PUnit → M β} {ψ : β → Prop} (hx : K x) (hf : Kp K X E ψ (f ⟨⟩)) :
    Kp K X E ψ (set x >>= f) := kp_bind (kp_set hx) fun _ => hf
theorem kp_modify_bind {g : VmState → VmState} {f : PUnit → M β} {ψ : β → Prop} (hg : ∀ s, K s → K (g s))
    (hf : Kp K X E ψ (f ⟨⟩)) : Kp K X E ψ (modify g >>= f) := kp_bind (kp_modify hg) fun _ => hf
theorem kp_throwE_bind [ErrSt K X] {e : ErrKind} {f : α → M β} {ψ : β → Prop} (he : E e) :
    Kp K X E ψ ((throwE e : M α) >>= f) :=
  kp_iff_ho.2 (Ho.bind (J := fun _ _ => False) (ho_throwE fun s hs => ⟨he, ErrSt.sub s hs⟩)
    fun _ => ⟨fun _ _ _ h => h.elim, fun _ _ _ h => h.elim⟩)

theorem kp_ite {c : Prop} [Decidable c] {a b : M α} (ha : c → Kp K X E φ a) (hb : ¬ c → Kp K X E φ b) :
    Kp K X E φ (if c then a else b) := by
  split
  · exact ha ‹_›
  · exact hb ‹_›

theorem kp_guard_bind [ErrSt K X] {c : Prop} [Decidable c] {e : ErrKind} {f : PUnit → M β} {ψ : β → Prop}
    (he : c → E e) (hf : ¬ c → Kp K X E ψ (f ⟨⟩)) :
    Kp K X E ψ ((if c then throwE e else Pure.pure PUnit.unit) >>= f) := by
  by_cases hc : c
  · rw [if_pos hc]; exact kp_throwE_bind (he hc)
  · rw [if_neg hc]; exact kp_bind (kp_pure trivial) fun _ => hf hc

theorem kp_catch {E' : ErrKind → Prop} {m : M α} {h : ErrKind → M α} (hm : Kp K X E' φ m)
    (hh : ∀ e, E' e → Kp X X E (fun _ => False) (h e)) : Kp K X E φ (tryCatch m h) := by
  refine kp_iff_ho.2 (ho_tryCatch (kp_iff_ho.1 hm) fun e => ⟨fun s a s' hs hg => ?_, fun s e' s' hs hg => ?_⟩)
  · exact ((hh e hs.1).ok s a s' hs.2 hg).2.elim
  · exact (hh e hs.1).err s e' s' hs.2 hg

theorem kp_tryCatch {m : M α} {h : ErrKind → M α} (hm : Kp K X E φ m)
    (hh : ∀ e, E e → Kp X X E (fun _ => False) (h e)) : Kp K X E φ (tryCatch m h) := kp_catch hm hh

theorem kp_orElse {m : M α} {h : Unit → M α} (hm : Kp K X E φ m) (hh : Kp X X E (fun _ => False) (h ())) :
    Kp K X E φ (HOrElse.hOrElse m h) := kp_tryCatch (h := fun _ => h ()) hm (fun _ _ => hh)

theorem kp_forIn {γ σ : Type} (l : List γ) (init : σ) (f : γ → σ → M (ForInStep σ))
    (hf : ∀ x b, Kp K X E (fun _ => True) (f x b)) : Kp K X E (fun _ => True) (forIn l init f) :=
  kp_iff_ho.2 ((ho_forIn (I := fun _ s => K s ∧ True) l init f fun x b =>
    (kp_iff_ho.1 (hf x b)).conseq (fun _ h => h.1) (fun _ _ h => h) (fun _ _ h => h)).conseq
      (fun _ h => ⟨h, trivial⟩) (fun _ _ h => h) (fun _ _ h => h))

end rules

/-! ## relations between the state before and the state after -/

class StateOrder (R : VmState → VmState → Prop) : Prop where
  refl : ∀ s, R s s
  trans : ∀ {a b c}, R a b → R b c → R a c

structure PresAt {α : Type} (R : VmState → VmState → Prop) (m : M α) (s : VmState) : Prop where
  rel : R s (m.go s).2

structure Pres {α : Type} (R : VmState → VmState → Prop) (m : M α) : Prop where
  at_ : ∀ s, PresAt R m s

theorem Pres.rel {α : Type} {R : VmState → VmState → Prop} {m : M α} (h : Pres R m) (s : VmState) :
    R s (m.go s).2 := (h.at_ s).rel

theorem Pres.intro {α : Type} {R : VmState → VmState → Prop} {m : M α}
    (h : ∀ s, R s (m.go s).2) : Pres R m := ⟨fun s => ⟨h s⟩⟩

theorem Pres.mono {α : Type} {R R' : VmState → VmState → Prop} {m : M α}
    (h : ∀ {s s'}, R s s' → R' s s') (hm : Pres R m) : Pres R' m :=
  Pres.intro fun s => h (hm.rel s)

theorem Kp.pres {α : Type} {R : VmState → VmState → Prop} [StateOrder R] {m : M α} {E : ErrKind → Prop}
    {φ : α → Prop} (h : ∀ s₀, Kp (R s₀) (R s₀) E φ m) : Pres R m := by
  refine Pres.intro fun s => ?_
  rcases hg : m.go s with ⟨e | a, s'⟩
  · exact ((h s).err s e s' (StateOrder.refl s) hg).2
  · exact ((h s).ok s a s' (StateOrder.refl s) hg).1

theorem Kp.of_pres {α : Type} {R : VmState → VmState → Prop} [StateOrder R] {m : M α} (h : Pres R m)
    (s₀ : VmState) : Kp (R s₀) (R s₀) (fun _ => True) (fun _ => True) m :=
  ⟨fun s a s' hs hg => ⟨StateOrder.trans hs (by have := h.rel s; rwa [hg] at this), trivial⟩,
   fun s e s' hs hg => ⟨trivial, StateOrder.trans hs (by have := h.rel s; rwa [hg] at this)⟩⟩

theorem pres_iff_kp {α : Type} {R : VmState → VmState → Prop} [StateOrder R] {m : M α} :
    Pres R m ↔ ∀ s₀, Kp (R s₀) (R s₀) (fun _ => True) (fun _ => True) m :=
  ⟨Kp.of_pres, Kp.pres⟩

theorem pres_iff_ho {α : Type} {R : VmState → VmState → Prop} [StateOrder R] {m : M α} :
    Pres R m ↔ ∀ s₀, Ho (R s₀) m (fun _ => R s₀) (fun _ => R s₀) :=
  pres_iff_kp.trans (forall_congr' fun _ => kp_iff_ho.trans
    ⟨fun h => h.conseq (fun _ h => h) (fun _ _ h => h.1) (fun _ _ h => h.2),
     fun h => h.conseq (fun _ h => h) (fun _ _ h => ⟨h, trivial⟩) (fun _ _ h => ⟨trivial, h⟩)⟩)

class StateFrame (R : VmState → VmState → Prop) : Prop extends StateOrder R where
  stack : ∀ (s : VmState) (st : VStack Val), R s { s with stack := st }
  globals : ∀ (s : VmState) (g : List Val), R s { s with globals := g }
  guards : ∀ (s : VmState) (g : List Nat), R s { s with guards := g }
  hostLog : ∀ (s : VmState) (l : List String), R s { s with hostLog := l }

/-! ## which errors a computation can raise -/

structure Throws {α : Type} (P : ErrKind → Prop) (m : M α) : Prop where
  err : ∀ s e, (m.go s).1 = .error e → P e

theorem throws_iff_kp {α : Type} {P : ErrKind → Prop} {m : M α} :
    Throws P m ↔ Kp (fun _ => True) (fun _ => True) P (fun _ => True) m :=
  ⟨fun h => ⟨fun _ _ _ _ _ => ⟨trivial, trivial⟩, fun s e s' _ hg => ⟨h.err s e (by rw [hg]), trivial⟩⟩,
   fun h => ⟨fun s e he => (h.err s e (m.go s).2 trivial (Prod.ext he rfl)).1⟩⟩

/-- the innermost cause of an error: natives wrap the errors of their callees in `TaskFailure` -/
def rootCause : ErrKind → ErrKind
  | .taskFailure _ inner => rootCause inner
  | e => e

def Calm (e : ErrKind) : Prop := ∀ w, rootCause e ≠ .panic w

class ErrClass (E : ErrKind → Prop) : Prop where
  calm : ∀ {e}, Calm e → E e
  wrap : ∀ {n e}, E e → E (.taskFailure n e)

instance : ErrClass Calm where
  calm h := h
  wrap h := h

def ErrKind.isPlain : ErrKind → Bool
  | .taskFailure _ _ => false
  | .panic _ => false
  | _ => true

theorem calm_of_plain {e : ErrKind} (h : e.isPlain = true) : Calm e := by
  intro w
  cases e <;> simp_all [rootCause, ErrKind.isPlain]

/-- what the primitives raise, also below `TaskFailure` wrappers: neither a panic nor `Timeout` -/
def PlainErr (e : ErrKind) : Prop := (rootCause e).isPlain = true ∧ rootCause e ≠ .timeout

theorem PlainErr.calm {e : ErrKind} (h : PlainErr e) : Calm e :=
  fun w hw => by rw [PlainErr, hw] at h; exact absurd h.1 (Bool.false_ne_true)

class ErrBase (E : ErrKind → Prop) : Prop where
  plain : ∀ {e}, PlainErr e → E e
  wrap : ∀ {n e}, E e → E (.taskFailure n e)

instance : ErrBase PlainErr where
  plain h := h
  wrap h := h

instance {E : ErrKind → Prop} [ErrClass E] : ErrBase E where
  plain h := ErrClass.calm h.calm
  wrap := ErrClass.wrap

instance : ErrBase (fun _ => True) := ⟨fun _ => trivial, fun _ => trivial⟩

/-! ## what a primitive has to satisfy -/

class StateKeep (K : VmState → Prop) : Prop where
  stack : ∀ (s : VmState) (st : VStack Val), K s → K { s with stack := st }
  globals : ∀ (s : VmState) (g : List Val), K s → K { s with globals := g }
  guards : ∀ (s : VmState) (g : List Nat), K s → K { s with guards := g }
  hostLog : ∀ (s : VmState) (l : List String), K s → K { s with hostLog := l }

instance : StateKeep (fun _ => True) := ⟨fun _ _ _ => trivial, fun _ _ _ => trivial, fun _ _ _ => trivial, fun _ _ _ => trivial⟩

instance {R : VmState → VmState → Prop} [StateFrame R] (s₀ : VmState) : StateKeep (R s₀) where
  stack s st h := StateOrder.trans h (StateFrame.stack s st)
  globals s g h := StateOrder.trans h (StateFrame.globals s g)
  guards s g h := StateOrder.trans h (StateFrame.guards s g)
  hostLog s l h := StateOrder.trans h (StateFrame.hostLog s l)

/-- **the specification of a primitive**: it keeps `K`, also when it fails, and raises only errors of the
primitives' kind -/
class Prim {α : Type} (K : VmState → Prop) (m : M α) : Prop where
  keep : Kp K K PlainErr (fun _ => True) m

section prim
variable {α β : Type} {K X : VmState → Prop} [ErrSt K X] {E : ErrKind → Prop} [ErrBase E]

theorem kp_prim (m : M α) [Prim K m] : Kp K X E (fun _ => True) m :=
  kp_mono (Prim.keep (K := K)) (fun _ => ErrBase.plain) ErrSt.sub fun _ h => h

theorem kp_prim_bind {m : M α} [Prim K m] {f : α → M β} {ψ : β → Prop} (hf : ∀ a, Kp K X E ψ (f a)) :
    Kp K X E ψ (m >>= f) := kp_bind (kp_prim m) hf

end prim

/-! ## automation -/

open Lean Elab Tactic Meta in
/-- `m_head`: put the computations of a goal `J … m …` (every argument whose type is `M _`: one in `Ho` and `Kp`, the
    two runs in `Eqv`, `Lemmas/Equivariance.lean`, and `W2`, `Lemmas/SchedRel.lean`) into weak head normal form
    (β, ζ, `match` on constructors); fails when none of them changes.
    `m_head_split`: succeeds iff the first of them is a `match`. -/
def headCore (onlyCheck : Bool) : TacticM Unit := withMainContext do
  let g ← getMainGoal
  let t := (← instantiateMVars (← g.getType)).consumeMData
  let args := t.getAppArgs
  let isM (a : Expr) : TacticM Bool := do return (← whnfR (← inferType a)).isAppOf ``ExceptT
  if onlyCheck then
    let some m ← args.findM? isM | throwError "m_head_split: no computation in the goal"
    let ok ← match m.getAppFn with
      | .const n _ => pure ((← getMatcherInfo? n).isSome)
      | _ => pure false
    unless ok do throwError "m_head_split: the head is not a `match`"
  else
    let args' ← args.mapM fun a => do if ← isM a then whnfCore a else pure a
    if args' == args then throwError "m_head: no progress"
    replaceMainGoal [← g.change (mkAppN t.getAppFn args')]

elab "m_head" : tactic => headCore false
elab "m_head_split" : tactic => headCore true

/-- closes `E e` for a concrete error of the primitives' kind, for an error known to be in `E`, or a wrapped one;
    extended by `macro_rules` (`Lemmas/VmFrame.lean`: the panics of `step`, for `Benign`) -/
syntax "kp_err" : tactic
macro_rules | `(tactic| kp_err) => `(tactic| first
  | with_reducible assumption
  | exact trivial
  | exact ErrBase.plain ⟨rfl, nofun⟩
  | exact ErrBase.wrap (by with_reducible assumption))

macro "kp_leaf" : tactic => `(tactic| first | exact trivial | with_reducible assumption)

/-- the side goals `K s'` of `set`/`modify`; extended by `macro_rules` (`Lemmas/VmFrame.lean`: an invariant `R s₀`,
    through `pres_side`; `Lemmas/NoPanic.lean`: an invariant of the call stack) -/
syntax "kp_side" : tactic
macro_rules | `(tactic| kp_side) => `(tactic| with_reducible first
  | exact trivial
  | exact StateKeep.hostLog _ _ ‹_› | exact StateKeep.guards _ _ ‹_› | exact StateKeep.stack _ _ ‹_›
  | exact StateKeep.globals _ _ ‹_›)

/-- specifications of the building blocks that are no primitives: the callback, found among the hypotheses;
    extended by `macro_rules` (below: `kp_tableInsert_guarded`, `kp_callNative`, `kp_curFrame` with their
    hypotheses taken from the context; `Lemmas/VmFrame.lean`: what respects `R`, through `pres_prim`) -/
syntax "kp_spec" : tactic
macro_rules | `(tactic| kp_spec) => `(tactic| with_reducible exact (‹∀ f : Val, Kp _ _ _ _ ((_ : Val → M Val) f)›) _)

/-- One syntax-directed step on a goal `Kp K X E φ m`. A rule is matched against `m` before the tactic for its side
    goal runs. The two checks of the head of `m` come first (they are cheap), then the rules for `m >>= f`, tried only
    on such goals (matching `?m >>= ?f` against an `if` or a `match` unfolds the monad); within each group the rules
    that match most often come first, the generic sequencing rule last. -/
macro "kp_rule" : tactic => `(tactic| (show Kp _ _ _ _ _; first
  | m_head
  | (m_head_split; split)
  | ((with_reducible refine (?_ : Kp _ _ _ _ (_ >>= _))); first
      | (with_reducible refine kp_prim_bind (fun _ => ?_))
      | (with_reducible refine kp_get_bind (fun _ _ => ?_))
      | ((with_reducible apply kp_throwE_bind); kp_err)
      | ((with_reducible refine kp_set_bind ?hx ?_); (case hx => kp_side))
      | ((with_reducible refine kp_modify_bind (fun _ _ => ?hx) ?_); (case hx => kp_side))
      | (with_reducible refine kp_guard_bind (fun _ => ?_) (fun _ => ?_))
      | ((with_reducible refine kp_bind ?hs (fun _ => ?_)); (case hs => kp_spec))
      | (with_reducible refine kp_bind ?_ (fun _ => ?_)))
  | (with_reducible exact kp_prim _)
  | ((with_reducible refine kp_pure ?_); try kp_leaf)
  | ((with_reducible apply kp_throwE); kp_err)
  | (with_reducible refine kp_ite (fun _ => ?_) (fun _ => ?_))
  | ((with_reducible apply kp_throw); kp_err)
  | ((with_reducible refine kp_set ?hx); (case hx => kp_side))
  | ((with_reducible refine kp_modify (fun _ _ => ?hx)); (case hx => kp_side))
  | kp_spec
  | (with_reducible refine kp_tryCatch ?_ (fun _ _ => ?_))
  | (with_reducible refine kp_orElse ?_ ?_)
  | (with_reducible refine kp_forIn _ _ _ (fun _ _ => ?_))))

macro "kp_auto" : tactic => `(tactic| repeat' kp_rule)

/-! ## the primitives that stay off the heap -/

section readonly
variable {K : VmState → Prop}

instance (n : Nat) : Prim K (peek n) := ⟨by unfold peek; kp_auto⟩
instance (a b : Nat) : Prim K (readLocal a b) := ⟨by unfold readLocal; kp_auto⟩
instance (v : Val) : Prim K (keyOf v) := ⟨by unfold keyOf; kp_auto⟩
instance (v : Val) : Prim K (getTable v) := ⟨by unfold getTable; kp_auto⟩
instance (es : List (Val × Val)) (k : Val) : Prim K (tableGet es k) := ⟨by unfold tableGet; kp_auto⟩
instance (a : Nat) : Prim K (readUpvalueLoc a) := ⟨by unfold readUpvalueLoc; kp_auto⟩
instance (name : String) : Prim K (nativeConv name) := ⟨by unfold nativeConv; kp_auto⟩

end readonly

section simple
variable {K : VmState → Prop} [StateKeep K]

instance (v : Val) : Prim K (push v) := ⟨by unfold push; kp_auto⟩
instance : Prim K pop := ⟨by unfold pop; kp_auto⟩
instance (n : Nat) : Prim K (popN n) := ⟨by unfold popN; kp_auto⟩
instance (a b : Nat) (v : Val) : Prim K (writeLocal a b v) := ⟨by unfold writeLocal; kp_auto⟩
instance (a : Nat) : Prim K (dropGuard a) := ⟨by unfold dropGuard; kp_auto⟩
instance (v : Val) : Prim K (guardVal v) := ⟨by unfold guardVal; kp_auto⟩
instance (v : Val) : Prim K (unguardVal v) := ⟨by unfold unguardVal; kp_auto⟩
instance (es : List (Val × Val)) : Prim K (guardRows es) := ⟨by unfold guardRows; kp_auto⟩
instance (es : List (Val × Val)) : Prim K (unguardRows es) := ⟨by unfold unguardRows; kp_auto⟩

end simple

theorem pres_of_prim {α : Type} {R : VmState → VmState → Prop} [StateOrder R] (m : M α) [∀ s₀, Prim (R s₀) m] :
    Pres R m := Kp.pres fun _ => Prim.keep

/-! ## the primitives that touch the heap -/

section raises

/- The trivial invariant is kept by anything, so the allocator and the object store can be gone through for it: this
   is where the errors of the primitives below are read off. -/
local instance (c : Nat) : Prim (fun _ => True) (allocBytes c) := ⟨by unfold allocBytes; kp_auto⟩
local instance (c : Nat) : Prim (fun _ => True) (deallocBytes c) := ⟨by unfold deallocBytes; kp_auto⟩
local instance (o : Obj) : Prim (fun _ => True) (newObject o) := ⟨by unfold newObject; kp_auto⟩

theorem raises_initTable : Throws PlainErr initTable := throws_iff_kp.2 (by unfold initTable; kp_auto)
theorem raises_initString (b : List UInt8) : Throws PlainErr (initString b) :=
  throws_iff_kp.2 (by unfold initString; kp_auto)
theorem raises_initSimple (o : Obj) : Throws PlainErr (initSimple o) :=
  throws_iff_kp.2 (by unfold initSimple; kp_auto)
theorem raises_tableInsert (a : Nat) (k v : Val) : Throws PlainErr (tableInsert a k v) :=
  throws_iff_kp.2 (by unfold tableInsert; kp_auto)
theorem raises_closeUpvalues (t : Nat) : Throws PlainErr (closeUpvalues t) :=
  throws_iff_kp.2 (by unfold closeUpvalues; kp_auto)
theorem raises_writeUpvalueLoc (a : Nat) (v : Val) : Throws PlainErr (writeUpvalueLoc a v) :=
  throws_iff_kp.2 (by unfold writeUpvalueLoc; kp_auto)

instance (o : Obj) : Prim (fun _ => True) (initSimple o) := ⟨throws_iff_kp.1 (raises_initSimple o)⟩

end raises

/-- `K` is also kept by the primitives that touch the heap: the constructors of tables, strings and native function
    objects, the closing of upvalues, a write through an upvalue; and by an insertion into a table that is an operand
    on the value stack or guarded (a collection during the growth of an unrooted table could free it) -/
class PlainKeep (K : VmState → Prop) : Prop extends StateKeep K where
  initTable : Kp K K PlainErr (fun _ => True) initTable
  initString : ∀ b, Kp K K PlainErr (fun _ => True) (initString b)
  initNative : ∀ h, Kp K K PlainErr (fun _ => True) (initSimple (.native h))
  closeUpvalues : ∀ t, Kp K K PlainErr (fun _ => True) (closeUpvalues t)
  writeUpvalueLoc : ∀ a v, Kp K K PlainErr (fun _ => True) (writeUpvalueLoc a v)
  tableInsert : ∀ (s : VmState) (a : Nat) (k v : Val),
    (∃ n, s.stack.peekLast n = .obj a) ∨ a ∈ s.guards → K s → K ((tableInsert a k v).go s).2

section heap
variable {K : VmState → Prop} [PlainKeep K]

instance : Prim K initTable := ⟨PlainKeep.initTable⟩
instance (b : List UInt8) : Prim K (initString b) := ⟨PlainKeep.initString b⟩
instance (h : UInt32) : Prim K (initSimple (.native h)) := ⟨PlainKeep.initNative h⟩
instance (t : Nat) : Prim K (closeUpvalues t) := ⟨PlainKeep.closeUpvalues t⟩
instance (a : Nat) (v : Val) : Prim K (writeUpvalueLoc a v) := ⟨PlainKeep.writeUpvalueLoc a v⟩

end heap

class PlainFrame (R : VmState → VmState → Prop) : Prop extends StateFrame R where
  initTable : Pres R initTable
  initString : ∀ b, Pres R (initString b)
  initNative : ∀ h, Pres R (initSimple (.native h))
  closeUpvalues : ∀ t, Pres R (closeUpvalues t)
  writeUpvalueLoc : ∀ a v, Pres R (writeUpvalueLoc a v)
  tableInsert : ∀ (s : VmState) (a : Nat) (k v : Val),
    (∃ n, s.stack.peekLast n = .obj a) ∨ a ∈ s.guards → R s ((tableInsert a k v).go s).2

theorem Kp.of_closed {α : Type} {R : VmState → VmState → Prop} {K : VmState → Prop} {E : ErrKind → Prop} {m : M α}
    (hK : ∀ s s', R s s' → K s → K s') (hp : Pres R m) (ht : Throws E m) : Kp K K E (fun _ => True) m :=
  ⟨fun s a s' hs hg => ⟨hK s s' (by have := hp.rel s; rwa [hg] at this) hs, trivial⟩,
   fun s e s' hs hg => ⟨ht.err s e (by rw [hg]), hK s s' (by have := hp.rel s; rwa [hg] at this) hs⟩⟩

theorem PlainKeep.of_frame {K : VmState → Prop} (R : VmState → VmState → Prop) [PlainFrame R]
    (hK : ∀ s s', R s s' → K s → K s') : PlainKeep K where
  stack s st := hK _ _ (StateFrame.stack s st)
  globals s g := hK _ _ (StateFrame.globals s g)
  guards s g := hK _ _ (StateFrame.guards s g)
  hostLog s l := hK _ _ (StateFrame.hostLog s l)
  initTable := .of_closed hK PlainFrame.initTable raises_initTable
  initString b := .of_closed hK (PlainFrame.initString b) (raises_initString b)
  initNative h := .of_closed hK (PlainFrame.initNative h) (raises_initSimple _)
  closeUpvalues t := .of_closed hK (PlainFrame.closeUpvalues t) (raises_closeUpvalues t)
  writeUpvalueLoc a v := .of_closed hK (PlainFrame.writeUpvalueLoc a v) (raises_writeUpvalueLoc a v)
  tableInsert s a k v hr := hK _ _ (PlainFrame.tableInsert s a k v hr)

instance {R : VmState → VmState → Prop} [PlainFrame R] (s₀ : VmState) : PlainKeep (R s₀) :=
  .of_frame R fun _ _ h h0 => StateOrder.trans h0 h

instance : PlainKeep (fun _ => True) where
  initTable := throws_iff_kp.1 raises_initTable
  initString b := throws_iff_kp.1 (raises_initString b)
  initNative _ := throws_iff_kp.1 (raises_initSimple _)
  closeUpvalues t := throws_iff_kp.1 (raises_closeUpvalues t)
  writeUpvalueLoc a v := throws_iff_kp.1 (raises_writeUpvalueLoc a v)
  tableInsert _ _ _ _ _ _ := trivial

/-! ## where the operand of `tableInsert` comes from

Most of `step` and of the host functions is handled for all states at once. The insertions need to know that their
table is rooted: it was peeked from the value stack, or it is a table the code has just made and still guards. The
second needs the guards after each allocation, exactly; so these stretches are gone through from one state. -/

theorem allocPure_guards (c : Nat) (s : VmState) : (allocPure c s).2.guards = s.guards :=
  (allocPure_effect c s).elim (·.guards) (·.guards)

theorem alloc2Pure_guards {c1 c2 : Nat} {o : Obj} {s s' : VmState} {a : Nat}
    (h : alloc2Pure c1 c2 o s = (.ok a, s')) : s'.guards = a :: s.guards := by
  unfold alloc2Pure at h
  have g1 := allocPure_guards c1 s
  rcases h1 : allocPure c1 s with ⟨_ | _, s1⟩ <;> rw [h1] at h g1
  · cases h
  · have g2 := allocPure_guards c2 s1
    dsimp only at h g1
    rcases h2 : allocPure c2 s1 with ⟨_ | _, s2⟩ <;> rw [h2] at h g2
    · cases h
    · cases h
      show s2.heap.next :: s2.guards = _
      rw [g2, g1]

theorem alloc1Pure_guards {c1 : Nat} {o : Obj} {s s' : VmState} {a : Nat}
    (h : alloc1Pure c1 o s = (.ok a, s')) : s'.guards = a :: s.guards := by
  unfold alloc1Pure at h
  have g1 := allocPure_guards c1 s
  rcases h1 : allocPure c1 s with ⟨_ | _, s1⟩ <;> rw [h1] at h g1
  · cases h
  · cases h
    show s1.heap.next :: s1.guards = _
    rw [g1]

theorem initTable_guards {s s' : VmState} {a : Nat} (h : initTable.go s = (.ok a, s')) :
    s'.guards = a :: s.guards := alloc2Pure_guards ((initTable_run s).symm.trans h)

theorem initString_guards {b : List UInt8} {s s' : VmState} {a : Nat}
    (h : (initString b).go s = (.ok a, s')) : s'.guards = a :: s.guards :=
  alloc2Pure_guards ((initString_run b s).symm.trans h)

theorem initSimple_guards {o : Obj} {s s' : VmState} {a : Nat}
    (h : (initSimple o).go s = (.ok a, s')) : s'.guards = a :: s.guards :=
  alloc1Pure_guards ((initSimple_run o s).symm.trans h)

theorem tableInsert_guards (a : Nat) (k v : Val) (s : VmState) :
    ((tableInsert a k v).go s).2.guards = s.guards := by
  show ((tableInsert a k v).run.run s).2.guards = _
  rw [tableInsert_run]
  have he := tableInsertPure_effect a k v s
  generalize (tableInsertPure a k v s).2 = s' at he
  cases he with
  | none | rows => rfl
  | @oom cap _ _ _ _ ha | @grow cap _ _ _ _ ha =>
    have := allocPure_guards (Heap.tableCharge (HMap.growCap cap)) s
    rwa [ha] at this

section insert
variable {α β : Type} {K X : VmState → Prop} [PlainKeep K] [ErrSt K X] {E : ErrKind → Prop} [ErrBase E]
  {s : VmState}

omit [PlainKeep K] in
theorem ho_prim_at (m : M α) [Prim K m] (hs : K s) {G : α → VmState → Prop}
    (hG : ∀ a s', m.go s = (.ok a, s') → G a s') :
    Ho (fun t => t = s) m (fun a s' => K s' ∧ G a s') (fun e s' => E e ∧ X s') :=
  ⟨fun t a s' ht hg => by subst ht; exact ⟨((kp_prim (X := X) (E := E) m).ok t a s' hs hg).1, hG a s' hg⟩,
   fun t e s' ht hg => by subst ht; exact (kp_prim m).err t e s' hs hg⟩

theorem ho_initTable_at (hs : K s) : Ho (fun t => t = s) initTable
    (fun a s' => K s' ∧ s'.guards = a :: s.guards) (fun e s' => E e ∧ X s') :=
  ho_prim_at initTable hs fun _ _ hg => initTable_guards hg

theorem ho_initString_at (b : List UInt8) (hs : K s) : Ho (fun t => t = s) (initString b)
    (fun a s' => K s' ∧ s'.guards = a :: s.guards) (fun e s' => E e ∧ X s') :=
  ho_prim_at (initString b) hs fun _ _ hg => initString_guards hg

theorem ho_tableInsert_at (a : Nat) (k v : Val) (hs : K s)
    (hr : (∃ n, s.stack.peekLast n = .obj a) ∨ a ∈ s.guards) : Ho (fun t => t = s) (tableInsert a k v)
    (fun _ s' => K s' ∧ s'.guards = s.guards) (fun e s' => E e ∧ X s') := by
  have hk := PlainKeep.tableInsert s a k v hr hs
  have hg' := tableInsert_guards a k v s
  constructor <;> intro t x s' ht hg <;> subst ht <;> rw [hg] at hk hg'
  · exact ⟨hk, hg'⟩
  · exact ⟨ErrBase.plain ((raises_tableInsert a k v).err t x (by rw [hg])), ErrSt.sub _ hk⟩

omit [PlainKeep K] in
theorem ho_getTable_bind {v : Val} {f : Nat × Nat × List (Val × Val) → M β} {Q : β → VmState → Prop} (hs : K s)
    (hf : ∀ a cap es, v = .obj a → s.heap.get a = some (.table cap es) →
      Ho (fun t => t = s) (f (a, cap, es)) Q (fun e s' => E e ∧ X s')) :
    Ho (fun t => t = s) (getTable v >>= f) Q (fun e s' => E e ∧ X s') := by
  refine ho_at_bind (ho_prim_at (getTable v) hs
      (G := fun r s' => s' = s ∧ v = .obj r.1 ∧ s.heap.get r.1 = some (.table r.2.1 r.2.2)) fun r s' hg => ?_)
    fun r s' h => by obtain ⟨a, cap, es⟩ := r; obtain ⟨-, rfl, hv, hg⟩ := h; exact hf a cap es hv hg
  cases v with
  | obj a =>
    rw [show (getTable (.obj a)).go s = _ from getTable_run a s] at hg
    split at hg
    · next cap es hget => cases hg; exact ⟨rfl, rfl, hget⟩
    · cases hg
  | _ => cases hg

theorem kp_tableInsert_guarded (a : Nat) (k v : Val) :
    Kp (fun s => K s ∧ a ∈ s.guards) X E (fun _ => True) (tableInsert a k v) :=
  .of_at fun _ hs => (ho_tableInsert_at a k v hs.1 (.inr hs.2)).conseq (fun _ h => h)
    (fun _ _ h => ⟨⟨h.1, h.2 ▸ hs.2⟩, trivial⟩) (fun _ _ h => h)

end insert

macro_rules | `(tactic| kp_spec) => `(tactic| with_reducible exact kp_tableInsert_guarded _ _ _)

/-- marks a goal that the automation must leave alone -/
structure Stop (P : Prop) : Prop where
  out : P

theorem kp_stop_initTable {β : Type} {K X : VmState → Prop} {E : ErrKind → Prop} {φ : β → Prop} {f : Nat → M β}
    (h : Stop (Kp K X E φ (initTable >>= f))) : Kp K X E φ (initTable >>= f) := h.out

/-- `kp_auto` on all goals, except that a block which starts with `initTable` is left (as a `Stop`) -/
macro "kp_auto_stop" : tactic =>
  `(tactic| repeat' (first | (with_reducible apply kp_stop_initTable) | kp_rule))

/-! ## the host functions -/

theorem kp_callNativeBody {K X : VmState → Prop} [PlainKeep K] [PlainKeep X] [ErrSt K X] {E : ErrKind → Prop}
    [ErrBase E] (re : Reenter) (hre : ∀ f, Kp K X E (fun _ => True) (re f)) (name : String) :
    Kp K X E (fun _ => True) (callNativeBody re name) := by
  unfold callNativeBody
  kp_auto_stop
  -- "__min", "__max": the result row
  iterate 2
    refine ⟨.of_at fun s hs => ?_⟩
    refine ho_at_bind (ho_initTable_at hs) fun row s1 ⟨h1, g1⟩ => ?_
    refine ho_at_bind (ho_initString_at _ h1) fun ks s2 ⟨h2, g2⟩ => ?_
    refine ho_at_bind (ho_tableInsert_at _ _ _ h2 (.inr (by rw [g2, g1]; simp))) fun _ s3 ⟨h3, g3⟩ => ?_
    refine ho_go_bind (m := dropGuard ks) rfl ?_
    refine ho_at_bind (ho_initString_at _ (StateKeep.guards _ _ h3)) fun vs s4 ⟨h4, g4⟩ => ?_
    refine ho_at_bind (ho_tableInsert_at _ _ _ h4 (.inr (by rw [g4]; simp [g3, g2, g1]))) fun _ s5 ⟨h5, _⟩ => ?_
    exact Kp.at (by kp_auto) h5
  -- "__sort", "__to_array": the loop that fills the result
  iterate 2
    refine ⟨.of_at fun s hs => ?_⟩
    refine ho_at_bind (ho_initTable_at hs) fun out s1 ⟨h1, g1⟩ => ?_
    try m_head
    refine ho_at_bind (Kp.at (K := fun t => K t ∧ out ∈ t.guards) (φ := fun _ => True) (by kp_auto)
      ⟨h1, by rw [g1]; simp⟩) fun _ s2 h2 => Kp.at (by kp_auto) h2.1.1
  -- "mktable"
  · refine ⟨.of_at fun s hs => ?_⟩
    refine ho_at_bind (ho_initTable_at hs) fun t s1 ⟨h1, g1⟩ => ?_
    refine ho_at_bind (ho_initString_at _ h1) fun ks s2 ⟨h2, g2⟩ => ?_
    refine ho_at_bind (ho_tableInsert_at _ _ _ h2 (.inr (by rw [g2, g1]; simp))) fun _ s3 ⟨h3, _⟩ => ?_
    exact Kp.at (by kp_auto) h3

section natives
variable {K X : VmState → Prop} [PlainKeep K] [PlainKeep X] [ErrSt K X] {E' E : ErrKind → Prop} [ErrBase E']
  [ErrBase E]

/-- `callNative` wraps whatever the host function raises (so whatever the callback raises, `E'`) in `TaskFailure` -/
theorem kp_callNative (hw : ∀ n e, E' e → E (.taskFailure n e)) (re : Reenter)
    (hre : ∀ f, Kp K X E' (fun _ => True) (re f)) (h : UInt32) : Kp K X E (fun _ => True) (callNative re h) := by
  unfold callNative
  split
  · exact kp_throwE (ErrBase.plain ⟨rfl, nofun⟩)
  next name _ =>
  refine kp_bind (kp_catch (kp_prim (E := E) (nativeConv name)) fun e he => kp_throwE (ErrBase.wrap he)) fun _ => ?_
  refine kp_bind (kp_catch (kp_callNativeBody re hre name) fun e he => ?_) fun r => ?_
  · exact kp_prim_bind fun _ => kp_throwE (hw name e he)
  · exact kp_prim_bind fun _ => kp_prim _

end natives

theorem kp_curFrame {K X : VmState → Prop} [ErrSt K X] {E : ErrKind → Prop}
    (hne : ∀ s, K s → s.frames = [] → E (.panic "call stack is empty")) : Kp K X E (fun _ => True) curFrame := by
  unfold curFrame
  refine kp_get_bind fun s hs => ?_
  split
  · exact kp_pure trivial
  · next hl => exact kp_throwE (hne s hs (List.getLast?_eq_none_iff.1 hl))

macro_rules | `(tactic| kp_spec) => `(tactic| with_reducible exact kp_callNative (by assumption) _ (by assumption) _)
macro_rules | `(tactic| kp_spec) => `(tactic|
  with_reducible exact kp_curFrame (by first | assumption | exact fun _ _ _ => trivial))

/-! ## the instructions that run primitives and fall through -/

/-- what such an instruction returns: the address behind itself -/
def Falls (p : Prog) (src : Nat) (ctl : Ctl) : Prop :=
  ctl.exit = false ∧ ∃ sp, (Gen.spanOf (p.bytecode.getD src 0) = some sp ∧
    p.bytecode.getD src 0 ≠ Compiler.op.exit) ∧ ctl.ip = src + sp

theorem falls_of_op {p : Prog} {src : Nat} {o : UInt8} (hop : p.bytecode.getD src 0 = o) (sp : Nat)
    (hsp : Gen.spanOf o = some sp) (hx : o ≠ Compiler.op.exit) : Falls p src { ip := src + sp } :=
  ⟨rfl, sp, hop ▸ ⟨hsp, hx⟩, rfl⟩

/-- the next branch of `step` runs primitives and falls through; `hne` is what is known if there is no frame, for
    every opcode but `CallNative` -/
macro "kp_plain_branch" hne:term : tactic => `(tactic|
  (refine kp_ite (fun h => ?_) (fun _ => ?_)
   · (have hne' := $hne (by rw [eq_of_beq h]; decide)
      kp_auto; all_goals exact ⟨rfl, _, seq_of_beq h (by rfl) (by decide), rfl⟩)))

/-- the next branch of `step` belongs to an opcode of `ctlOps` -/
macro "kp_ctl_branch" hop:term : tactic => `(tactic|
  refine kp_ite (fun h => absurd (eq_of_beq h ▸ $hop) (by decide)) (fun _ => ?_))

/-- **An instruction of `plainOps` keeps every `PlainKeep`** that the callback keeps, also when it fails, and goes on
    behind itself. The callback is needed only at `CallNative`, the current frame only elsewhere. -/
theorem kp_step_plain {K X : VmState → Prop} [PlainKeep K] [PlainKeep X] [ErrSt K X] {E' E : ErrKind → Prop}
    [ErrBase E'] [ErrBase E] (p : Prog) (re : Reenter) (src : Nat)
    (hne : p.bytecode.getD src 0 ≠ Compiler.op.callNative →
      ∀ s, K s → s.frames = [] → E (.panic "call stack is empty"))
    (hw : ∀ n e, E' e → E (.taskFailure n e))
    (hre : p.bytecode.getD src 0 = Compiler.op.callNative → ∀ f, Kp K X E' (fun _ => True) (re f))
    (hop : plainOps.contains (p.bytecode.getD src 0) = true) : Kp K X E (Falls p src) (step p re src) := by
  unfold step
  m_head
  iterate 2 kp_plain_branch hne  -- InitTable, GetProperty
  refine kp_ite (fun h => ?_) (fun _ => ?_)  -- SetProperty: the table is the second operand
  · refine .of_at fun s hs => ho_go_bind (m := peek 0) rfl (ho_go_bind (m := peek 1) rfl
      (ho_go_bind (m := peek 2) rfl (ho_getTable_bind hs fun a cap es hv _ => ?_)))
    m_head
    refine ho_at_bind (ho_tableInsert_at _ _ _ hs (.inl ⟨1, hv⟩)) fun _ s1 h1 => Kp.at ?_ h1.1
    kp_auto
    exact ⟨rfl, _, seq_of_beq h (by rfl) (by decide), rfl⟩
  iterate 2 kp_plain_branch hne  -- BeginForEach, ForEach
  iterate 3 kp_ctl_branch hop    -- GotoIfTrue, GotoIfFalse, Goto
  iterate 8 kp_plain_branch hne  -- SwapLast, ScalarNil, ClearStack, the four variable accesses, Pop
  iterate 3 kp_ctl_branch hop    -- CallFunction, Return, Exit
  iterate 2 kp_plain_branch hne  -- CopyLast, NativeFunctionPointer
  iterate 2 kp_ctl_branch hop    -- FunctionPointer, Closure
  iterate 3 kp_plain_branch hne  -- ScalarInt, ScalarFloat, Not
  refine kp_ite (fun h => ?_) (fun _ => ?_)  -- the binary operators
  · have ⟨hsp, hx, _, _⟩ := arith_span _ h
    kp_auto
    exact ⟨rfl, 1, ⟨hsp, hx⟩, rfl⟩
  kp_plain_branch hne            -- StringLiteral
  refine kp_ite (fun h => ?_) (fun _ => ?_)  -- CallNative
  · have hre' := hre (eq_of_beq h)
    kp_auto
    exact ⟨rfl, _, seq_of_beq h (by rfl) (by decide), rfl⟩
  kp_plain_branch hne            -- Len
  refine kp_ite (fun h => ?_) (fun _ => ?_)  -- NthRow: the row is a new table
  · kp_auto_stop
    refine ⟨.of_at fun s hs => ?_⟩
    refine ho_at_bind (ho_initTable_at hs) fun row s1 ⟨h1, g1⟩ => ?_
    refine ho_at_bind (ho_initString_at _ h1) fun ks s2 ⟨h2, g2⟩ => ?_
    refine ho_at_bind (ho_initString_at _ h2) fun vs s3 ⟨h3, g3⟩ => ?_
    refine ho_at_bind (ho_tableInsert_at _ _ _ h3 (.inr (by rw [g3, g2, g1]; simp))) fun _ s4 ⟨h4, g4⟩ => ?_
    refine ho_at_bind (ho_tableInsert_at _ _ _ h4 (.inr (by rw [g4, g3, g2, g1]; simp))) fun _ s5 h5 => Kp.at ?_ h5.1
    kp_auto
    exact ⟨rfl, _, seq_of_beq h (by rfl) (by decide), rfl⟩
  refine kp_ite (fun h => ?_) (fun _ => ?_)  -- AppendTable: the table is the first operand
  · refine .of_at fun s hs => ho_go_bind (m := peek 0) rfl (ho_go_bind (m := peek 1) rfl
      (ho_getTable_bind hs fun a cap es hv _ => ?_))
    m_head
    refine ho_go_bind (m := get) rfl ?_
    refine ho_at_bind (ho_tableInsert_at _ _ _ hs (.inl ⟨0, hv⟩)) fun _ s1 h1 => Kp.at ?_ h1.1
    kp_auto
    exact ⟨rfl, _, seq_of_beq h (by rfl) (by decide), rfl⟩
  kp_ctl_branch hop              -- PopTable
  iterate 2 kp_plain_branch hne  -- SetUpvalue, ReadUpvalue
  kp_ctl_branch hop              -- RegisterUpvalue
  kp_plain_branch hne            -- CloseUpvalue
  -- no other byte is in `plainOps`
  exfalso
  simp only [Bool.or_eq_true, not_or, Bool.not_eq_true] at *
  simp only [plainOps, List.contains_cons, List.contains_nil, *, Bool.or_self] at hop
  exact absurd hop (by decide)

/-! ## one instruction -/

/-- **An instruction keeps every `PlainKeep`** that the callback keeps, also when it fails, provided it is kept by
    what the ten other instructions do to the state: `push_call_frame` (at a `CallFunction`), the pop of a frame (at a
    `Return`), the allocation of an object with a plain header that refers to nothing (`FunctionPointer`, `Closure`),
    the replacement of a table's rows (`PopTable`), and `RegisterUpvalue`. -/
theorem kp_step {K X : VmState → Prop} [PlainKeep K] [PlainKeep X] [ErrSt K X] {E' E : ErrKind → Prop}
    [ErrBase E'] [ErrBase E] (p : Prog) (re : Reenter) (src : Nat)
    (hne : ∀ s, K s → s.frames = [] → E (.panic "call stack is empty")) (hinv : E (.panic "invalid opcode"))
    (hw : ∀ n e, E' e → E (.taskFailure n e)) (hre : ∀ f, Kp K X E' (fun _ => True) (re f))
    (hcall : p.bytecode.getD src 0 = Compiler.op.callFunction →
      ∀ h ar c, Kp K X E (fun _ => True) (step.callScript p src (src + 1) h ar c))
    (hret : p.bytecode.getD src 0 = Compiler.op.ret → ∀ s, K s → K { s with frames := s.frames.dropLast })
    (hinit : ∀ o, Heap.chargeOf o = Heap.objCharge → Heap.children o = [] →
      Kp K X E (fun _ => True) (initSimple o))
    (hset : ∀ s a cap es es', K s → s.heap.get a = some (.table cap es) →
      K { s with heap := s.heap.set a (.table cap es') })
    (hreg : ∀ i l ip, Kp K X E (fun _ => True) (Upv.Instr.registerUpvalue i l ip)) :
    Kp K X E (fun _ => True) (step p re src) := by
  rcases op_cases (p.bytecode.getD src 0) with hop | (h | h | h | h | h | h | h | h | h | h) | hst
  · exact kp_mono (kp_step_plain p re src (fun _ => hne) hw (fun _ => hre) hop) (fun _ h => h) (fun _ h => h)
      fun _ _ => trivial
  · rw [step_gotoIfTrue p re src h]; unfold Instr.gotoIf; kp_auto
  · rw [step_gotoIfFalse p re src h]; unfold Instr.gotoIf; kp_auto
  · rw [step_goto p re src h]; exact kp_pure trivial
  · rw [Cross.step_callFunction p re src h]
    unfold Cross.Instr.callFunction
    kp_auto
    all_goals exact hcall h _ _ _
  · rw [Upv.step_ret p re src h]
    unfold Upv.Instr.ret
    refine kp_get_bind fun s hs => ?_
    split
    · exact kp_throwE (ErrBase.plain ⟨rfl, nofun⟩)
    · refine kp_set_bind (hret h s hs) ?_
      kp_auto
  · rw [step_exit p re src h]; exact kp_pure trivial
  · rw [Cross.step_functionPointer p re src h]
    unfold Cross.Instr.functionPointer
    refine kp_bind (hinit _ rfl rfl) fun a => ?_
    kp_auto
  · rw [Upv.step_closure p re src h]
    unfold Upv.Instr.closure
    refine kp_bind (hinit _ rfl rfl) fun a => ?_
    kp_auto
  · rw [step_popTable p re src h]
    unfold Instr.popTable
    refine kp_prim_bind fun inst => .of_at fun s hs => ho_getTable_bind hs fun a cap es _ hg => ?_
    m_head
    split
    · exact Kp.at (by kp_auto) hs
    · exact ho_go_bind (m := modify _) rfl (Kp.at (by kp_auto) (hset s a cap es _ hs hg))
  · rw [Upv.step_registerUpvalue p re src h]; exact hreg _ _ _
  · rw [step_invalid p re src hst]
    exact kp_throwE hinv

end Cao.Vm
