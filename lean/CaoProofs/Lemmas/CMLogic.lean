import CaoModel.Compiler
/-!
# Running actions of the compiler monad

What a `bind`, `get`, `modify`, `throw` does as a function of the state, and the primitives that write bytes: `emitBytes`
appends, `patchI32` overwrites four bytes in place (`patched`). `le32_word`: reading back the four bytes of `le32 x` gives `x`.
-/
namespace Cao.Compiler
open Cao

theorem bind_run {α β : Type} (m : CM α) (f : α → CM β) (s : CState) :
    (m >>= f) s = (match m s with
      | .ok (a, s') => f a s'
      | .error e => .error e) := by
  show (Except.bind (m s) _) = _
  cases h : m s with
  | error e => rfl
  | ok p => cases p; rfl

theorem map_run {α β : Type} (g : α → β) (m : CM α) (s : CState) :
    (g <$> m) s = (match m s with
      | .ok (a, s') => .ok (g a, s')
      | .error e => .error e) := by
  show (Except.bind (m s) _) = _
  cases h : m s with
  | error e => rfl
  | ok p => cases p; rfl

theorem bind_ok {α β : Type} {m : CM α} {f : α → CM β} {s : CState} {b : β} {s'' : CState} :
    (m >>= f) s = .ok (b, s'') ↔ ∃ a s', m s = .ok (a, s') ∧ f a s' = .ok (b, s'') := by
  show (Except.bind (m s) _) = _ ↔ _
  rcases m s with e | ⟨a, s'⟩
  · simp [Except.bind]
  · exact ⟨fun h => ⟨a, s', rfl, h⟩, fun ⟨_, _, h1, h⟩ => by cases h1; exact h⟩

theorem bind_err {α β : Type} {m : CM α} {f : α → CM β} {s : CState} {e : CErr} :
    (m >>= f) s = .error e ↔ m s = .error e ∨ ∃ a s', m s = .ok (a, s') ∧ f a s' = .error e := by
  show (Except.bind (m s) _) = _ ↔ _
  rcases m s with e | ⟨a, s'⟩
  · simp [Except.bind]
  · exact ⟨fun h => .inr ⟨a, s', rfl, h⟩, fun h => by
      rcases h with h | ⟨_, _, h1, h⟩
      · cases h
      · cases h1; exact h⟩

theorem bind_eq_of_ok {α β : Type} {m : CM α} {f : α → CM β} {s s1 : CState} {a : α}
    (hm : m s = .ok (a, s1)) : (m >>= f) s = f a s1 := by
  rw [bind_run, hm]

@[simp] theorem pure_run {α : Type} (a : α) (s : CState) : (pure a : CM α) s = .ok (a, s) := rfl
@[simp] theorem get_run (s : CState) : (get : CM CState) s = .ok (s, s) := rfl
@[simp] theorem modify_run (f : CState → CState) (s : CState) : (modify f : CM Unit) s = .ok ((), f s) := rfl
@[simp] theorem throw_run {α : Type} (e : CErr) (s : CState) : (throw e : CM α) s = .error e := rfl

/-- the source location attached to an error raised in state `s` (what `curTrace` returns) -/
def traceOf (s : CState) : Trace := { ns := s.ns, function := s.curFunction, indices := s.curIndices }

@[simp] theorem fail_run {α : Type} (k : CErrKind) (s : CState) :
    (fail k : CM α) s = .error (.err k (some { ns := s.ns, function := s.curFunction, indices := s.curIndices })) := rfl

theorem get_bind_run {β : Type} (f : CState → CM β) (s : CState) : (get >>= f) s = f s s := rfl
theorem modify_bind_run {β : Type} (g : CState → CState) (f : Unit → CM β) (s : CState) :
    ((modify g : CM Unit) >>= f) s = f () (g s) := rfl
theorem throw_bind_run {α β : Type} (e : CErr) (f : α → CM β) (s : CState) :
    ((throw e : CM α) >>= f) s = .error e := rfl

theorem _root_.Cao.Bytecode.le32_length (x : UInt32) : (le32 x).length = 4 := by
  simp [le32, Hash.le32]

theorem _root_.Cao.Bytecode.le64_length (x : UInt64) : (le64 x).length = 8 := by simp [le64, Hash.le64]

theorem foldl_push_eq (bs : List UInt8) (a : Array UInt8) :
    bs.foldl (fun a b => a.push b) a = a ++ bs.toArray := by
  induction bs generalizing a with
  | nil => simp
  | cons b bs ih => simp [ih]

theorem emitBytes_modify (bs : List UInt8) :
    emitBytes bs = modify fun s => { s with bytecode := s.bytecode ++ bs.toArray } := by
  unfold emitBytes; simp only [foldl_push_eq]

theorem emitBytes_run (bs : List UInt8) (s : CState) :
    emitBytes bs s = .ok ((), { s with bytecode := s.bytecode ++ bs.toArray }) := by
  rw [emitBytes_modify]; rfl

theorem emitU32_run (x : Nat) (s : CState) :
    emitU32 x s = .ok ((), { s with bytecode := s.bytecode ++ (le32 (UInt32.ofNat x)).toArray }) :=
  emitBytes_run _ s

theorem pushInstr_run (o : UInt8) (s : CState) : pushInstr o s = .ok ((), { s with
    trace := s.trace ++ [(s.bytecode.size, traceOf s)], bytecode := s.bytecode.push o }) := rfl

/-- the bytecode after `patchI32`: the four bytes from `at_` on are overwritten.  Irreducible once
its lemmas are proved (the unifier would otherwise run the four `set!` symbolically); `patchI32_eq` is `rfl` before that. -/
def patched (a : Array UInt8) (at_ : Nat) (bs : List UInt8) : Array UInt8 :=
  (List.range 4).foldl (fun a i => a.set! (at_ + i) (bs.getD i 0)) a

theorem patchI32_eq (at_ v : Nat) :
    patchI32 at_ v = modify fun s => { s with bytecode := patched s.bytecode at_ (le32 (UInt32.ofNat v)) } := rfl

theorem patched_size (a : Array UInt8) (at_ : Nat) (bs : List UInt8) : (patched a at_ bs).size = a.size := by
  simp [patched, List.range, List.range.loop]

theorem patched_getElem? (a : Array UInt8) (at_ : Nat) (bs : List UInt8) {i : Nat}
    (h : i < at_ ∨ at_ + 4 ≤ i) : (patched a at_ bs)[i]? = a[i]? := by
  have hr : List.range 4 = [0, 1, 2, 3] := rfl
  simp only [patched, hr, List.foldl_cons, List.foldl_nil, Array.set!_eq_setIfInBounds]
  repeat rw [Array.getElem?_setIfInBounds_ne (by omega)]

theorem patched_getD (at_ : Nat) (bs : List UInt8) (a : Array UInt8) (h : at_ + 4 ≤ a.size) (i : Nat) :
    (patched a at_ bs).getD i 0 = if at_ ≤ i ∧ i < at_ + 4 then bs.getD (i - at_) 0 else a.getD i 0 := by
  have hr : List.range 4 = [0, 1, 2, 3] := rfl
  unfold patched
  rw [hr]
  simp only [List.foldl_cons, List.foldl_nil, Array.set!_eq_setIfInBounds, Array.getD_eq_getD_getElem?,
    Array.getElem?_setIfInBounds, Array.size_setIfInBounds]
  have l3 : at_ + 3 < a.size := by omega
  have l2 : at_ + 2 < a.size := by omega
  have l1 : at_ + 1 < a.size := by omega
  have l0 : at_ < a.size := by omega
  by_cases h3 : at_ + 3 = i
  · subst h3
    have : at_ + 3 - at_ = 3 := by omega
    simp [this, l3]
  · by_cases h2 : at_ + 2 = i
    · subst h2
      have : at_ + 2 - at_ = 2 := by omega
      simp [this, l2]
    · by_cases h1 : at_ + 1 = i
      · subst h1
        have : at_ + 1 - at_ = 1 := by omega
        simp [this, l1]
      · by_cases h0 : at_ = i
        · subst h0
          simp [l0]
        · have : ¬ (at_ ≤ i ∧ i < at_ + 4) := by omega
          simp [h3, h2, h1, h0, this]

theorem patchI32_ok {at_ v : Nat} {s s' : CState} {u : Unit} (h : patchI32 at_ v s = .ok (u, s')) :
    ∃ bc', s' = { s with bytecode := bc' } ∧ bc'.size = s.bytecode.size ∧
      (at_ + 4 ≤ s.bytecode.size → ∀ i, bc'.getD i 0 =
        if at_ ≤ i ∧ i < at_ + 4 then (le32 (UInt32.ofNat v)).getD (i - at_) 0 else s.bytecode.getD i 0) := by
  rw [patchI32_eq] at h
  exact ⟨_, (Prod.mk.inj (Except.ok.inj h)).2.symm, patched_size _ _ _, patched_getD _ _ _⟩

attribute [irreducible] patched

theorem ifElseCode_flat (c t e : CM Unit) : ifElseCode c t e = (do
    withSub 0 c
    pushSub 1
    pushInstr op.gotoIfFalse
    let idx := (← get).bytecode.size
    emitU32 0
    t
    pushInstr op.goto
    let idxRef := (← get).bytecode.size
    emitU32 0xEEF
    patchI32 idx (← get).bytecode.size
    popSub
    withSub 2 e
    patchI32 idxRef (← get).bytecode.size) := by
  simp only [ifElseCode, encodeIfThenRet, bind_assoc, pure_bind]

/-! ## little-endian words

`rdU32` (of `CaoModel/Vm.lean` and of `CaoModel/Bytecode.lean`) is by definition the fold on the left of `le32_word` over the
four bytes from a position on, so `le32_word` is the round trip for either. -/

theorem digits_sum (x : Nat) (d : Nat → Nat) : ∀ n, (∀ i, i < n → d i = x / 256 ^ i % 256) →
    (List.range n).foldl (fun acc i => acc + d i * 256 ^ i) 0 = x % 256 ^ n
  | 0, _ => by simp [Nat.mod_one]
  | n + 1, h => by
    rw [List.range_succ, List.foldl_append, digits_sum x d n fun i hi => h i (by omega), List.foldl_cons,
      List.foldl_nil, h n (by omega), Nat.mod_pow_succ, Nat.mul_comm]

theorem le32_digit (x : UInt32) {i : Nat} (hi : i < 4) :
    ((le32 x).getD i 0).toNat = x.toNat / 256 ^ i % 256 := by
  have e : (8 * i).toUInt32.toNat % 32 = 8 * i := by simp [Nat.toUInt32]; omega
  simp only [le32, Hash.le32, List.getD_eq_getElem?_getD, List.getElem?_map, List.getElem?_range hi, Option.map_some,
    Option.getD_some, UInt32.toNat_toUInt8, UInt32.toNat_shiftRight, e, Nat.shiftRight_eq_div_pow, Nat.pow_mul]

theorem le32_word (x : UInt32) (b : Nat → UInt8) (h : ∀ i, i < 4 → b i = (le32 x).getD i 0) :
    (List.range 4).foldl (fun acc i => acc + (b i).toNat * 256 ^ i) 0 = x.toNat := by
  rw [digits_sum x.toNat _ 4 fun i hi => by rw [h i hi, le32_digit x hi]]
  exact Nat.mod_eq_of_lt x.toNat_lt

theorem foldl4 (g : Nat → Nat) :
    (List.range 4).foldl (fun acc i => acc + g i) 0 = g 0 + g 1 + g 2 + g 3 := by
  have hr : List.range 4 = [0, 1, 2, 3] := rfl
  rw [hr]; simp only [List.foldl_cons, List.foldl_nil, Nat.zero_add]
theorem pow256_2 : (256:Nat)^2 = 65536 := rfl
theorem pow256_3 : (256:Nat)^3 = 16777216 := rfl

theorem word4 (b : Nat → UInt8) :
    (List.range 4).foldl (fun acc i => acc + (b i).toNat * 256 ^ i) 0 =
      (b 0).toNat + 256 * (b 1).toNat + 65536 * (b 2).toNat + 16777216 * (b 3).toNat := by
  rw [foldl4 fun i => (b i).toNat * 256 ^ i]
  simp only [Nat.pow_zero, Nat.mul_one, Nat.pow_one]
  rw [pow256_2, pow256_3]
  omega

theorem word4_congr {b b' : Nat → UInt8} (h : ∀ i, i < 4 → b i = b' i) :
    (List.range 4).foldl (fun acc i => acc + (b i).toNat * 256 ^ i) 0 =
      (List.range 4).foldl (fun acc i => acc + (b' i).toNat * 256 ^ i) 0 := by
  rw [word4, word4, h 0 (by omega), h 1 (by omega), h 2 (by omega), h 3 (by omega)]

end Cao.Compiler
