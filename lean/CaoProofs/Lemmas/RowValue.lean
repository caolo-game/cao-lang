import CaoProofs.Lemmas.NativeLemmas
import CaoProofs.Lemmas.CrossLemmas
/-!
# `row_to_value` through the real dispatch loop

The key function the standard library passes to `__min` / `__max` / `__sort` is `row_to_value(_key, val) = val`. Its
compiled code is

    ReadLocalVar 0 ; Return ; Pop ; Pop ; ScalarNil ; Return

(parameters are bound in reverse declaration order: `val` is local 0, `_key` local 1; the two `Pop`s and
`ScalarNil; Return` are the unreachable epilogue of `compileFunction`). This file evaluates
`exec p gas (.call (.obj a))`, the model of `Vm::run_function`, on that code: `rowToValue_iff` says exactly when the
call returns; it then returns the value and ends in `rtvFinal s`. `rowToValue_pure`: the callback is a `PureCallback`
relative to the state in which the native was entered (`PureCallbackAt`).
-/
namespace Cao.RowValue
open Cao Cao.Vm Cao.Native

/-- the bytes `compileFunction` emits for `row_to_value(_key, val) { return val }` -/
def rowToValueCode : List UInt8 :=
  [Compiler.op.readLocalVar] ++ Compiler.le32 0 ++
    [Compiler.op.ret, Compiler.op.pop, Compiler.op.pop, Compiler.op.scalarNil, Compiler.op.ret]

theorem rowToValueCode_eq : rowToValueCode = [20, 0, 0, 0, 0, 22, 16, 16, 7, 22] := by decide

/-- the code of `row_to_value` is at `pos`, and the program ends with the `Exit` instruction that
    `run_function` uses as the return address of its trap frames (`dst = bytecode.size - 1`) -/
structure RowToValueAt (p : Prog) (pos : Nat) : Prop where
  code : ∀ i, i < rowToValueCode.length → p.bytecode[pos + i]? = rowToValueCode[i]?
  last : p.bytecode.back? = some Compiler.op.exit

/-- an executable version for concrete programs -/
def rowToValueAtB (p : Prog) (pos : Nat) : Bool :=
  (p.bytecode.toList.drop pos).take rowToValueCode.length == rowToValueCode &&
    p.bytecode.back? == some Compiler.op.exit

theorem rowToValueAt_of_B {p : Prog} {pos : Nat} (h : rowToValueAtB p pos = true) :
    RowToValueAt p pos := by
  unfold rowToValueAtB at h
  rw [Bool.and_eq_true] at h
  obtain ⟨h1, h2⟩ := h
  have h1 : (p.bytecode.toList.drop pos).take rowToValueCode.length = rowToValueCode := by
    simpa using h1
  refine ⟨fun i hi => ?_, by simpa using h2⟩
  have : ((p.bytecode.toList.drop pos).take rowToValueCode.length)[i]? = rowToValueCode[i]? := by
    rw [h1]
  rw [List.getElem?_take, if_pos hi, List.getElem?_drop] at this
  rw [← this, Array.getElem?_toList]

theorem rdU32_zero (b : Array UInt8) (q : Nat) (h0 : b.getD q 0 = 0) (h1 : b.getD (q + 1) 0 = 0)
    (h2 : b.getD (q + 2) 0 = 0) (h3 : b.getD (q + 3) 0 = 0) : rdU32 b q = 0 := by
  unfold rdU32
  have r4 : List.range 4 = [0, 1, 2, 3] := by decide
  rw [r4]
  simp only [List.foldl_cons, List.foldl_nil, Nat.add_zero, h0, h1, h2, h3]
  have : (0 : UInt8).toNat = 0 := rfl
  rw [this]

section facts
variable {p : Prog} {pos : Nat} (hc : RowToValueAt p pos)
include hc

theorem RowToValueAt.byte (i : Nat) (b : UInt8) (h : rowToValueCode[i]? = some b) :
    p.bytecode.getD (pos + i) 0 = b := by
  have hi : i < rowToValueCode.length := by
    rcases Nat.lt_or_ge i rowToValueCode.length with h' | h'
    · exact h'
    · rw [List.getElem?_eq_none h'] at h; cases h
  rw [Array.getD_eq_getD_getElem?, hc.code i hi, h]; rfl

theorem RowToValueAt.in_bounds (i : Nat) (hi : i < 10) : pos + i < p.bytecode.size := by
  have h := hc.code i (by rw [rowToValueCode_eq]; exact hi)
  rcases Nat.lt_or_ge (pos + i) p.bytecode.size with h' | h'
  · exact h'
  · rw [Array.getElem?_eq_none h', rowToValueCode_eq] at h
    have : ([20, 0, 0, 0, 0, 22, 16, 16, 7, 22] : List UInt8)[i]? ≠ none := by
      rw [Ne, List.getElem?_eq_none_iff]; simp; omega
    exact absurd h.symm this

theorem RowToValueAt.op0 : p.bytecode.getD pos 0 = Compiler.op.readLocalVar := by
  have := hc.byte 0 20 (by rw [rowToValueCode_eq]; rfl)
  rw [Nat.add_zero] at this; rw [this]; rfl

theorem RowToValueAt.arg0 : rdU32 p.bytecode (pos + 1) = 0 := by
  have h1 := hc.byte 1 0 (by rw [rowToValueCode_eq]; rfl)
  have h2 := hc.byte 2 0 (by rw [rowToValueCode_eq]; rfl)
  have h3 := hc.byte 3 0 (by rw [rowToValueCode_eq]; rfl)
  have h4 := hc.byte 4 0 (by rw [rowToValueCode_eq]; rfl)
  exact rdU32_zero _ _ h1 h2 h3 h4

theorem RowToValueAt.op5 : p.bytecode.getD (pos + 5) 0 = Compiler.op.ret := by
  rw [hc.byte 5 22 (by rw [rowToValueCode_eq]; rfl)]; rfl

theorem RowToValueAt.size_pos : 0 < p.bytecode.size := by
  have := hc.in_bounds 0 (by omega); omega

theorem RowToValueAt.opLast : p.bytecode.getD (p.bytecode.size - 1) 0 = Compiler.op.exit := by
  have h := hc.last
  rw [Array.back?_eq_getElem?] at h
  rw [Array.getD_eq_getD_getElem?, h]; rfl

end facts

/-! ## single instructions as state functions -/

theorem go_readLocalVar (hd ip : Nat) (s : VmState) (fr : Frame) (hfr : s.frames.getLast? = some fr) :
    (Upv.Instr.readLocalVar hd ip).go s =
      if s.stack.count + 1 < s.stack.data.length then
        (.ok { ip := ip + 4 }, { s with stack := ⟨s.stack.count + 1,
          s.stack.data.set s.stack.count (s.stack.get (fr.stackOffset + hd))⟩ })
      else (.error .stackoverflow, s) := by
  unfold Upv.Instr.readLocalVar
  rw [go_bind, go_curFrame, hfr]
  simp only []
  rw [go_bind, go_readLocal]
  simp only []
  rw [go_bind, go_push]
  by_cases h : s.stack.count + 1 < s.stack.data.length
  · rw [if_pos h, if_pos h]; rfl
  · rw [if_neg h, if_neg h]

/-- `closeUpvalues top` has nothing to do: the list of open upvalues is empty, or its head (the
    open upvalue with the highest slot) points below `top` -/
def UpvaluesBelow (s : VmState) (top : Nat) : Prop :=
  ∀ a, s.openUpvalues.head? = some a → ∃ i, upvalueSlot s.heap a = some i ∧ i < top

theorem UpvaluesBelow.congr {s s' : VmState} {top : Nat} (h : UpvaluesBelow s top)
    (hh : s'.heap = s.heap) (ho : s'.openUpvalues = s.openUpvalues) : UpvaluesBelow s' top := by
  unfold UpvaluesBelow; rw [hh, ho]; exact h

theorem UpvaluesBelow.of_inv {s : VmState} (h : Upv.UpInv s) : UpvaluesBelow s s.stack.count := by
  intro a ha
  have hm : a ∈ s.openUpvalues := List.mem_of_mem_head? ha
  obtain ⟨i, hi⟩ := h.core.open_ a hm
  exact ⟨i, hi, h.bound a hm i hi⟩

theorem closeState_noop {s : VmState} {top : Nat} (h : UpvaluesBelow s top) : Upv.closeState top s = s := by
  unfold Upv.closeState
  cases ho : s.openUpvalues with
  | nil => rw [Upv.closeGo_nil]; cases s; simp_all
  | cons a rest =>
    obtain ⟨i, hi, hlt⟩ := h a (by rw [ho]; rfl)
    rw [Upv.closeGo_cons top s a rest s.heap i hi, if_pos hlt]
    cases s; simp_all

/-- `Cross.go_ret` (the equation of `Return` for every state) where the two topmost frames are known,
    no upvalue is closed and the stack is cut at the frame's offset -/
theorem go_ret (s : VmState) (fr caller : Frame) (fs : List Frame)
    (hfs : s.frames = fs ++ [caller, fr]) (hup : UpvaluesBelow s fr.stackOffset)
    (hle : fr.stackOffset ≤ s.stack.count) :
    Upv.Instr.ret.go s =
      if fr.stackOffset + 1 < s.stack.data.length then
        (.ok { ip := caller.dst },
          { s with frames := fs ++ [caller],
                   stack := ⟨fr.stackOffset + 1, s.stack.data.set fr.stackOffset s.stack.last⟩ })
      else (.error .stackoverflow,
          { s with frames := fs ++ [caller], stack := ⟨fr.stackOffset, s.stack.data⟩ }) := by
  have hdrop : s.frames.dropLast = fs ++ [caller] := by
    rw [hfs, show fs ++ [caller, fr] = (fs ++ [caller]) ++ [fr] by simp, List.dropLast_concat]
  rw [Cross.go_ret, show s.frames.getLast? = some fr by rw [hfs]; simp]
  simp only [closeState_noop (s := { s with frames := s.frames.dropLast }) (hup.congr rfl rfl)]
  simp only [hdrop, List.getLast?_concat, Nat.min_eq_left hle]

theorem get_eq_peekLast1 (st : VStack Val) (h : 2 ≤ st.count) :
    st.get (st.count - 2 + 0) = st.peekLast 1 := by
  unfold VStack.get VStack.peekLast
  rw [if_neg (by omega), if_pos (by omega)]
  rw [show st.count - 2 + 0 = st.count - 1 - 1 by omega]

/-- the state after `ReadLocalVar 0`: one dispatch charged, a copy of the value pushed -/
def afterRead (s : VmState) : VmState :=
  { s.tick with stack := ⟨s.stack.count + 1, s.stack.data.set s.stack.count (s.stack.peekLast 1)⟩ }

section stages
variable {p : Prog} {pos : Nat} (hc : RowToValueAt p pos)
include hc

theorem stage_read (g : Nat) (s : VmState) (fr : Frame) (hfr : s.frames.getLast? = some fr)
    (hoff : fr.stackOffset = s.stack.count - 2) (h2 : 2 ≤ s.stack.count) :
    exec p (g + 1) (.loop pos) s =
      if s.remaining - 1 = 0 then
        ({ s with remaining := s.remaining - 1 }, .error ⟨.timeout, pos, s.frames⟩)
      else if s.stack.count + 1 < s.stack.data.length then
        exec p g (.loop (pos + 5)) (afterRead s)
      else (s.tick, .error ⟨.stackoverflow, pos, s.frames⟩) := by
  rw [exec_loop, if_neg (by have := hc.in_bounds 0 (by omega); omega)]
  by_cases hrem : s.remaining - 1 = 0
  · rw [if_pos hrem, if_pos hrem]
  · rw [if_neg hrem, if_neg hrem, Upv.step_readLocalVar _ _ _ hc.op0, hc.arg0,
      go_readLocalVar 0 (pos + 1) s.tick fr hfr]
    have htick : s.tick.stack = s.stack := rfl
    rw [htick]
    by_cases hroom : s.stack.count + 1 < s.stack.data.length
    · rw [if_pos hroom, if_pos hroom]
      show exec p g (.loop (pos + 1 + 4)) _ = _
      rw [hoff, get_eq_peekLast1 _ h2]
      rfl
    · rw [if_neg hroom, if_neg hroom]
      rfl

theorem stage_ret (g : Nat) (s : VmState) (fr caller : Frame) (fs : List Frame)
    (hfs : s.frames = fs ++ [caller, fr]) (hup : UpvaluesBelow s fr.stackOffset)
    (hle : fr.stackOffset ≤ s.stack.count) :
    exec p (g + 1) (.loop (pos + 5)) s =
      if s.remaining - 1 = 0 then
        ({ s with remaining := s.remaining - 1 }, .error ⟨.timeout, pos + 5, s.frames⟩)
      else if fr.stackOffset + 1 < s.stack.data.length then
        exec p g (.loop caller.dst)
          { s.tick with frames := fs ++ [caller],
                        stack := ⟨fr.stackOffset + 1, s.stack.data.set fr.stackOffset s.stack.last⟩ }
      else ({ s.tick with frames := (fs ++ [caller]), stack := ⟨fr.stackOffset, s.stack.data⟩ },
            .error ⟨.stackoverflow, pos + 5, fs ++ [caller]⟩) := by
  rw [exec_loop, if_neg (by have := hc.in_bounds 5 (by omega); omega)]
  by_cases hrem : s.remaining - 1 = 0
  · rw [if_pos hrem, if_pos hrem]
  · rw [if_neg hrem, if_neg hrem, Upv.step_ret _ _ _ hc.op5,
      go_ret s.tick fr caller fs hfs (hup.congr rfl rfl) hle]
    have htick : s.tick.stack = s.stack := rfl
    rw [htick]
    by_cases hroom : fr.stackOffset + 1 < s.stack.data.length
    · rw [if_pos hroom, if_pos hroom]
      rfl
    · rw [if_neg hroom, if_neg hroom]

theorem stage_exit (g : Nat) (s : VmState) :
    exec p (g + 1) (.loop (p.bytecode.size - 1)) s =
      if s.remaining - 1 = 0 then
        ({ s with remaining := s.remaining - 1 }, .error ⟨.timeout, p.bytecode.size - 1, s.frames⟩)
      else (s.tick, .ok none) := by
  rw [exec_loop, if_neg (by have := hc.size_pos; omega)]
  by_cases hrem : s.remaining - 1 = 0
  · rw [if_pos hrem, if_pos hrem]
  · rw [if_neg hrem, if_neg hrem, step_exit _ _ _ hc.opLast]
    rfl

end stages

theorem last_after_read (c : Nat) (d : List Val) (v : Val) (h : c < d.length) :
    (⟨c + 1, d.set c v⟩ : VStack Val).last = v := by
  unfold VStack.last
  rw [if_pos (by show c + 1 > 0; omega)]
  show (d.set c v).getD (c + 1 - 1) default = v
  rw [Nat.add_sub_cancel, List.getD_eq_getElem?_getD, List.getElem?_set_self h]; rfl

theorem pop_after_ret (c : Nat) (D : List Val) :
    (⟨c + 1, D⟩ : VStack Val).pop = (⟨c, D.set c default⟩, D.getD c default) := by
  unfold VStack.pop
  rw [if_neg (by show c + 1 ≠ 0; omega)]
  rfl

/-- the state in which the dispatch loop stops at the final `Exit` -/
def loopEnd (s : VmState) (fs : List Frame) (fr : Frame) : VmState :=
  { s with remaining := s.remaining - 1 - 1 - 1, dispatches := s.dispatches + 1 + 1 + 1,
           frames := fs ++ [fr],
           stack := ⟨s.stack.count - 2 + 1,
             (s.stack.data.set s.stack.count (s.stack.peekLast 1)).set (s.stack.count - 2)
               (s.stack.peekLast 1)⟩ }

/-- the state `run_function(row_to_value)` ends in: three dispatches were charged, the two argument
    slots are gone (the slot of the value is nil-ed by the final `pop`, the stale slot above the
    old top holds a copy of the value), nothing else changed -/
def rtvFinal (s : VmState) : VmState :=
  { s with remaining := s.remaining - 1 - 1 - 1, dispatches := s.dispatches + 1 + 1 + 1,
           stack := ⟨s.stack.count - 2,
             ((s.stack.data.set s.stack.count (s.stack.peekLast 1)).set (s.stack.count - 2)
               (s.stack.peekLast 1)).set (s.stack.count - 2) default⟩ }

/-- the state in which the dispatch loop is entered: `run_function` has pushed its frame twice -/
def entered (p : Prog) (pos : Nat) (s : VmState) : VmState :=
  { s with frames := s.frames ++ [entryFrame p s pos 2 none, entryFrame p s pos 2 none] }

/-- a run that fails where the conditions `C` for returning do not hold -/
theorem err_iff {x s' : VmState} {e : RunErr} {ov : Option Val} {C P : Prop} (hn : ¬ C) :
    (x, (.error e : Except RunErr (Option Val))) = (s', .ok ov) ↔ C ∧ P :=
  ⟨fun h => (nomatch h), fun h => absurd h.1 hn⟩

/-- a run that returns where the conditions `C` hold -/
theorem ok_iff {x y s' : VmState} {v w ov : Option Val} {C : Prop} (hC : C) (hx : x = y) (hv : v = w) :
    (x, (.ok v : Except RunErr (Option Val))) = (s', .ok ov) ↔ C ∧ s' = y ∧ ov = w := by
  subst hx hv
  exact ⟨fun h => by cases h; exact ⟨hC, rfl, rfl⟩, fun h => by rw [h.2.1, h.2.2]⟩

section call
variable {p : Prog} {pos : Nat} (hc : RowToValueAt p pos)
include hc

theorem loop_iff (g : Nat) (s : VmState) (fs : List Frame) (fr : Frame)
    (hfs : s.frames = fs ++ [fr, fr]) (hoff : fr.stackOffset = s.stack.count - 2)
    (hdst : fr.dst = p.bytecode.size - 1) (h2 : 2 ≤ s.stack.count)
    (hup : UpvaluesBelow s (s.stack.count - 2)) (s' : VmState) (ov : Option Val) :
    exec p g (.loop pos) s = (s', .ok ov) ↔
      (3 ≤ g ∧ 4 ≤ s.remaining ∧ s.stack.count + 1 < s.stack.data.length) ∧
        s' = loopEnd s fs fr ∧ ov = none := by
  -- where a condition fails, one of the dispatches does
  rcases g with _ | g
  · rw [exec_zero]; exact err_iff (by omega)
  rw [stage_read hc g s fr (by rw [hfs]; simp) hoff h2]
  split
  · exact err_iff (by omega)
  split
  case isFalse => exact err_iff (by omega)
  rename_i hr1 hroom
  rcases g with _ | g
  · rw [exec_zero]; exact err_iff (by omega)
  rw [stage_ret hc g (afterRead s) fr fr fs hfs (by rw [hoff]; exact hup.congr rfl rfl)
    (by rw [hoff]; show s.stack.count - 2 ≤ s.stack.count + 1; omega)]
  split
  · next hr2 => exact err_iff (by change s.remaining - 1 - 1 = 0 at hr2; omega)
  rename_i hr2
  rw [if_pos (by show fr.stackOffset + 1 < (s.stack.data.set _ _).length; rw [List.length_set]; omega)]
  rcases g with _ | g
  · rw [exec_zero]; exact err_iff (by omega)
  rw [hdst, stage_exit hc g]
  split
  · next hr3 => exact err_iff (by change s.remaining - 1 - 1 - 1 = 0 at hr3; omega)
  rename_i hr3
  change ¬ s.remaining - 1 - 1 = 0 at hr2
  change ¬ s.remaining - 1 - 1 - 1 = 0 at hr3
  have hl := last_after_read s.stack.count s.stack.data (s.stack.peekLast 1) (by omega)
  exact ok_iff ⟨by omega, by omega, hroom⟩ (by unfold loopEnd afterRead VmState.tick; simp only [hl, hoff]) rfl

/-- **`run_function(row_to_value)`** returns iff there are 4 units of fuel, a budget `remaining ≥ 4` (three
    dispatches, and the budget must not reach 0), room for the two trap frames and room for one push. -/
theorem rowToValue_iff {a : Nat} {h h' ar : UInt32} (s : VmState) (gas : Nat)
    (hget : s.heap.get a = some (.fn h ar)) (har : ar.toNat = 2)
    (hlab : p.labels.find? (fun l => l.1 == h) = some (h', pos))
    (h2 : 2 ≤ s.stack.count) (hup : UpvaluesBelow s (s.stack.count - 2)) (s' : VmState) (ov : Option Val) :
    exec p gas (.call (.obj a)) s = (s', .ok ov) ↔
      (4 ≤ gas ∧ 4 ≤ s.remaining ∧ s.frames.length + 2 ≤ s.frameCap ∧
        s.stack.count + 1 < s.stack.data.length) ∧ s' = rtvFinal s ∧ ov = some (s.stack.peekLast 1) := by
  rcases gas with _ | g
  · rw [exec_zero]; exact err_iff (by omega)
  rw [exec_call]
  simp only [hget]
  unfold enterScript failAt
  simp only [hlab, har]
  rw [if_neg (by omega)]
  split
  · exact err_iff (by omega)
  split
  · exact err_iff (by omega)
  have hl := loop_iff hc g (entered p pos s) s.frames (entryFrame p s pos 2 none) rfl rfl rfl h2 (hup.congr rfl rfl)
  simp only [entered, entryFrame] at hl
  split
  · next s1 r hx =>
    obtain ⟨⟨h3, h4, h5⟩, rfl, -⟩ := (hl s1 r).1 hx
    have hv : ((s.stack.data.set s.stack.count (s.stack.peekLast 1)).set (s.stack.count - 2)
        (s.stack.peekLast 1)).getD (s.stack.count - 2) default = s.stack.peekLast 1 := by
      rw [List.getD_eq_getElem?_getD, List.getElem?_set_self (by rw [List.length_set]; omega)]; rfl
    exact ok_iff ⟨by omega, h4, by omega, h5⟩
      (by simp only [loopEnd, rtvFinal, pop_after_ret, List.take_left' rfl])
      (by simp only [loopEnd, pop_after_ret, hv])
  · next s1 e hx =>
    refine err_iff fun hC => ?_
    rw [(hl _ none).2 ⟨⟨by omega, hC.2.1, hC.2.2.2⟩, rfl, rfl⟩] at hx
    cases hx

theorem rowToValue_run {a : Nat} {h h' ar : UInt32} (s : VmState) (g : Nat)
    (hget : s.heap.get a = some (.fn h ar)) (har : ar.toNat = 2)
    (hlab : p.labels.find? (fun l => l.1 == h) = some (h', pos))
    (h2 : 2 ≤ s.stack.count) (hroom : s.stack.count + 1 < s.stack.data.length)
    (hfr : s.frames.length + 2 ≤ s.frameCap) (hrem : 4 ≤ s.remaining)
    (hup : UpvaluesBelow s (s.stack.count - 2)) :
    exec p (g + 4) (.call (.obj a)) s = (rtvFinal s, .ok (some (s.stack.peekLast 1))) :=
  (rowToValue_iff hc s (g + 4) hget har hlab h2 hup _ _).2 ⟨⟨by omega, hrem, hfr, hroom⟩, rfl, rfl⟩

theorem rowToValue_inv {a : Nat} {h h' ar : UInt32} (s : VmState) (gas : Nat)
    (hget : s.heap.get a = some (.fn h ar)) (har : ar.toNat = 2)
    (hlab : p.labels.find? (fun l => l.1 == h) = some (h', pos))
    (h2 : 2 ≤ s.stack.count) (hup : UpvaluesBelow s (s.stack.count - 2))
    {s' : VmState} {ov : Option Val} (hok : exec p gas (.call (.obj a)) s = (s', .ok ov)) :
    4 ≤ gas ∧ 4 ≤ s.remaining ∧ s.frames.length + 2 ≤ s.frameCap ∧
    s.stack.count + 1 < s.stack.data.length ∧ s' = rtvFinal s ∧ ov = some (s.stack.peekLast 1) := by
  obtain ⟨⟨h1, h3, h4, h5⟩, hs, ho⟩ := (rowToValue_iff hc s gas hget har hlab h2 hup s' ov).1 hok
  exact ⟨h1, h3, h4, h5, hs, ho⟩

theorem rowToValue_ok_iff {a : Nat} {h h' ar : UInt32} (s : VmState) (gas : Nat)
    (hget : s.heap.get a = some (.fn h ar)) (har : ar.toNat = 2)
    (hlab : p.labels.find? (fun l => l.1 == h) = some (h', pos))
    (h2 : 2 ≤ s.stack.count) (hup : UpvaluesBelow s (s.stack.count - 2)) :
    (∃ s' ov, exec p gas (.call (.obj a)) s = (s', .ok ov)) ↔
      4 ≤ gas ∧ 4 ≤ s.remaining ∧ s.frames.length + 2 ≤ s.frameCap ∧
      s.stack.count + 1 < s.stack.data.length :=
  ⟨fun ⟨s', ov, hok⟩ => ((rowToValue_iff hc s gas hget har hlab h2 hup s' ov).1 hok).1,
   fun hC => ⟨_, _, (rowToValue_iff hc s gas hget har hlab h2 hup _ _).2 ⟨hC, rfl, rfl⟩⟩⟩

end call

/-! ## callbacks relative to the state in which the native was entered -/

/-- `PureCallback` (`Lemmas/NativeLemmas.lean`) relative to the state `s₀` in which the native
    function was entered: the contract is only required of entry states that are `s₀` plus the two
    pushed arguments. (The natives `__min`, `__max`, `__sort` only ever call back from such states: they
    allocate after the last callback.) Nothing is asked of a call that fails. -/
structure PureCallbackAt (s₀ : VmState) (re : Reenter) (f : Val) (φ : Val → Val → Val) : Prop where
  ok : ∀ (s : VmState) (r : Val) (s' : VmState), s.stack.count = s₀.stack.count + 2 →
    s.stack.count < s.stack.data.length → s.heap = s₀.heap → s.openUpvalues = s₀.openUpvalues →
    s.frames = s₀.frames → s.globals = s₀.globals → (re f).go s = (.ok r, s') →
    r = φ (s.stack.peekLast 0) (s.stack.peekLast 1) ∧
    Prefix s'.stack s.stack ∧ s'.stack.count + 2 = s.stack.count ∧
    s'.heap = s.heap ∧ s'.guards = s.guards ∧ s'.frames = s.frames ∧ s'.globals = s.globals ∧
    s'.openUpvalues = s.openUpvalues

theorem pureCallbackAt_of_pure {re : Reenter} {f : Val} {φ : Val → Val → Val} (h : PureCallback re f φ)
    (s₀ : VmState) : PureCallbackAt s₀ re f φ :=
  ⟨fun s r s' hc hl _ _ _ _ hok => h.ok s r s' (by omega) hl hok⟩

theorem liftRun_ok {f : VmState → VmState × Except RunErr (Option Val)} {s s' : VmState} {r : Val}
    (h : (liftRun f).go s = (.ok r, s')) : ∃ ov, f s = (s', .ok ov) ∧ r = ov.getD .nil := by
  have h' : (match f s with
    | (s', .ok (some v)) => ((.ok v : Except ErrKind Val), s')
    | (s', .ok none) => (.ok .nil, s')
    | (s', .error e) => (.error e.kind, s')) = (.ok r, s') := h
  split at h'
  · next s1 v hx =>
    simp only [Prod.mk.injEq, Except.ok.injEq] at h'
    exact ⟨some v, by rw [hx, h'.2], h'.1.symm⟩
  · next s1 hx =>
    simp only [Prod.mk.injEq, Except.ok.injEq] at h'
    exact ⟨none, by rw [hx, h'.2], h'.1.symm⟩
  · simp at h'

theorem rtvFinal_prefix (s : VmState) (h2 : 2 ≤ s.stack.count) :
    Prefix (rtvFinal s).stack s.stack := by
  refine ⟨Nat.sub_le _ _, by simp [rtvFinal], fun i hi => ?_⟩
  have hi : i < s.stack.count - 2 := hi
  show (((s.stack.data.set _ _).set _ _).set _ _)[i]? = _
  rw [List.getElem?_set_ne (by omega), List.getElem?_set_ne (by omega),
    List.getElem?_set_ne (by omega)]

/-- **the real callback on `row_to_value` is a pure callback with `φ key value = value`** (`hup` comes from the
    invariant `UpInv` of the capture mechanism: `UpvaluesBelow.of_inv`). No hypothesis on fuel, budget,
    call-stack room or stack room: a call that lacks one of them fails. -/
theorem rowToValue_pure {p : Prog} {pos : Nat} (hc : RowToValueAt p pos) {a : Nat} {h h' ar : UInt32}
    (gas : Nat) (s₀ : VmState) (hget : s₀.heap.get a = some (.fn h ar)) (har : ar.toNat = 2)
    (hlab : p.labels.find? (fun l => l.1 == h) = some (h', pos))
    (hup : UpvaluesBelow s₀ s₀.stack.count) :
    PureCallbackAt s₀ (reenterOf p gas) (.obj a) (fun _ v => v) := by
  refine ⟨fun s r s' hcnt hroom hheap hopen hfr hgl hok => ?_⟩
  obtain ⟨ov, hx, hr⟩ := liftRun_ok hok
  have h2 : 2 ≤ s.stack.count := by omega
  obtain ⟨-, -, -, -, hs', hov⟩ := rowToValue_inv hc s gas (by rw [hheap]; exact hget) har hlab h2
    (by rw [hcnt, Nat.add_sub_cancel]; exact hup.congr hheap hopen) hx
  subst hs'
  refine ⟨by rw [hr, hov]; rfl, rtvFinal_prefix s h2, ?_, rfl, rfl, rfl, rfl, rfl⟩
  show s.stack.count - 2 + 2 = s.stack.count
  omega

end Cao.RowValue
