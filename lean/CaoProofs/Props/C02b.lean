import CaoProofs.Lemmas.SchedFull
import CaoProofs.Lemmas.UpvalueLemmas
import CaoProofs.Props.C05b
/-!
# C02 (continued) — a run does not depend on when collections happen

"Running the same program with collection forced at arbitrary allocation points yields the same
result, the same error kind and position, the same global variables and stack (as deep values)
and the same host log as a run without forced collection; out-of-memory depends only on the
reachable bytes."

`Props/C05b.lean` reduced this to single instructions and host functions and proved it for a
fragment. Here it is proved for **all 47 instructions** (`step_schedule_independent`) and lifted
to the dispatch loop, nested `run_function`s and `Vm::run` (`schedule_independence`).

The statement for *arbitrary* bytecode is false (`C05b.schedule_independence_Full_false`: an
open upvalue whose slot was dropped with `pop_n` reads a stale slot whose referent a forced
collection may or may not have freed; before the repair of `clear_until` a `ClearStack` that moved
the stack pointer upwards did the same). The side condition is made explicit as a *check*:

* `StepOk p src s` (decidable form `stepOkB`): `ClearStack`/`Return` find the running frame at or
  below the stack height (`FrameOk`); `Return`/`CloseUpvalue` find every listed open upvalue
  pointing below the stack height (`UpvOk`, which is `Upv.UpBound` of `Lemmas/UpvalueLemmas.lean`:
  `upvOk_iff_upBound`); `ReadUpvalue` reads, if the upvalue is open, a slot below the stack height
  (`ReadUpvOk`). No other instruction has a condition. The proof (`SchedFull.step_sim`) uses the two
  upvalue conditions only, not `FrameOk`: `Props/C02c.lean` states the results without it.
* `IterOk x x'` for the callbacks made by the iterating host functions `__min`/`__max`/`__sort`
  (they iterate over a snapshot of the entries): the callback pops exactly its two arguments, gives
  the guards back, and the iterated table keeps its entries.

`runC` is the *checked interpreter*: `run` with these checks executed before every instruction /
after every such callback (failing with a `panic`). `checked_schedule_independence`: the checked
interpreter is schedule independent for every program and every state satisfying the accounting
invariant. `SafeRun p n s := runC p n s = run p n s` (decidable) says that no check fires in the
run; `schedule_independence` is the property for safe runs.
-/
namespace Cao.C02b
open Cao Cao.Vm Cao.Gc Cao.C02 Cao.C05 Cao.RunInv Cao.SchedFull

/-! ## 1. the relation implies the observable equality of `Props/C02.lean` -/

theorem rel_obsEq {s t : VmState} (h : Rel cfg0 s t) : ObsEq s t := (SchedSim.schedEq_of_rel h).obsEq

theorem rel_hostLog {s t : VmState} (h : Rel cfg0 s t) : s.hostLog = t.hostLog :=
  (SchedSim.schedEq_of_rel h).core.hostLog.symm

theorem rel_inv {c : Cfg} {s t : VmState} (h : Rel c s t) : C05.Inv s ∧ C05.Inv t := by
  obtain ⟨K, hA⟩ := h
  exact ⟨hA.invL, hA.invR⟩

theorem rel_ownD_stack {c : Cfg} {s t : VmState} (h : Rel c s t) :
    t.stack.contents.map (ownD t.heap) = s.stack.contents.map (ownD s.heap) := by
  obtain ⟨K, hA⟩ := h
  rw [hA.stack.contents]
  apply List.map_congr_left
  intro v hv
  exact hA.toCore.ownD_eq (hA.vk_stack hv)

theorem rel_ownD_globals {c : Cfg} {s t : VmState} (h : Rel c s t) :
    t.globals.map (ownD t.heap) = s.globals.map (ownD s.heap) := by
  obtain ⟨K, hA⟩ := h
  rw [hA.globals]
  apply List.map_congr_left
  intro v hv
  exact hA.toCore.ownD_eq (hA.vk_global hv)

/-! ## 2. one instruction -/

/-- **Every instruction is schedule independent.** Related machines have the same roots and heaps
    equal on what is reachable; they may differ in garbage, in the byte counters, in the schedule. -/
theorem step_schedule_independent {c : Cfg} (p : Prog) (re₁ re₂ : Reenter)
    (hn : ∀ hd, NatSimAt c re₁ re₂ hd) (src : Nat) {s t : VmState} (h : Rel c s t)
    (hok : StepOk p src s) :
    ((step p re₂ src).run.run t).1 = ((step p re₁ src).run.run s).1 ∧
    Rel c ((step p re₁ src).run.run s).2 ((step p re₂ src).run.run t).2 := by
  obtain ⟨K, hA⟩ := h
  exact resEq_of_w2 (step_sim p re₁ re₂ src (fun hd _ => hn hd) hA hok)

/-- the same with the host functions plugged in (`Lemmas/SchedNat.lean`): callbacks need only be
    related (`ReSim`) and, if they are called by `__min`/`__max`/`__sort`, satisfy `IterPost` -/
theorem step_schedule_independent' {c : Cfg} (p : Prog) (re₁ re₂ : Reenter) (hre : ReSim c re₁ re₂)
    (hpost : IterPost re₁ ∧ IterPost re₂) (src : Nat) {s t : VmState} (h : Rel c s t)
    (hok : StepOk p src s) :
    ((step p re₂ src).run.run t).1 = ((step p re₁ src).run.run s).1 ∧
    Rel c ((step p re₁ src).run.run s).2 ((step p re₂ src).run.run t).2 := by
  obtain ⟨K, hA⟩ := h
  exact resEq_of_w2 (step_sim_all p re₁ re₂ hre hpost src hA hok)

/-- the upvalue part of the side condition is the invariant `UpBound` of `Lemmas/UpvalueLemmas.lean` -/
theorem upvOk_iff_upBound (s : VmState) : UpvOk s ↔ Upv.UpBound s := by
  unfold UpvOk Upv.UpBound
  constructor
  · intro h a ha i hi; exact h a ha i (Upv.upvalueSlot_eq_some.mp hi)
  · intro h a ha i hi; exact h a ha i (Upv.upvalueSlot_eq_some.mpr hi)

theorem stepOk_symmetric {c : Cfg} (p : Prog) (src : Nat) {s t : VmState} (h : Rel c s t) :
    StepOk p src t ↔ StepOk p src s := by
  obtain ⟨K, hA⟩ := h
  exact stepOk_congr p src hA

/-! ### the statement left open in `Props/C05b.lean` -/

/-- **`C05b.step_obsEq_Full` holds**: the simulation step at full strength, as `Props/C05b.lean`
    states it (a `def`, not proved there) -/
theorem step_obsEq_Full_holds : C05b.step_obsEq_Full := by
  intro p re₁ re₂ _ hnat src _ s t h hok
  have hn : ∀ hd, NatSimAt cfg0 re₁ re₂ hd := by
    intro hd K s t hA
    have := hnat hd s t (SchedSim.schedEq_of_rel hA.rel)
    refine w2_of_resEq ⟨this.1, SchedSim.rel_of_schedEq this.2⟩ (fun _ _ _ hr => hr)
  have hok' : StepOk p src s := by
    refine ⟨fun hc f hf => hok.1 hc f hf, fun _ a _ i hg => hok.2 a i hg,
      fun _ fr c hd ar ups u i _ _ _ _ hg => hok.2 u i hg⟩
  obtain ⟨e, hr⟩ := step_schedule_independent p re₁ re₂ hn src (SchedSim.rel_of_schedEq h) hok'
  exact ⟨e, SchedSim.schedEq_of_rel hr⟩

/-! ## 3. whole runs -/

/-- no check of the checked interpreter fires in this run: it behaves exactly like `run` -/
def SafeRun (p : Prog) (n : Nat) (s : VmState) : Prop := runC p n s = run p n s

deriving instance DecidableEq for Cao.VStack
deriving instance DecidableEq for Cao.Vm.Frame
deriving instance DecidableEq for Cao.UpLoc
deriving instance DecidableEq for Cao.Obj
deriving instance DecidableEq for Cao.Heap
deriving instance DecidableEq for Cao.Mem
deriving instance DecidableEq for Cao.Vm.Sched
deriving instance DecidableEq for Cao.Vm.VmState
deriving instance DecidableEq for Cao.Vm.ErrKind
deriving instance DecidableEq for Cao.Vm.RunErr

instance (p : Prog) (n : Nat) (s : VmState) : Decidable (SafeRun p n s) :=
  inferInstanceAs (Decidable (runC p n s = run p n s))

/-- the conclusion of the property for the checked interpreter -/
def ScheduleIndependentC (p : Prog) (n : Nat) (s : VmState) : Prop :=
  ∀ (sch₁ sch₂ : Sched),
    ObsEq (runC p n { s with sched := sch₁ }).1 (runC p n { s with sched := sch₂ }).1 ∧
    (runC p n { s with sched := sch₁ }).2 = (runC p n { s with sched := sch₂ }).2 ∧
    (runC p n { s with sched := sch₁ }).1.hostLog = (runC p n { s with sched := sch₂ }).1.hostLog

theorem runG_sched (stp : Reenter → Nat → M Ctl) (p : Prog)
    (hstp : ∀ {re₁ re₂}, ReSim cfg0 re₁ re₂ → ∀ src {K s t}, Agree cfg0 K s t →
      W2 cfg0 (stp re₁ src) (stp re₂ src) (QStep cfg0) s t)
    (n : Nat) (s : VmState) (hi : C05.Inv s) (hg : s.guards = []) (sch₁ sch₂ : Sched) :
    (runG stp natC p n { s with sched := sch₂ }).2 = (runG stp natC p n { s with sched := sch₁ }).2 ∧
    Rel cfg0 (runG stp natC p n { s with sched := sch₁ }).1 (runG stp natC p n { s with sched := sch₂ }).1 :=
  runG_natC_sim (natSimHyp cfg0) stp p hstp n (rel_sched s hi sch₁ sch₂ s.allocIndex s.allocIndex) hg

theorem runC_sched (p : Prog) (n : Nat) (s : VmState) (hi : C05.Inv s) (hg : s.guards = [])
    (sch₁ sch₂ : Sched) :
    (runC p n { s with sched := sch₂ }).2 = (runC p n { s with sched := sch₁ }).2 ∧
    Rel cfg0 (runC p n { s with sched := sch₁ }).1 (runC p n { s with sched := sch₂ }).1 :=
  runG_sched (stepC p) p (fun hre src _ _ _ h => stepC_sim (natSimHyp cfg0) p hre src h) n s hi hg sch₁ sch₂

/-- **The checked interpreter is schedule independent — for every program** (well-formed or not);
    the error is compared with kind, position and frames, `OutOfMemory` included. -/
theorem checked_schedule_independence (p : Prog) (n : Nat) (s : VmState) (hi : C05.Inv s)
    (hg : s.guards = []) : ScheduleIndependentC p n s := fun sch₁ sch₂ =>
  have h := runC_sched p n s hi hg sch₁ sch₂
  ⟨rel_obsEq h.2, h.1.symm, rel_hostLog h.2⟩

/-- **Schedule independence of `Vm::run`** for runs in which no stale stack slot is touched
    (under the schedules compared): the statement of the property. -/
theorem schedule_independence (p : Prog) (n : Nat) (s : VmState) (hi : C05.Inv s) (hg : s.guards = [])
    (hsafe : ∀ sch, SafeRun p n { s with sched := sch }) : C05b.ScheduleIndependent p n s := by
  intro sch₁ sch₂
  have h := runC_sched p n s hi hg sch₁ sch₂
  rw [hsafe sch₁, hsafe sch₂] at h
  exact ⟨rel_obsEq h.2, by rw [h.1], rel_hostLog h.2⟩

/-- the deep values of the stack and of the globals agree (the form in which the harness compares
    two runs) -/
theorem schedule_independence_deep (p : Prog) (n : Nat) (s : VmState) (hi : C05.Inv s) (hg : s.guards = [])
    (sch₁ sch₂ : Sched) (h1 : SafeRun p n { s with sched := sch₁ }) (h2 : SafeRun p n { s with sched := sch₂ }) :
    let r₁ := run p n { s with sched := sch₁ }
    let r₂ := run p n { s with sched := sch₂ }
    r₂.2 = r₁.2 ∧ r₂.1.stack.contents.map (ownD r₂.1.heap) = r₁.1.stack.contents.map (ownD r₁.1.heap) ∧
    r₂.1.globals.map (ownD r₂.1.heap) = r₁.1.globals.map (ownD r₁.1.heap) ∧ r₂.1.hostLog = r₁.1.hostLog := by
  have h := runC_sched p n s hi hg sch₁ sch₂
  rw [h1, h2] at h
  exact ⟨h.1, rel_ownD_stack h.2, rel_ownD_globals h.2, (rel_hostLog h.2).symm⟩

theorem schedule_independence_reachable (p : Prog) (n : Nat) {cf : Config} {s : VmState}
    (h : C05b.Reachable cf s) (hsafe : ∀ sch, SafeRun p n { s with sched := sch }) :
    C05b.ScheduleIndependent p n s :=
  schedule_independence p n s (C05b.reachable_inv h).1 (C05b.reachable_guards h) hsafe

/-- `OutOfMemory` in one run means `OutOfMemory` at the same instruction in the other -/
theorem oom_schedule_independent (p : Prog) (n : Nat) (s : VmState) (hi : C05.Inv s) (hg : s.guards = [])
    (hsafe : ∀ sch, SafeRun p n { s with sched := sch }) (sch₁ sch₂ : Sched) (e : RunErr)
    (h : (run p n { s with sched := sch₁ }).2 = some e) :
    ∃ e', (run p n { s with sched := sch₂ }).2 = some e' ∧ e'.kind.name = e.kind.name ∧ e'.at_ = e.at_ := by
  have := (schedule_independence p n s hi hg hsafe sch₁ sch₂).2.1
  rw [h] at this
  cases h2 : (run p n { s with sched := sch₂ }).2 with
  | none => rw [h2] at this; cases this
  | some e' =>
    rw [h2] at this
    simp only [Option.map_some, Option.some.injEq, Prod.mk.injEq] at this
    exact ⟨e', rfl, this.1.symm, this.2.symm⟩

/-- **What remains open**: that the runs of *compiled* programs are safe. It needs the scoping
    invariant of the compiler (`C06.upInv_of_compiled_runs_Full`: `UpBound` along runs of compiled
    programs — not proved there either) plus "the running frame starts at or below the stack
    height" and, for programs that use `__min`/`__max`/`__sort`, that script functions pop exactly
    their arguments and do not shrink the iterated table. -/
def compiled_runs_safe_Full : Prop :=
  ∀ (m std : Module) (limit : Nat) (prog : Compiler.Program) (n : Nat) (cf : Config) (sch : Sched),
    Compiler.compile m std limit = .ok prog →
    SafeRun (Prog.ofProgram prog) n { VmState.fresh cf with sched := sch }


/-! ## 4. non-vacuity -/

/-- `x = 7; c = closure@24/0 capturing x; c()` where the closure body is `ReadUpvalue 0; Return`:
    `RegisterUpvalue`, `CallFunction` on a closure, `ReadUpvalue` through an open upvalue, `Return` -/
def closureProg : Prog :=
  { bytecode := #[5,7,0,0,0,0,0,0,0, 42,9,0,0,0,0,0,0,0, 9, 45,0,1, 11, 10, 44,0,0,0,0, 22, 10],
    data := #[], labels := [(9, 24)], varNames := [], trace := [] }

/-- `T = {}; T.append(20); T.append(10); __max(T, fn@56/2)` with the key function
    `ReadLocalVar 0; Return` (the value): an iterating host function calling back into the script -/
def maxProg : Prog :=
  { bytecode := #[31, 17,0,0,0,0, 5,20,0,0,0,0,0,0,0, 18,0,0,0,0, 40, 5,10,0,0,0,0,0,0,0, 18,0,0,0,0, 40,
                  18,0,0,0,0, 37,9,0,0,0,2,0,0,0, 4,235,43,224,39, 10, 20,0,0,0,0, 22, 10],
    data := #[], labels := [(9, 56)], varNames := [], trace := [] }

def smallCfg : Config := { memLimit := 3000, stackSize := 8, callStackSize := 8, maxInstr := 100 }

example : UInt32.ofNat (rdU32 maxProg.bytecode 51) = hName "__max" := by decide +kernel

example : SafeRun closureProg 100 { VmState.fresh smallCfg with sched := .none } := by decide +kernel
example : SafeRun closureProg 100 { VmState.fresh smallCfg with sched := .every } := by decide +kernel

/-- the two runs really differ in when they collect (1 collection against 9), and agree in what the
    property talks about -/
example : (run maxProg 100 { VmState.fresh smallCfg with sched := .none }).1.gcRuns = 1 ∧
    (run maxProg 100 { VmState.fresh smallCfg with sched := .every }).1.gcRuns = 9 ∧
    (run maxProg 100 { VmState.fresh smallCfg with sched := .every }).2 = none := by decide +kernel

theorem maxProg_safe_none : SafeRun maxProg 100 { VmState.fresh smallCfg with sched := .none } := by
  decide +kernel
theorem maxProg_safe_every : SafeRun maxProg 100 { VmState.fresh smallCfg with sched := .every } := by
  decide +kernel

/-- hence: same outcome, same deep values on the stack and in the globals, same host log -/
example := schedule_independence_deep maxProg 100 (VmState.fresh smallCfg) (fresh_inv smallCfg) rfl .none .every
  maxProg_safe_none maxProg_safe_every

/-- the counter-example of `Props/C05b.lean` is rejected by the check … -/
example : (runC C05b.staleProg 100 { VmState.fresh C05b.staleCfg with sched := .every }).2.map (·.kind) =
    some (.panic "stale stack slot") := by decide +kernel

/-- … so its run is not safe -/
example : ¬ SafeRun C05b.staleProg 100 { VmState.fresh C05b.staleCfg with sched := .every } := by
  decide +kernel

/-- but the *checked* runs of that program agree under all schedules -/
example : ScheduleIndependentC C05b.staleProg 100 (VmState.fresh C05b.staleCfg) :=
  checked_schedule_independence _ _ _ (fresh_inv _) rfl

end Cao.C02b
