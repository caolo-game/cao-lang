import CaoProofs.Lemmas.SimScopes
/-!
# Static calls (compile side): the code of the functions after `main`

`compileFunction f` labels the current position with the handle of `f`, opens a scope, declares the
parameters (last one first) as locals, compiles the cards, closes the scope (one `Pop` per local)
and emits the `ScalarNil; Return` epilogue.
-/
namespace Cao.Compiler
open Cao Cao.Sim

section
variable {B : Array UInt8} {F : List (UInt32 × Nat)} {L : LCtx} {sd : List Int} {J : JumpTable}

theorem addLocals_emits : ∀ (ps : List String) (L : LCtx),
    Emits B F (Scoped L sd J) (addLocals ps) (Scoped (L ++ ps.map (fun p => (p, sd.getLast?.getD 0))) sd J)
      (fun p q => q = p)
  | [], L => by
    simp only [addLocals, List.map_nil, List.append_nil]
    exact Emits.pure _
  | x :: ps, L => by
    have h := addLocals_emits ps (L ++ [(x, sd.getLast?.getD 0)])
    rw [List.append_assoc, List.singleton_append] at h
    refine ⟨fun _ => addLocals_runs _, fun s s' r hi hag hv => ?_⟩
    simp only [addLocals] at r
    obtain ⟨j, s1, r1, r2⟩ := bind_ok.1 r
    obtain ⟨_, b1, _, d1, hl1⟩ := addLocal_ok hi.1 r1
    have hcd : curDepth s = sd.getLast?.getD 0 := by unfold curDepth; rw [hi.2.1]
    rw [hcd] at hl1
    have := h.spec s1 s' r2 ⟨hl1, d1.trans hi.2.1, by rw [(kp_run (addLocal_kp x) r1).jt]; exact hi.2.2⟩
      (by rw [b1]; exact hag) hv
    rw [b1] at this
    exact this

theorem quiet_insertLabel (h : UInt32) (pos : Nat) : Quiet (insertLabel h pos) where
  tame _ := insertLabel_runs h pos
  run s s' r := by
    rw [insertLabel_run] at r
    split at r
    · cases r
    · obtain ⟨_, rfl⟩ := Prod.mk.inj (Except.ok.inj r)
      exact ⟨rfl, ⟨rfl, rfl, rfl, rfl⟩, ⟨rfl, rfl, rfl⟩⟩

/-- the locals of a function when its body starts: the parameters, the last one first -/
def irCtx (f : FunctionIr) : LCtx := f.arguments.reverse.map (fun p => (p, (1 : Int)))

theorem compileFunction_emits {f : FunctionIr} {new : LCtx} (hnew : ∀ p ∈ new, p.2 = (1 : Int))
    {P : Nat → Nat → Prop}
    (hcards : Emits B F (Scoped (irCtx f) [1] J) (processFunctionCards 0 f.cards) (Scoped new [1] J) P) :
    Emits B F (Scoped [] [0] J) (compileFunction f) (Scoped [] [0] J)
      (fun p r => ∃ m', P p m' ∧ (∀ j, j < new.length → B.getD (m' + j) 0 = op.pop) ∧
        B.getD (m' + new.length) 0 = op.scalarNil ∧ B.getD (m' + new.length + 1) 0 = op.ret ∧
        r = m' + new.length + 2) := by
  have hbody : Emits B F (Scoped [] [1] J) (processFunction f) (Scoped new [1] J) P := by
    unfold processFunction
    exact ((((addLocals_emits f.arguments.reverse []).post fun _ h => by rw [List.nil_append] at h; exact h).seq
      hcards).after (Quiet.modify fun _ => by exact ⟨rfl, rfl, ⟨rfl, rfl, rfl, rfl⟩, ⟨rfl, rfl, rfl⟩⟩)
        Scoped.qlStable).imp fun _ _ ⟨_, rfl, h⟩ => h
  unfold Compiler.compileFunction
  refine ((Emits.bind silent_get fun st => ((scopeBegin_scoped.post fun _ h => h.1).seq (hbody.seq
    (((scopeEnd_scoped (L := []) (new := new) (sd := [0]) fun p hp => by rw [hnew p hp]; decide).pre
      fun _ h => ⟨by rw [List.nil_append]; exact h, fun _ h => nomatch h⟩).seq
    ((Emits.instr op.scalarNil Scoped.qlStable).seq (Emits.instr op.ret Scoped.qlStable))))).after
      (quiet_insertLabel _ _) Scoped.qlStable).after
    (Quiet.modify fun _ => by exact ⟨rfl, rfl, ⟨rfl, rfl, rfl, rfl⟩, ⟨rfl, rfl, rfl⟩⟩) Scoped.qlStable).imp ?_
  rintro p r ⟨_, _, _, _, rfl, m', hp, _, ⟨hpops, rfl⟩, _, ⟨h1, rfl⟩, h2, rfl⟩
  exact ⟨m', hp, hpops, h1, h2, rfl⟩

end

/-- where the code of a function is in the final program -/
def FnCodeAt (B : Array UInt8) (F : List (UInt32 × Nat)) (J : JumpTable) (f : FunctionIr) (pos : Nat) : Prop :=
  ∃ m', BCodes B F J 1 (irCtx f) f.cards pos m' ∧
    (∀ j, j < (blockCtx 1 (irCtx f) f.cards).length → B.getD (m' + j) 0 = op.pop) ∧
    B.getD (m' + (blockCtx 1 (irCtx f) f.cards).length) 0 = op.scalarNil ∧
    B.getD (m' + (blockCtx 1 (irCtx f) f.cards).length + 1) 0 = op.ret ∧
    m' + (blockCtx 1 (irCtx f) f.cards).length + 1 < B.size

section
variable (B : Array UInt8) (F : List (UInt32 × Nat)) (J : JumpTable) (hB : B.size < 4294967296)
  (hF : ∀ p ∈ F, p.2 < 4294967296) (ft : Feat)
  (hJ : ∀ g fd, ft.lookup g = some fd → ∃ r, look J g = some r)
include hB hF hJ

/-- the functions after `main`, as long as they are in the fragment: each has its label, and its code
    is at the label -/
theorem compileFunctions_prefixS : ∀ (pre post : List FunctionIr) (s s' : CState),
    compileFunctions (pre ++ post) s = .ok ((), s') → Scoped [] [0] J s →
    (∀ f ∈ pre, isBlock ft 1 (irCtx f) f.cards = true) →
    AgreeFrom B s' s.bytecode.size → (∃ t, F = s'.varIds ++ t) →
    ∀ f ∈ pre, ∃ pos, (f.handle, pos) ∈ s'.labels ∧ FnCodeAt B F J f pos
  | [], _, _, _, _, _, _, _, _ => fun f hf => by cases hf
  | f :: pre, post, s, s', h, hi, hfr, hag, hv => by
    simp only [List.cons_append, compileFunctions] at h
    obtain ⟨_, s1, h1, h2⟩ := bind_ok.1 h
    have x2 := ((compileFunctions_mono (k := s1.bytecode.size) (pre ++ post)).run _ _ _ h2 (Nat.le_refl _)).1
    have hsz1 := ((compileFunction_mono (k := 0) f).run _ _ _ h1 (Nat.zero_le _)).1.size_le
    obtain ⟨_, hlab, _, _, _⟩ := compileFunction_spec h1
    obtain ⟨hk2, _, _⟩ := compileFunctions_spec (pre ++ post) s1 s' h2
    obtain ⟨new, hnew1, hnew2⟩ := blockCtx_ext 1 f.cards (irCtx f)
    obtain ⟨i1, m', c1, c2, c3, c4, c5⟩ := (compileFunction_emits (new := blockCtx 1 (irCtx f) f.cards)
      (fun p hp => by
        rw [hnew1] at hp
        rcases List.mem_append.1 hp with hp | hp
        · simp only [irCtx, List.mem_map] at hp; obtain ⟨_, _, rfl⟩ := hp; rfl
        · exact hnew2 p hp)
      (bcodes_emits B F J hB hF ft hJ walk_processFunctionCards (sd := [1]) (by simp) (d := 1) rfl f.cards
        (irCtx f) (hfr f (List.mem_cons_self ..)) 0)).spec s s1 h1 hi
      (hag.sub (Nat.le_refl _) x2.size_le fun i _ hi => x2.pref i hi)
      (vpre_back hv ((compileFunctions_vr (pre ++ post)).run _ _ _ h2))
    have ih := compileFunctions_prefixS pre post s1 s' h2 i1 (fun g hg => hfr g (List.mem_cons_of_mem _ hg))
      (hag.weaken hsz1) hv
    intro g hg
    rcases List.mem_cons.1 hg with rfl | hg
    · refine ⟨s.bytecode.size, hk2.mem hlab, m', c1, c2, c3, c4, ?_⟩
      have := hag.size_le
      have := x2.size_le
      omega
    · exact ih g hg
end

/-! ## the compiled program -/

/-- the label log of the compilation (before it is resolved into the label table of the program) -/
def rawLabels (m std : Module) (limit : Nat) : List (UInt32 × Nat) :=
  match intoIrStream m std limit with
  | .ok unit =>
    match (compileUnit unit).run {} with
    | .ok ((), s) => s.labels
    | .error _ => []
  | .error _ => []

/-- the handles (hashes of the qualified names) of the functions of the compilation unit -/
def fnHandles (m std : Module) (limit : Nat) : List UInt32 :=
  match intoIrStream m std limit with
  | .ok unit => unit.toList.map (·.handle)
  | .error _ => []

/-- no handle of `H` was inserted as a label with two different positions (the label handles of the functions
    and of the cards are hashes; the labels of cards may repeat, which is harmless) -/
def LabelsFunctional (H : List UInt32) (l : List (UInt32 × Nat)) : Prop :=
  ∀ q ∈ l, ∀ q' ∈ l, q'.1 ∈ H → q.1 = q'.1 → q.2 = q'.2

theorem look_of_unique {fs : List FunctionIr} (hpw : (fs.map FunctionIr.fullName).Pairwise (· ≠ ·)) {f : FunctionIr}
    (hf : f ∈ fs) : look (jumpTableOf fs) f.fullName = some (tgt f) := by
  unfold look jumpTableOf
  induction fs with
  | nil => cases hf
  | cons g gs ih =>
    simp only [List.map_cons, List.pairwise_cons] at hpw
    rw [List.map_cons, List.find?_cons]
    rcases List.mem_cons.1 hf with rfl | hf
    · simp
    · have hne : g.fullName ≠ f.fullName := hpw.1 _ (List.mem_map.2 ⟨f, hf, rfl⟩)
      have : (g.fullName == f.fullName) = false := by simpa using hne
      simp only [this]
      exact ih hpw.2 hf

theorem fullName_root {f : FunctionIr} (h : f.ns = []) : f.fullName = f.name := by
  unfold FunctionIr.fullName; rw [h]; rfl

theorem swap_surj {mi j n : Nat} (hmi : mi < n) (hj : j < n) :
    ∃ k, k < n ∧ (if k = 0 then mi else if k = mi then 0 else k) = j := by
  by_cases hj0 : j = 0
  · refine ⟨mi, hmi, ?_⟩
    subst hj0
    by_cases h0 : mi = 0
    · rw [if_pos h0]; exact h0
    · rw [if_neg h0, if_pos rfl]
  · by_cases hjm : j = mi
    · exact ⟨0, by omega, by rw [if_pos rfl]; exact hjm.symm⟩
    · exact ⟨j, hj, by rw [if_neg hj0, if_neg hjm]⟩

/-- the layout of a compiled program of the fragment with static calls: `main` from address 0, and
    for every function that may be called its handle and arity in the jump table, the label of the
    handle, and its code at the label -/
theorem compile_allS {ft : Feat} {m std : Module} {limit : Nat} {p : Program}
    (h : compile m std limit = .ok p)
    {mi : Nat} {nf : String × Func}
    (hi : m.functions.findIdx? (fun p => p.1 == "main") = some mi) (hf : m.functions[mi]? = some nf)
    (hargs : nf.2.arguments = []) (hst : isBlock ft 1 [] nf.2.cards = true)
    (hfns : ft.fns = m.functions.filter (fun p => p.1 != "main"))
    (hfrag : ∀ q ∈ ft.fns, isBlock ft 1 (q.2.arguments.reverse.map (fun a => (a, (1 : Int)))) q.2.cards = true)
    (hlab : LabelsFunctional (fnHandles m std limit) (rawLabels m std limit))
    (hB : p.bytecode.size < 4294967296) (hV : p.varIds.length < 4294967296) :
    ∃ J, (∃ mainEnd, BCodes p.bytecode p.varIds J 1 [] nf.2.cards 0 mainEnd ∧
        (∀ j, j < (blockCtx 1 [] nf.2.cards).length → p.bytecode.getD (mainEnd + j) 0 = op.pop) ∧
        p.bytecode.getD (mainEnd + (blockCtx 1 [] nf.2.cards).length) 0 = op.exit ∧
        mainEnd + (blockCtx 1 [] nf.2.cards).length < p.bytecode.size) ∧
      (∀ a b, a ∈ p.varIds → b ∈ p.varIds → a.2 = b.2 → a = b) ∧
      (m.functions.map (·.1)).Pairwise (· ≠ ·) ∧
      ∀ g fd, ft.lookup g = some fd →
        ∃ (hd : UInt32) (pos : Nat) (f : FunctionIr), f.arguments = fd.arguments ∧ f.cards = fd.cards ∧
          look J g = some (hd, UInt32.ofNat fd.arguments.length) ∧
          p.labels.find? (fun l => l.1 == hd) = some (hd, pos) ∧ FnCodeAt p.bytecode p.varIds J f pos := by
  obtain ⟨unit, s, ⟨hunit, hs⟩, rfl⟩ := compile_run h
  have hraw := hlab
  unfold rawLabels fnHandles at hraw
  rw [hunit] at hraw
  simp only at hraw
  rw [hs] at hraw
  simp only at hraw
  have hinv := compileUnit_vinv hs
  have hF := hinv.id_lt hV
  obtain ⟨hn, hmi, hk⟩ := intoIrStream_fns hunit hi
  obtain ⟨_, hpw, _, _, _⟩ := compileUnit_spec hs
  -- `main`
  obtain ⟨nf0, e0, _, _, ea0, ec0⟩ := hk 0 (by omega)
  simp only [if_true] at e0
  rw [hf] at e0
  cases e0
  -- the functions of the root module other than `main` are in the fragment
  have hname_mi : nf.1 = "main" := by
    have := (List.findIdx?_eq_some_iff_getElem.1 hi).2.1
    have e : m.functions[mi] = nf := by
      have := hf; rw [List.getElem?_eq_getElem hmi] at this; exact Option.some.inj this
    rw [e] at this
    simpa using this
  have hunitk : ∀ k (hk1 : k < m.functions.length), unit.toList[k]? = some unit[k]! := by
    intro k hk1
    rw [Array.getElem?_toList, getElem!_def]
    rcases hu : unit[k]? with _ | x
    · rw [Array.getElem?_eq_none_iff] at hu; omega
    · rfl
  have hroot : ∀ k, k < m.functions.length → unit[k]!.fullName = unit[k]!.name := fun k hk1 => by
    obtain ⟨_, _, _, e3, _, _⟩ := hk k hk1
    exact fullName_root e3
  -- distinct positions of the stream have distinct names
  have hdist : ∀ k1 k2, k1 < m.functions.length → k2 < m.functions.length → k1 ≠ k2 →
      unit[k1]!.name ≠ unit[k2]!.name := by
    intro k1 k2 h1 h2 hne
    rw [← hroot k1 h1, ← hroot k2 h2]
    have hp := List.pairwise_iff_getElem.1 hpw
    rcases Nat.lt_or_ge k1 k2 with hlt | hge
    · have := hp k1 k2 (by simp; omega) (by simp; omega) hlt
      simp only [List.getElem_map, Array.getElem_toList] at this
      rw [getElem!_pos unit k1 (by omega), getElem!_pos unit k2 (by omega)]
      exact this
    · have hlt : k2 < k1 := by omega
      have := hp k2 k1 (by simp; omega) (by simp; omega) hlt
      simp only [List.getElem_map, Array.getElem_toList] at this
      rw [getElem!_pos unit k1 (by omega), getElem!_pos unit k2 (by omega)]
      exact fun e => this e.symm
  have hfrag_k : ∀ k, 0 < k → k < m.functions.length → ∃ q, q ∈ ft.fns ∧ unit[k]!.name = q.1 ∧
      unit[k]!.arguments = q.2.arguments ∧ unit[k]!.cards = q.2.cards := by
    intro k hk0 hk1
    obtain ⟨q, e1, e2, e3, e4, e5⟩ := hk k hk1
    refine ⟨q, ?_, e2, e4, e5⟩
    rw [hfns, List.mem_filter]
    refine ⟨List.mem_of_getElem? e1, ?_⟩
    have hne := hdist k 0 hk1 (by omega) (by omega)
    obtain ⟨q0, e01, e02, _⟩ := hk 0 (by omega)
    simp only [if_true] at e01
    rw [hf] at e01; cases e01
    rw [e2, e02, hname_mi] at hne
    simpa using hne
  -- the prefix of the stream after `main`
  have hpp : unit.toList.drop 1 = (unit.toList.drop 1).take (m.functions.length - 1) ++
      (unit.toList.drop 1).drop (m.functions.length - 1) := (List.take_append_drop _ _).symm
  have hpre_mem : ∀ f ∈ (unit.toList.drop 1).take (m.functions.length - 1),
      ∃ k, 0 < k ∧ k < m.functions.length ∧ f = unit[k]! := by
    intro f hfm
    obtain ⟨j, hj, rfl⟩ := List.getElem_of_mem hfm
    simp only [List.length_take, List.length_drop, Array.length_toList] at hj
    refine ⟨j + 1, by omega, by omega, ?_⟩
    rw [List.getElem_take, List.getElem_drop]
    have := hunitk (1 + j) (by omega)
    rw [List.getElem?_eq_getElem (by simp; omega)] at this
    rw [show j + 1 = 1 + j by omega]
    exact Option.some.inj this
  -- every function that may be called is at a position `k ≥ 1` of the stream, under its own name
  have hcall : ∀ g fd, ft.lookup g = some fd → ∃ k, 0 < k ∧ k < m.functions.length ∧
      unit[k]!.arguments = fd.arguments ∧ unit[k]!.cards = fd.cards ∧
      look (jumpTableOf unit.toList) g = some (tgt unit[k]!) := by
    intro g fd hl
    have hq := Feat.mem_of_lookup hl
    rw [hfns, List.mem_filter] at hq
    obtain ⟨j, hj, hjq⟩ := List.getElem_of_mem hq.1
    have hjm : j ≠ mi := by
      rintro rfl
      have e : m.functions[j] = nf := by
        have := hf; rw [List.getElem?_eq_getElem hj] at this; exact Option.some.inj this
      rw [← hjq, e, hname_mi] at hq
      simp at hq
    obtain ⟨k, hk1, hkj⟩ := swap_surj hmi hj
    have hk0 : 0 < k := by
      rcases Nat.eq_zero_or_pos k with rfl | h0
      · rw [if_pos rfl] at hkj; exact absurd hkj.symm hjm
      · exact h0
    obtain ⟨q', e1, e2, e3, e4, e5⟩ := hk k hk1
    rw [hkj, List.getElem?_eq_getElem hj, hjq] at e1
    cases e1
    have := look_of_unique hpw (List.mem_of_getElem? (hunitk k hk1))
    rw [fullName_root e3, e2] at this
    exact ⟨k, hk0, hk1, e4, e5, this⟩
  have hJ : ∀ g fd, ft.lookup g = some fd → ∃ r, look (jumpTableOf unit.toList) g = some r :=
    fun g fd hl => by obtain ⟨k, _, _, _, _, h⟩ := hcall g fd hl; exact ⟨_, h⟩
  obtain ⟨new, hnew1, hnew2⟩ := blockCtx_ext 1 unit[0]!.cards []
  rw [List.nil_append] at hnew1
  obtain ⟨s8, s9, mainEnd, i8, c1, c2, c3, c4, _, h9, x9, v9, hlabs, _⟩ := compileUnit_mainScoped hs
    (by rw [ea0, hargs]) hnew2
    (hnew1 ▸ bcodes_emits s.bytecode s.varIds (jumpTableOf unit.toList) hB hF ft hJ
      walk_processFunctionCards (sd := [1]) (by simp) (d := 1) rfl _ [] (by rw [ec0, hst]) 0)
  rw [← hnew1, ec0] at c2 c3 c4
  rw [ec0] at c1
  rw [hpp] at h9
  have hcodes := compileFunctions_prefixS s.bytecode s.varIds (jumpTableOf unit.toList) hB hF ft hJ
    _ _ s8 s9 h9 i8
    (fun f hfm => by
      obtain ⟨k, hk0, hk1, rfl⟩ := hpre_mem f hfm
      obtain ⟨q, hq, _, e4, e5⟩ := hfrag_k k hk0 hk1
      have := hfrag q hq
      unfold irCtx
      rw [e4, e5]; exact this)
    ⟨x9.size_le, fun i _ hi => x9.pref i hi⟩ v9.ids
  refine ⟨jumpTableOf unit.toList, ⟨mainEnd, c1, c2, c3, c4⟩, pairwise_inj (f := fun (p : UInt32 × Nat) => p.2) hinv.inj, ?_, ?_⟩
  · -- the names of the root module are distinct
    apply List.pairwise_iff_getElem.2
    intro j1 j2 hj1 hj2 hlt
    simp only [List.length_map] at hj1 hj2
    simp only [List.getElem_map]
    -- positions in the stream
    obtain ⟨k1, hk1, e1⟩ := swap_surj hmi hj1
    obtain ⟨k2, hk2, e2⟩ := swap_surj hmi hj2
    obtain ⟨q1, a1, a2, _⟩ := hk k1 hk1
    obtain ⟨q2, b1, b2, _⟩ := hk k2 hk2
    rw [e1, List.getElem?_eq_getElem hj1] at a1
    rw [e2, List.getElem?_eq_getElem hj2] at b1
    cases a1; cases b1
    have hne : k1 ≠ k2 := by
      intro e; subst e; omega
    have := hdist k1 k2 hk1 hk2 hne
    rw [a2, b2] at this
    exact this
  · intro g fd hl
    obtain ⟨k, hk0, hk1, ea, ec, hlook⟩ := hcall g fd hl
    have hmem : unit[k]! ∈ unit.toList := List.mem_of_getElem? (hunitk k hk1)
    have hpre : unit[k]! ∈ (unit.toList.drop 1).take (m.functions.length - 1) := by
      apply List.mem_iff_getElem?.2
      refine ⟨k - 1, ?_⟩
      rw [List.getElem?_take, if_pos (by omega), List.getElem?_drop, show 1 + (k - 1) = k by omega]
      exact hunitk k hk1
    obtain ⟨pos, hlb, hcode⟩ := hcodes _ hpre
    have hlb := hlabs _ hlb
    refine ⟨unit[k]!.handle, pos, unit[k]!, ea, ec, by rw [hlook]; unfold tgt; rw [ea], ?_, hcode⟩
    exact resolveLog_find_of_unique hlb (fun x hx hx1 => hraw x hx _ hlb (List.mem_map.2 ⟨_, hmem, rfl⟩) hx1)

end Cao.Compiler
