/-!
# `ByteArray.toList` is the list of the underlying array

Core has no lemma for `ByteArray.toList` (a loop over indices). Used where strings are read back from bytes:
the string records of the bytecode (`Lemmas/WfFinal.lean`, C10) and the names of the token format
(`Lemmas/SerdeTok.lean`, C11).
-/

theorem ByteArray.toList_loop_eq' (bs : ByteArray) : ∀ (n i : Nat) (r : List UInt8), bs.size - i = n →
    ByteArray.toList.loop bs i r = r.reverse ++ bs.data.toList.drop i := by
  intro n
  induction n with
  | zero =>
    intro i r h
    unfold ByteArray.toList.loop
    have : ¬ i < bs.size := by omega
    rw [if_neg this]
    have : bs.data.toList.length ≤ i := by
      rw [Array.length_toList, ByteArray.size_data]; omega
    rw [List.drop_eq_nil_of_le this, List.append_nil]
  | succ n ih =>
    intro i r h
    unfold ByteArray.toList.loop
    have hi : i < bs.size := by omega
    rw [if_pos hi, ih (i+1) _ (by omega)]
    have hl : i < bs.data.toList.length := by
      rw [Array.length_toList, ByteArray.size_data]; exact hi
    rw [List.drop_eq_getElem_cons hl, List.reverse_cons, List.append_assoc, List.singleton_append]
    congr 2
    show bs.data[i]! = _
    rw [getElem!_pos bs.data i (by rw [ByteArray.size_data]; exact hi)]
    rw [Array.getElem_toList]

theorem ByteArray.toList_eq' (bs : ByteArray) : bs.toList = bs.data.toList := by
  unfold ByteArray.toList
  rw [ByteArray.toList_loop_eq' bs _ 0 [] rfl]; rfl

theorem ByteArray.mk_toList_toArray' (bs : ByteArray) : ByteArray.mk bs.toList.toArray = bs := by
  rw [ByteArray.toList_eq']
