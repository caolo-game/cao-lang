import CaoProofs.Lemmas.NoPanic
/-!
# One instruction: what it does to the call stack, where it continues, what it raises (C04)

`step_flow`: the instruction stays in its frame and goes on behind itself, jumps or stops the loop,
or it calls, or it returns (`Flow`); its errors lie in any class that contains each panic of `step`
under the condition under which it is raised (`StepErrAt`) and the errors of the callback wrapped in
`TaskFailure`. The instructions of `plainOps` keep every invariant of the call stack and fall through
(`kp_step_plain`, `Lemmas/VmLogic.lean`); each of the ten others is looked at through its equation
`step_*` (`Lemmas/Instr.lean`): only a call and a return change the call stack.
Control-flow integrity of one instruction (`fr_step_cfi`) and the panic conditions
(`step_panic_conditions`, `step_panics_only`) are instances.
-/
namespace Cao.Vm

theorem good_dropLast {G : Nat → Prop} {fs : List Frame} (h : Good G fs) : Good G fs.dropLast :=
  fun f hf => h f (List.dropLast_subset fs hf)

/-! ## what one instruction does to the call stack, and where it continues -/

/-- The instruction at `src`, run on the call stack `fs`, returns `ctl` on the call stack `fs'`:
    it stays in its frame (natives may have run: `J fs'`) and stops the loop, goes on behind
    itself or jumps; or it calls a script function; or it returns to the caller. -/
inductive Flow (p : Prog) (src : Nat) (fs : List Frame) (J : List Frame → Prop) (ctl : Ctl)
    (fs' : List Frame) : Prop
  | exit (hJ : J fs') (hx : ctl.exit = true)
  | seq (hJ : J fs') (sp : Nat)
      (hsp : Gen.spanOf (p.bytecode.getD src 0) = some sp ∧ p.bytecode.getD src 0 ≠ Compiler.op.exit)
      (hip : ctl.ip = src + sp)
  | jump (hJ : J fs')
      (hop : p.bytecode.getD src 0 = Compiler.op.goto ∨ p.bytecode.getD src 0 = Compiler.op.gotoIfTrue ∨
        p.bytecode.getD src 0 = Compiler.op.gotoIfFalse)
      (hip : ctl.ip = rdU32 p.bytecode (src + 1))
  | call (hop : p.bytecode.getD src 0 = Compiler.op.callFunction) (a b : Frame) (ha : a.dst = src + 1)
      (hb : b.dst = src + 1) (l : UInt32 × Nat) (hl : l ∈ p.labels) (hip : ctl.ip = l.2)
      (hfs : fs' = fs.dropLast ++ [a] ++ [b])
  | ret (c : Frame) (hfs : fs' = fs.dropLast) (hc : fs'.getLast? = some c) (hip : ctl.ip = c.dst)
      (hx : ctl.exit = false)

/-- what the error class of the instruction at `src`, run on the call stack `fs`, has to contain:
    each panic of `step` under the condition under which it is raised -/
structure StepErrAt (E : ErrKind → Prop) (p : Prog) (src : Nat) (fs : List Frame) : Prop where
  empty₁ : fs = [] → E (.panic "call stack is empty")
  empty₂ : fs = [] → E (.panic "Call stack was empty")
  invalid : Gen.spanOf (p.bytecode.getD src 0) = none → E (.panic "invalid opcode")
  capture : p.bytecode.getD src 0 = Compiler.op.registerUpvalue → p.bytecode.getD (src + 2) 0 = 0 →
    E (.panic "closure not found for capture") ∧ E (.panic "upvalue index out of bounds")

theorem Flow.of_falls {p : Prog} {src : Nat} {fs : List Frame} {J₀ J : List Frame → Prop}
    {X : VmState → Prop} {E : ErrKind → Prop} {m : M Ctl} (h : Kp (fun s => J₀ s.frames) X E (Falls p src) m)
    (h0 : J₀ fs) (hJ : ∀ fs', J₀ fs' → J fs') : Fr m fs (Flow p src fs J) E :=
  fr_conseq (h.fr h0) (fun _ _ ⟨hK, _, sp, hsp, hip⟩ => .seq (hJ _ hK) sp hsp hip) fun _ h => h

theorem kp_gotoIf {K X : VmState → Prop} [StateKeep K] [ErrSt K X] {E : ErrKind → Prop} [ErrBase E]
    (yes no : Nat) :
    Kp K X E (fun ctl => ctl.exit = false ∧ (ctl.ip = yes ∨ ctl.ip = no)) (Instr.gotoIf yes no) := by
  unfold Instr.gotoIf
  kp_auto
  refine ⟨rfl, ?_⟩
  dsimp only
  split
  · exact .inl rfl
  · exact .inr rfl

theorem fr_callScript {E : ErrKind → Prop} [ErrClass E] (p : Prog) (src : Nat) (l : UInt32) (ar : Nat)
    (c : Option Nat) (fs : List Frame) (J : List Frame → Prop)
    (he : fs = [] → E (.panic "Call stack was empty"))
    (hop : p.bytecode.getD src 0 = Compiler.op.callFunction) :
    Fr (step.callScript p src (src + 1) l ar c) fs (Flow p src fs J) E := by
  refine fr_iff.2 fun s hs => ?_
  refine callScript_cases p src (src + 1) l ar c s (fun h0 => he (hs ▸ h0)) (fun _ _ hp => ErrBase.plain hp)
    fun fr r _ hr => ?_
  rcases hr with rfl | ⟨e, hfind, rfl⟩
  · exact ErrClass.calm (calm_of_plain rfl)
  · exact .call hop _ _ rfl rfl _ (List.mem_of_find?_eq_some hfind) rfl (by rw [← hs])

/-- **one instruction**, for a callback that keeps `J` and raises `E'`-errors (which reach the
    instruction wrapped by `callNative`, `hw`) -/
theorem step_flow {E' E : ErrKind → Prop} [ErrClass E'] [ErrClass E] (p : Prog) (re : Reenter) (src : Nat)
    (fs : List Frame) (J : List Frame → Prop) (hJ : J fs) (hE : StepErrAt E p src fs)
    (hw : ∀ n e, E' e → E (.taskFailure n e)) (hre : ReSpec re J E') :
    Fr (step p re src) fs (Flow p src fs J) E := by
  have hne : ∀ s : VmState, s.frames = fs → s.frames = [] → E (.panic "call stack is empty") :=
    fun s hs he => hE.empty₁ (hs ▸ he)
  -- what leaves the call stack as it is and falls through
  have same : ∀ {m : M Ctl}, Kp (fun s => s.frames = fs) (fun _ => True) E (Falls p src) m →
      Fr m fs (Flow p src fs J) E :=
    fun h => Flow.of_falls (J₀ := (· = fs)) h rfl fun _ h => h ▸ hJ
  rcases op_cases (p.bytecode.getD src 0) with hop | (h | h | h | h | h | h | h | h | h | h) | hst
  · -- the callback is needed only at `CallNative`, the current frame only elsewhere
    by_cases hcn : p.bytecode.getD src 0 = Compiler.op.callNative
    · exact Flow.of_falls (J₀ := J) (X := fun _ => True)
        (kp_step_plain p re src (fun h => absurd hcn h) hw (fun _ => reSpec_iff_kp.1 hre) hop) hJ fun _ h => h
    · exact same (kp_step_plain (E' := E') p re src (fun _ => hne) hw (fun h => absurd h hcn) hop)
  · rw [step_gotoIfTrue p re src h]
    exact fr_conseq ((kp_gotoIf (X := fun _ => True) _ _).fr hJ)
      (fun _ _ ⟨hJ', _, hip⟩ => hip.elim (.jump hJ' (.inr (.inl h))) (.seq hJ' 5 (h ▸ ⟨rfl, by decide⟩)))
      fun _ h => h
  · rw [step_gotoIfFalse p re src h]
    exact fr_conseq ((kp_gotoIf (X := fun _ => True) _ _).fr hJ)
      (fun _ _ ⟨hJ', _, hip⟩ => hip.elim (.seq hJ' 5 (h ▸ ⟨rfl, by decide⟩)) (.jump hJ' (.inr (.inr h))))
      fun _ h => h
  · rw [step_goto p re src h]
    exact fr_pure (.jump hJ (.inl h) rfl)
  · -- `CallFunction`: a host function keeps `J`, a script function gets its two frames
    rw [Cross.step_callFunction p re src h]
    unfold Cross.Instr.callFunction
    refine fr_bind ((kp_prim (X := fun _ => True) pop).fr (J := (· = fs)) rfl) fun f fs' hf => ?_
    obtain ⟨rfl, _⟩ := hf
    split
    · refine fr_get_bind fun s hs => ?_
      split
      · next hn _ =>
        exact fr_bind (fr_callNative hw inferInstance re J hre hn _ hJ) fun _ _ hJ' =>
          fr_pure (.seq hJ' 1 (h ▸ ⟨rfl, by decide⟩) rfl)
      · exact fr_callScript p src _ _ _ _ J hE.empty₂ h
      · exact fr_callScript p src _ _ _ _ J hE.empty₂ h
      · exact fr_throwE (ErrClass.calm (calm_of_plain rfl))
    · exact fr_throwE (ErrClass.calm (calm_of_plain rfl))
  · -- `Return`: the frame goes, the rest runs on the shorter call stack
    rw [Upv.step_ret p re src h]
    unfold Upv.Instr.ret
    refine fr_get_bind fun s hs => ?_
    split
    · exact fr_throwE (ErrClass.calm (calm_of_plain rfl))
    · refine fr_set_bind (fs' := fs.dropLast) (by rw [← hs]) ?_
      refine fr_conseq (Kp.fr (J := (· = fs.dropLast)) (X := fun _ => True)
        (φ := fun ctl => ctl.exit = false ∧ ∃ c, fs.dropLast.getLast? = some c ∧ ctl.ip = c.dst) ?_ rfl)
        (fun _ _ ⟨hfs, hx, c, hc, hip⟩ => .ret c hfs (hfs ▸ hc) hip hx) fun _ h => h
      kp_auto
      rename_i _ hs' _ caller hcall _
      exact ⟨rfl, caller, hs' ▸ hcall, rfl⟩
  · rw [step_exit p re src h]
    exact fr_pure (.exit hJ rfl)
  · rw [Cross.step_functionPointer p re src h]
    refine same ?_
    unfold Cross.Instr.functionPointer
    kp_auto
    exact falls_of_op h 9 rfl (by decide)
  · rw [Upv.step_closure p re src h]
    refine same ?_
    unfold Upv.Instr.closure
    kp_auto
    exact falls_of_op h 9 rfl (by decide)
  · rw [step_popTable p re src h]
    refine same ?_
    unfold Instr.popTable
    kp_auto
    all_goals exact falls_of_op h 1 rfl (by decide)
  · -- `RegisterUpvalue`: the two capture panics, when the flag byte is 0
    rw [Upv.step_registerUpvalue p re src h]
    have hcap := fun hb : ¬ (p.bytecode.getD (src + 1 + 1) 0 != 0) = true =>
      hE.capture h (Decidable.of_not_not (mt bne_iff_ne.2 hb))
    refine same ?_
    unfold Upv.Instr.registerUpvalue
    kp_auto
    all_goals first
      | exact falls_of_op h 3 rfl (by decide)
      | exact kp_throwE (hcap ‹_›).1
      | exact kp_throwE (hcap ‹_›).2
  · rw [step_invalid p re src hst]
    exact fr_throwE (hE.invalid (spanOf_none_of_not_stepOps _ hst))

/-! ## control-flow integrity -/

theorem post_prefix {G : Nat → Prop} {fs fs' : List Frame} (hne : fs ≠ []) (hJ : JInv G fs fs')
    (ctl : Ctl) (h : ctl.exit = false → G ctl.ip) : StepPost G fs ctl fs' where
  good := hJ.2
  next := h
  shape := by
    obtain ⟨u, rfl⟩ := hJ.1
    exact .inl ⟨[fs.getLast hne] ++ u, by simp, by
      rw [← List.append_assoc, List.dropLast_concat_getLast]⟩

theorem Flow.post {p : Prog} {G : Nat → Prop} (hc : Cfi p G) {src : Nat} {fs fs' : List Frame} {ctl : Ctl}
    (hne : fs ≠ []) (hg : Good G fs) (hsrc : G src) (h : Flow p src fs (JInv G fs) ctl fs') :
    StepPost G fs ctl fs' := by
  cases h with
  | exit hJ hx => exact post_prefix hne hJ ctl (fun h => by rw [hx] at h; cases h)
  | seq hJ sp hsp hip => exact post_prefix hne hJ ctl (fun _ => hip ▸ hc.seq src sp hsrc hsp.1 hsp.2)
  | jump hJ hop hip => exact post_prefix hne hJ ctl (fun _ => hip ▸ hc.jump src hsrc hop)
  | call hop a b ha hb l hl hip hfs =>
    have h1 : G (src + 1) := hc.seq src 1 hsrc (hop ▸ rfl) (hop ▸ by decide)
    subst hfs
    refine ⟨fun f hf => ?_, fun _ => hip ▸ hc.label l hl, .inl ⟨[a, b], by simp, by simp⟩⟩
    simp only [List.mem_append, List.mem_singleton] at hf
    rcases hf with (hf | rfl) | rfl
    · exact good_dropLast hg f hf
    · exact ha ▸ h1
    · exact hb ▸ h1
  | ret c hfs hc' hip hx =>
    subst hfs
    refine ⟨good_dropLast hg, fun _ => hip ▸ good_dropLast hg c (List.mem_of_getLast? hc'),
      .inr ⟨rfl, fun h0 => ?_, hx, c, hc', hip⟩⟩
    rw [h0] at hc'; cases hc'

/-- **one instruction**: from a non-empty call stack whose return addresses are instruction starts,
    at an instruction start, an instruction that returns leaves such a call stack, continues at an
    instruction start, and has changed the call stack only at its top; the errors it raises are
    calm ones, the two capture panics, or what the re-entry callback raises -/
theorem fr_step_cfi {G : Nat → Prop} {E : ErrKind → Prop} [StepErr E] (p : Prog) (hc : Cfi p G)
    (re : Reenter) (hre : ReBase re G E) (src : Nat) (fs : List Frame)
    (hne : fs ≠ []) (hg : Good G fs) (hsrc : G src) :
    Fr (step p re src) fs (StepPost G fs) E :=
  fr_conseq
    (step_flow p re src fs (JInv G fs) ⟨List.prefix_refl _, hg⟩
      ⟨fun h => absurd h hne, fun h => absurd h hne, fun h => absurd h (hc.valid src hsrc),
        fun _ _ => ⟨StepErr.capture, StepErr.index⟩⟩
      (fun _ _ => ErrClass.wrap) (hre.spec fs))
    (fun _ _ => Flow.post hc hne hg hsrc) (fun _ h => h)

/-! ## which panics an instruction can raise, and when (C04, item 2)

`step_panic_conditions`: the condition under which each panic of an instruction is raised, read off
from `step_flow` with the error class `PanicCond` (whatever the re-entry callback raises reaches
`step` wrapped in `TaskFailure`, so any callback will do). `step_panics_only`: its last component,
the list of panic messages, as a `Throws` (`Lemmas/VmLogic.lean`). -/

def stepPanics : List String :=
  ["call stack is empty", "Call stack was empty", "closure not found for capture",
   "upvalue index out of bounds", "invalid opcode"]

def StepPanic (e : ErrKind) : Prop := ∀ w, e = .panic w → w ∈ stepPanics

/-- what a panic of the instruction at `src`, executed on the call stack `fs`, tells -/
def PanicCond (p : Prog) (src : Nat) (fs : List Frame) (e : ErrKind) : Prop :=
  (e = .panic "call stack is empty" ∨ e = .panic "Call stack was empty" → fs = []) ∧
  (e = .panic "invalid opcode" → Gen.spanOf (p.bytecode.getD src 0) = none) ∧
  (e = .panic "closure not found for capture" ∨ e = .panic "upvalue index out of bounds" →
    p.bytecode.getD src 0 = Compiler.op.registerUpvalue ∧ p.bytecode.getD (src + 2) 0 = 0) ∧
  (∀ w, e = .panic w → w ∈ stepPanics)

theorem panicCond_of_not_panic {p : Prog} {src : Nat} {fs : List Frame} {e : ErrKind}
    (h : ∀ w, e ≠ .panic w) : PanicCond p src fs e :=
  ⟨fun h' => by rcases h' with h' | h' <;> exact absurd h' (h _), fun h' => absurd h' (h _),
   fun h' => by rcases h' with h' | h' <;> exact absurd h' (h _), fun w h' => absurd h' (h w)⟩

instance (p : Prog) (src : Nat) (fs : List Frame) : ErrClass (PanicCond p src fs) where
  calm {e} h := panicCond_of_not_panic (fun w hw => by subst hw; exact h w rfl)
  wrap _ := panicCond_of_not_panic (fun w hw => by cases hw)

theorem panicCond_at (p : Prog) (src : Nat) (fs : List Frame) : StepErrAt (PanicCond p src fs) p src fs where
  empty₁ h := by simp [PanicCond, stepPanics, h]
  empty₂ h := by simp [PanicCond, stepPanics, h]
  invalid h := ⟨by simp, fun _ => h, by simp, by simp [stepPanics]⟩
  capture h1 h2 := by simp [PanicCond, stepPanics, h1, h2]

/-- **when an instruction panics** (any callback, any call stack): the two "call stack empty"
    messages only on an empty call stack, `"invalid opcode"` only if the byte at `src` is not an
    opcode of the instruction table, the two capture messages only at a `RegisterUpvalue` whose
    flag byte is 0 (non-local), and no other message at all -/
theorem step_panic_conditions (p : Prog) (re : Reenter) (src : Nat) (fs : List Frame) :
    Fr (step p re src) fs (fun _ _ => True) (PanicCond p src fs) :=
  haveI : ErrClass (fun _ : ErrKind => True) := ⟨fun _ => trivial, fun _ => trivial⟩
  fr_conseq
    (step_flow (E' := fun _ => True) p re src fs (fun _ => True) trivial
      (panicCond_at p src fs)
      (fun _ _ _ => panicCond_of_not_panic (fun _ hw => by cases hw))
      (fun _ _ _ => ⟨fun _ _ _ _ _ => trivial, fun _ _ _ _ _ => trivial⟩))
    (fun _ _ _ => trivial) (fun _ h => h)

theorem step_panics_only (p : Prog) (re : Reenter) (src : Nat) : Throws StepPanic (step p re src) :=
  ⟨fun s e he => ((step_panic_conditions p re src s.frames).err s e _ rfl (by rw [← he])).2.2.2⟩

end Cao.Vm
