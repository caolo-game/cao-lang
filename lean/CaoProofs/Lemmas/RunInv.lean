import CaoProofs.Lemmas.VmFrame
import CaoProofs.Lemmas.RegisterUpvalue
import CaoProofs.Props.C05
/-!
# Lifting the accounting invariant `C05.Inv` from the allocation primitives to whole runs

`InvR s s' := Inv s → Inv s'` is a preorder on states, and a `RunFrame` (`Lemmas/VmFrame.lean`): it
only looks at the heap and at the allocator (`MemFrame`), the allocating constructors keep `Inv` by
the theorems of `Props/C05.lean`, `tableInsert` keeps it when its table is rooted, and overwriting an
object in place keeps it when the charge stays the same. So every instruction, every host function
and every run carries the invariant over, whatever the outcome.

`RegisterUpvalue`, which edits a closure object by itself, is treated through its four effects on
the state (`Upv.RegEffect`, `Lemmas/RegisterUpvalue.lean`).

Two more relations of that kind: `SameLimit` before it (no run changes the configured limit, `run_limit`) and
`NextMono` at the end (no run lowers the address counter, `run_next_mono`).
-/
namespace Cao.RunInv
open Cao Cao.Vm Cao.Gc Cao.C02 Cao.C05

/-! ## relations that only look at the heap and at the allocator -/

class MemFrame (R : VmState → VmState → Prop) : Prop extends StateOrder R where
  of_same : ∀ {s s' : VmState}, s'.heap = s.heap → s'.mem = s.mem → R s s'

section memprims
variable {R : VmState → VmState → Prop} [MemFrame R]

instance : StateFrame R where
  stack _ _ := MemFrame.of_same rfl rfl
  globals _ _ := MemFrame.of_same rfl rfl
  guards _ _ := MemFrame.of_same rfl rfl
  hostLog _ _ := MemFrame.of_same rfl rfl

theorem mpres_keyOf (v : Val) : Pres R (keyOf v) := pres_of_prim _

end memprims

/-! ## the configured limit is never changed -/

def SameLimit (s s' : VmState) : Prop := s'.mem.limit = s.mem.limit

instance : MemFrame SameLimit where
  refl _ := rfl
  trans h1 h2 := Eq.trans h2 h1
  of_same _ hm := by unfold SameLimit; rw [hm]

instance : RunFrame SameLimit where
  toStepFrame := StepFrame.mono (R₀ := Steady) Steady.limit
  frames _ _ := rfl
  tick _ _ := rfl
  timeout _ := rfl

theorem run_limit (p : Prog) (n : Nat) (s : VmState) : (run p n s).1.mem.limit = s.mem.limit :=
  run_pres (R := SameLimit) p n s rfl

/-! ## the accounting invariant as a relation -/

def InvR (s s' : VmState) : Prop := Inv s → Inv s'

theorem inv_of_same {s s' : VmState} (hh : s'.heap = s.heap) (hm : s'.mem = s.mem) (h : Inv s) :
    Inv s' := by
  obtain ⟨h1, h2, h3, h4, h5⟩ := h
  refine ⟨?_, ?_, ?_, ?_, ?_⟩
  · unfold Ledger at *; rw [hh, hm]; exact h1
  · unfold WithinLimit at *; rw [hm]; exact h2
  · rw [hh]; exact h3
  · rw [hh]; exact h4
  · unfold ThresholdOk at *; rw [hm]; exact h5

instance : MemFrame InvR where
  refl _ := id
  trans h1 h2 := fun h => h2 (h1 h)
  of_same hh hm := inv_of_same hh hm

theorem invR_of_same {s s' : VmState} (hh : s'.heap = s.heap) (hm : s'.mem = s.mem) : InvR s s' :=
  inv_of_same hh hm

/-! ## overwriting an object in place -/

theorem set_objs_of_get_none (h : Heap) (a : Nat) (o' : Obj) (hg : h.get a = none) :
    h.set a o' = h := by
  unfold Heap.get at hg
  unfold Heap.set
  have : h.objs.map (fun p => if p.1 == a then (a, o') else p) = h.objs := by
    generalize h.objs = l at hg
    induction l with
    | nil => rfl
    | cons p l ih =>
      by_cases hp : (p.1 == a) = true
      · simp [hp] at hg
      · have hp' : (p.1 == a) = false := by simpa using hp
        simp only [List.find?_cons, hp'] at hg
        simp only [List.map_cons, hp', Bool.false_eq_true, if_false, ih hg]
  rw [this]

/-- replacing an object by one with the same charge (or "replacing" at a free address, which does
    nothing) keeps the invariant -/
theorem set_inv (s : VmState) (a : Nat) (o' : Obj) (h : Inv s)
    (hc : ∀ o, s.heap.get a = some o → Heap.chargeOf o' = Heap.chargeOf o) :
    Inv { s with heap := s.heap.set a o' } := by
  cases hg : s.heap.get a with
  | none => rw [set_objs_of_get_none _ _ _ hg]; exact h
  | some o =>
    exact ⟨set_ledgerP s a o o' 0 h.unique hg (hc o hg) h.ledger, h.within,
      set_unique _ _ _ h.unique, set_fresh _ _ _ h.fresh, h.threshold⟩

/-- `closeUpvalues` only turns open upvalue objects into closed ones: same charge -/
theorem closeGo_inv (top : Nat) (s0 : VmState) (l : List Nat) (s : VmState) (h : Inv s) :
    Inv { s with heap := (closeUpvalues.go top s0 l s.heap).2 } :=
  closeGo_pres (R := fun h h' => ∀ s : VmState, s.heap = h → Inv s → Inv { s with heap := h' })
    (fun _ s e hi => by subst e; exact hi)
    (fun {_ b _} h1 h2 s e hi => h2 { s with heap := b } rfl (h1 s e hi))
    (fun _ a i v hs s e hi => by
      subst e
      exact set_inv s a _ hi fun o ho => by rw [Upv.upvalueSlot_eq_some.mp hs] at ho; cases ho; rfl)
    top s0 l s.heap s rfl h

theorem ipres_closeUpvalues (t : Nat) : Pres InvR (closeUpvalues t) := by
  unfold closeUpvalues
  refine pres_get_bind (fun s => ?_)
  refine presAt_set (fun h => ?_)
  have := closeGo_inv t s s.openUpvalues s h
  exact inv_of_same (s := { s with heap := (closeUpvalues.go t s s.openUpvalues s.heap).2 }) rfl rfl this

theorem ipres_writeUpvalueLoc (a : Nat) (v : Val) : Pres InvR (writeUpvalueLoc a v) := by
  unfold writeUpvalueLoc
  refine pres_get_bind (fun s => ?_)
  split
  · exact presAt_set (invR_of_same rfl rfl)
  · next w hw =>
    exact presAt_set (fun h => set_inv s a _ h (fun o ho => by rw [hw] at ho; cases ho; rfl))
  · exact presAt_throwE _ _

/-! ## `RegisterUpvalue` -/

theorem allocPure_get (c : Nat) (s : VmState) (a : Nat) (o : Obj)
    (h : (allocPure c s).2.heap.get a = some o) : s.heap.get a = some o :=
  (allocPure_effect c s).elim (fun e => e.heap ▸ h)
    (fun e => ((gc_exact_get s a o).mp (e.heap ▸ h)).1)

theorem closure_charge {s : VmState} {c : Nat} {hd ar : UInt32} {ups ups' : List Nat}
    (hg : s.heap.get c = some (.closure hd ar ups)) :
    ∀ o, s.heap.get c = some o → Heap.chargeOf (.closure hd ar ups') = Heap.chargeOf o := by
  intro o ho; rw [hg] at ho; cases ho; rfl

theorem invR_regEffect {p s' : VmState} (h : Upv.RegEffect p s') : InvR p s' := by
  intro hi
  cases h with
  | none => exact hi
  | oom ha =>
    -- a refused `initSimple` ends where its allocation ends
    have := initSimple_inv (.upvalue (.stack 0)) p rfl hi
    rw [initSimple_run, alloc1Pure, ha] at this
    exact this
  | share hcl _ => exact set_inv p _ _ hi (closure_charge hcl)
  | @fresh c hd ar ups slot s0 hcl _ ha =>
    -- `initSimple_inv` accounts for the new upvalue object; what remains is the edit of `c` in
    -- place, and the collection may have removed `c` but cannot have changed it
    have h1 := initSimple_inv (.upvalue (.stack slot)) p rfl hi
    rw [initSimple_run, alloc1Pure, ha] at h1
    have hg := allocPure_get Heap.objCharge p
    rw [ha] at hg
    refine inv_of_same (s := { withObject (.upvalue (.stack slot)) s0 with
      heap := (withObject (.upvalue (.stack slot)) s0).heap.set c (.closure hd ar (ups ++ [s0.heap.next])) }) rfl rfl ?_
    refine set_inv _ c _ h1 (fun o ho => ?_)
    rw [get_withObject] at ho
    split at ho
    · next hx => cases ho; exact closure_charge hcl _ (hg c _ hx)
    · split at ho <;> cases ho
      rfl

theorem ipres_registerUpvalue (index : Nat) (isLocal : Bool) (ip : Nat) :
    Pres InvR (Upv.Instr.registerUpvalue index isLocal ip) :=
  Upv.pres_registerUpvalue (fun _ _ => invR_regEffect) index isLocal ip

/-! ## every instruction, every host function and every run carries the invariant over -/

instance : RunFrame InvR where
  initTable := Pres.intro fun s h => initTable_inv s h
  initString b := Pres.intro fun s h => initString_inv b s h
  initSimple o ho _ := Pres.intro fun s h => initSimple_inv o s ho h
  tableInsert s a k v hr h := tableInsert_inv a k v s h (hr.elim
    (fun ⟨_, hn⟩ => reach_of_stack (peekLast_mem hn)) reach_of_guard)
  setTable s a _ _ _ hg h := set_inv s a _ h fun o ho => by rw [hg] at ho; cases ho; rfl
  closeUpvalues := ipres_closeUpvalues
  writeUpvalueLoc := ipres_writeUpvalueLoc
  registerUpvalue := ipres_registerUpvalue
  frames _ _ := invR_of_same rfl rfl
  tick _ _ := invR_of_same rfl rfl
  timeout _ := invR_of_same rfl rfl

theorem exec_invR (p : Prog) (gas : Nat) (t : Task) (s : VmState) : InvR s (exec p gas t s).1 :=
  exec_pres p gas t s

theorem run_invR (p : Prog) (n : Nat) (s : VmState) : InvR s (run p n s).1 :=
  run_pres p n s (invR_of_same rfl rfl)

/-! ## a weakest precondition with error postcondition `Inv` -/

/-- started in `s`, `m` either returns `a` in a state `s'` with `Q a s'`, or fails in a state
    that satisfies the invariant -/
def WP {α : Type} (m : M α) (Q : α → VmState → Prop) (s : VmState) : Prop :=
  match m.go s with
  | (.ok a, s') => Q a s'
  | (.error _, s') => C05.Inv s'

section wp
variable {s : VmState}

theorem wp_set {Q : PUnit → VmState → Prop} {x : VmState} (h : Q ⟨⟩ x) : WP (set x) Q s := h

end wp

/-! ## the address counter never decreases

The third `MemFrame`. `run_next_mono`: `heap.next` after a run is at least `heap.next` before (objects are only ever
created at `next`, the collector and `Heap.set` leave it alone). Used to show that every machine
the host can reach has `1 ≤ heap.next`. -/

def NextMono (s s' : VmState) : Prop := s.heap.next ≤ s'.heap.next

instance : MemFrame NextMono where
  refl _ := Nat.le_refl _
  trans h1 h2 := Nat.le_trans h1 h2
  of_same hh _ := by unfold NextMono; rw [hh]; exact Nat.le_refl _

instance : RunFrame NextMono where
  toStepFrame := StepFrame.mono (R₀ := Steady) Steady.next
  frames _ _ := Nat.le_refl _
  tick _ _ := Nat.le_refl _
  timeout _ := Nat.le_refl _

theorem run_next_mono (p : Prog) (n : Nat) (s : VmState) : s.heap.next ≤ (run p n s).1.heap.next :=
  run_pres (R := NextMono) p n s (Nat.le_refl _)

end Cao.RunInv
