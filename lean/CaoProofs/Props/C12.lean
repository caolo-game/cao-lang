import CaoModel.HashMap
import CaoProofs.Lemmas.OpenAddrRefine
/-!
# C12 — `CaoHashMap` is a finite map

`HMap` (in `CaoModel/HashMap.lean`) is the code-shaped model of the
repaired `hash_map.rs`; here it is proved, for **every** key type with decidable equality,
**every** hash function `hashOf : K → UInt64`, every capacity, every operation sequence and every
choice of injected allocation failures, to

* keep its representation invariant `HInv` and never panic (`hm_inv_preserved`; the probe loop
  terminates: `hm_find_terminates`),
* refine an association-list specification (`hm_refines`; `len` = number of keys, iteration
  compared up to permutation, an operation whose allocation fails reports the error and leaves the
  table untouched: `hm_alloc_fail`),
* satisfy the frame property (`hm_frame`), and
* hand every accepted entry back exactly once (`hm_drop_once`).

The reusable theory is in `CaoProofs/Lemmas/OpenAddr.lean` and `OpenAddrRefine.lean`.
-/
namespace Cao.C12
open Cao

variable {K V : Type} [DecidableEq K]

/-! ## arithmetic of the growth policy -/

theorem hm_room {c cap : Nat} (h : HMap.needsGrow (c + 1) cap = false) :
    c + 1 < cap := by
  simp [HMap.needsGrow] at h; omega

theorem hm_growCap_gt (cap : Nat) : cap < HMap.growCap cap := by
  unfold HMap.growCap; omega

omit [DecidableEq K] in
private theorem home_lt (hashOf : K → UInt64) {cap : Nat} (hc : 0 < cap) (k : K) :
    HMap.home hashOf cap k < cap := by
  unfold HMap.home Hash.fibHome64; exact Nat.mod_lt _ hc

/-! ## representation invariant -/

def HInv (hashOf : K → UInt64) (m : HMap K V) : Prop :=
  0 < m.cap ∧ OA.Inv m.cap (HMap.home hashOf m.cap) m.slots ∧
    m.count = OA.size m.cap m.slots ∧ m.count < m.cap

private theorem adjust_spec {hashOf : K → UInt64} {m : HMap K V} {f : K → Option V}
    (hI : HInv hashOf m) (habs : OA.Abs m.cap m.slots f) (newCap : Nat) (hn : m.count < newCap)
    (al : Alloc) :
    ∃ m', m.adjustCapacity hashOf newCap al =
        (al.next.2, if al.next.1 then .ok m' else .allocErr) ∧
      m'.cap = newCap ∧ m'.count = m.count ∧ HInv hashOf m' ∧ OA.Abs m'.cap m'.slots f := by
  obtain ⟨_, inv, hcnt, _⟩ := hI
  have hc : 0 < newCap := by omega
  obtain ⟨s', h1, h2, h3, h4⟩ := OA.rehash_compact (home' := HMap.home hashOf newCap) inv habs hc
    (home_lt hashOf hc) (by omega)
  refine ⟨⟨newCap, OA.compact newCap s', m.count⟩, ?_, rfl, rfl, ⟨hc, h2, by rw [h4, hcnt], hn⟩, h3⟩
  cases h : al.next.1 <;> simp [HMap.adjustCapacity, h1, h]

private theorem insert_present {hashOf : K → UInt64} {m : HMap K V} {f : K → Option V}
    (hI : HInv hashOf m) (habs : OA.Abs m.cap m.slots f) {k : K} {w : V} (hk : f k = some w)
    (v : V) (al : Alloc) :
    ∃ m', m.insert hashOf k v al = (m', al, .ok (some (k, w))) ∧ m'.cap = m.cap ∧
      m'.count = m.count ∧ HInv hashOf m' ∧ OA.Abs m'.cap m'.slots (OA.fupd f k (some v)) := by
  obtain ⟨hc, inv, hcnt, hlt⟩ := hI
  obtain ⟨i, _, hf, _⟩ := OA.find_spec inv k
  obtain ⟨h1, h2, h3, h4⟩ := OA.upd_find_spec inv habs v hf (by rw [hk]; intro h; cases h)
  rw [hk] at h3 h4
  refine ⟨{ m with slots := OA.upd m.slots i (some (k, v)) }, ?_, rfl, rfl,
    ⟨hc, h1, by rw [h3, hcnt]; rfl, hlt⟩, h2⟩
  simp [HMap.insert, hf, h4]

private theorem insert_absent {hashOf : K → UInt64} {m : HMap K V} {f : K → Option V}
    (hI : HInv hashOf m) (habs : OA.Abs m.cap m.slots f) {k : K} (hk : f k = none)
    (v : V) (al : Alloc) :
    ∃ m', m.insert hashOf k v al =
        (if HMap.needsGrow (m.count + 1) m.cap then
          if al.next.1 then (m', al.next.2, .ok none) else (m, al.next.2, .allocErr)
        else (m', al, .ok none)) ∧
      m'.cap = (if HMap.needsGrow (m.count + 1) m.cap then HMap.growCap m.cap else m.cap) ∧
      m'.count = m.count + 1 ∧ HInv hashOf m' ∧
      OA.Abs m'.cap m'.slots (OA.fupd f k (some v)) := by
  have hI' := hI
  obtain ⟨hc, inv, hcnt, hlt⟩ := hI
  obtain ⟨i, _, hf, _⟩ := OA.find_spec inv k
  have hsi : m.slots i = none := by
    have := (OA.find_slot inv habs hf).2; rwa [hk] at this
  cases hg : HMap.needsGrow (m.count + 1) m.cap with
  | false =>
    have hroom := hm_room hg
    obtain ⟨h1, h2, h3, _⟩ := OA.upd_find_spec inv habs v hf (by intro _; omega)
    rw [hk] at h3
    refine ⟨{ m with slots := OA.upd m.slots i (some (k, v)), count := m.count + 1 }, ?_,
      rfl, rfl, ⟨hc, h1, by rw [h3, hcnt]; rfl, hroom⟩, h2⟩
    simp [HMap.insert, hf, hsi, hg]
  | true =>
    have hgc := hm_growCap_gt m.cap
    obtain ⟨m1, hadj, hcap1, hcnt1, ⟨hc1, inv1, hsz1, hlt1⟩, habs1⟩ :=
      adjust_spec hI' habs (HMap.growCap m.cap) (by omega) al
    obtain ⟨s2, hput, inv2, habs2, hsz2⟩ := OA.put_spec inv1 habs1 k v
      (by intro _; rw [← hsz1, hcnt1, hcap1]; omega)
    rw [hk] at hput hsz2
    refine ⟨{ m1 with slots := s2, count := m1.count + 1 }, ?_, hcap1, by simp [hcnt1],
      ⟨hc1, inv2, by rw [hsz2, hsz1]; rfl, by simp only [hcnt1, hcap1]; omega⟩, habs2⟩
    cases hal : al.next.1 <;> simp [HMap.insert, hf, hsi, hg, HMap.grow, hadj, hal, hput]

private theorem get_eq {hashOf : K → UInt64} {m : HMap K V} {f : K → Option V}
    (hI : HInv hashOf m) (habs : OA.Abs m.cap m.slots f) (k : K) : m.get hashOf k = f k :=
  OA.get_spec hI.2.1 habs k

private theorem remove_spec {hashOf : K → UInt64} {m : HMap K V} {f : K → Option V}
    (hI : HInv hashOf m) (habs : OA.Abs m.cap m.slots f) (k : K) :
    ∃ m', m.remove hashOf k = (m', .ok ((f k).map (fun w => (k, w)))) ∧ m'.cap = m.cap ∧
      m'.count + (if (f k).isSome then 1 else 0) = m.count ∧ HInv hashOf m' ∧
      OA.Abs m'.cap m'.slots (OA.fupd f k none) := by
  obtain ⟨hc, inv, hcnt, hlt⟩ := hI
  obtain ⟨s', he, inv', habs', hsz, hsame⟩ := OA.erase_spec inv habs k
  cases hk : f k with
  | none =>
    obtain rfl := hsame hk
    rw [hk] at he
    exact ⟨m, by simp [HMap.remove, he], rfl, by simp, ⟨hc, inv, hcnt, hlt⟩, habs'⟩
  | some w =>
    rw [hk] at he hsz
    simp only [Option.isSome_some, if_true] at hsz
    exact ⟨{ m with slots := s', count := m.count - 1 }, by simp [HMap.remove, he], rfl,
      by simp; omega, ⟨hc, inv', by simp only; omega, by simp only; omega⟩, habs'⟩

omit [DecidableEq K] in
private theorem empty_inv (hashOf : K → UInt64) {cap : Nat} (hc : 0 < cap) :
    HInv hashOf ({ cap := cap, slots := OA.empty, count := 0 } : HMap K V) :=
  ⟨hc, OA.empty_inv hc (home_lt hashOf hc), by simp, hc⟩

omit [DecidableEq K] in
theorem hm_withCapacity_eq (c : Nat) (al : Alloc) :
    (HMap.withCapacity c al : Alloc × Res (HMap K V)) =
      (al.next.2, if al.next.1 then .ok ⟨max c 1, OA.empty, 0⟩ else .allocErr) := by
  cases h : al.next.1 <;> simp [HMap.withCapacity, h]

omit [DecidableEq K] in
private theorem withCapacity_ok {c : Nat} {al al' : Alloc} {m : HMap K V}
    (h0 : HMap.withCapacity c al = (al', .ok m)) : m = ⟨max c 1, OA.empty, 0⟩ := by
  rw [hm_withCapacity_eq] at h0
  cases hal : al.next.1 <;> simp [hal] at h0
  exact h0.2.symm

/-! ## `clone`: the capacity it ends with and the allocations it performs -/

/-- capacity after inserting `n` further new keys into a table of capacity `cap` holding `cnt`
    keys (`none`: an allocation failed) -/
def specCloneLoop : Nat → Nat → Nat → Alloc → Option Nat × Alloc
  | 0, cap, _, al => (some cap, al)
  | n+1, cap, cnt, al =>
    if HMap.needsGrow (cnt + 1) cap then
      if al.next.1 then specCloneLoop n (HMap.growCap cap) (cnt + 1) al.next.2
      else (none, al.next.2)
    else specCloneLoop n cap (cnt + 1) al

/-- capacity of the clone of a table with capacity `cap` and `n` keys -/
def specCloneCap (cap n : Nat) (al : Alloc) : Option Nat :=
  if al.next.1 then (specCloneLoop n (max cap 1) 0 al.next.2).1 else none

/-- one `insert` of the loop of `clone`; a failure ends the loop -/
def cloneStep (hashOf : K → UInt64) (acc : Alloc × Res (HMap K V)) (kv : K × V) :
    Alloc × Res (HMap K V) :=
  match acc with
  | (al, .ok c) =>
    match c.insert hashOf kv.1 kv.2 al with
    | (c', al, .ok _) => (al, .ok c')
    | (_, al, .allocErr) => (al, .allocErr)
    | (_, al, .panic w) => (al, .panic w)
  | other => other

private theorem foldl_cloneStep_err (hashOf : K → UInt64) (xs : List (K × V)) (al : Alloc) :
    xs.foldl (cloneStep hashOf) (al, .allocErr) = (al, .allocErr) := by
  induction xs with
  | nil => rfl
  | cons x xs ih => simp only [List.foldl_cons, cloneStep]; exact ih

private theorem clone_loop (hashOf : K → UInt64) :
    ∀ (xs : List (K × V)) (c : HMap K V) (f : K → Option V) (al : Alloc), HInv hashOf c →
      OA.Abs c.cap c.slots f → (xs.map Prod.fst).Nodup → (∀ kv ∈ xs, f kv.1 = none) →
      ∃ c', xs.foldl (cloneStep hashOf) (al, .ok c) =
          ((specCloneLoop xs.length c.cap c.count al).2,
            if ((specCloneLoop xs.length c.cap c.count al).1).isSome then .ok c' else .allocErr) ∧
        (∀ cap', (specCloneLoop xs.length c.cap c.count al).1 = some cap' →
          c'.cap = cap' ∧ c'.count = c.count + xs.length ∧ HInv hashOf c' ∧
            OA.Abs c'.cap c'.slots (xs.foldl (fun f kv => OA.fupd f kv.1 (some kv.2)) f)) := by
  intro xs
  induction xs with
  | nil => intro c f al hI habs _ _; exact ⟨c, rfl, fun cap' h => ⟨by cases h; rfl, rfl, hI, habs⟩⟩
  | cons kv xs ih =>
    intro c f al hI habs hnd hfresh
    obtain ⟨k, v⟩ := kv
    simp only [List.map_cons, List.nodup_cons] at hnd
    obtain ⟨c1, hins, hcap1, hcnt1, hI1, habs1⟩ :=
      insert_absent hI habs (hfresh (k, v) List.mem_cons_self) v al
    have hfresh1 : ∀ kv ∈ xs, OA.fupd f k (some v) kv.1 = none := fun kv' h => by
      have hne : kv'.1 ≠ k := fun e => hnd.1 (e ▸ List.mem_map_of_mem (f := Prod.fst) h)
      rw [OA.fupd_other _ _ _ hne]
      exact hfresh kv' (List.mem_cons_of_mem _ h)
    simp only [List.length_cons, specCloneLoop, List.foldl_cons, cloneStep, hins]
    cases hg : HMap.needsGrow (c.count + 1) c.cap with
    | false =>
      rw [hg] at hcap1
      obtain ⟨c', h1, h2⟩ := ih c1 _ al hI1 habs1 hnd.2 hfresh1
      rw [hcap1, hcnt1] at h1 h2
      exact ⟨c', by simpa using h1, fun cap' h => by
        obtain ⟨e1, e2, e3, e4⟩ := h2 cap' (by simpa using h); exact ⟨e1, by omega, e3, e4⟩⟩
    | true =>
      rw [hg] at hcap1
      cases hal : al.next.1 with
      | false => exact ⟨c, by simp [foldl_cloneStep_err], fun cap' h => by simp at h⟩
      | true =>
        obtain ⟨c', h1, h2⟩ := ih c1 _ al.next.2 hI1 habs1 hnd.2 hfresh1
        rw [hcap1, hcnt1] at h1 h2
        exact ⟨c', by simpa using h1, fun cap' h => by
          obtain ⟨e1, e2, e3, e4⟩ := h2 cap' (by simpa using h); exact ⟨e1, by omega, e3, e4⟩⟩

/-- `with_capacity(c)`, then one `insert` per entry: `clone` is this at the table's own capacity
    and entries, `Visitor::visit_map` at the capacity the format asks for -/
def fromList (hashOf : K → UInt64) (c : Nat) (xs : List (K × V)) (al : Alloc) :
    Alloc × Res (HMap K V) :=
  match (HMap.withCapacity c al : Alloc × Res (HMap K V)) with
  | (al, .ok fresh) => xs.foldl (cloneStep hashOf) (al, .ok fresh)
  | (al, .allocErr) => (al, .allocErr)
  | (al, .panic w) => (al, .panic w)

theorem clone_eq_fromList (hashOf : K → UInt64) (m : HMap K V) (al : Alloc) :
    m.clone hashOf al = fromList hashOf m.cap m.toList al := rfl

theorem fromList_spec (hashOf : K → UInt64) (c : Nat) (xs : List (K × V))
    (hnd : (xs.map Prod.fst).Nodup) (al : Alloc) :
    ∃ m', fromList hashOf c xs al =
        (if al.next.1 then (specCloneLoop xs.length (max c 1) 0 al.next.2).2 else al.next.2,
          if (specCloneCap c xs.length al).isSome then .ok m' else .allocErr) ∧
      (∀ cap', specCloneCap c xs.length al = some cap' →
        m'.cap = cap' ∧ m'.count = xs.length ∧ HInv hashOf m' ∧
          OA.Abs m'.cap m'.slots (AL.lookup xs)) := by
  obtain ⟨c', h1, h2⟩ := clone_loop hashOf xs ⟨max c 1, OA.empty, 0⟩ _ al.next.2
    (empty_inv hashOf (by omega)) (OA.empty_abs _) hnd (fun _ _ => rfl)
  simp only [AL.foldl_fupd hnd, Option.or_none] at h2
  unfold fromList
  rw [hm_withCapacity_eq]
  unfold specCloneCap
  cases hal : al.next.1 with
  | false => exact ⟨⟨0, OA.empty, 0⟩, by simp, fun cap' h => by simp at h⟩
  | true =>
    refine ⟨c', by simpa using h1, fun cap' h => ?_⟩
    obtain ⟨e1, e2, e3, e4⟩ := h2 cap' (by simpa using h)
    exact ⟨e1, by omega, e3, e4⟩

theorem specCloneLoop_failAt : ∀ (n cap cnt : Nat) (al : Alloc),
    (specCloneLoop n cap cnt al).2.failAt = al.failAt ∧
      ((specCloneLoop n cap cnt al).1 = none → al.failAt ≠ none)
  | 0, _, _, _ => ⟨rfl, fun h => by cases h⟩
  | n+1, cap, cnt, al => by
    unfold specCloneLoop
    split
    · split
      · exact specCloneLoop_failAt n (HMap.growCap cap) (cnt + 1) al.next.2
      · rename_i hal
        exact ⟨rfl, fun _ hn => hal (by simp [Alloc.next, hn])⟩
    · exact specCloneLoop_failAt n cap (cnt + 1) al

private theorem clone_spec {hashOf : K → UInt64} {m : HMap K V} {f : K → Option V}
    (hI : HInv hashOf m) (habs : OA.Abs m.cap m.slots f) (al : Alloc) :
    ∃ m' al', m.clone hashOf al =
        (al', if (specCloneCap m.cap m.count al).isSome then .ok m' else .allocErr) ∧
      (∀ cap', specCloneCap m.cap m.count al = some cap' →
        m'.cap = cap' ∧ m'.count = m.count ∧ HInv hashOf m' ∧ OA.Abs m'.cap m'.slots f) := by
  have hf : AL.lookup m.toList = f := (OA.Abs_unique habs (AL.abs_toList hI.2.1)).symm
  obtain ⟨m', h⟩ := fromList_spec hashOf m.cap m.toList (AL.WF_toList hI.2.1) al
  rw [show m.toList.length = m.count by rw [hI.2.2.1]; rfl, hf, ← clone_eq_fromList] at h
  exact ⟨m', _, h⟩

/-! ## Specification: an association list without duplicate keys, plus the capacity

The capacity is part of the specification state because it decides *when* an operation
allocates (and therefore when an injected allocation failure is observable). -/

structure Spec (K V : Type) where
  cap : Nat
  l : List (K × V)

/-- allocation oracle of one operation: its `failAt`-th allocation fails -/
def oracle (failAt : Option Nat) : Alloc := { n := 0, failAt := failAt }

inductive Op (K V : Type) where
  | insert (k : K) (v : V) (failAt : Option Nat)
  | entry (k : K) (v : V) (failAt : Option Nat)
  | remove (k : K)
  | get (k : K)
  | contains (k : K)
  | reserve (n : Nat) (failAt : Option Nat)
  | clear
  /-- clone the map and continue on the clone -/
  | clone (failAt : Option Nat)
  | len
  | iter

inductive Out (K V : Type) where
  | displaced (old : Option (K × V))
  | entry (inserted : Bool) (stored : V)
  | removed (old : Option (K × V))
  | value (o : Option V)
  | bool (b : Bool)
  | unit
  | num (n : Nat)
  | items (l : List (K × V))
  | dropped (l : List (K × V))
  | allocErr
  | panic

/-- make room for one more key: grow (one allocation) when the load factor would be exceeded -/
def specMakeRoom (st : Spec K V) (al : Alloc) : Option (Spec K V) :=
  if HMap.needsGrow (st.l.length + 1) st.cap then
    if al.next.1 then some { st with cap := HMap.growCap st.cap } else none
  else some st

def specStep (st : Spec K V) : Op K V → Spec K V × Out K V
  | .insert k v fa =>
    match AL.lookup st.l k with
    | some w => ({ st with l := AL.insert st.l k v }, .displaced (some (k, w)))
    | none =>
      match specMakeRoom st (oracle fa) with
      | some st' => ({ st' with l := AL.insert st'.l k v }, .displaced none)
      | none => (st, .allocErr)
  | .entry k v fa =>
    match AL.lookup st.l k with
    | some cur => (st, .entry false cur)
    | none =>
      match specMakeRoom st (oracle fa) with
      | some st' => ({ st' with l := AL.insert st'.l k v }, .entry true v)
      | none => (st, .allocErr)
  | .remove k => ({ st with l := AL.erase st.l k }, .removed ((AL.lookup st.l k).map (fun w => (k, w))))
  | .get k => (st, .value (AL.lookup st.l k))
  | .contains k => (st, .bool (AL.lookup st.l k).isSome)
  | .reserve n fa =>
    if (oracle fa).next.1 then ({ st with cap := st.cap + n }, .unit) else (st, .allocErr)
  | .clear => ({ st with l := [] }, .dropped st.l)
  | .clone fa =>
    match specCloneCap st.cap st.l.length (oracle fa) with
    | some cap' => ({ st with cap := cap' }, .unit)
    | none => (st, .allocErr)
  | .len => (st, .num st.l.length)
  | .iter => (st, .items st.l)

/-! ## The model's step function -/

def modelStep (hashOf : K → UInt64) (m : HMap K V) : Op K V → HMap K V × Out K V
  | .insert k v fa =>
    match m.insert hashOf k v (oracle fa) with
    | (m', _, .ok old) => (m', .displaced old)
    | (m', _, .allocErr) => (m', .allocErr)
    | (m', _, .panic _) => (m', .panic)
  | .entry k v fa =>
    match m.entryOrInsert hashOf k v (oracle fa) with
    | (m', _, .ok (b, x)) => (m', .entry b x)
    | (m', _, .allocErr) => (m', .allocErr)
    | (m', _, .panic _) => (m', .panic)
  | .remove k =>
    match m.remove hashOf k with
    | (m', .ok old) => (m', .removed old)
    | (m', .allocErr) => (m', .allocErr)
    | (m', .panic _) => (m', .panic)
  | .get k => (m, .value (m.get hashOf k))
  | .contains k => (m, .bool (m.contains hashOf k))
  | .reserve n fa =>
    match m.reserve hashOf n (oracle fa) with
    | (_, .ok m') => (m', .unit)
    | (_, .allocErr) => (m, .allocErr)
    | (_, .panic _) => (m, .panic)
  | .clear => ((m.clear).1, .dropped (m.clear).2)
  | .clone fa =>
    match m.clone hashOf (oracle fa) with
    | (_, .ok m') => (m', .unit)
    | (_, .allocErr) => (m, .allocErr)
    | (_, .panic _) => (m, .panic)
  | .len => (m, .num m.count)
  | .iter => (m, .items m.toList)

/-- outputs agree; iteration orders agree up to permutation -/
def OutEq (a b : Out K V) : Prop :=
  a = b ∨ (∃ x y, a = .items x ∧ b = .items y ∧ x.Perm y) ∨
    (∃ x y, a = .dropped x ∧ b = .dropped y ∧ x.Perm y)

def R (hashOf : K → UInt64) (m : HMap K V) (st : Spec K V) : Prop :=
  HInv hashOf m ∧ st.cap = m.cap ∧ AL.WF st.l ∧ OA.Abs m.cap m.slots (AL.lookup st.l)

private theorem R_len {hashOf : K → UInt64} {m : HMap K V} {st : Spec K V} (h : R hashOf m st) :
    st.l.length = m.count := by
  rw [h.1.2.2.1]; exact AL.length_eq_size h.1.2.1 h.2.2.1 h.2.2.2

private theorem R_perm {hashOf : K → UInt64} {m : HMap K V} {st : Spec K V} (h : R hashOf m st) :
    (m.toList).Perm st.l := (AL.perm_toList h.1.2.1 h.2.2.1 h.2.2.2).symm

theorem R_canon {hashOf : K → UInt64} {m : HMap K V} (hI : HInv hashOf m) :
    R hashOf m { cap := m.cap, l := m.toList } :=
  ⟨hI, rfl, AL.WF_toList hI.2.1, AL.abs_toList hI.2.1⟩

private theorem absent_step {hashOf : K → UInt64} {m : HMap K V} {st : Spec K V}
    (h : R hashOf m st) {k : K} (hl : AL.lookup st.l k = none) (v : V) (al : Alloc) :
    ∃ m' al', m.insert hashOf k v al =
        (match specMakeRoom st al with
          | some _ => (m', al', .ok none)
          | none => (m, al', .allocErr)) ∧
      ∀ st', specMakeRoom st al = some st' → R hashOf m' { st' with l := AL.insert st'.l k v } := by
  have hlen := R_len h
  obtain ⟨hI, hcap, wf, habs⟩ := h
  obtain ⟨m', hins, hcap', _, hI', habs'⟩ := insert_absent hI habs hl v al
  rw [AL.lookup_insert_fupd] at habs'
  unfold specMakeRoom
  rw [hlen, hcap, hins]
  cases hg : HMap.needsGrow (m.count + 1) m.cap <;> cases hal : al.next.1 <;>
    simp only [hg] at hcap' <;> refine ⟨m', _, rfl, ?_⟩ <;> simp <;> try rintro _ rfl
  all_goals exact ⟨hI', by simp [hcap', hcap], AL.WF_insert wf k v, habs'⟩

/-! ## one-step refinement -/

theorem step_refines {hashOf : K → UInt64} {m : HMap K V} {st : Spec K V} (h : R hashOf m st)
    (op : Op K V) :
    R hashOf (modelStep hashOf m op).1 (specStep st op).1 ∧
      OutEq (modelStep hashOf m op).2 (specStep st op).2 := by
  have hlen := R_len h
  have hperm := R_perm h
  have h0 := h
  obtain ⟨hI, hcap, wf, habs⟩ := h
  cases op with
  | insert k v fa =>
    cases hl : AL.lookup st.l k with
    | some w =>
      obtain ⟨m', hins, hcap', _, hI', habs'⟩ := insert_present hI habs hl v (oracle fa)
      rw [AL.lookup_insert_fupd] at habs'
      simp only [modelStep, specStep, hins, hl]
      exact ⟨⟨hI', by simp only; rw [hcap', hcap], AL.WF_insert wf k v, habs'⟩, Or.inl rfl⟩
    | none =>
      obtain ⟨m', al', hins, hR⟩ := absent_step h0 hl v (oracle fa)
      simp only [modelStep, specStep, hins, hl]
      cases hr : specMakeRoom st (oracle fa) with
      | some st' => exact ⟨hR st' hr, Or.inl rfl⟩
      | none => exact ⟨h0, Or.inl rfl⟩
  | entry k v fa =>
    have hget := get_eq hI habs k
    cases hl : AL.lookup st.l k with
    | some cur =>
      rw [hl] at hget
      simp only [modelStep, specStep, HMap.entryOrInsert, hget, hl]
      exact ⟨h0, Or.inl rfl⟩
    | none =>
      rw [hl] at hget
      obtain ⟨m', al', hins, hR⟩ := absent_step h0 hl v (oracle fa)
      simp only [modelStep, specStep, HMap.entryOrInsert, hget, hins, hl]
      cases hr : specMakeRoom st (oracle fa) with
      | some st' => exact ⟨hR st' hr, Or.inl rfl⟩
      | none => exact ⟨h0, Or.inl rfl⟩
  | remove k =>
    obtain ⟨m', hrem, hcap', _, hI', habs'⟩ := remove_spec hI habs k
    rw [AL.lookup_erase_fupd] at habs'
    simp only [modelStep, specStep, hrem]
    exact ⟨⟨hI', by simp only; rw [hcap', hcap], AL.WF_erase wf k, habs'⟩, Or.inl rfl⟩
  | get k =>
    simp only [modelStep, specStep, get_eq hI habs k]
    exact ⟨h0, Or.inl rfl⟩
  | contains k =>
    simp only [modelStep, specStep, HMap.contains, get_eq hI habs k]
    exact ⟨h0, Or.inl rfl⟩
  | reserve n fa =>
    obtain ⟨m', hres, hcap', _, hI', habs'⟩ :=
      adjust_spec hI habs (m.cap + n) (by have := hI.2.2.2; omega) (oracle fa)
    simp only [modelStep, specStep, HMap.reserve, hres]
    cases (oracle fa).next.1
    · exact ⟨h0, Or.inl rfl⟩
    · exact ⟨⟨hI', by simp only [if_true]; rw [hcap', hcap], wf, habs'⟩, Or.inl rfl⟩
  | clear =>
    refine ⟨⟨empty_inv hashOf hI.1, hcap, AL.WF_nil, OA.empty_abs _⟩,
      Or.inr (Or.inr ⟨_, _, rfl, rfl, hperm⟩)⟩
  | clone fa =>
    obtain ⟨m', al', hcl, hm'⟩ := clone_spec hI habs (oracle fa)
    simp only [modelStep, specStep, hlen, hcap, hcl]
    cases hc : specCloneCap m.cap m.count (oracle fa) with
    | some cap' =>
      obtain ⟨hcap', _, hI', habs'⟩ := hm' cap' hc
      exact ⟨⟨hI', by simp [hcap'], wf, by simpa using habs'⟩, Or.inl rfl⟩
    | none => exact ⟨h0, Or.inl rfl⟩
  | len =>
    simp only [modelStep, specStep, hlen]
    exact ⟨h0, Or.inl rfl⟩
  | iter =>
    simp only [modelStep, specStep]
    exact ⟨h0, Or.inr (Or.inl ⟨_, _, rfl, rfl, hperm⟩)⟩

/-! ## runs -/

def runModel (hashOf : K → UInt64) (m : HMap K V) : List (Op K V) → List (Out K V)
  | [] => []
  | op :: ops => (modelStep hashOf m op).2 :: runModel hashOf (modelStep hashOf m op).1 ops

def runSpec (st : Spec K V) : List (Op K V) → List (Out K V)
  | [] => []
  | op :: ops => (specStep st op).2 :: runSpec (specStep st op).1 ops

def OutsEq : List (Out K V) → List (Out K V) → Prop
  | [], [] => True
  | a :: as, b :: bs => OutEq a b ∧ OutsEq as bs
  | _, _ => False

theorem run_refines {hashOf : K → UInt64} (ops : List (Op K V)) :
    ∀ {m : HMap K V} {st : Spec K V}, R hashOf m st →
      OutsEq (runModel hashOf m ops) (runSpec st ops) := by
  induction ops with
  | nil => intro m st _; exact True.intro
  | cons op ops ih =>
    intro m st h
    obtain ⟨h1, h2⟩ := step_refines h op
    exact ⟨h2, ih h1⟩

/-- **C12 (refinement)**: for every requested capacity, every hash function, every operation
    sequence and every choice of injected allocation failures, the outputs of the code-shaped
    model (started from a successful `with_capacity(c)`) equal those of the association-list
    specification (iteration orders up to permutation). In particular no output is `panic`. -/
theorem hm_refines (hashOf : K → UInt64) (c : Nat) (al al' : Alloc) (m : HMap K V)
    (h0 : HMap.withCapacity c al = (al', .ok m)) (ops : List (Op K V)) :
    OutsEq (runModel hashOf m ops) (runSpec { cap := max c 1, l := [] } ops) := by
  rw [withCapacity_ok h0]
  exact run_refines ops ⟨empty_inv hashOf (by omega), rfl, AL.WF_nil, OA.empty_abs _⟩

/-! ## termination, invariant preservation, allocation failure -/

/-- **the probe loop terminates**: in every state satisfying the invariant `find_ind` returns -/
theorem hm_find_terminates {hashOf : K → UInt64} {m : HMap K V} (hI : HInv hashOf m) (k : K) :
    ∃ i < m.cap, OA.find m.cap (HMap.home hashOf m.cap) m.slots k = some i := by
  obtain ⟨i, hi, hf, _⟩ := OA.find_spec hI.2.1 k
  exact ⟨i, hi, hf⟩

def OkInv (hashOf : K → UInt64) : Res (HMap K V) → Prop
  | .ok m' => HInv hashOf m'
  | .allocErr => True
  | .panic _ => False

def NoPanic {α : Type} : Res α → Prop
  | .panic _ => False
  | _ => True

private theorem insert_total {hashOf : K → UInt64} {m : HMap K V} {f : K → Option V}
    (hI : HInv hashOf m) (habs : OA.Abs m.cap m.slots f) (k : K) (v : V) (al : Alloc) :
    ∃ m' al' r, m.insert hashOf k v al = (m', al', r) ∧ HInv hashOf m' ∧
      ((r = .allocErr ∧ m' = m) ∨
       (r = .ok ((f k).map (fun w => (k, w))) ∧ OA.Abs m'.cap m'.slots (OA.fupd f k (some v)))) := by
  cases hk : f k with
  | some w =>
    obtain ⟨m', hins, _, _, hI', habs'⟩ := insert_present hI habs hk v al
    exact ⟨m', al, _, hins, hI', Or.inr ⟨rfl, habs'⟩⟩
  | none =>
    obtain ⟨m', hins, _, _, hI', habs'⟩ := insert_absent hI habs hk v al
    rw [hins]
    cases HMap.needsGrow (m.count + 1) m.cap <;> cases al.next.1
    all_goals first
      | exact ⟨m', _, _, rfl, hI', Or.inr ⟨rfl, habs'⟩⟩
      | exact ⟨m, _, _, rfl, hI, Or.inl ⟨rfl, rfl⟩⟩

private theorem entry_total {hashOf : K → UInt64} {m : HMap K V} {f : K → Option V}
    (hI : HInv hashOf m) (habs : OA.Abs m.cap m.slots f) (k : K) (v : V) (al : Alloc) :
    ∃ m' al' r, m.entryOrInsert hashOf k v al = (m', al', r) ∧ HInv hashOf m' ∧
      ((r = .allocErr ∧ m' = m) ∨ (∃ cur, f k = some cur ∧ r = .ok (false, cur) ∧ m' = m) ∨
       (f k = none ∧ r = .ok (true, v) ∧ OA.Abs m'.cap m'.slots (OA.fupd f k (some v)))) := by
  have hget := get_eq hI habs k
  cases hk : f k with
  | some cur =>
    rw [hk] at hget
    exact ⟨m, al, _, by simp only [HMap.entryOrInsert, hget], hI, Or.inr (Or.inl ⟨cur, rfl, rfl, rfl⟩)⟩
  | none =>
    rw [hk] at hget
    obtain ⟨m', al', r, hins, hI', h⟩ := insert_total hI habs k v al
    rcases h with ⟨rfl, rfl⟩ | ⟨rfl, habs'⟩
    · exact ⟨m', al', _, by simp only [HMap.entryOrInsert, hget, hins], hI', Or.inl ⟨rfl, rfl⟩⟩
    · exact ⟨m', al', _, by simp only [HMap.entryOrInsert, hget, hins], hI',
        Or.inr (Or.inr ⟨rfl, rfl, habs'⟩)⟩

omit [DecidableEq K] in
/-- `with_capacity` establishes the invariant (or reports the allocation failure) -/
theorem hm_withCapacity_inv (hashOf : K → UInt64) (c : Nat) (al : Alloc) :
    OkInv hashOf (HMap.withCapacity c al : Alloc × Res (HMap K V)).2 := by
  rw [hm_withCapacity_eq]
  cases al.next.1
  · exact True.intro
  · exact empty_inv hashOf (by omega)

/-- **C12 (invariant)**: every operation preserves the representation invariant and never
    panics — the probe loop always returns — for every value of the allocation oracle. -/
theorem hm_inv_preserved {hashOf : K → UInt64} {m : HMap K V} (hI : HInv hashOf m) :
    (∀ k v al, HInv hashOf (m.insert hashOf k v al).1 ∧ NoPanic (m.insert hashOf k v al).2.2) ∧
    (∀ k v al, HInv hashOf (m.entryOrInsert hashOf k v al).1 ∧
        NoPanic (m.entryOrInsert hashOf k v al).2.2) ∧
    (∀ k, HInv hashOf (m.remove hashOf k).1 ∧ NoPanic (m.remove hashOf k).2) ∧
    (∀ n al, OkInv hashOf (m.reserve hashOf n al).2) ∧
    HInv hashOf (m.clear).1 ∧
    (∀ al, OkInv hashOf (m.clone hashOf al).2) := by
  have habs := OA.Abs_get hI.2.1
  refine ⟨?_, ?_, ?_, ?_, empty_inv hashOf hI.1, ?_⟩
  · intro k v al
    obtain ⟨m', al', r, hins, hI', h⟩ := insert_total hI habs k v al
    rw [hins]
    rcases h with ⟨rfl, _⟩ | ⟨rfl, _⟩ <;> exact ⟨hI', True.intro⟩
  · intro k v al
    obtain ⟨m', al', r, hins, hI', h⟩ := entry_total hI habs k v al
    rw [hins]
    rcases h with ⟨rfl, _⟩ | ⟨_, _, rfl, _⟩ | ⟨_, rfl, _⟩ <;> exact ⟨hI', True.intro⟩
  · intro k
    obtain ⟨m', hrem, _, _, hI', _⟩ := remove_spec hI habs k
    rw [hrem]; exact ⟨hI', True.intro⟩
  · intro n al
    obtain ⟨m', hres, _, _, hI', _⟩ :=
      adjust_spec hI habs (m.cap + n) (by have := hI.2.2.2; omega) al
    rw [HMap.reserve, hres]
    cases al.next.1
    · exact True.intro
    · exact hI'
  · intro al
    obtain ⟨m', al', hcl, hm'⟩ := clone_spec hI habs al
    rw [hcl]
    cases hc : specCloneCap m.cap m.count al with
    | some cap' => exact (hm' cap' hc).2.2.1
    | none => exact True.intro

/-- **C12 (allocation failure)**: an operation that reports `allocErr` leaves the table
    untouched (not just abstractly: the very same state), and the specification says exactly when
    that happens (`hm_refines`): insert/entry of a new key above the load factor, `reserve`,
    `clone`, each iff one of the allocations it performs is the failing one. -/
theorem hm_alloc_fail {hashOf : K → UInt64} {m : HMap K V} (hI : HInv hashOf m) (op : Op K V)
    (h : (modelStep hashOf m op).2 = .allocErr) : (modelStep hashOf m op).1 = m := by
  have habs := OA.Abs_get hI.2.1
  cases op with
  | insert k v fa =>
    obtain ⟨m', al', r, hins, _, hr⟩ := insert_total hI habs k v (oracle fa)
    rcases hr with ⟨rfl, rfl⟩ | ⟨rfl, _⟩
    · simp only [modelStep, hins]
    · simp only [modelStep, hins] at h; cases h
  | entry k v fa =>
    obtain ⟨m', al', r, hins, _, hr⟩ := entry_total hI habs k v (oracle fa)
    rcases hr with ⟨rfl, rfl⟩ | ⟨_, _, rfl, _⟩ | ⟨_, rfl, _⟩
    · simp only [modelStep, hins]
    · simp only [modelStep, hins] at h; cases h
    · simp only [modelStep, hins] at h; cases h
  | remove k =>
    obtain ⟨m', hrem, _⟩ := remove_spec hI habs k
    simp only [modelStep, hrem] at h; cases h
  | reserve n fa =>
    rcases hr : m.reserve hashOf n (oracle fa) with ⟨al', r⟩
    cases r <;> simp only [modelStep, hr] at h ⊢ <;> cases h
  | clone fa =>
    rcases hr : m.clone hashOf (oracle fa) with ⟨al', r⟩
    cases r <;> simp only [modelStep, hr] at h ⊢ <;> cases h
  | get k => rfl
  | contains k => rfl
  | len => rfl
  | iter => rfl
  | clear => simp only [modelStep] at h; cases h

/-- the specification side of `hm_alloc_fail` -/
theorem spec_alloc_fail (st : Spec K V) (op : Op K V) (h : (specStep st op).2 = .allocErr) :
    (specStep st op).1 = st := by
  cases op <;> simp only [specStep] at h ⊢ <;> (try cases h) <;> split at h <;>
    (try split at h) <;> simp_all

/-! ## frame property -/

/-- **C12 (frame)**: inserting / removing / `entry`-ing key `k` does not change what any other
    key maps to. -/
theorem hm_frame {hashOf : K → UInt64} {m : HMap K V} (hI : HInv hashOf m) {k k' : K}
    (hne : k' ≠ k) :
    (∀ v al, (m.insert hashOf k v al).1.get hashOf k' = m.get hashOf k') ∧
    (∀ v al, (m.entryOrInsert hashOf k v al).1.get hashOf k' = m.get hashOf k') ∧
    (m.remove hashOf k).1.get hashOf k' = m.get hashOf k' := by
  have habs := OA.Abs_get hI.2.1
  refine ⟨?_, ?_, ?_⟩
  · intro v al
    obtain ⟨m', al', r, hins, hI', h⟩ := insert_total hI habs k v al
    rw [hins]
    rcases h with ⟨_, rfl⟩ | ⟨_, habs'⟩
    · rfl
    · simp only; rw [get_eq hI' habs', OA.fupd_other _ _ _ hne]; rfl
  · intro v al
    obtain ⟨m', al', r, hins, hI', h⟩ := entry_total hI habs k v al
    rw [hins]
    rcases h with ⟨_, rfl⟩ | ⟨_, _, _, rfl⟩ | ⟨_, _, habs'⟩
    · rfl
    · rfl
    · simp only; rw [get_eq hI' habs', OA.fupd_other _ _ _ hne]; rfl
  · obtain ⟨m', hrem, _, _, hI', habs'⟩ := remove_spec hI habs k
    rw [hrem]
    simp only; rw [get_eq hI' habs', OA.fupd_other _ _ _ hne]; rfl

/-- `insert` completely, in terms of `get`: the map is updated at `k`; a key that is present is
    overwritten in place, a new key makes the table grow first (one allocation, which may fail)
    exactly when the load factor would be exceeded -/
theorem hm_insert_eq {hashOf : K → UInt64} {m : HMap K V} (hI : HInv hashOf m) (k : K) (v : V)
    (al : Alloc) :
    ∃ m', m.insert hashOf k v al =
        (match m.get hashOf k with
          | some w => (m', al, .ok (some (k, w)))
          | none =>
            if HMap.needsGrow (m.count + 1) m.cap then
              if al.next.1 then (m', al.next.2, .ok none) else (m, al.next.2, .allocErr)
            else (m', al, .ok none)) ∧
      m'.cap = (if (m.get hashOf k).isNone ∧ HMap.needsGrow (m.count + 1) m.cap
        then HMap.growCap m.cap else m.cap) ∧
      HInv hashOf m' ∧
      ∀ k', m'.get hashOf k' = if k' = k then some v else m.get hashOf k' := by
  have habs := OA.Abs_get hI.2.1
  cases hk : OA.get m.cap (HMap.home hashOf m.cap) m.slots k with
  | some w =>
    obtain ⟨m', hins, hcap', _, hI', habs'⟩ := insert_present hI habs hk v al
    exact ⟨m', by simp only [HMap.get, hk]; exact hins, by simp [HMap.get, hk, hcap'], hI',
      fun k' => get_eq hI' habs' k'⟩
  | none =>
    obtain ⟨m', hins, hcap', _, hI', habs'⟩ := insert_absent hI habs hk v al
    exact ⟨m', by simp only [HMap.get, hk]; exact hins, by simp [HMap.get, hk, hcap'], hI',
      fun k' => get_eq hI' habs' k'⟩

/-- `remove` completely, in terms of `get`: always succeeds, keeps the capacity, clears `k` only -/
theorem hm_remove_eq {hashOf : K → UInt64} {m : HMap K V} (hI : HInv hashOf m) (k : K) :
    ∃ m', m.remove hashOf k = (m', .ok ((m.get hashOf k).map (fun w => (k, w)))) ∧
      m'.cap = m.cap ∧ HInv hashOf m' ∧
      ∀ k', m'.get hashOf k' = if k' = k then none else m.get hashOf k' := by
  obtain ⟨m', hrem, hcap', _, hI', habs'⟩ := remove_spec hI (OA.Abs_get hI.2.1) k
  exact ⟨m', hrem, hcap', hI', fun k' => get_eq hI' habs' k'⟩

theorem hm_get_after {hashOf : K → UInt64} {m : HMap K V} (hI : HInv hashOf m) (k : K) :
    (∀ v al, (m.insert hashOf k v al).2.2 ≠ .allocErr →
        (m.insert hashOf k v al).1.get hashOf k = some v) ∧
    (m.remove hashOf k).1.get hashOf k = none := by
  have habs := OA.Abs_get hI.2.1
  refine ⟨?_, ?_⟩
  · intro v al hno
    obtain ⟨m', al', r, hins, hI', h⟩ := insert_total hI habs k v al
    rw [hins] at hno ⊢
    rcases h with ⟨rfl, _⟩ | ⟨_, habs'⟩
    · exact absurd rfl hno
    · simp only; rw [get_eq hI' habs', OA.fupd_same]
  · obtain ⟨m', hrem, _, _, hI', habs'⟩ := remove_spec hI habs k
    rw [hrem]
    simp only; rw [get_eq hI' habs', OA.fupd_same]

/-! ## entry accounting: nothing is lost, nothing is duplicated -/

/-- entries handed back by one step: displaced by an overwrite, removed, or dropped by `clear` -/
def returned : Out K V → List (K × V)
  | .displaced (some kv) => [kv]
  | .removed (some kv) => [kv]
  | .dropped l => l
  | _ => []

/-- entries that entered the table in one step -/
def accepted : Op K V → Out K V → List (K × V)
  | .insert k v _, .displaced _ => [(k, v)]
  | .entry k v _, .entry true _ => [(k, v)]
  | _, _ => []

omit [DecidableEq K] in
private theorem returned_perm {a b : Out K V} (h : OutEq a b) :
    (returned a).Perm (returned b) := by
  rcases h with rfl | ⟨x, y, rfl, rfl, _⟩ | ⟨x, y, rfl, rfl, hp⟩
  · exact List.Perm.refl _
  · exact List.Perm.refl _
  · exact hp

omit [DecidableEq K] in
private theorem accepted_eq (op : Op K V) {a b : Out K V} (h : OutEq a b) :
    accepted op a = accepted op b := by
  rcases h with rfl | ⟨x, y, rfl, rfl, _⟩ | ⟨x, y, rfl, rfl, _⟩
  · rfl
  · cases op <;> rfl
  · cases op <;> rfl

omit [DecidableEq K] in
private theorem specMakeRoom_l {st st' : Spec K V} {al : Alloc}
    (hr : specMakeRoom st al = some st') : st'.l = st.l := by
  unfold specMakeRoom at hr
  split at hr <;> (try split at hr) <;> cases hr <;> rfl

private theorem spec_accounting (st : Spec K V) (wf : AL.WF st.l) (op : Op K V) :
    ((specStep st op).1.l ++ returned (specStep st op).2).Perm
      (st.l ++ accepted op (specStep st op).2) := by
  have hnew : ∀ k v, AL.lookup st.l k = none → (AL.insert st.l k v ++ []).Perm (st.l ++ [(k, v)]) :=
    fun k v hl => by simpa [hl] using AL.perm_insert wf k v
  cases op with
  | insert k v fa =>
    cases hl : AL.lookup st.l k with
    | some w =>
      simp only [specStep, hl, returned, accepted]
      simpa [hl] using AL.perm_insert wf k v
    | none =>
      cases hr : specMakeRoom st (oracle fa) with
      | some st' =>
        simp only [specStep, hl, hr, returned, accepted, specMakeRoom_l hr]
        exact hnew k v hl
      | none => simp [specStep, hl, hr, returned, accepted]
  | entry k v fa =>
    cases hl : AL.lookup st.l k with
    | some w => simp [specStep, hl, returned, accepted]
    | none =>
      cases hr : specMakeRoom st (oracle fa) with
      | some st' =>
        simp only [specStep, hl, hr, returned, accepted, specMakeRoom_l hr]
        exact hnew k v hl
      | none => simp [specStep, hl, hr, returned, accepted]
  | remove k =>
    have hp := AL.perm_erase wf k
    cases hl : AL.lookup st.l k with
    | some w =>
      rw [hl] at hp
      simp only [specStep, hl, returned, accepted, Option.map_some, List.append_nil]
      exact (List.perm_append_comm).trans hp.symm
    | none =>
      simp only [specStep, hl, returned, accepted, Option.map_none, List.append_nil]
      rw [AL.erase_of_lookup_none hl]
  | clear => simp [specStep, returned, accepted]
  | reserve n fa => simp only [specStep]; split <;> exact List.Perm.refl _
  | clone fa => simp only [specStep]; split <;> exact List.Perm.refl _
  | get k => exact List.Perm.refl _
  | contains k => exact List.Perm.refl _
  | len => exact List.Perm.refl _
  | iter => exact List.Perm.refl _

theorem step_accounting {hashOf : K → UInt64} {m : HMap K V} (hI : HInv hashOf m) (op : Op K V) :
    ((modelStep hashOf m op).1.toList ++ returned (modelStep hashOf m op).2).Perm
      (m.toList ++ accepted op (modelStep hashOf m op).2) := by
  have hR := R_canon hI
  obtain ⟨hR', hout⟩ := step_refines hR op
  have hspec := spec_accounting { cap := m.cap, l := m.toList } hR.2.2.1 op
  rw [accepted_eq op hout]
  exact ((R_perm hR').append (returned_perm hout)).trans hspec

/-- a run with its two logs: everything handed back, everything accepted -/
def runLog (hashOf : K → UInt64) :
    HMap K V → List (Op K V) → HMap K V × List (K × V) × List (K × V)
  | m, [] => (m, [], [])
  | m, op :: ops =>
    let r := modelStep hashOf m op
    let rest := runLog hashOf r.1 ops
    (rest.1, returned r.2 ++ rest.2.1, accepted op r.2 ++ rest.2.2)

/-- **C12 (entries are dropped exactly once)**: along every run, the entries currently stored
    together with all entries handed back so far (displaced by an overwriting `insert`, returned
    by `remove`, dropped by `clear`) are — as a multiset — exactly the entries stored initially
    together with all entries accepted by `insert`/`entry`. So every accepted entry is, at any
    time, in exactly one of these places, exactly once. (`clone` continues on the copy.) -/
theorem hm_drop_once {hashOf : K → UInt64} (ops : List (Op K V)) :
    ∀ {m : HMap K V}, HInv hashOf m →
      ((runLog hashOf m ops).1.toList ++ (runLog hashOf m ops).2.1).Perm
        (m.toList ++ (runLog hashOf m ops).2.2) := by
  induction ops with
  | nil => intro m _; simp [runLog]
  | cons op ops ih =>
    intro m hI
    exact AL.perm_accounting (step_accounting hI op) (ih (step_refines (R_canon hI) op).1.1)

/-- corollary with counts: after a final `clear` of a fresh table nothing is stored and every
    entry was handed back exactly as often as it was accepted -/
theorem hm_drop_once_fresh [DecidableEq V] (hashOf : K → UInt64) (c : Nat) (al al' : Alloc)
    (m : HMap K V) (h0 : HMap.withCapacity c al = (al', .ok m)) (ops : List (Op K V))
    (x : K × V) :
    let r := runLog hashOf m (ops ++ [Op.clear])
    r.1.toList = [] ∧ r.2.1.count x = r.2.2.count x := by
  have hm := withCapacity_ok h0
  have hI : HInv hashOf m := hm ▸ empty_inv hashOf (by omega)
  replace hm : m.toList = [] := by rw [hm]; simp [HMap.toList]
  have hfin : ∀ (ops : List (Op K V)) (m : HMap K V),
      (runLog hashOf m (ops ++ [Op.clear])).1.toList = [] := by
    intro ops
    induction ops with
    | nil => intro m; simp [runLog, modelStep, HMap.clear, HMap.toList]
    | cons op ops ih => intro m; simp only [List.cons_append, runLog]; exact ih _
  have h := hm_drop_once (hashOf := hashOf) (ops ++ [Op.clear]) hI
  refine ⟨hfin ops m, ?_⟩
  rw [hfin ops m, hm] at h
  simpa using h.count_eq x

/-- along every run from a state satisfying the invariant, no step panics -/
theorem hm_never_panics {hashOf : K → UInt64} (ops : List (Op K V)) :
    ∀ {m : HMap K V}, HInv hashOf m → Out.panic ∉ runModel hashOf m ops := by
  induction ops with
  | nil => intro m _; simp [runModel]
  | cons op ops ih =>
    intro m hI
    obtain ⟨hR', hout⟩ := step_refines (R_canon hI) op
    simp only [runModel, List.mem_cons, not_or]
    refine ⟨?_, ih hR'.1⟩
    intro hp
    rw [← hp] at hout
    have hspec : ∀ (st : Spec K V), (specStep st op).2 ≠ .panic := by
      intro st
      cases op <;> simp only [specStep] <;> (try split) <;> (try split) <;> simp
    rcases hout with h | ⟨x, y, h, _⟩ | ⟨x, y, h, _⟩
    · exact hspec _ h.symm
    · cases h
    · cases h

/-! ## non-vacuity -/

private def exHash : Nat → UInt64 := fun k => UInt64.ofNat (k + 1)
private def exM1 : HMap Nat Nat := { cap := 1, slots := OA.empty, count := 0 }
private def exM8 : HMap Nat Nat := { cap := 8, slots := OA.empty, count := 0 }

/-- the hypothesis of `hm_refines` / `hm_drop_once_fresh` is satisfiable -/
example : (HMap.withCapacity 0 {} : Alloc × Res (HMap Nat Nat)) = ({ n := 1 }, .ok exM1) := rfl
example : (HMap.withCapacity 8 {} : Alloc × Res (HMap Nat Nat)) = ({ n := 1 }, .ok exM8) := rfl

/-- keys 1, 9, 17 all start probing at slot 2 of 8: collisions, overwrite, backward shift -/
example : [1, 9, 17].map (HMap.home exHash 8) = [2, 2, 2] := by decide

example : runModel exHash exM8
    [.insert 1 10 none, .insert 9 90 none, .insert 17 170 none, .insert 1 11 none, .get 9,
     .remove 1, .get 17, .len, .get 1, .iter, .clear]
  = [.displaced none, .displaced none, .displaced none, .displaced (some (1, 10)),
     .value (some 90), .removed (some (1, 11)), .value (some 170), .num 2, .value none,
     .items [(9, 90), (17, 170)], .dropped [(9, 90), (17, 170)]] := by rfl

/-- `hm_refines` instantiated: growth from capacity 1, two injected allocation failures, `entry`,
    `reserve`, `clone` (the right-hand side is the evaluated specification run) -/
example : OutsEq
    (runModel exHash exM1
      [.insert 1 10 (some 0), .insert 1 10 none, .insert 2 20 (some 0), .insert 3 30 (some 0),
       .entry 3 30 none, .entry 3 31 none, .reserve 2 none, .clone (some 1), .clone none, .iter])
    [.allocErr, .displaced none, .displaced none, .allocErr, .entry true 30, .entry false 30,
     .unit, .unit, .unit, .items [(3, 30), (2, 20), (1, 10)]] :=
  hm_refines exHash 0 {} _ exM1 rfl _

end Cao.C12
