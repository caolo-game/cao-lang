import CaoProofs.Lemmas.WfLemmas
/-!
# The invariant for whole compilation units (C10)
-/
namespace Cao.Compiler.Wf
open Cao Cao.Bytecode

theorem processFunction_tr (f : FunctionIr) : Blk (processFunction f) := fun _ _ =>
  tr_bind (tr_modify_other fun _ => rfl) fun _ _ => tr_bind (addLocals_tr _) fun _ _ =>
    trLogic.processFunctionCards 0 f.cards default _ _ trivial

theorem compileFunctionBody_tr (f : FunctionIr) : Blk (do
    scopeBegin
    processFunction f
    scopeEnd
    pushInstr op.scalarNil
    pushInstr op.ret) := fun _ _ =>
  tr_bind scopeBegin_tr fun _ _ => tr_bind (processFunction_tr f _ _) fun _ _ => tr_bind scopeEnd_tr fun _ _ =>
    tr_bind (instr0_tr (by decide) (by decide)) fun _ _ => instr0_tr (by decide) (by decide)

theorem compileFunction_spec {k : Nat} {K H : Nat → Prop} {f : FunctionIr} {s s' : CState}
    (hp : Pre k K H s) (hr : compileFunction f s = .ok ((), s')) :
    Rel k s s' ∧ Pre k K H s' ∧ ∃ l ∈ s'.labels, l.1 = f.handle := by
  unfold compileFunction at hr
  obtain ⟨_, s1, r1, p1, _, hr⟩ := (tr_modify_other (by exact fun _ => rfl)).step hp hr
  rw [get_bind_run] at hr
  obtain ⟨_, s2, h2, hr⟩ := bind_ok.1 hr
  have e2 := insertLabel_ok h2
  have i2 : Inv H s2 := by rw [e2]; exact p1.inv.label _ p1.inv.tiled (Nat.le_refl _)
  have r2 : Rel k s1 s2 := by rw [e2]; exact ⟨Ext.of_eq rfl rfl, ⟨[_], rfl⟩, rfl⟩
  have p2 := p1.rel r2 i2
  obtain ⟨r3, p3, _⟩ := (compileFunctionBody_tr f k K).last p2 hr
  refine ⟨(r1.trans r2).trans r3, p3, ?_⟩
  obtain ⟨l, hl⟩ := r3.labels
  exact ⟨(f.handle, s1.bytecode.size), by rw [hl, e2]; simp, rfl⟩

theorem compileFunctions_spec {k : Nat} {K H : Nat → Prop} : ∀ (fs : List FunctionIr) {s s' : CState},
    Pre k K H s → compileFunctions fs s = .ok ((), s') →
    Rel k s s' ∧ Pre k K H s' ∧ ∀ f ∈ fs, ∃ l ∈ s'.labels, l.1 = f.handle
  | [], s, s', hp, hr => by
    unfold compileFunctions at hr
    simp only [pure_run, Except.ok.injEq, Prod.mk.injEq] at hr
    obtain ⟨_, rfl⟩ := hr
    exact ⟨Rel.refl _ _, hp, fun f hf => by cases hf⟩
  | f :: fs, s, s', hp, hr => by
    unfold compileFunctions at hr
    obtain ⟨_, s1, h1, h2⟩ := bind_ok.1 hr
    obtain ⟨r1, p1, l1⟩ := compileFunction_spec hp h1
    obtain ⟨r2, p2, l2⟩ := compileFunctions_spec fs p1 h2
    refine ⟨r1.trans r2, p2, ?_⟩
    intro g hg
    rcases List.mem_cons.1 hg with rfl | hg
    · obtain ⟨l, hl, e⟩ := l1
      obtain ⟨ls, hls⟩ := r2.labels
      exact ⟨l, by rw [hls]; exact List.mem_append_left _ hl, e⟩
    · exact l2 g hg

theorem addFunctions_spec : ∀ (fs : List FunctionIr) {s s' : CState}, addFunctions fs s = .ok ((), s') →
    s' = { s with jumpTable := s.jumpTable ++
      (fs.map fun f => (f.fullName, (f.handle, UInt32.ofNat f.arguments.length))) }
  | [], s, s', hr => by
    unfold addFunctions at hr
    simp only [pure_run, Except.ok.injEq, Prod.mk.injEq] at hr
    obtain ⟨_, rfl⟩ := hr
    simp
  | f :: fs, s, s', hr => by
    unfold addFunctions at hr
    obtain ⟨_, s1, h1, h2⟩ := bind_ok.1 hr
    rw [addFunction_run] at h1
    split at h1
    · cases h1
    · obtain ⟨_, rfl⟩ := Prod.mk.inj (Except.ok.inj h1)
      rw [addFunctions_spec fs h2]
      simp [tgt]

theorem _root_.Cao.Compiler.Inv.jumpTable {H : Nat → Prop} {s : CState} (hI : Inv H s) (j : List (String × (UInt32 × UInt32))) :
    Inv H { s with jumpTable := s.jumpTable ++ j } :=
  hI.tables rfl ⟨Nat.le_refl _, fun _ _ => rfl, ⟨#[], by simp⟩, fun _ h => h, fun _ h => h, Nat.le_refl _,
    fun e he => List.mem_append_left _ he⟩ (fun l hl => .inl hl) (fun _ h => h)
    (hI.aux.of_eq rfl rfl rfl rfl rfl (Nat.le_refl _))

theorem _root_.Cao.Compiler.Inv.init : Inv (fun _ => False) ({} : CState) := by
  refine ⟨.nil _, ?_, ?_, ?_, ?_⟩
  · intro p n _ h; simp at h
  · intro l hl; cases hl
  · intro t ht; cases ht
  · refine ⟨?_, ?_, rfl, .nil, ?_, fun _ => rfl, Nat.le_refl _⟩
    · intro ls hls
      simp only [List.mem_singleton] at hls
      rw [hls]; exact Nat.zero_le _
    · intro us hus
      simp only [List.mem_singleton] at hus
      rw [hus]; exact Nat.zero_le _
    · intro i hi; simp at hi

/-- what a successful `compileUnit` from the initial state establishes -/
structure UnitSpec (unit : Array FunctionIr) (s' : CState) : Prop where
  /-- the state before the final `Exit` -/
  before : ∃ sB, Inv (fun _ => False) sB ∧ s' = afterInstr sB op.exit []
  inv : Inv (fun _ => False) s'
  jt : s'.jumpTable = unit.toList.map fun f => (f.fullName, (f.handle, UInt32.ofNat f.arguments.length))
  fnLabels : ∀ f ∈ unit.toList.drop 1, ∃ l ∈ s'.labels, l.1 = f.handle

theorem compileUnit_spec {unit : Array FunctionIr} {s' : CState}
    (hr : (compileUnit unit).run {} = .ok ((), s')) : UnitSpec unit s' := by
  change compileUnit unit {} = _ at hr
  unfold compileUnit at hr
  split at hr
  · rw [fail_bind_run] at hr; cases hr
  · obtain ⟨_, s1, h1, hr⟩ := bind_ok.1 hr
    have e1 := addFunctions_spec _ h1
    have i1 : Inv (fun _ => False) s1 := by rw [e1]; exact Inv.init.jumpTable _
    have p1 : Pre 0 (fun _ => False) (fun _ => False) s1 := ⟨Nat.zero_le _, i1, fun t ht => ht.elim⟩
    have hmain := processFunction_tr unit[0]!
    have habort := processCard_tr .abort
    obtain ⟨_, s2, r2, p2, _, hr⟩ := (tr_modify_other (by exact fun _ => rfl)).step p1 hr
    obtain ⟨_, s3, r3, p3, _, hr⟩ := scopeBegin_tr.step p2 hr
    obtain ⟨_, s4, r4, p4, _, hr⟩ := (hmain _ _).step p3 hr
    obtain ⟨_, s5, r5, p5, _, hr⟩ := (tr_modify_other (by exact fun _ => rfl)).step p4 hr
    obtain ⟨_, s6, r6, p6, _, hr⟩ := scopeEnd_tr.step p5 hr
    obtain ⟨_, s7, r7, p7, _, hr⟩ := (habort _ _).step p6 hr
    obtain ⟨_, s8, h8, hr⟩ := bind_ok.1 hr
    obtain ⟨r8, p8, l8⟩ := compileFunctions_spec _ p7 h8
    obtain ⟨_, s9, r9, p9, _, hr⟩ := (tr_modify_other (by exact fun _ => rfl)).step p8 hr
    rw [pushInstr_run] at hr
    simp only [Except.ok.injEq, Prod.mk.injEq] at hr
    obtain ⟨_, rfl⟩ := hr
    have rel : Rel 0 s1 s9 := ((((((r2.trans r3).trans r4).trans r5).trans r6).trans r7).trans r8).trans r9
    refine ⟨⟨s9, p9.inv, rfl⟩, p9.inv.afterInstr (by decide) (.plain (by decide) (afterInstr_trace ..)), ?_, ?_⟩
    · show s9.jumpTable = _
      rw [rel.jt, e1]; simp
    · intro f hf
      obtain ⟨l, hl, e⟩ := l8 f hf
      obtain ⟨ls, hls⟩ := r9.labels
      exact ⟨l, by show l ∈ s9.labels; rw [hls]; exact List.mem_append_left _ hl, e⟩

end Cao.Compiler.Wf
