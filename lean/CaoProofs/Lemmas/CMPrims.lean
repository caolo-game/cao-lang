import CaoProofs.Lemmas.CMLogic
import CaoProofs.Lemmas.ResolveSpec
/-!
# What each primitive of the card compiler does to the state

Summaries of primitives below `process_card`, as facts about the model alone (none for `readProps`, `readVarCard`,
`emitUpvalues`, the sub-index and variable-access helpers): the complete equation of a run where the primitive is a case
distinction, or what its outcomes have in common where it loops or branches on tables (`globalId_cases`; `resolveVar_ok`
with the relation `Captures` between the states, `resolveUpvalue_ok` also with `Linked`).  The invariants of the compiler
take `resolveVar`, `globalId` and the actions that leave the state alone (`Reads`) from these; `Up` (for `Linked`) and
Props/C06 go below `resolveVar_ok`, to `resolveVar_run` and `resolveUpvalue`.  The back-patched arms are a few `modify`
and `emitBytes` around their blocks: `Wf.Tr`, `Up`, `Found` take the states of all three from the summary, `J` those of
the two jumps; `Runs`, `Hs`, `Lvl`, whose rules for `get`, `modify` and `emitBytes` suffice, and the simulation of C01
unfold the definition.
At the end `resolveLog`, which turns the insertion logs of labels and trace entries into the tables of the program, and
(in `namespace Wf`) the states and runs a back-patched arm goes through.
-/
namespace Cao.Compiler
open Cao

/-! ## actions that only read the state; the jump table -/

def toRun {α : Type} (s : CState) (r : Except CErrKind α) : Except CErr (α × CState) :=
  match r with
  | .ok r => .ok (r, s)
  | .error k => .error (.err k (some (traceOf s)))

/-- `m` leaves the state alone: it returns what `g` computes from it, or fails with `g`'s error, located at the
current position -/
def Reads {α : Type} (g : CState → Except CErrKind α) (m : CM α) : Prop := ∀ s, m s = toRun s (g s)

theorem Reads.ok {α : Type} {g : CState → Except CErrKind α} {m : CM α} (h : Reads g m) {s s' : CState} {a : α}
    (hr : m s = .ok (a, s')) : g s = .ok a ∧ s' = s := by
  rw [h s] at hr
  cases hg : g s with
  | error k => rw [hg] at hr; cases hr
  | ok r => rw [hg] at hr; cases hr; exact ⟨rfl, rfl⟩

theorem Reads.err {α : Type} {g : CState → Except CErrKind α} {m : CM α} (h : Reads g m) {s : CState} {e : CErr}
    (hr : m s = .error e) : ∃ k, g s = .error k ∧ e = .err k (some (traceOf s)) := by
  rw [h s] at hr
  cases hg : g s with
  | error k => rw [hg] at hr; cases hr; exact ⟨k, rfl, rfl⟩
  | ok r => rw [hg] at hr; cases hr

theorem Reads.bind_run {α β : Type} {g : CState → Except CErrKind α} {m : CM α} (h : Reads g m) (f : α → CM β)
    (s : CState) : (m >>= f) s = (match g s with
      | .ok a => f a s
      | .error k => .error (.err k (some (traceOf s)))) := by
  rw [Compiler.bind_run, h s]
  cases g s <;> rfl

theorem validateVarName_reads (n : String) :
    Reads (fun _ => if n.isEmpty then .error .emptyVariable else .ok ()) (validateVarName n) := by
  intro s
  unfold validateVarName
  by_cases h : n.isEmpty <;> simp only [h, if_true, if_false, Bool.false_eq_true] <;> rfl

theorem lookupJump_eq (s : CState) (n : String) : lookupJump s n = look s.jumpTable n := rfl

theorem resolveFunction_run (name : String) (s : CState) :
    resolveFunction name s = toRun s (resolveSpec s.jumpTable s.ns s.imports name) := by
  unfold resolveFunction
  simp only [bind, StateT.bind, get, getThe, MonadStateOf.get, StateT.get, pure, Except.pure, Except.bind,
    lookupJump_eq]
  unfold resolveSpec resolveWith
  cases h1 : look s.jumpTable name with
  | some r => rfl
  | none =>
  cases h2 : look s.jumpTable (joinNs s.ns name) with
  | some r => rfl
  | none =>
  have fin : ∀ (alias_ : String) (mk : Option String → String) (k : CM (UInt32 × UInt32)) (res : Except CErrKind (UInt32 × UInt32)),
      (k s = toRun s res) →
      (if (superDepth alias_).fst > s.ns.length then
          StateT.bind (fail CErrKind.superLimitReached) fun (__r : PUnit) =>
            match look s.jumpTable (joinNs (List.take (s.ns.length - (superDepth alias_).fst) s.ns) (mk (superDepth alias_).snd)) with
            | some r => StateT.pure r
            | _ => k
        else
          match look s.jumpTable (joinNs (List.take (s.ns.length - (superDepth alias_).fst) s.ns) (mk (superDepth alias_).snd)) with
          | some r => StateT.pure r
          | _ => k) s =
      toRun s (stepThen (Except.map (look s.jumpTable) (importTarget s.ns alias_ mk)) res) := by
    intro alias_ mk k res hk
    unfold importTarget
    by_cases hsd : (superDepth alias_).fst > s.ns.length
    · simp only [hsd, if_true, Except.map]; rfl
    · simp only [hsd, if_false, Except.map]
      cases h5 : look s.jumpTable (joinNs (List.take (s.ns.length - (superDepth alias_).fst) s.ns) (mk (superDepth alias_).snd)) with
      | some r => rfl
      | none => exact hk
  have step4 : ∀ l, name.splitOn "." = l →
      ((match l with
        | pre :: rest@h:(head :: tail) =>
          match List.find? (fun p => p.fst == pre) s.imports with
          | some (fst, alias_) =>
            if (superDepth alias_).fst > s.ns.length then
              StateT.bind (fail CErrKind.superLimitReached) fun (__r : PUnit) =>
                match look s.jumpTable
                    (joinNs (List.take (s.ns.length - (superDepth alias_).fst) s.ns)
                      ((superDepth alias_).snd.getD alias_ ++ "." ++ ".".intercalate rest)) with
                | some r => StateT.pure r
                | x => fail CErrKind.invalidJump
            else
              match look s.jumpTable
                  (joinNs (List.take (s.ns.length - (superDepth alias_).fst) s.ns)
                    ((superDepth alias_).snd.getD alias_ ++ "." ++ ".".intercalate rest)) with
              | some r => StateT.pure r
              | x => fail CErrKind.invalidJump
          | x => fail CErrKind.invalidJump
        | x => fail CErrKind.invalidJump : CM (UInt32 × UInt32)) s) =
      toRun s (stepThen (modImportStep (look s.jumpTable) s.ns s.imports name) (.error .invalidJump)) := by
    intro l hl
    unfold modImportStep
    rw [hl]
    rcases l with _ | ⟨pre, _ | ⟨hd, tl⟩⟩
    · rfl
    · rfl
    · simp only []
      cases h6 : List.find? (fun p => p.fst == pre) s.imports with
      | none => rfl
      | some val =>
        rcases val with ⟨key, alias_⟩
        exact fin alias_ (fun sfx => sfx.getD alias_ ++ "." ++ ".".intercalate (hd :: tl)) _ _ rfl
  have s4 := step4 _ rfl
  simp only [fnImportStep]
  cases h3 : List.find? (fun p => p.fst == name) s.imports with
  | none => simp only []; exact s4
  | some val =>
    rcases val with ⟨key, alias_⟩
    simp only []
    exact fin alias_ (fun sfx => sfx.getD alias_) _ _ s4

theorem resolveFunction_reads (name : String) :
    Reads (fun s => resolveSpec s.jumpTable s.ns s.imports name) (resolveFunction name) :=
  resolveFunction_run name

theorem encodeJump_run (name : String) (s : CState) :
    encodeJump name s =
      match resolveSpec s.jumpTable s.ns s.imports name with
      | .ok (h, a) => .ok ((), { s with bytecode := s.bytecode ++ (le32 h).toArray ++ (le32 a).toArray })
      | .error k => .error (.err k (some (traceOf s))) := by
  unfold encodeJump
  rw [(resolveFunction_reads name).bind_run]
  cases resolveSpec s.jumpTable s.ns s.imports name with
  | error k => rfl
  | ok r =>
    obtain ⟨h, a⟩ := r
    simp only [bind_run, emitBytes_run]

theorem encodeJump_ok {name : String} {s s' : CState} (h : encodeJump name s = .ok ((), s')) :
    ∃ hd a, resolveSpec s.jumpTable s.ns s.imports name = .ok (hd, a) ∧
      s' = { s with bytecode := s.bytecode ++ (le32 hd).toArray ++ (le32 a).toArray } := by
  rw [encodeJump_run] at h
  cases hres : resolveSpec s.jumpTable s.ns s.imports name with
  | error k => rw [hres] at h; cases h
  | ok r =>
    rw [hres] at h
    exact ⟨r.1, r.2, rfl, (Prod.mk.inj (Except.ok.inj h)).2.symm⟩

theorem addFunction_run (f : FunctionIr) (s : CState) :
    addFunction f s =
      if s.jumpTable.any (fun p => p.1 == f.fullName) then .error (.err .duplicateName (some (traceOf s)))
      else .ok ((), { s with jumpTable := s.jumpTable ++ [(f.fullName, tgt f)] }) := by
  unfold addFunction
  rw [get_bind_run]
  split <;> rfl

/-! ## the label and variable tables, the string pool -/

theorem insertLabel_run (h : UInt32) (pos : Nat) (s : CState) :
    insertLabel h pos s = if h = 0 then .error (.panic "HandleTable::insert with handle 0")
      else .ok ((), { s with labels := s.labels ++ [(h, pos)] }) := by
  unfold insertLabel
  by_cases h0 : h = 0
  · subst h0; rfl
  · have : (h == 0) = false := by simpa using h0
    simp only [this, Bool.false_eq_true, if_false, h0]
    rfl

theorem insertLabel_zero (pos : Nat) (s : CState) :
    insertLabel 0 pos s = .error (.panic "HandleTable::insert with handle 0") := rfl

theorem insertLabel_ne {h : UInt32} (h0 : h ≠ 0) (pos : Nat) (s : CState) :
    insertLabel h pos s = .ok ((), { s with labels := s.labels ++ [(h, pos)] }) := by
  rw [insertLabel_run, if_neg h0]

theorem globalId_zero (name : String) (s : CState) (h : Hash.handleFromBytes name.toUTF8.toList = 0) :
    globalId name s = .error (.panic "HandleTable::entry with handle 0") := by
  unfold globalId
  simp only [h, beq_self_eq_true, if_true]
  rfl

/-- two steps: the id of the name is looked up or entered (`s1`), then the name of the id is entered if missing (`s2`) -/
theorem globalId_cases (name : String) (s : CState) :
    (Hash.handleFromBytes name.toUTF8.toList = 0 ∧
      globalId name s = .error (.panic "HandleTable::entry with handle 0")) ∨
    Hash.handleFromBytes name.toUTF8.toList ≠ 0 ∧ ∃ id s1 s2, globalId name s = .ok (id, s2) ∧
      ((∃ x, s.varIds.find? (fun p => p.1 == Hash.handleFromBytes name.toUTF8.toList) = some x ∧ id = x.2 ∧
          s1 = s) ∨
        s.varIds.find? (fun p => p.1 == Hash.handleFromBytes name.toUTF8.toList) = none ∧ id = s.nextVar ∧
          s1 = { s with varIds := s.varIds ++ [(Hash.handleFromBytes name.toUTF8.toList, s.nextVar)],
                        nextVar := s.nextVar + 1 }) ∧
      (s1.varNames.any (fun p => p.1 == Hash.handleFromU32 (UInt32.ofNat id)) = true ∧ s2 = s1 ∨
        s1.varNames.any (fun p => p.1 == Hash.handleFromU32 (UInt32.ofNat id)) = false ∧
          s2 = { s1 with varNames := s1.varNames ++ [(Hash.handleFromU32 (UInt32.ofNat id), name)] }) := by
  by_cases h0 : Hash.handleFromBytes name.toUTF8.toList = 0
  · exact .inl ⟨h0, globalId_zero name s h0⟩
  · refine .inr ⟨h0, ?_⟩
    have hb : (Hash.handleFromBytes name.toUTF8.toList == 0) = false := by simpa using h0
    unfold globalId
    simp only [hb, Bool.false_eq_true, if_false, get_bind_run]
    -- the second step, from whatever state `s1` the first one leaves
    have names : ∀ (id : Nat) (s1 : CState), ∃ s2,
        ((do let s ← get
             if !(s.varNames.any (fun p => p.1 == Hash.handleFromU32 (UInt32.ofNat id))) then
               modify fun s => { s with varNames := s.varNames ++ [(Hash.handleFromU32 (UInt32.ofNat id), name)] }
             return id) : CM Nat) s1 = .ok (id, s2) ∧
        (s1.varNames.any (fun p => p.1 == Hash.handleFromU32 (UInt32.ofNat id)) = true ∧ s2 = s1 ∨
          s1.varNames.any (fun p => p.1 == Hash.handleFromU32 (UInt32.ofNat id)) = false ∧
            s2 = { s1 with varNames := s1.varNames ++ [(Hash.handleFromU32 (UInt32.ofNat id), name)] }) := by
      intro id s1
      rw [get_bind_run]
      cases ha : s1.varNames.any (fun p => p.1 == Hash.handleFromU32 (UInt32.ofNat id)) with
      | true => exact ⟨s1, rfl, .inl ⟨rfl, rfl⟩⟩
      | false => exact ⟨_, rfl, .inr ⟨rfl, rfl⟩⟩
    cases hf : s.varIds.find? (fun p => p.1 == Hash.handleFromBytes name.toUTF8.toList) with
    | some x =>
      obtain ⟨s2, h2, hn⟩ := names x.2 s
      exact ⟨x.2, s, s2, h2, .inl ⟨x, rfl, rfl, rfl⟩, hn⟩
    | none =>
      obtain ⟨s2, h2, hn⟩ := names s.nextVar _
      exact ⟨s.nextVar, _, s2, h2, .inr ⟨rfl, rfl, rfl⟩, hn⟩

theorem pushStr_run (x : String) (s : CState) :
    pushStr x s = .ok ((), { s with
      bytecode := s.bytecode ++ (le32 (UInt32.ofNat s.data.size)).toArray,
      data := s.data ++ (le32 (UInt32.ofNat x.toUTF8.toList.length) ++ x.toUTF8.toList).toArray }) := by
  unfold pushStr
  rw [get_bind_run, bind_eq_of_ok (emitU32_run _ _), modify_run, foldl_push_eq]

/-! ## scopes and locals -/

/-- the effect of `scope_begin` on the `scopeDepth` stack -/
def depthUp (l : List Int) : List Int :=
  match l.reverse with
  | d :: r => ((d + 1) :: r).reverse
  | [] => []

def depthDown (l : List Int) : List Int :=
  match l.reverse with
  | d :: r => ((d - 1) :: r).reverse
  | [] => []

theorem depthUp_concat (r : List Int) (d : Int) : depthUp (r ++ [d]) = r ++ [d + 1] := by simp [depthUp]
theorem depthDown_concat (r : List Int) (d : Int) : depthDown (r ++ [d]) = r ++ [d - 1] := by
  simp [depthDown]

theorem depthUp_ne_nil {l : List Int} : depthUp l ≠ [] ↔ l ≠ [] := by
  rcases List.eq_nil_or_concat l with rfl | ⟨r, d, rfl⟩
  · simp [depthUp]
  · simp [depthUp_concat]

theorem depthDown_depthUp (l : List Int) : depthDown (depthUp l) = l := by
  unfold depthUp
  cases h : l.reverse with
  | nil => simp only [depthDown]; simp at h; simp [h]
  | cons d r =>
    simp only [depthDown, List.reverse_reverse]
    have : d + 1 - 1 = d := by omega
    rw [this, ← h, List.reverse_reverse]

theorem scopeBegin_run (s : CState) :
    scopeBegin s = .ok ((), { s with scopeDepth := depthUp s.scopeDepth }) := rfl

/-- the locals `scope_end` keeps in the current context -/
def keptLocals (s : CState) : List Local :=
  ((s.locals.getD s.functionId []).reverse.dropWhile
    (fun l => decide (l.depth > (depthDown s.scopeDepth).getLast?.getD 0))).reverse

theorem mem_keptLocals {s : CState} {l : Local} (h : l ∈ keptLocals s) :
    l ∈ s.locals.getD s.functionId [] :=
  List.mem_reverse.1 ((List.dropWhile_sublist _).subset (List.mem_reverse.1 h))

theorem scopeEnd_run (s : CState) :
    scopeEnd s = .ok ((), { s with
      scopeDepth := depthDown s.scopeDepth,
      locals := s.locals.set s.functionId (keptLocals s),
      bytecode := s.bytecode ++ ((((s.locals.getD s.functionId []).drop (keptLocals s).length).reverse.map
        fun l => if l.captured then op.closeUpvalue else op.pop).toArray) }) := by
  unfold scopeEnd
  rw [modify_bind_run, get_bind_run, modify_bind_run, emitBytes_run]
  rfl

theorem scopeEnd_ok {s s' : CState} {a : Unit} (h : scopeEnd s = .ok (a, s')) :
    s'.scopeDepth = depthDown s.scopeDepth ∧ s'.locals = s.locals.set s.functionId (keptLocals s) ∧
    s'.functionId = s.functionId := by
  rw [scopeEnd_run] at h
  obtain ⟨_, rfl⟩ := Prod.mk.inj (Except.ok.inj h)
  exact ⟨rfl, rfl, rfl⟩

theorem addLocalUnchecked_run (n : String) (s : CState) :
    addLocalUnchecked n s =
      if (s.locals.getLast?.getD []).length ≥ 255 then .error (.err .tooManyLocals (some (traceOf s)))
      else .ok ((s.locals.getLast?.getD []).length, { s with
        locals := s.locals.dropLast ++
          [s.locals.getLast?.getD [] ++ [{ name := n, depth := curDepth s, captured := false }]] }) := by
  unfold addLocalUnchecked
  rw [get_bind_run]
  split <;> rfl

theorem addLocalUnchecked_lt {n : String} {s s' : CState} {i : Nat} (h : addLocalUnchecked n s = .ok (i, s')) :
    i < 255 := by
  rw [addLocalUnchecked_run] at h
  split at h
  · cases h
  · cases h; omega

theorem addLocal_run (n : String) (s : CState) :
    addLocal n s = if n.isEmpty then .error (.err .emptyVariable (some (traceOf s))) else addLocalUnchecked n s := by
  unfold addLocal
  rw [(validateVarName_reads n).bind_run]
  by_cases h : n.isEmpty <;> simp only [h, if_true, if_false, Bool.false_eq_true]

theorem addLocal_lt {n : String} {s s' : CState} {i : Nat} (h : addLocal n s = .ok (i, s')) : i < 255 := by
  rw [addLocal_run] at h
  split at h
  · cases h
  · exact addLocalUnchecked_lt h

theorem addLocals_ok : ∀ (ps : List String) {s s' : CState}, addLocals ps s = .ok ((), s') →
    ∃ L, s' = { s with locals := L }
  | [], s, s', h => by cases h; exact ⟨_, rfl⟩
  | p :: ps, s, s', h => by
    unfold addLocals at h
    obtain ⟨i, s1, h1, h2⟩ := bind_ok.1 h
    obtain ⟨L, rfl⟩ := addLocals_ok ps h2
    rw [addLocal_run] at h1
    split at h1
    · cases h1
    · rw [addLocalUnchecked_run] at h1
      split at h1
      · cases h1
      · obtain ⟨_, rfl⟩ := Prod.mk.inj (Except.ok.inj h1)
        exact ⟨L, rfl⟩

/-! ## upvalues -/

theorem addUpvalue_run (index : UInt8) (isLocal : Bool) (fid : Nat) (s : CState) :
    addUpvalue index isLocal fid s =
      match (s.upvalues.getD fid []).findIdx? (fun u => u.2 == index && u.1 == isLocal) with
      | some i => .ok (i, s)
      | none =>
        if (s.upvalues.getD fid []).length ≥ 255 then .error (.err .tooManyUpvalues (some (traceOf s)))
        else .ok ((s.upvalues.getD fid []).length,
          { s with upvalues := s.upvalues.set fid (s.upvalues.getD fid [] ++ [(isLocal, index)]) }) := by
  unfold addUpvalue
  rw [get_bind_run]
  dsimp only
  cases (s.upvalues.getD fid []).findIdx? (fun u => u.2 == index && u.1 == isLocal) with
  | some i => rfl
  | none => dsimp only; split <;> rfl

/-- what looking a variable up may do to the state: locals get their `captured` flag set, upvalue lists grow at the
end (up to 255 entries); nothing else changes -/
structure Captures (s s' : CState) : Prop where
  rest : ∃ L U, s' = { s with locals := L, upvalues := U }
  nLocals : s'.locals.length = s.locals.length
  locals : ∀ i, (s'.locals.getD i []).map (fun l => (l.name, l.depth)) =
    (s.locals.getD i []).map (fun l => (l.name, l.depth))
  nUpvalues : s'.upvalues.length = s.upvalues.length
  upvalues : ∀ g, ∃ ext, s'.upvalues.getD g [] = s.upvalues.getD g [] ++ ext ∧
    (ext = [] ∨ (s'.upvalues.getD g []).length ≤ 255)

theorem Captures.refl (s : CState) : Captures s s :=
  ⟨⟨_, _, rfl⟩, rfl, fun _ => rfl, rfl, fun _ => ⟨[], (List.append_nil _).symm, .inl rfl⟩⟩

theorem Captures.trans {s s1 s2 : CState} (h1 : Captures s s1) (h2 : Captures s1 s2) : Captures s s2 := by
  refine ⟨?_, h2.nLocals.trans h1.nLocals, fun i => (h2.locals i).trans (h1.locals i),
    h2.nUpvalues.trans h1.nUpvalues, fun g => ?_⟩
  · obtain ⟨L1, U1, rfl⟩ := h1.rest
    obtain ⟨L2, U2, rfl⟩ := h2.rest
    exact ⟨L2, U2, rfl⟩
  · obtain ⟨e1, a1, b1⟩ := h1.upvalues g
    obtain ⟨e2, a2, b2⟩ := h2.upvalues g
    refine ⟨e1 ++ e2, by rw [a2, a1, List.append_assoc], ?_⟩
    rcases b2 with rfl | b2
    · rcases b1 with rfl | b1
      · exact .inl rfl
      · exact .inr (by rw [a2, List.append_nil]; exact b1)
    · exact .inr b2

theorem Captures.traceOf {s s' : CState} (h : Captures s s') : traceOf s' = traceOf s := by
  obtain ⟨L, U, rfl⟩ := h.rest; rfl

theorem Captures.upvalues_le {s s' : CState} (h : Captures s s') (hle : ∀ g, (s.upvalues.getD g []).length ≤ 255)
    (g : Nat) : (s'.upvalues.getD g []).length ≤ 255 := by
  obtain ⟨ext, e, he⟩ := h.upvalues g
  rcases he with rfl | he
  · rw [e, List.append_nil]; exact hle g
  · exact he

theorem getD_set {α : Type} (l : List (List α)) (i j : Nat) (x : List α) :
    (l.set i x).getD j [] = if i = j ∧ i < l.length then x else l.getD j [] := by
  simp only [List.getD_eq_getElem?_getD, List.getElem?_set]
  by_cases h : i = j
  · subst h
    by_cases h2 : i < l.length <;> simp [h2]
  · simp [h]

theorem map_set_captured (ls : List Local) (i : Nat) :
    (ls.set i { (ls.getD i ⟨"", 0, false⟩) with captured := true }).map (fun l => (l.name, l.depth)) =
      ls.map (fun l => (l.name, l.depth)) := by
  apply List.ext_getElem?
  intro j
  simp only [List.getElem?_map, List.getElem?_set]
  by_cases h : i = j
  · subst h
    by_cases h2 : i < ls.length
    · simp [h2, List.getD_eq_getElem?_getD]
    · simp [h2]
  · simp [h]

theorem Captures.flag (s : CState) (fid i : Nat) :
    Captures s { s with locals := s.locals.set fid ((s.locals.getD fid []).set i
      { ((s.locals.getD fid []).getD i ⟨"", 0, false⟩) with captured := true }) } := by
  refine ⟨⟨_, _, rfl⟩, List.length_set .., fun j => ?_, rfl, fun _ => ⟨[], (List.append_nil _).symm, .inl rfl⟩⟩
  show ((s.locals.set fid _).getD j []).map _ = _
  rw [getD_set]
  split
  · next h => rw [map_set_captured, h.1]
  · rfl

theorem addUpvalue_captures {index : UInt8} {isLocal : Bool} {fid u : Nat} {s s' : CState}
    (h : addUpvalue index isLocal fid s = .ok (u, s')) :
    Captures s s' ∧ (fid < s.upvalues.length → u < (s'.upvalues.getD fid []).length) ∧
      ((s.upvalues.getD fid []).length ≤ 255 → u < 255) := by
  rw [addUpvalue_run] at h
  split at h
  · next i hi =>
    cases h
    have hi := (List.findIdx?_eq_some_iff_findIdx_eq.1 hi).1
    exact ⟨.refl _, fun _ => hi, fun hle => by omega⟩
  · split at h
    · cases h
    · next hlen =>
      cases h
      have hg : ∀ g, (s.upvalues.set fid (s.upvalues.getD fid [] ++ [(isLocal, index)])).getD g [] =
          if fid = g ∧ fid < s.upvalues.length then s.upvalues.getD fid [] ++ [(isLocal, index)]
          else s.upvalues.getD g [] := fun g => getD_set ..
      refine ⟨⟨⟨_, _, rfl⟩, rfl, fun _ => rfl, List.length_set .., fun g => ?_⟩, fun hf => ?_, fun _ => by omega⟩
      · show ∃ ext, (s.upvalues.set fid _).getD g [] = _ ∧ (_ ∨ ((s.upvalues.set fid _).getD g []).length ≤ 255)
        rw [hg]
        split
        · next h => exact ⟨[(isLocal, index)], by rw [h.1], .inr (by simp only [List.length_append, List.length_singleton]; omega)⟩
        · exact ⟨[], (List.append_nil _).symm, .inl rfl⟩
      · show _ < ((s.upvalues.set fid _).getD fid []).length
        rw [hg, if_pos ⟨rfl, hf⟩]; simp

/-- what the entries appended to the upvalue lists point to: the top level gets none, and a capture `(false, j)` of an
enclosing upvalue that is new at level `g + 1` names an upvalue that level `g` has -/
structure Linked (s s' : CState) : Prop where
  base : s'.upvalues.getD 0 [] = s.upvalues.getD 0 []
  link : ∀ g j, (false, j) ∈ s'.upvalues.getD (g + 1) [] →
    (false, j) ∈ s.upvalues.getD (g + 1) [] ∨ j.toNat < (s'.upvalues.getD g []).length

theorem Linked.refl (s : CState) : Linked s s := ⟨rfl, fun _ _ h => .inl h⟩

theorem Linked.trans {s s1 s2 : CState} (h1 : Linked s s1) (h2 : Linked s1 s2) (c : Captures s1 s2) : Linked s s2 :=
  ⟨h2.base.trans h1.base, fun g j hj => by
    rcases h2.link g j hj with h | h
    · rcases h1.link g j h with h | h
      · exact .inl h
      · obtain ⟨ext, e, _⟩ := c.upvalues g
        exact .inr (by rw [e, List.length_append]; omega)
    · exact .inr h⟩

theorem addUpvalue_linked {index : UInt8} {isLocal : Bool} {fid u : Nat} {s s' : CState}
    (h : addUpvalue index isLocal (fid + 1) s = .ok (u, s'))
    (hl : isLocal = false → index.toNat < (s.upvalues.getD fid []).length) : Linked s s' := by
  rw [addUpvalue_run] at h
  split at h
  · cases h; exact .refl _
  · split at h
    · cases h
    · cases h
      have hg := fun g => getD_set s.upvalues (fid + 1) g (s.upvalues.getD (fid + 1) [] ++ [(isLocal, index)])
      refine ⟨(hg 0).trans (if_neg fun h => by omega), fun g j hj => ?_⟩
      dsimp only at hj ⊢
      have hlen : (s.upvalues.getD g []).length ≤ (s.upvalues.getD g [] ++ [(isLocal, index)]).length := by
        rw [List.length_append]; omega
      rw [hg (g + 1)] at hj
      rw [hg g]
      split at hj
      · next h =>
        rcases List.mem_append.1 hj with hj | hj
        · exact .inl (by rw [← h.1]; exact hj)
        · obtain ⟨e1, e2⟩ := Prod.mk.inj (List.mem_singleton.1 hj)
          have hfg : fid = g := by omega
          subst hfg e2
          refine .inr (Nat.lt_of_lt_of_le (hl e1.symm) ?_)
          split
          · next h' => rw [h'.1]; exact hlen
          · exact Nat.le_refl _
      · exact .inl hj

theorem addUpvalue_err {index : UInt8} {isLocal : Bool} {fid : Nat} {s : CState} {e : CErr}
    (h : addUpvalue index isLocal fid s = .error e) : e = .err .tooManyUpvalues (some (traceOf s)) := by
  rw [addUpvalue_run] at h
  split at h
  · cases h
  · split at h
    · cases h; rfl
    · cases h

theorem resolveUpvalue_ok (name : String) : ∀ (fid : Nat) {s s' : CState} {v : Variable},
    resolveUpvalue name fid s = .ok (v, s') →
    Captures s s' ∧ (v = .global ∨
      ∃ u, v = .upvalue u ∧ (fid < s.upvalues.length → u < (s'.upvalues.getD fid []).length) ∧
        ((∀ g, (s.upvalues.getD g []).length ≤ 255) → u < 255)) ∧
      (fid ≤ s.upvalues.length → (∀ g, (s.upvalues.getD g []).length ≤ 255) → Linked s s')
  | 0, s, s', v, h => by
    unfold resolveUpvalue at h
    cases h
    exact ⟨.refl _, .inl rfl, fun _ _ => .refl _⟩
  | fid+1, s, s', v, h => by
    unfold resolveUpvalue at h
    rw [get_bind_run] at h
    dsimp only at h
    cases hfi : (s.locals.getD fid []).findIdx? (fun l => l.name == name) with
    | some i =>
      rw [hfi] at h
      dsimp only at h
      rw [modify_bind_run] at h
      obtain ⟨u, s2, h2, h⟩ := bind_ok.1 h
      cases h
      obtain ⟨c2, b2, l2⟩ := addUpvalue_captures h2
      have k2 := addUpvalue_linked h2 (fun h => nomatch h)
      exact ⟨(Captures.flag s fid i).trans c2, .inr ⟨u, rfl, b2, fun hle => l2 (hle _)⟩, fun _ _ => ⟨k2.base, k2.link⟩⟩
    | none =>
      rw [hfi] at h
      dsimp only at h
      obtain ⟨r, s1, h1, h⟩ := bind_ok.1 h
      obtain ⟨c1, hr, k1⟩ := resolveUpvalue_ok name fid h1
      rcases hr with rfl | ⟨i, rfl, b1, l1⟩
      · cases h
        exact ⟨c1, .inl rfl, fun hf hle => k1 (by omega) hle⟩
      · dsimp only at h
        obtain ⟨u, s2, h2, h⟩ := bind_ok.1 h
        cases h
        obtain ⟨c2, b2, l2⟩ := addUpvalue_captures h2
        refine ⟨c1.trans c2, .inr ⟨u, rfl, fun hf => b2 (by rw [c1.nUpvalues]; exact hf),
          fun hle => l2 (c1.upvalues_le hle _)⟩, fun hf hle => (k1 (by omega) hle).trans (addUpvalue_linked h2 fun _ => ?_) c2⟩
        have := l1 hle
        rw [UInt8.toNat_ofNat', Nat.mod_eq_of_lt (by omega)]
        exact b1 hf

theorem resolveUpvalue_err (name : String) : ∀ (fid : Nat) {s : CState} {e : CErr},
    resolveUpvalue name fid s = .error e → e = .err .tooManyUpvalues (some (traceOf s))
  | 0, s, e, h => by
    unfold resolveUpvalue at h
    cases h
  | fid+1, s, e, h => by
    unfold resolveUpvalue at h
    rw [get_bind_run] at h
    dsimp only at h
    cases hfi : (s.locals.getD fid []).findIdx? (fun l => l.name == name) with
    | some i =>
      rw [hfi] at h
      dsimp only at h
      rw [modify_bind_run] at h
      rcases bind_err.1 h with h | ⟨_, _, _, h⟩
      · rw [addUpvalue_err h]; rfl
      · cases h
    | none =>
      rw [hfi] at h
      dsimp only at h
      rcases bind_err.1 h with h | ⟨r, s1, h1, h⟩
      · exact resolveUpvalue_err name fid h
      · obtain ⟨c1, hr, _⟩ := resolveUpvalue_ok name fid h1
        rcases hr with rfl | ⟨i, rfl, _⟩
        · cases h
        · dsimp only at h
          rcases bind_err.1 h with h | ⟨_, _, _, h⟩
          · rw [addUpvalue_err h, c1.traceOf]
          · cases h

theorem resolveVar_run (name : String) (s : CState) :
    resolveVar name s =
      if name.isEmpty then .error (.err .emptyVariable (some (traceOf s)))
      else match (List.range (s.locals.getD s.functionId []).length).reverse.find?
          (fun i => ((s.locals.getD s.functionId []).getD i ⟨"", 0, false⟩).name == name) with
        | some i => .ok (.local_ i, s)
        | none => resolveUpvalue name s.functionId s := by
  unfold resolveVar
  rw [(validateVarName_reads name).bind_run]
  by_cases h : name.isEmpty <;> simp only [h, if_true, if_false, Bool.false_eq_true]
  rw [get_bind_run]
  generalize List.find? _ _ = x
  cases x <;> rfl

theorem resolveVar_ok {name : String} {s s' : CState} {v : Variable} (h : resolveVar name s = .ok (v, s')) :
    Captures s s' ∧ (match v with
      | .global => True
      | .local_ i => i < (s.locals.getD s.functionId []).length
      | .upvalue u => s.functionId < s.upvalues.length → u < (s'.upvalues.getD s.functionId []).length) ∧
      ((∀ g, (s.upvalues.getD g []).length ≤ 255) → ∀ u, v = .upvalue u → u < 255) := by
  rw [resolveVar_run] at h
  split at h
  · cases h
  · split at h
    · next i hi =>
      cases h
      have := List.mem_of_find?_eq_some hi
      exact ⟨.refl _, by simpa using this, fun _ _ hv => nomatch hv⟩
    · obtain ⟨c, hv, _⟩ := resolveUpvalue_ok name _ h
      rcases hv with rfl | ⟨u, rfl, hu, hl⟩
      · exact ⟨c, trivial, fun _ _ hv => nomatch hv⟩
      · exact ⟨c, hu, fun hle u' hv => by cases hv; exact hl hle⟩

theorem resolveVar_err {name : String} {s : CState} {e : CErr} (h : resolveVar name s = .error e) :
    e = .err .emptyVariable (some (traceOf s)) ∨ e = .err .tooManyUpvalues (some (traceOf s)) := by
  rw [resolveVar_run] at h
  split at h
  · cases h; exact .inl rfl
  · split at h
    · cases h
    · exact .inr (resolveUpvalue_err name _ h)

/-! ## assignment -/

theorem setVarTarget_eq (name : String) :
    setVarTarget name =
      if (name.splitOn ".").length ≤ 1 then (do
        match ← resolveVar name with
        | .local_ i => writeLocalVar i
        | .global => do
          let i ← addLocal name; writeLocalVar i
        | .upvalue i => writeUpvalue i)
      else (do
        readVarCard (".".intercalate (name.splitOn ".").dropLast)
        pushInstr op.stringLiteral
        pushStr (name.splitOn ".").getLast!
        pushInstr op.setProperty) := by
  unfold setVarTarget
  rcases name.splitOn "." with _ | ⟨a, _ | ⟨b, l⟩⟩ <;> rfl

/-! ## the resolved tables of the program: the last insertion of a key wins -/

theorem resolveLog_snoc {α β : Type} [BEq α] (log : List (α × β)) (p : α × β) :
    resolveLog (log ++ [p]) = (resolveLog log).filter (fun q => !(q.1 == p.1)) ++ [p] := by
  unfold resolveLog
  rw [List.foldl_append]
  rfl

theorem snoc_induction {α : Type} {P : List α → Prop} (nil : P []) (snoc : ∀ l a, P l → P (l ++ [a])) (l : List α) :
    P l := by
  rw [← List.reverse_reverse l]
  induction l.reverse with
  | nil => exact nil
  | cons a r ih => rw [List.reverse_cons]; exact snoc _ _ ih

theorem resolveLog_subset {α β : Type} [BEq α] (log : List (α × β)) :
    ∀ p ∈ resolveLog log, p ∈ log := by
  induction log using snoc_induction with
  | nil => intro p hp; cases hp
  | snoc log x ih =>
    intro p hp
    rw [resolveLog_snoc] at hp
    rcases List.mem_append.1 hp with hp | hp
    · exact List.mem_append_left _ (ih p (List.mem_filter.1 hp).1)
    · exact List.mem_append_right _ hp

theorem resolveLog_find {α β : Type} [BEq α] [LawfulBEq α] (log : List (α × β)) (h : α) :
    (resolveLog log).find? (fun q => q.1 == h) = log.reverse.find? (fun q => q.1 == h) := by
  induction log using snoc_induction with
  | nil => rfl
  | snoc log p ih =>
    simp only [resolveLog_snoc, List.reverse_append, List.reverse_cons, List.reverse_nil, List.nil_append,
      List.cons_append, List.find?_append, List.find?_filter, List.find?_cons, List.find?_nil]
    by_cases hp : p.1 = h
    · -- the new entry has the key: the filter has removed every older one
      have : (fun q : α × β => decide ((!(q.1 == p.1)) = true ∧ (q.1 == h) = true)) = fun _ => false := by
        funext q; subst hp; cases hq : (q.1 == p.1) <;> simp
      rw [this, List.find?_eq_none.2 (by simp)]
      simp [hp]
    · -- another key: the filter keeps every entry under `h`
      have : (fun q : α × β => decide ((!(q.1 == p.1)) = true ∧ (q.1 == h) = true)) = fun q => (q.1 == h) := by
        funext q
        by_cases hq : q.1 = h
        · have : ¬ h = p.1 := fun e => hp e.symm
          simp [hq, this]
        · simp [hq]
      have hp' : (p.1 == h) = false := by simpa using hp
      rw [this, ih, hp']
      cases log.reverse.find? (fun q => q.1 == h) <;> rfl

theorem _root_.Cao.Bytecode.resolveLog_mem_key {α β : Type} [BEq α] [LawfulBEq α] (log : List (α × β)) (k : α)
    (h : ∃ p ∈ log, p.1 = k) : ∃ p ∈ resolveLog log, p.1 = k := by
  obtain ⟨p, hp, hk⟩ := h
  cases hf : log.reverse.find? (fun q => q.1 == k) with
  | none => simpa [hk] using List.find?_eq_none.1 hf p (List.mem_reverse.2 hp)
  | some q =>
    rw [← resolveLog_find] at hf
    exact ⟨q, List.mem_of_find?_eq_some hf, by simpa using List.find?_some hf⟩

theorem resolveLog_find_of_unique {β : Type} {log : List (UInt32 × β)} {h : UInt32} {v : β}
    (hm : (h, v) ∈ log) (hu : ∀ q ∈ log, q.1 = h → q.2 = v) :
    (resolveLog log).find? (fun q => q.1 == h) = some (h, v) := by
  rw [resolveLog_find]
  cases hf : log.reverse.find? (fun q => q.1 == h) with
  | none =>
    have := List.find?_eq_none.1 hf (h, v) (List.mem_reverse.2 hm)
    simp at this
  | some q =>
    have h1 : q.1 = h := by simpa using List.find?_some hf
    have h2 := hu q (List.mem_reverse.1 (List.mem_of_find?_eq_some hf)) h1
    rw [← h1, ← h2]

end Cao.Compiler

namespace Cao.Compiler.Wf
open Cao

/-! ## the runs the back-patched arms are made of

`encodeIfThen`, `ifElseCode` and `closureCode` emit a jump with a placeholder operand, run their blocks and patch the
operand afterwards. `afterInstr`, `afterJump`, `closureCtx` name the states in between, so that a successful run of
an arm is a list of runs of its blocks from known states (`encodeIfThen_ok`, `ifElseCode_ok`, `closureCode_ok`). -/

theorem foldl_push_cons (bs : List UInt8) (a : Array UInt8) (o : UInt8) :
    bs.foldl (fun a b => a.push b) (a.push o) = a ++ (o :: bs).toArray := by
  rw [foldl_push_eq]; simp

/-- the state after `pushInstr o; emitBytes bs` -/
def afterInstr (s : CState) (o : UInt8) (bs : List UInt8) : CState :=
  { s with trace := s.trace ++ [(s.bytecode.size, { ns := s.ns, function := s.curFunction, indices := s.curIndices })],
           bytecode := s.bytecode ++ (o :: bs).toArray }

theorem pushInstr_emit_run (o : UInt8) (bs : List UInt8) (s : CState) :
    (pushInstr o >>= fun _ => emitBytes bs) s = .ok ((), afterInstr s o bs) := by
  show Except.ok _ = _
  simp only [afterInstr, foldl_push_cons]

theorem pushInstr_run (o : UInt8) (s : CState) : pushInstr o s = .ok ((), afterInstr s o []) := by
  show Except.ok _ = _
  simp [afterInstr]

theorem afterInstr_labels (s : CState) (o : UInt8) (bs : List UInt8) : (afterInstr s o bs).labels = s.labels := rfl
theorem afterInstr_upvalues (s : CState) (o : UInt8) (bs : List UInt8) :
    (afterInstr s o bs).upvalues = s.upvalues := rfl
theorem afterInstr_functionId (s : CState) (o : UInt8) (bs : List UInt8) :
    (afterInstr s o bs).functionId = s.functionId := rfl


theorem pushInstr_bind_run {β : Type} (o : UInt8) (f : Unit → CM β) (s : CState) :
    (pushInstr o >>= f) s = f () (afterInstr s o []) := by
  show f () _ = _
  congr 1
theorem emitBytes_bind_run {β : Type} (bs : List UInt8) (f : Unit → CM β) (s : CState) :
    (emitBytes bs >>= f) s = f () { s with bytecode := s.bytecode ++ bs.toArray } := by
  show f () _ = _
  simp only [foldl_push_eq]
theorem emitU32_bind_run {β : Type} (x : Nat) (f : Unit → CM β) (s : CState) :
    (emitU32 x >>= f) s = f () { s with bytecode := s.bytecode ++ (le32 (UInt32.ofNat x)).toArray } :=
  emitBytes_bind_run _ f s


/-- the state after `pushInstr o; emitU32 x` -/
def afterJump (s : CState) (o : UInt8) (x : Nat) : CState := afterInstr s o (le32 (UInt32.ofNat x))

theorem jump_run (o : UInt8) (x : Nat) (s : CState) :
    (pushInstr o >>= fun _ => emitU32 x) s = .ok ((), afterJump s o x) := pushInstr_emit_run ..

theorem emitU32_afterInstr (s : CState) (o : UInt8) (x : Nat) :
    ({ afterInstr s o [] with
        bytecode := (afterInstr s o []).bytecode ++ (le32 (UInt32.ofNat x)).toArray } : CState) = afterJump s o x := by
  simp [afterJump, afterInstr]

theorem afterJump_size (s : CState) (o : UInt8) (x : Nat) :
    (afterJump s o x).bytecode.size = s.bytecode.size + 5 := by
  show (s.bytecode ++ _).size = _; simp [Bytecode.le32_length]


theorem afterInstr_size (s : CState) (o : UInt8) : (afterInstr s o []).bytecode.size = s.bytecode.size + 1 := by
  simp [afterInstr]

theorem insertLabel_ok {h : UInt32} {pos : Nat} {s s' : CState} {u : Unit}
    (hr : insertLabel h pos s = .ok (u, s')) : s' = { s with labels := s.labels ++ [(h, pos)] } := by
  rw [insertLabel_run] at hr
  split at hr
  · cases hr
  · exact (Prod.mk.inj (Except.ok.inj hr)).2.symm

theorem pushInstr_emit2_bind_run {β : Type} (o : UInt8) (a b : List UInt8) (g : Unit → CM β) (s : CState) :
    (pushInstr o >>= fun _ => emitBytes a >>= fun _ => emitBytes b >>= g) s = g () (afterInstr s o (a ++ b)) := by
  rw [pushInstr_bind_run, emitBytes_bind_run, emitBytes_bind_run]
  congr 1
  simp [afterInstr]

theorem closInstr_bind_run {β : Type} (h : UInt32) (n : Nat) (g : Unit → CM β) (s : CState) :
    (pushInstr op.closure >>= fun _ => emitBytes (le32 h) >>= fun _ => emitU32 n >>= g) s =
      g () (afterInstr s op.closure (le32 h ++ le32 (UInt32.ofNat n))) :=
  pushInstr_emit2_bind_run ..

theorem encodeIfThen_ok {skip : UInt8} {m : CM Unit} {s s' : CState} {u : Unit}
    (h : encodeIfThen skip m s = .ok (u, s')) :
    ∃ s3, m (afterJump s skip 0) = .ok ((), s3) ∧
      patchI32 (s.bytecode.size + 1) s3.bytecode.size s3 = .ok (u, s') := by
  unfold encodeIfThen at h
  rw [pushInstr_bind_run, get_bind_run, emitU32_bind_run, emitU32_afterInstr] at h
  obtain ⟨_, s3, h1, h2⟩ := bind_ok.1 h
  rw [get_bind_run, afterInstr_size] at h2
  exact ⟨s3, h1, h2⟩

theorem ifElseCode_ok {c t e : CM Unit} {s s' : CState} {u : Unit} (h : ifElseCode c t e s = .ok (u, s')) :
    ∃ s1 s1' s3 s5 s5' s6, withSub 0 c s = .ok ((), s1) ∧ pushSub 1 s1 = .ok ((), s1') ∧
      t (afterJump s1' op.gotoIfFalse 0) = .ok ((), s3) ∧
      patchI32 (s1'.bytecode.size + 1) (afterJump s3 op.goto 0xEEF).bytecode.size (afterJump s3 op.goto 0xEEF) =
        .ok ((), s5) ∧
      popSub s5 = .ok ((), s5') ∧ withSub 2 e s5' = .ok ((), s6) ∧
      patchI32 (s3.bytecode.size + 1) s6.bytecode.size s6 = .ok (u, s') := by
  unfold ifElseCode encodeIfThenRet at h
  obtain ⟨_, s1, h1, h⟩ := bind_ok.1 h
  obtain ⟨_, s1', h1', h⟩ := bind_ok.1 h
  obtain ⟨idx, s5, h3, h⟩ := bind_ok.1 h
  rw [pushInstr_bind_run, get_bind_run, emitU32_bind_run, emitU32_afterInstr] at h3
  obtain ⟨r, s4, h5, h6⟩ := bind_ok.1 h3
  obtain ⟨_, s3, h7, h8⟩ := bind_ok.1 h5
  rw [get_bind_run] at h6
  obtain ⟨_, s5a, h9, h10⟩ := bind_ok.1 h6
  rw [afterInstr_size] at h9
  rw [pushInstr_bind_run, get_bind_run, emitU32_bind_run, pure_run, afterInstr_size, emitU32_afterInstr] at h8
  obtain ⟨rfl, rfl⟩ := Prod.mk.inj (Except.ok.inj h8)
  obtain ⟨rfl, rfl⟩ := Prod.mk.inj (Except.ok.inj h10)
  obtain ⟨_, s5', h11, h⟩ := bind_ok.1 h
  obtain ⟨_, s6, h13, h14⟩ := bind_ok.1 h
  rw [get_bind_run] at h14
  exact ⟨s1, s1', s3, s5a, s5', s6, h1, h1', h7, h9, h11, h13, h14⟩

/-- the state the body of a closure is compiled from: behind the skip-`Goto`, in a new context (`compileBegin`),
with the label of the body -/
def closureCtx (s : CState) (fh : UInt32) : CState :=
  let s1 := afterJump s op.goto 0xEEF
  { s1 with functionId := s1.functionId + 1, locals := s1.locals ++ [[]], upvalues := s1.upvalues ++ [[]],
            scopeDepth := s1.scopeDepth ++ [0], labels := s1.labels ++ [(fh, s1.bytecode.size)] }

theorem closureCtx_size (s : CState) (fh : UInt32) : (closureCtx s fh).bytecode.size = s.bytecode.size + 5 :=
  afterJump_size s op.goto 0xEEF

theorem closureCtx_labels (s : CState) (fh : UInt32) :
    (closureCtx s fh).labels = s.labels ++ [(fh, s.bytecode.size + 5)] := by
  show s.labels ++ [(fh, (afterJump s op.goto 0xEEF).bytecode.size)] = _
  rw [afterJump_size]

theorem closureCode_ok {args : List String} {body : CM Unit} {s s' : CState} {u : Unit}
    (h : closureCode args body s = .ok (u, s')) :
    ∃ fh s7 s10 s12,
      fh = s.fnHandle ^^^ Hash.handleFromBytes (s.curIndices.flatMap fun i => le32 (UInt32.ofNat i)) ^^^
        Hash.handleFromU64 closureMask ∧
      (scopeBegin >>= fun _ => addLocals args.reverse >>= fun _ => body >>= fun _ => scopeEnd)
        (closureCtx s fh) = .ok ((), s7) ∧
      patchI32 (s.bytecode.size + 1) (afterInstr (afterInstr s7 op.scalarNil []) op.ret []).bytecode.size
        (afterInstr (afterInstr s7 op.scalarNil []) op.ret []) = .ok ((), s10) ∧
      emitUpvalues ((afterInstr s10 op.closure (le32 fh ++ le32 (UInt32.ofNat args.length))).upvalues.getD
          (afterInstr s10 op.closure (le32 fh ++ le32 (UInt32.ofNat args.length))).functionId [])
        (afterInstr s10 op.closure (le32 fh ++ le32 (UInt32.ofNat args.length))) = .ok ((), s12) ∧
      compileEnd s12 = .ok (u, s') := by
  unfold closureCode at h
  rw [pushInstr_bind_run, get_bind_run, emitU32_bind_run, afterInstr_size, emitU32_afterInstr] at h
  obtain ⟨_, s2, h2, h⟩ := bind_ok.1 h
  obtain ⟨_, rfl⟩ := Prod.mk.inj (Except.ok.inj h2)
  rw [get_bind_run] at h
  dsimp only at h
  obtain ⟨_, s3, h3, h⟩ := bind_ok.1 h
  rw [insertLabel_ok h3] at h
  obtain ⟨_, s4, h4, h⟩ := bind_ok.1 h
  obtain ⟨_, s5, h5, h⟩ := bind_ok.1 h
  obtain ⟨_, s6, h6, h⟩ := bind_ok.1 h
  obtain ⟨_, s7, h7, h⟩ := bind_ok.1 h
  rw [pushInstr_bind_run, pushInstr_bind_run, get_bind_run] at h
  obtain ⟨_, s10, h10, h⟩ := bind_ok.1 h
  rw [closInstr_bind_run, get_bind_run] at h
  obtain ⟨_, s12, h12, h⟩ := bind_ok.1 h
  exact ⟨_, s7, s10, s12, rfl, bind_ok.2 ⟨_, _, h4, bind_ok.2 ⟨_, _, h5, bind_ok.2 ⟨_, _, h6, h7⟩⟩⟩, h10, h12, h⟩

end Cao.Compiler.Wf
