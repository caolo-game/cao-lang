import CaoProofs.Lemmas.CMPrims
/-!
# One Hoare logic for the compiler monad

`Sat P R Q m`: every successful run of `m` from a state satisfying `P` ends in a state related to the
initial one by `R`, with a result satisfying `Q`.  The structural rules are proved once, for every `P`
and every relation `R` that composes along such runs (`Sat.Stable`).

`CodeLogic A T`: a family of properties of compiler actions that is closed under the structural rules and holds of
the primitives `process_card` is made of and of five composite actions taken whole (`readVarCard`, `setVarTarget`,
`setGlobalTail`, `ifElseCode`, `closureCode`).  Whatever such a logic says about these it says about the code of
every card: the rules for the arms of `process_card` and the traversal of the card tree (`CodeLogic.processCard`) are
derived here once, each following its arm of the Rust `match` statement by statement.  The instances: invariants that
ignore the shapes `p q` of the bookkeeping (`runsLogic`, `Wf.trLogic`, `jLogic`; `upLogic`, which reads the tables of
upvalues and locals themselves), and invariants of the shapes (`hsLogic`, `lvLogic`).
-/
namespace Cao.Compiler
open Cao

def Sat {α : Type} (P : CState → Prop) (R : CState → CState → Prop) (Q : α → Prop) (m : CM α) : Prop :=
  ∀ s a s', m s = .ok (a, s') → P s → R s s' ∧ Q a

structure Sat.Stable (P : CState → Prop) (R : CState → CState → Prop) : Prop where
  refl : ∀ {s}, P s → R s s
  trans : ∀ {s s1 s2}, P s → R s s1 → R s1 s2 → R s s2
  keep : ∀ {s s1}, P s → R s s1 → P s1

namespace Sat
variable {α β : Type} {P : CState → Prop} {R : CState → CState → Prop}

theorem pure (h : Stable P R) {Q : α → Prop} {a : α} (q : Q a) : Sat P R Q (pure a : CM α) := by
  intro s b s' hr hp
  obtain ⟨rfl, rfl⟩ := Prod.mk.inj (Except.ok.inj hr)
  exact ⟨h.refl hp, q⟩

theorem bind (h : Stable P R) {Q : α → Prop} {Q' : β → Prop} {m : CM α} {f : α → CM β}
    (hm : Sat P R Q m) (hf : ∀ a, Q a → Sat P R Q' (f a)) : Sat P R Q' (m >>= f) := by
  intro s b s'' hr hp
  obtain ⟨a, s', h1, h2⟩ := bind_ok.1 hr
  obtain ⟨r1, qa⟩ := hm s a s' h1 hp
  obtain ⟨r2, qb⟩ := hf a qa s' b s'' h2 (h.keep hp r1)
  exact ⟨h.trans hp r1 r2, qb⟩

theorem get_bind {Q : β → Prop} {f : CState → CM β} (h : ∀ st, P st → Sat P R Q (f st)) :
    Sat P R Q (get >>= f) :=
  fun s b s' hr hp => h s hp s b s' hr hp

theorem and_val {Q : α → Prop} {m : CM α} (hm : Sat P R (fun _ => True) m)
    (hv : ∀ s a s', m s = .ok (a, s') → Q a) : Sat P R Q m :=
  fun s a s' hr hp => ⟨(hm s a s' hr hp).1, hv s a s' hr⟩

theorem modify {f : CState → CState} (hf : ∀ s, P s → R s (f s)) :
    Sat P R (fun _ => True) (modify f : CM Unit) := by
  intro s b s' hr hp
  obtain ⟨_, rfl⟩ := Prod.mk.inj (Except.ok.inj hr)
  exact ⟨hf s hp, trivial⟩

theorem weaken {Q Q' : α → Prop} {m : CM α} (hm : Sat P R Q m) (h : ∀ a, Q a → Q' a) : Sat P R Q' m :=
  fun s a s' hr hp => ⟨(hm s a s' hr hp).1, h a (hm s a s' hr hp).2⟩

end Sat

theorem Sat.emitBytes {P : CState → Prop} {R : CState → CState → Prop} (h : Stable P R) :
    ∀ {bytes : List UInt8}, (∀ b ∈ bytes, Sat P R (fun _ => True) (emitBytes [b])) →
      Sat P R (fun _ => True) (Compiler.emitBytes bytes)
  | [], _ => .pure h trivial
  | b :: _, hb => .bind h (hb b (List.mem_cons_self ..)) fun _ _ =>
      Sat.emitBytes h fun b' hb' => hb b' (List.mem_cons_of_mem _ hb')

theorem Sat.throw {α : Type} {P : CState → Prop} {R : CState → CState → Prop} {Q : α → Prop} {e : CErr} :
    Sat P R Q (MonadExcept.throw e : CM α) := fun _ _ _ hr => nomatch hr

theorem Sat.fail {α : Type} {P : CState → Prop} {R : CState → CState → Prop} {Q : α → Prop} {e : CErrKind} :
    Sat P R Q (Compiler.fail e : CM α) := fun _ _ _ hr => nomatch hr

theorem Sat.throw_bind {α β : Type} {P : CState → Prop} {R : CState → CState → Prop} {Q : β → Prop} {e : CErr}
    {f : α → CM β} : Sat P R Q ((MonadExcept.throw e : CM α) >>= f) := fun _ _ _ hr => by cases hr

theorem Sat.fail_bind {α β : Type} {P : CState → Prop} {R : CState → CState → Prop} {Q : β → Prop}
    {e : CErrKind} {f : α → CM β} : Sat P R Q ((Compiler.fail e : CM α) >>= f) := fun _ _ _ hr => by cases hr

/-! ## opcode classes -/

def isJump (o : UInt8) : Bool := o == op.goto || o == op.gotoIfTrue || o == op.gotoIfFalse
def isStr (o : UInt8) : Bool := o == op.stringLiteral || o == op.nativeFunctionPointer
def isSlot (o : UInt8) : Bool :=
  o == op.setLocalVar || o == op.readLocalVar || o == op.setUpvalue || o == op.readUpvalue
def isGlob (o : UInt8) : Bool := o == op.setGlobalVar || o == op.readGlobalVar
def isEach (o : UInt8) : Bool := o == op.beginForEach || o == op.forEach
def isFnp (o : UInt8) : Bool := o == op.functionPointer
def isClos (o : UInt8) : Bool := o == op.closure
def isReg (o : UInt8) : Bool := o == op.registerUpvalue

/-- opcodes whose operands `Bytecode.wfReason` checks -/
def constrained (o : UInt8) : Bool :=
  isJump o || isStr o || isFnp o || isClos o || isSlot o || isGlob o || isEach o || isReg o

theorem simple_unOp (u : UnKind) :
    Gen.spanOf (unOp u) = some 1 ∧ constrained (unOp u) = false ∧ unOp u ≠ op.copyLast := by
  cases u <;> decide

theorem simple_binOp (b : BinKind) :
    Gen.spanOf (binOp b) = some 1 ∧ constrained (binOp b) = false ∧ binOp b ≠ op.copyLast := by
  cases b <;> decide

theorem emitBytes_append_bind {β : Type} (a b : List UInt8) (g : Unit → CM β) :
    (emitBytes a >>= fun _ => emitBytes b >>= g) = (emitBytes (a ++ b) >>= g) := by
  funext s
  show g () _ = g () _
  simp only [List.foldl_append]

/-- the tail of `setGlobalVarCode`: one instruction, with the lookup of its operand in the middle -/
def setGlobalTail (name : String) : CM Unit := do
  pushInstr op.setGlobalVar
  if name.isEmpty then fail .emptyVariable
  let id ← globalId name
  emitU32 id

/-! ## the bookkeeping of the compiler state

`Shape`: the fields of the compiler state that `process_card` brackets: what it pushes, opens or enters it
pops, closes or leaves again (of the lists of locals and of upvalues, one per function being compiled, only
the number). -/

structure Shape where
  curIndices : List Nat
  functionId : Nat
  scopeDepth : List Int
  nLocals : Nat
  nUpvalues : Nat

def shape (s : CState) : Shape :=
  { curIndices := s.curIndices, functionId := s.functionId, scopeDepth := s.scopeDepth,
    nLocals := s.locals.length, nUpvalues := s.upvalues.length }

instance : Inhabited Shape := ⟨⟨[], 0, [], 0, 0⟩⟩

abbrev Shape.push (p : Shape) (i : Nat) : Shape := { p with curIndices := p.curIndices ++ [i] }
abbrev Shape.pop (p : Shape) : Shape := { p with curIndices := p.curIndices.dropLast }
abbrev Shape.up (p : Shape) : Shape := { p with scopeDepth := depthUp p.scopeDepth }

theorem Shape.pop_push (p : Shape) (i : Nat) : (p.push i).pop = p := by
  simp only [Shape.pop, List.dropLast_concat]

/-- the card path after `processFunctionCards ic cs`: each card takes the place of the last index -/
def cardsPath (l : List Nat) : Nat → List Card → List Nat
  | _, [] => l
  | ic, _ :: cs => cardsPath (l.dropLast ++ [ic]) (ic + 1) cs

/-- for a family `T` of triples as in `CodeLogic` below: code that keeps the shape and is correct at every admissible
one, from every frozen prefix, whatever the known positions: the code of a child card -/
abbrev Block (A : Shape → Prop)
    (T : {α : Type} → Shape → Shape → Nat → (Nat → Prop) → (α → Prop) → CM α → Prop) (m : CM Unit) : Prop :=
  ∀ p k K, A p → T p p k K (fun _ => True) m

/-- A logic of compiler code.  `T p q k K Q m` speaks of the action `m` between the shapes `p` and `q` of the
bookkeeping, relative to a frozen prefix of `k` bytes of bytecode and a set `K` of positions in it that code
may jump back to; `Q` holds of the result.  `A` says at which shapes a local may be declared; it does not
look at the card path and survives `scope_begin`.  A logic that says nothing about the bookkeeping ignores
`p`, `q` and takes `A` to be `True`.
After `A_path`, `A_up` come the structural rules (`get_bind`: the continuation may jump back to the position
`get` saw), then the primitives of `process_card`: bookkeeping, whole instructions (an
opcode and its operands are emitted by separate actions, hence the rules for two-action units),
variable resolution, back-patched blocks (`encodeIfThen`), and two arms taken whole: `ifElseCode` (two
back-patched jumps) and `closureCode` (a back-patched jump around a body compiled in its own context).
`K` is read by `trLogic` and `jLogic` only, `k` by these and `runsLogic`. -/
structure CodeLogic (A : Shape → Prop)
    (T : {α : Type} → Shape → Shape → Nat → (Nat → Prop) → (α → Prop) → CM α → Prop) : Prop where
  A_path : ∀ {p : Shape} (l : List Nat), A p → A { p with curIndices := l }
  A_up : ∀ {p : Shape}, A p → A p.up
  pure : ∀ {α : Type} {p : Shape} {k : Nat} {K : Nat → Prop} {Q : α → Prop} {a : α}, Q a → T p p k K Q (pure a)
  bind : ∀ {α β : Type} {p q r : Shape} {k : Nat} {K : Nat → Prop} {Q : α → Prop} {Q' : β → Prop} {m : CM α}
    {f : α → CM β}, T p q k K Q m → (∀ a, Q a → T q r k K Q' (f a)) → T p r k K Q' (m >>= f)
  get_bind : ∀ {β : Type} {p q : Shape} {k : Nat} {K : Nat → Prop} {Q : β → Prop} {f : CState → CM β},
    (∀ st, T p q st.bytecode.size (fun t => K t ∨ t = st.bytecode.size) Q (f st)) → T p q k K Q (get >>= f)
  pushSub : ∀ {p : Shape} {k : Nat} {K : Nat → Prop} (i : Nat), T p (p.push i) k K (fun _ => True) (pushSub i)
  popSub : ∀ {p : Shape} {k : Nat} {K : Nat → Prop}, T p p.pop k K (fun _ => True) popSub
  scopeBegin : ∀ {p : Shape} {k : Nat} {K : Nat → Prop}, T p p.up k K (fun _ => True) scopeBegin
  scopeEnd : ∀ {p : Shape} {k : Nat} {K : Nat → Prop}, T p.up p k K (fun _ => True) scopeEnd
  cardLabel : ∀ {p : Shape} {k : Nat} {K : Nat → Prop}, T p p k K (fun _ => True) cardLabel
  addLocalUnchecked : ∀ {p : Shape} {k : Nat} {K : Nat → Prop} (n : String), A p →
    T p p k K (· < 255) (addLocalUnchecked n)
  addLocal : ∀ {p : Shape} {k : Nat} {K : Nat → Prop} (n : String), A p → T p p k K (· < 255) (addLocal n)
  -- `CopyLast` is excluded: the compiler emits it only in the tail of a closure expression
  -- (`CopyLast; RegisterUpvalue` pairs), where the upvalue logic has a rule of its own for it
  instr : ∀ {p : Shape} {k : Nat} {K : Nat → Prop} {o : UInt8} {bs : List UInt8},
    Gen.spanOf o = some (bs.length + 1) → constrained o = false → o ≠ op.copyLast →
    T p p k K (fun _ => True) (pushInstr o >>= fun _ => emitBytes bs)
  readLocalVar : ∀ {p : Shape} {k : Nat} {K : Nat → Prop} {i : Nat}, i < 255 →
    T p p k K (fun _ => True) (readLocalVar i)
  writeLocalVar : ∀ {p : Shape} {k : Nat} {K : Nat → Prop} {i : Nat}, i < 255 →
    T p p k K (fun _ => True) (writeLocalVar i)
  jump : ∀ {p : Shape} {k : Nat} {K : Nat → Prop} {o : UInt8} {t : Nat}, isJump o = true → K t →
    T p p k K (fun _ => True) (pushInstr o >>= fun _ => emitU32 t)
  str : ∀ {p : Shape} {k : Nat} {K : Nat → Prop} {o : UInt8}, isStr o = true → ∀ s,
    T p p k K (fun _ => True) (pushInstr o >>= fun _ => pushStr s)
  fnp : ∀ {p : Shape} {k : Nat} {K : Nat → Prop} (name : String),
    T p p k K (fun _ => True) (pushInstr op.functionPointer >>= fun _ => encodeJump name)
  each : ∀ {p : Shape} {k : Nat} {K : Nat → Prop} {o : UInt8} {a b c d e : Nat},
    isEach o = true → a < 255 → b < 255 → c < 255 → d < 255 → e < 255 →
    T p p k K (fun _ => True) (pushInstr o >>= fun _ => emitBytes (le32 (UInt32.ofNat a) ++ (le32 (UInt32.ofNat b) ++
      (le32 (UInt32.ofNat c) ++ (le32 (UInt32.ofNat d) ++ le32 (UInt32.ofNat e))))))
  setGlobalTail : ∀ {p : Shape} {k : Nat} {K : Nat → Prop} (name : String),
    T p p k K (fun _ => True) (setGlobalTail name)
  readVarCard : ∀ {p : Shape} {k : Nat} {K : Nat → Prop} (x : String), T p p k K (fun _ => True) (readVarCard x)
  setVarTarget : ∀ {p : Shape} {k : Nat} {K : Nat → Prop} (x : String), A p →
    T p p k K (fun _ => True) (setVarTarget x)
  encodeIfThen : ∀ {p : Shape} {k : Nat} {K : Nat → Prop} {skip : UInt8} {m : CM Unit}, isJump skip = true →
    (∀ k', k ≤ k' → T p p k' K (fun _ => True) m) → T p p k K (fun _ => True) (encodeIfThen skip m)
  ifElseCode : ∀ {p : Shape} {k : Nat} {K : Nat → Prop} {c t e : CM Unit}, A p →
    Block A T c → Block A T t → Block A T e → T p p k K (fun _ => True) (ifElseCode c t e)
  closureCode : ∀ {p : Shape} {k : Nat} {K : Nat → Prop} {args : List String} {b : CM Unit}, A p →
    Block A T b → T p p k K (fun _ => True) (closureCode args b)

namespace CodeLogic
variable {A : Shape → Prop} {T : {α : Type} → Shape → Shape → Nat → (Nat → Prop) → (α → Prop) → CM α → Prop}
  (L : CodeLogic A T) {p : Shape} {k : Nat} {K : Nat → Prop}
include L

theorem seq {β : Type} {q r : Shape} {Q : β → Prop} {m : CM Unit} {n : CM β} (hm : T p q k K (fun _ => True) m)
    (hn : T q r k K Q n) : T p r k K Q (m >>= fun _ => n) := L.bind hm fun _ _ => hn

theorem unit_bind {β γ : Type} {q r : Shape} {Q : β → Prop} {Q' : γ → Prop} {m : CM Unit} {f : Unit → CM β}
    {g : β → CM γ} (hu : T p q k K Q (m >>= f)) (hg : ∀ b, Q b → T q r k K Q' (g b)) :
    T p r k K Q' (m >>= fun a => f a >>= g) :=
  bind_assoc m f g ▸ L.bind hu hg

/-- the five slot operands of `BeginForEach` / `ForEach` are emitted one by one -/
theorem each_bind {β : Type} {q : Shape} {Q : β → Prop} {o : UInt8} {a b c d e : Nat} {g : Unit → CM β}
    (ho : isEach o = true) (ha : a < 255) (hb : b < 255) (hc : c < 255) (hd : d < 255) (he : e < 255)
    (hg : T p q k K Q (g ())) :
    T p q k K Q (pushInstr o >>= fun _ => emitU32 a >>= fun _ => emitU32 b >>= fun _ => emitU32 c >>= fun _ =>
      emitU32 d >>= fun _ => emitU32 e >>= g) := by
  simp only [emitU32, emitBytes_append_bind]
  exact L.unit_bind (L.each ho ha hb hc hd he) fun _ _ => hg

theorem instr0 {o : UInt8} (h1 : Gen.spanOf o = some 1) (h2 : constrained o = false) (h3 : o ≠ op.copyLast) :
    T p p k K (fun _ => True) (pushInstr o) :=
  L.instr (bs := []) h1 h2 h3

theorem popSub' {i : Nat} : T (p.push i) p k K (fun _ => True) Compiler.popSub := by
  have h := L.popSub (p := p.push i) (k := k) (K := K)
  rwa [Shape.pop_push] at h

theorem withSub {i : Nat} {m : CM Unit} (hm : T (p.push i) (p.push i) k K (fun _ => True) m) :
    T p p k K (fun _ => True) (withSub i m) :=
  L.seq (L.pushSub i) <| L.seq hm L.popSub'

theorem processScalarInt (i : Int64) : T p p k K (fun _ => True) (processScalarInt i) :=
  L.seq L.cardLabel <| L.instr (by rw [Bytecode.le64_length]; decide) (by decide) (by decide)

theorem addLocals (hA : A p) : ∀ ps, T p p k K (fun _ => True) (addLocals ps)
  | [] => L.pure trivial
  | x :: ps => L.bind (L.addLocal x hA) fun _ _ => addLocals hA ps

theorem bindLoopVar (hA : A p) (n : Option String) {src : Nat} (h : src < 255) :
    T p p k K (fun _ => True) (bindLoopVar n src) := by
  unfold Compiler.bindLoopVar
  split
  · exact L.bind (L.addLocal _ hA) fun _ hx => L.seq (L.readLocalVar h) (L.writeLocalVar hx)
  · exact L.pure trivial

theorem forEachCode (hA : A p) {i kk v : Option String} {it body : CM Unit} (h1 : Block A T it)
    (h2 : Block A T body) : T p p k K (fun _ => True) (forEachCode i kk v it body) :=
  have hU := L.A_up hA
  have hUU := L.A_up hU
  L.seq (L.withSub (h1 _ _ _ (L.A_path _ hA))) <| L.seq L.scopeBegin <|
  L.bind (L.addLocalUnchecked _ hU) fun _ hv => L.bind (L.addLocalUnchecked _ hU) fun _ hi =>
  L.bind (L.addLocalUnchecked _ hU) fun _ hvi => L.bind (L.addLocalUnchecked _ hU) fun _ hki =>
  L.bind (L.addLocalUnchecked _ hU) fun _ hii =>
  L.each_bind (by decide) hv hi hii hki hvi <| L.get_bind fun _ =>
  L.each_bind (by decide) hv hi hii hki hvi <|
  L.seq (L.encodeIfThen (by decide) fun _ _ => L.seq L.scopeBegin <|
    L.seq (L.bindLoopVar hUU _ hvi) <| L.seq (L.bindLoopVar hUU _ hki) <| L.seq (L.bindLoopVar hUU _ hii) <|
    L.seq (L.withSub (h2 _ _ _ (L.A_path _ hUU))) <| L.seq L.scopeEnd <| L.jump (by decide) (.inr rfl)) L.scopeEnd

theorem whileCode (hA : A p) {c b : CM Unit} (h1 : Block A T c) (h2 : Block A T b) :
    T p p k K (fun _ => True) (whileCode c b) :=
  L.get_bind fun _ => L.seq (L.withSub (h1 _ _ _ (L.A_path _ hA))) <| L.seq (L.pushSub 1) <|
  L.seq (L.encodeIfThen (by decide) fun _ _ =>
    L.seq L.scopeBegin <| L.seq (h2 _ _ _ (L.A_up (L.A_path _ hA))) <| L.seq L.scopeEnd <|
      L.jump (by decide) (.inr rfl)) L.popSub'

theorem repeatCode (hA : A p) {i : Option String} {n b : CM Unit} (h1 : Block A T n) (h2 : Block A T b) :
    T p p k K (fun _ => True) (repeatCode i n b) :=
  have hU := L.A_up hA
  have hUU := L.A_up hU
  L.seq (L.withSub (h1 _ _ _ (L.A_path _ hA))) <| L.seq L.scopeBegin <|
  L.bind (L.addLocalUnchecked _ hU) fun _ hn => L.bind (L.addLocalUnchecked _ hU) fun _ hc =>
  L.seq (L.writeLocalVar hn) <| L.seq (L.processScalarInt 0) <| L.seq (L.writeLocalVar hc) <|
  L.get_bind fun _ => L.seq (L.readLocalVar hc) <| L.seq (L.readLocalVar hn) <|
  L.seq (L.instr0 (by decide) (by decide) (by decide)) <|
  L.seq (L.encodeIfThen (by decide) fun _ _ => L.seq L.scopeBegin <| L.seq (L.bindLoopVar hUU _ hc) <|
    L.seq (L.withSub (h2 _ _ _ (L.A_path _ hUU))) <| L.seq L.scopeEnd <| L.seq (L.processScalarInt 1) <|
    L.seq (L.readLocalVar hc) <| L.seq (L.instr0 (by decide) (by decide) (by decide)) <|
    L.seq (L.writeLocalVar hc) <| L.jump (by decide) (.inr rfl)) L.scopeEnd

theorem setVarCode (hA : A p) {n : String} {v : CM Unit} (h : Block A T v) :
    T p p k K (fun _ => True) (setVarCode n v) :=
  L.seq (L.withSub (h _ _ _ (L.A_path _ hA))) (L.setVarTarget n hA)

theorem setGlobalVarCode (hA : A p) {n : String} {v : CM Unit} (h : Block A T v) :
    T p p k K (fun _ => True) (setGlobalVarCode n v) :=
  L.seq (L.withSub (h _ _ _ (L.A_path _ hA))) (L.setGlobalTail n)

theorem ifCode (hA : A p) {skip : UInt8} (hs : isJump skip = true) {c b : CM Unit} (h1 : Block A T c)
    (h2 : Block A T b) : T p p k K (fun _ => True) (ifCode skip c b) :=
  L.seq (L.withSub (h1 _ _ _ (L.A_path _ hA))) <| L.seq (L.pushSub 1) <|
  L.seq (L.encodeIfThen hs fun _ _ => h2 _ _ _ (L.A_path _ hA)) L.popSub'

theorem callCode (hA : A p) {n : String} {a : CM Unit} (h : Block A T a) :
    T p p k K (fun _ => True) (callCode n a) :=
  L.seq (h _ _ _ hA) <| L.unit_bind (L.fnp n) fun _ _ => L.instr0 (by decide) (by decide) (by decide)

theorem callNativeCode (hA : A p) {n : String} {a : CM Unit} (h : Block A T a) :
    T p p k K (fun _ => True) (callNativeCode n a) :=
  L.seq (h _ _ _ hA) <| L.instr (by rw [Bytecode.le32_length]; decide) (by decide) (by decide)

theorem arrayCode (hA : A p) {items : Nat → CM Unit} (h : ∀ tv, tv < 255 → Block A T (items tv)) :
    T p p k K (fun _ => True) (arrayCode items) :=
  L.seq (L.instr0 (by decide) (by decide) (by decide)) <| L.bind (L.addLocalUnchecked _ hA) fun tv htv =>
  L.seq (L.writeLocalVar htv) <| L.seq (h tv htv _ _ _ hA) (L.readLocalVar htv)

theorem unCode (hA : A p) {u : UnKind} {c : CM Unit} (h : Block A T c) : T p p k K (fun _ => True) (unCode u c) :=
  L.seq (L.withSub (h _ _ _ (L.A_path _ hA))) <| L.instr0 (simple_unOp u).1 (simple_unOp u).2.1 (simple_unOp u).2.2

theorem binCode (hA : A p) {bk : BinKind} {a b : CM Unit} (h1 : Block A T a) (h2 : Block A T b) :
    T p p k K (fun _ => True) (binCode bk a b) := by
  unfold Compiler.binCode
  split
  · exact L.whileCode hA h1 h2
  · exact L.ifCode hA (by decide) h1 h2
  · exact L.ifCode hA (by decide) h1 h2
  · exact L.seq (L.withSub (h1 _ _ _ (L.A_path _ hA))) <| L.seq (L.withSub (h2 _ _ _ (L.A_path _ hA))) <|
      L.instr0 (simple_binOp _).1 (simple_binOp _).2.1 (simple_binOp _).2.2

theorem triCode (hA : A p) {tk : TriKind} {a b c : CM Unit} (h1 : Block A T a) (h2 : Block A T b)
    (h3 : Block A T c) : T p p k K (fun _ => True) (triCode tk a b c) := by
  unfold Compiler.triCode
  split
  · exact L.ifElseCode hA h1 h2 h3
  · exact L.seq (L.withSub (h1 _ _ _ (L.A_path _ hA))) <| L.seq (L.withSub (h2 _ _ _ (L.A_path _ hA))) <|
      L.seq (L.withSub (h3 _ _ _ (L.A_path _ hA))) <| L.instr0 (by decide) (by decide) (by decide)

theorem dynamicCallCode (hA : A p) {a f : CM Unit} (h1 : Block A T a) (h2 : Block A T f) :
    T p p k K (fun _ => True) (dynamicCallCode a f) :=
  L.seq (h1 _ _ _ hA) <| L.seq (L.withSub (h2 _ _ _ (L.A_path _ hA))) <|
    L.instr0 (by decide) (by decide) (by decide)

omit p k K in
mutual
theorem processCard : ∀ c, Block A T (processCard c)
  | .composite _ cards, _, _, _, hA => L.seq L.cardLabel (compileSubexprFrom 0 cards _ _ _ hA)
  | .forEach _ _ _ it body, _, _, _, hA => L.seq L.cardLabel (L.forEachCode hA (processCard it) (processCard body))
  | .repeat _ n body, _, _, _, hA => L.seq L.cardLabel (L.repeatCode hA (processCard n) (processCard body))
  | .readVar v, _, _, _, _ => L.seq L.cardLabel (L.readVarCard v)
  | .setVar _ value, _, _, _, hA => L.seq L.cardLabel (L.setVarCode hA (processCard value))
  | .setGlobalVar _ value, _, _, _, hA => L.seq L.cardLabel (L.setGlobalVarCode hA (processCard value))
  | .call _ args, _, _, _, hA => L.seq L.cardLabel (L.callCode hA (compileSubexprFrom 0 args))
  | .stringLiteral s, _, _, _, _ => L.seq L.cardLabel (L.str (by decide) s)
  | .callNative _ args, _, _, _, hA => L.seq L.cardLabel (L.callNativeCode hA (compileSubexprFrom 0 args))
  | .scalarInt _, _, _, _, _ =>
    L.seq L.cardLabel (L.instr (by rw [Bytecode.le64_length]; decide) (by decide) (by decide))
  | .scalarFloat _, _, _, _, _ =>
    L.seq L.cardLabel (L.instr (by rw [Bytecode.le64_length]; decide) (by decide) (by decide))
  | .function name, _, _, _, _ => L.seq L.cardLabel (L.fnp name)
  | .closure _ cards, _, _, _, hA => L.seq L.cardLabel (L.closureCode hA (compileSubexprFrom 0 cards))
  | .nativeFunction name, _, _, _, _ => L.seq L.cardLabel (L.str (by decide) name)
  | .array cards, _, _, _, hA => L.seq L.cardLabel (L.arrayCode hA fun tv h => processArrayItems tv 0 cards h)
  | .un _ c, _, _, _, hA => L.seq L.cardLabel (L.unCode hA (processCard c))
  | .bin _ a b, _, _, _, hA => L.seq L.cardLabel (L.binCode hA (processCard a) (processCard b))
  | .tri _ a b c, _, _, _, hA => L.seq L.cardLabel (L.triCode hA (processCard a) (processCard b) (processCard c))
  | .dynamicCall args f, _, _, _, hA =>
    L.seq L.cardLabel (L.dynamicCallCode hA (compileSubexprFrom 1 args) (processCard f))
  | .scalarNil, _, _, _, _ => L.seq L.cardLabel (L.instr0 (by decide) (by decide) (by decide))
  | .abort, _, _, _, _ => L.seq L.cardLabel (L.instr0 (by decide) (by decide) (by decide))
  | .createTable, _, _, _, _ => L.seq L.cardLabel (L.instr0 (by decide) (by decide) (by decide))
  | .comment _, _, _, _, _ => L.seq L.cardLabel (L.pure trivial)
theorem compileSubexprFrom : ∀ i cs, Block A T (compileSubexprFrom i cs)
  | _, [], _, _, _, _ => L.pure trivial
  | i, c :: cs, _, _, _, hA =>
    L.seq (L.withSub (processCard c _ _ _ (L.A_path _ hA))) (compileSubexprFrom (i + 1) cs _ _ _ hA)
theorem processArrayItems (tv : Nat) : ∀ i cs, tv < 255 → Block A T (processArrayItems tv i cs)
  | _, [], _, _, _, _, _ => L.pure trivial
  | i, c :: cs, h, _, _, _, hA => L.seq (L.instr0 (by decide) (by decide) (by decide)) <|
      L.seq (L.withSub (processCard c _ _ _ (L.A_path _ hA))) <| L.seq (L.readLocalVar h) <|
      L.seq (L.instr0 (by decide) (by decide) (by decide)) (processArrayItems tv (i + 1) cs h _ _ _ hA)
end

omit p k K in
/-- the top-level cards of a function are not bracketed: each `popSub; pushSub ic` moves the path on -/
theorem processFunctionCards : ∀ ic cs p k K, A p →
    T p { p with curIndices := cardsPath p.curIndices ic cs } k K (fun _ => True) (processFunctionCards ic cs)
  | _, [], _, _, _, _ => L.pure trivial
  | ic, c :: cs, p, _, _, hA =>
    have hA' : A (p.pop.push ic) := L.A_path (p := p) _ hA
    L.seq L.popSub <| L.seq (L.pushSub ic) <| L.seq (L.processCard c _ _ _ hA')
      (processFunctionCards (ic + 1) cs _ _ _ hA')

end CodeLogic
end Cao.Compiler
