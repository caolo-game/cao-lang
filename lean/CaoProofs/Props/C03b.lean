import CaoProofs.Props.C03
import CaoProofs.Lemmas.EquivarianceRun
/-!
# C03, continued: more budget changes nothing but what is left

The dispatch loop is equivariant under adding `δ` units of budget (`exec_shift`,
`Lemmas/EquivarianceRun.lean`), unless the run ends in an error that depends on the budget.

`Fatal e` (`Lemmas/VmFrame.lean`): the innermost cause of `e` is `Timeout` or the fuel panic. Both
have to be excluded: a nested `Timeout` reaches the top wrapped in `TaskFailure`s, and the fuel
`run` supplies grows with the budget, so a run that hit the fuel limit (section 4 of `Props/C03.lean`) may get
further with a larger budget. -/
namespace Cao.C03
open Cao Cao.Vm

/-- **budget monotonicity**: a run that neither timed out nor ran out of fuel (at any nesting
    depth) is reproduced exactly by every larger budget — same outcome, same final machine, except
    that the additional units are still there. (`dispatches` is part of the machine: the same
    number of instructions is executed.) -/
theorem budget_monotone (p : Prog) (n δ : Nat) (s : VmState) (h : s.frames.length < s.frameCap)
    (hnf : ∀ e, (run p n s).2 = some e → ¬ Fatal e.kind) :
    run p (n + δ) s =
      ({ (run p n s).1 with remaining := (run p n s).1.remaining + δ }, (run p n s).2) := by
  rw [run_room p n s h] at hnf ⊢
  rw [run_room p (n + δ) s h]
  have hst : started (n + δ) s = (started n s).shift δ := rfl
  have hgas : gasFor (started n s) n ≤ gasFor (started (n + δ) s) (n + δ) := by
    simp only [gasFor, started]; omega
  have key := exec_shift p δ _ _ (.loop 0) (started n s) hgas (by
    intro e he
    apply hnf e
    simp only [he])
  simp only [hst] at key ⊢
  rw [key]
  rfl

/-- the same, for an arbitrary larger budget -/
theorem budget_monotone' (p : Prog) (n n' : Nat) (s : VmState) (hn : n ≤ n')
    (h : s.frames.length < s.frameCap) (hnf : ∀ e, (run p n s).2 = some e → ¬ Fatal e.kind) :
    (run p n' s).2 = (run p n s).2 ∧
    (run p n' s).1 = { (run p n s).1 with remaining := (run p n s).1.remaining + (n' - n) } := by
  obtain ⟨δ, rfl⟩ : ∃ δ, n' = n + δ := ⟨n' - n, by omega⟩
  rw [budget_monotone p n δ s h hnf]
  have : n + δ - n = δ := by omega
  simp only [this, and_self]

/-- in particular a run without error is reproduced -/
theorem budget_monotone_ok (p : Prog) (n n' : Nat) (s : VmState) (hn : n ≤ n')
    (h : s.frames.length < s.frameCap) (hok : (run p n s).2 = none) :
    (run p n' s).2 = none ∧ (run p n' s).1.dispatches = (run p n s).1.dispatches := by
  have := budget_monotone' p n n' s hn h (fun e he => by rw [hok] at he; cases he)
  rw [this.1, this.2]
  exact ⟨hok, rfl⟩

end Cao.C03
