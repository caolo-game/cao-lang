import CaoProofs.Lemmas.RunInv
/-!
# Schedule independence: the relation between two runs

`SchedEq s t`: the two machines are observationally equal (`C02.ObsEq`: same roots, same
reachable sub-heap, same next address), have the same limit, budget counters, host log and call
stack capacity, and both satisfy the accounting invariant `C05.Inv`. They may differ in garbage,
in `mem.allocated` / `mem.nextGc`, in the forced-collection schedule and in the ghost counters.
Without the invariant (`SchedCore`) it is an equivalence that relates a machine to what a collection or an
allocation makes of it.

`StepSim p`, `NatSim`: every instruction of `p` / every host function, started in `SchedEq` states
with related callbacks, gives the same result and ends in `SchedEq` states; what follows from them
is in `Lemmas/SchedEq.lean`.
-/
namespace Cao.SchedSim
open Cao Cao.Vm Cao.Gc Cao.C02 Cao.C05 Cao.RunInv

/-! ## the relation -/

/-- what two runs under different schedules have in common, except for the ledger -/
structure SchedCore (s t : VmState) : Prop where
  obs : ObsEq s t
  limit : t.mem.limit = s.mem.limit
  remaining : t.remaining = s.remaining
  dispatches : t.dispatches = s.dispatches
  hostLog : t.hostLog = s.hostLog
  frameCap : t.frameCap = s.frameCap
  uniqL : UniqueAddrs s.heap
  uniqR : UniqueAddrs t.heap
  freshL : FreshNext s.heap
  freshR : FreshNext t.heap

structure SchedEq (s t : VmState) : Prop where
  core : SchedCore s t
  invL : Inv s
  invR : Inv t

theorem SchedCore.refl {s : VmState} (hu : UniqueAddrs s.heap) (hf : FreshNext s.heap) : SchedCore s s :=
  ⟨ObsEq.refl s, rfl, rfl, rfl, rfl, rfl, hu, hu, hf, hf⟩

theorem SchedCore.symm {s t : VmState} (h : SchedCore s t) : SchedCore t s :=
  ⟨h.obs.symm, h.limit.symm, h.remaining.symm, h.dispatches.symm, h.hostLog.symm, h.frameCap.symm,
   h.uniqR, h.uniqL, h.freshR, h.freshL⟩

theorem SchedCore.trans {s t u : VmState} (h1 : SchedCore s t) (h2 : SchedCore t u) : SchedCore s u :=
  ⟨h1.obs.trans h2.obs, h2.limit.trans h1.limit, h2.remaining.trans h1.remaining,
   h2.dispatches.trans h1.dispatches, h2.hostLog.trans h1.hostLog, h2.frameCap.trans h1.frameCap,
   h1.uniqL, h2.uniqR, h1.freshL, h2.freshR⟩

theorem SchedEq.refl {s : VmState} (h : Inv s) : SchedEq s s :=
  ⟨SchedCore.refl h.unique h.fresh, h, h⟩

theorem SchedEq.symm {s t : VmState} (h : SchedEq s t) : SchedEq t s := ⟨h.core.symm, h.invR, h.invL⟩

theorem SchedEq.trans {s t u : VmState} (h1 : SchedEq s t) (h2 : SchedEq t u) : SchedEq s u :=
  ⟨h1.core.trans h2.core, h1.invL, h2.invR⟩

theorem SchedEq.obsEq {s t : VmState} (h : SchedEq s t) : ObsEq s t := h.core.obs

theorem schedEq_sched (s : VmState) (h : Inv s) (sch₁ sch₂ : Sched) (i₁ i₂ : Nat) :
    SchedEq { s with sched := sch₁, allocIndex := i₁ } { s with sched := sch₂, allocIndex := i₂ } :=
  ⟨⟨obsEq_of_same rfl rfl rfl rfl rfl rfl, rfl, rfl, rfl, rfl, rfl, h.unique, h.unique, h.fresh, h.fresh⟩,
   inv_of_same (s := s) rfl rfl h, inv_of_same (s := s) rfl rfl h⟩

def ResEq {α : Type} (r₁ r₂ : Except ErrKind α × VmState) : Prop :=
  r₂.1 = r₁.1 ∧ SchedEq r₁.2 r₂.2

theorem reach_of_mem_roots {s : VmState} {a : Nat} (h : a ∈ rootAddrs s) :
    Reach s.heap (rootAddrs s) a := Reach.root h

/-! ## the hypotheses -/

/-- the callee of a `run_function` is rooted -/
def FnOk (f : Val) (s : VmState) : Prop := ∀ a, f = .obj a → Reach s.heap (rootAddrs s) a

def ReSim (re₁ re₂ : Reenter) : Prop :=
  ∀ (f : Val) (s t : VmState), SchedEq s t → FnOk f s → ResEq ((re₁ f).go s) ((re₂ f).go t)

def StepSim (p : Prog) : Prop :=
  ∀ (re₁ re₂ : Reenter), ReSim re₁ re₂ → ∀ (src : Nat), src < p.bytecode.size →
    ∀ (s t : VmState), SchedEq s t → ResEq ((step p re₁ src).go s) ((step p re₂ src).go t)

/-- the same for instructions that never use their callback -/
def StepSimAny (p : Prog) : Prop :=
  ∀ (re₁ re₂ : Reenter) (src : Nat), src < p.bytecode.size →
    ∀ (s t : VmState), SchedEq s t → ResEq ((step p re₁ src).go s) ((step p re₂ src).go t)

def NatSim : Prop :=
  ∀ (re₁ re₂ : Reenter), ReSim re₁ re₂ → ∀ (hd : UInt32) (s t : VmState), SchedEq s t →
    ResEq ((callNative re₁ hd).go s) ((callNative re₂ hd).go t)

def ExecEq (r₁ r₂ : VmState × Except RunErr (Option Val)) : Prop :=
  r₂.2 = r₁.2 ∧ SchedEq r₁.1 r₂.1

/-- the precondition of a task: the callee of `run_function` is rooted -/
def TaskOk : Task → VmState → Prop
  | .loop _, _ => True
  | .call f, s => FnOk f s

end Cao.SchedSim
