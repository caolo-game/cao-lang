import CaoModel.OpenAddr
/-! Theory of `CaoModel/OpenAddr.lean`: cyclic distance lemmas, the representation invariant
    `Inv`, correctness of `find`, of filling an empty slot, and of backward-shift deletion. -/
namespace Cao.OA

variable {K V : Type}

@[simp] theorem upd_same (s : Slots K V) (i x) : upd s i x i = x := by simp [upd]
theorem upd_other (s : Slots K V) (i j x) (h : j ≠ i) : upd s i x j = s j := by simp [upd, h]

theorem dist_eq {cap a b : Nat} (ha : a < cap) (hb : b < cap) :
    dist cap a b = if a ≤ b then b - a else b + cap - a := by
  unfold dist
  split
  · have : b + cap - a = (b - a) + cap := by omega
    rw [this, Nat.add_mod_right, Nat.mod_eq_of_lt (by omega)]
  · rw [Nat.mod_eq_of_lt (by omega)]

theorem probe_eq {cap h n : Nat} (hh : h < cap) (hn : n < cap) :
    probe cap h n = if h + n < cap then h + n else h + n - cap := by
  unfold probe
  split
  · exact Nat.mod_eq_of_lt ‹_›
  · have : h + n = (h + n - cap) + cap := by omega
    rw [this, Nat.add_mod_right, Nat.mod_eq_of_lt (by omega)]
    omega

theorem probe_lt {cap h n : Nat} (hc : 0 < cap) : probe cap h n < cap := Nat.mod_lt _ hc
theorem dist_lt {cap a b : Nat} (hc : 0 < cap) : dist cap a b < cap := Nat.mod_lt _ hc

/-- `dist` and `probe` without the case distinction, in the form `omega` splits by itself: all the
    cyclic arithmetic below is linear arithmetic over these two facts. -/
theorem dist_spec {cap a b : Nat} (ha : a < cap) (hb : b < cap) :
    dist cap a b < cap ∧ (a + dist cap a b = b ∨ a + dist cap a b = b + cap) := by
  have := dist_eq ha hb
  split at this <;> omega

theorem probe_spec {cap h n : Nat} (hh : h < cap) (hn : n < cap) :
    probe cap h n < cap ∧ (probe cap h n = h + n ∨ probe cap h n + cap = h + n) := by
  have := probe_eq hh hn
  split at this <;> omega

theorem probe_dist {cap a b : Nat} (ha : a < cap) (hb : b < cap) :
    probe cap a (dist cap a b) = b := by
  have h1 := dist_spec ha hb
  have h2 := probe_spec ha h1.1
  omega

theorem dist_probe {cap h n : Nat} (hh : h < cap) (hn : n < cap) :
    dist cap h (probe cap h n) = n := by
  have h1 := probe_spec hh hn
  have h2 := dist_spec hh h1.1
  omega

theorem probe_add {cap a m d : Nat} (ha : a < cap) (hmd : m + d < cap) :
    probe cap a (m + d) = probe cap (probe cap a m) d := by
  have h1 := probe_spec ha (show m < cap by omega)
  have h2 := probe_spec ha hmd
  have h3 := probe_spec h1.1 (show d < cap by omega)
  omega

theorem probe_succ {cap h n : Nat} (hh : h < cap) (hn : n + 1 < cap) :
    probe cap h (n+1) = probe cap (probe cap h n) 1 := probe_add hh hn

/-- betweenness: if b is on the cyclic path from a to c then distances add up -/
theorem dist_add {cap a b c : Nat} (ha : a < cap) (hb : b < cap) (hc : c < cap)
    (h : dist cap a b ≤ dist cap a c) : dist cap a c = dist cap a b + dist cap b c := by
  have h1 := dist_spec ha hb
  have h2 := dist_spec ha hc
  have h3 := dist_spec hb hc
  omega

theorem dist_add' {cap a b c : Nat} (ha : a < cap) (hb : b < cap) (hc : c < cap)
    (h : dist cap b c ≤ dist cap a c) : dist cap a c = dist cap a b + dist cap b c := by
  have h1 := dist_spec ha hb
  have h2 := dist_spec ha hc
  have h3 := dist_spec hb hc
  omega

theorem dist_step {cap a j : Nat} (ha : a < cap) (hj : j < cap) (h : dist cap a j + 1 < cap) :
    dist cap a (probe cap j 1) = dist cap a j + 1 := by
  have h1 := dist_spec ha hj
  have h2 := probe_spec hj (show 1 < cap by omega)
  have h3 := dist_spec ha h2.1
  omega

theorem dist_pred {cap j e : Nat} (hj : j < cap) (he : e < cap) (hne : j ≠ e) :
    dist cap (probe cap j 1) e + 1 = dist cap j e := by
  by_cases hc1 : cap = 1
  · omega
  have h2 := probe_spec hj (show 1 < cap by omega)
  have h1 := dist_spec hj he
  have h3 := dist_spec h2.1 he
  omega

theorem dist_self {cap a : Nat} (ha : a < cap) : dist cap a a = 0 := by
  have := dist_spec ha ha; omega

theorem dist_inj {cap a b c : Nat} (ha : a < cap) (hb : b < cap) (hc : c < cap)
    (h : dist cap a b = dist cap a c) : b = c := by
  have h1 := dist_spec ha hb
  have h2 := dist_spec ha hc
  omega

theorem dist_eq_zero {cap a b : Nat} (ha : a < cap) (hb : b < cap) (h : dist cap a b = 0) : a = b :=
  dist_inj ha ha hb ((dist_self ha).trans h.symm)

/-! ### table, invariant, find -/

variable [DecidableEq K]

def occ (s : Slots K V) (i : Nat) : Prop := (s i).isSome = true

structure Inv (cap : Nat) (home : K → Nat) (s : Slots K V) : Prop where
  capPos : 0 < cap
  homeLt : ∀ k, home k < cap
  /-- every earlier probe position of a stored key is occupied -/
  path : ∀ i < cap, ∀ k v, s i = some (k, v) → ∀ m < dist cap (home k) i, occ s (probe cap (home k) m)
  distinct : ∀ i < cap, ∀ j < cap, ∀ k v w, s i = some (k, v) → s j = some (k, w) → i = j
  hasEmpty : ∃ e < cap, s e = none

theorem findFrom_stop (cap : Nat) (s : Slots K V) (h : Nat) (k : K) (n0 : Nat) :
    ∀ (d n fuel : Nat), n + d = n0 → d < fuel →
      (s (probe cap h n0) = none ∨ ∃ v, s (probe cap h n0) = some (k, v)) →
      (∀ m, n ≤ m → m < n0 → ∃ k' v', s (probe cap h m) = some (k', v') ∧ k' ≠ k) →
      findFrom cap s h k n fuel = some (probe cap h n0) := by
  intro d
  induction d with
  | zero =>
    intro n fuel hn hf hs _
    obtain ⟨f, rfl⟩ : ∃ f, fuel = f + 1 := ⟨fuel - 1, by omega⟩
    have : n = n0 := by omega
    subst this
    rcases hs with hs | ⟨v, hs⟩ <;> simp [findFrom, hs]
  | succ d ih =>
    intro n fuel hn hf hs hocc
    obtain ⟨f, rfl⟩ : ∃ f, fuel = f + 1 := ⟨fuel - 1, by omega⟩
    obtain ⟨k', v', hk', hne⟩ := hocc n (Nat.le_refl _) (by omega)
    simp only [findFrom, hk']
    rw [if_neg hne]
    exact ih (n+1) f (by omega) (by omega) hs (fun m h1 h2 => hocc m (by omega) h2)

def Mem (cap : Nat) (s : Slots K V) (k : K) (v : V) : Prop := ∃ i < cap, s i = some (k, v)

theorem find_mem {cap : Nat} {home : K → Nat} {s : Slots K V} (inv : Inv cap home s)
    {i : Nat} (hi : i < cap) {k : K} {v : V} (hs : s i = some (k, v)) :
    find cap home s k = some i := by
  have hh := inv.homeLt k
  have hpd := probe_dist hh hi
  have hdl : dist cap (home k) i < cap := dist_lt inv.capPos
  unfold find
  have := findFrom_stop cap s (home k) k (dist cap (home k) i) (dist cap (home k) i) 0 cap
    (by omega) hdl (by rw [hpd]; exact Or.inr ⟨v, hs⟩)
    (by
      intro m _ hm
      have hocc := inv.path i hi k v hs m hm
      unfold occ at hocc
      cases hsm : s (probe cap (home k) m) with
      | none => simp [hsm] at hocc
      | some kv =>
        obtain ⟨k', v'⟩ := kv
        refine ⟨k', v', rfl, ?_⟩
        intro hk; subst hk
        have hpl : probe cap (home k') m < cap := probe_lt inv.capPos
        have := inv.distinct _ hpl i hi k' v' v hsm hs
        have hdp := dist_probe hh (show m < cap by omega)
        rw [this] at hdp
        omega)
  rw [this, hpd]

omit [DecidableEq K] in
theorem occ_iff {s : Slots K V} {i : Nat} : occ s i ↔ ∃ k v, s i = some (k, v) := by
  unfold occ
  cases h : s i with
  | none => simp
  | some kv => obtain ⟨k, v⟩ := kv; simp

omit [DecidableEq K] in
theorem not_occ_iff {s : Slots K V} {i : Nat} : ¬ occ s i ↔ s i = none := by
  unfold occ
  cases h : s i <;> simp

omit [DecidableEq K] in
theorem first_empty (cap : Nat) (s : Slots K V) (h : Nat) :
    ∀ n0, s (probe cap h n0) = none →
      ∃ n ≤ n0, s (probe cap h n) = none ∧ ∀ m < n, occ s (probe cap h m) := by
  intro n0
  induction n0 using Nat.strongRecOn with
  | _ n0 ih =>
    intro hn0
    by_cases hall : ∀ m < n0, occ s (probe cap h m)
    · exact ⟨n0, Nat.le_refl _, hn0, hall⟩
    · obtain ⟨m, hm⟩ := Classical.not_forall.1 hall
      obtain ⟨hm, hno⟩ := Classical.not_imp.1 hm
      obtain ⟨n, hn, h1, h2⟩ := ih m hm (not_occ_iff.mp hno)
      exact ⟨n, by omega, h1, h2⟩

theorem find_absent {cap : Nat} {home : K → Nat} {s : Slots K V} (inv : Inv cap home s)
    {k : K} (hk : ∀ v, ¬ Mem cap s k v) :
    ∃ i < cap, find cap home s k = some i ∧ s i = none ∧
      ∀ m < dist cap (home k) i, occ s (probe cap (home k) m) := by
  obtain ⟨e, he, hse⟩ := inv.hasEmpty
  have hh := inv.homeLt k
  have hde : dist cap (home k) e < cap := dist_lt inv.capPos
  obtain ⟨n, hn, hsn, hocc⟩ := first_empty cap s (home k) (dist cap (home k) e)
    (by rw [probe_dist hh he]; exact hse)
  have hnl : n < cap := by omega
  refine ⟨probe cap (home k) n, probe_lt inv.capPos, ?_, hsn, ?_⟩
  · unfold find
    apply findFrom_stop cap s (home k) k n n 0 cap (by omega) hnl (Or.inl hsn)
    intro m _ hm
    obtain ⟨k', v', hkv⟩ := occ_iff.mp (hocc m hm)
    refine ⟨k', v', hkv, ?_⟩
    intro hkk; subst hkk
    exact hk v' ⟨_, probe_lt inv.capPos, hkv⟩
  · rw [dist_probe hh hnl]; exact hocc

/-! ### insert -/

theorem occ_upd_some {s : Slots K V} {i j : Nat} {kv : K × V} (h : occ s j) :
    occ (upd s i (some kv)) j := by
  unfold occ upd
  split
  · rfl
  · exact h

theorem insert_new_inv {cap : Nat} {home : K → Nat} {s : Slots K V} (inv : Inv cap home s)
    {k : K} {v : V} {i : Nat} (hi : i < cap) (hsi : s i = none)
    (hk : ∀ w, ¬ Mem cap s k w)
    (hpath : ∀ m < dist cap (home k) i, occ s (probe cap (home k) m))
    (hrest : ∃ e < cap, e ≠ i ∧ s e = none) :
    Inv cap home (upd s i (some (k, v))) where
  capPos := inv.capPos
  homeLt := inv.homeLt
  path := by
    intro j hj k' v' hs m hm
    by_cases hji : j = i
    · subst hji
      simp at hs
      obtain ⟨rfl, rfl⟩ := hs
      exact occ_upd_some (hpath m hm)
    · rw [upd_other _ _ _ _ hji] at hs
      exact occ_upd_some (inv.path j hj k' v' hs m hm)
  distinct := by
    intro a ha b hb k' v' w' hsa hsb
    by_cases hai : a = i <;> by_cases hbi : b = i
    · omega
    · subst hai
      simp at hsa
      rw [upd_other _ _ _ _ hbi] at hsb
      exact absurd ⟨b, hb, hsa.1 ▸ hsb⟩ (hk w')
    · subst hbi
      simp at hsb
      rw [upd_other _ _ _ _ hai] at hsa
      exact absurd ⟨a, ha, hsb.1 ▸ hsa⟩ (hk v')
    · rw [upd_other _ _ _ _ hai] at hsa
      rw [upd_other _ _ _ _ hbi] at hsb
      exact inv.distinct a ha b hb k' v' w' hsa hsb
  hasEmpty := by
    obtain ⟨e, he, hne, hse⟩ := hrest
    exact ⟨e, he, by rw [upd_other _ _ _ _ hne]; exact hse⟩

/-! ### backward-shift deletion -/

/-- Loop invariant of `shift cap home s hole j fuel`: `s` satisfies `Inv` except that the probe
    path of a stored key may pass through the empty slot `hole` (`pathH`). The scan does not know
    where it will stop; the proof names a ghost empty slot `e` strictly ahead of the scan position
    `j`, seen from the hole (`ahead`). A move only exchanges `hole` and `j+1`, both before `e`, so
    `e` stays empty, the scan stops at `e` at the latest, and `dist j e ≤ fuel` is the measure of
    `shift_inv`. `needAhead`: an element whose path crosses the hole has not been scanned yet;
    hence when the scan stops at an empty `j+1` there is no such element and `pathH` is `Inv.path`
    (`LI_done`). -/
structure LI (cap : Nat) (home : K → Nat) (s : Slots K V) (hole j e : Nat) : Prop where
  capPos : 0 < cap
  homeLt : ∀ k, home k < cap
  holeLt : hole < cap
  jLt : j < cap
  eLt : e < cap
  holeEmpty : s hole = none
  eEmpty : s e = none
  ahead : dist cap hole j < dist cap hole e
  pathH : ∀ x < cap, ∀ k v, s x = some (k, v) → ∀ m < dist cap (home k) x,
            probe cap (home k) m = hole ∨ occ s (probe cap (home k) m)
  needAhead : ∀ x < cap, ∀ k v, s x = some (k, v) →
            dist cap (home k) hole < dist cap (home k) x → dist cap hole j < dist cap hole x
  distinct : ∀ a < cap, ∀ b < cap, ∀ k v w, s a = some (k, v) → s b = some (k, w) → a = b

theorem LI_done {cap : Nat} {home : K → Nat} {s : Slots K V} {hole j e : Nat}
    (li : LI cap home s hole j e) (hstop : s (probe cap j 1) = none) : Inv cap home s where
  capPos := li.capPos
  homeLt := li.homeLt
  distinct := li.distinct
  hasEmpty := ⟨e, li.eLt, li.eEmpty⟩
  path := by
    intro x hx k v hs m hm
    rcases li.pathH x hx k v hs m hm with hpm | hocc
    · exfalso
      have hh := li.homeLt k
      have hdx : dist cap (home k) x < cap := dist_lt li.capPos
      have hmc : m < cap := by omega
      -- m = dist home hole
      have hdm : dist cap (home k) hole = m := by rw [← hpm]; exact dist_probe hh hmc
      have hahead := li.needAhead x hx k v hs (by omega)
      have hadd := dist_add hh li.holeLt hx (by omega)
      have hde : dist cap hole e < cap := dist_lt li.capPos
      have hstep := dist_step li.holeLt li.jLt (by have := li.ahead; omega)
      -- j' is on the path of x
      let d := dist cap hole j + 1
      have hj' : probe cap j 1 = probe cap (home k) (m + d) := by
        rw [probe_add hh (by omega), hpm]
        have : probe cap hole d = probe cap j 1 := by
          have hpl : probe cap j 1 < cap := probe_lt li.capPos
          have := probe_dist li.holeLt hpl
          rw [hstep] at this; exact this
        exact this.symm
      by_cases hlt : m + d < dist cap (home k) x
      · rcases li.pathH x hx k v hs (m + d) hlt with h1 | h1
        · -- j' = hole impossible
          rw [← hj'] at h1
          have hpl : probe cap j 1 < cap := probe_lt li.capPos
          have := dist_self li.holeLt
          rw [← h1] at hstep
          have h0 := dist_self (cap := cap) hpl
          rw [h1] at hstep
          omega
        · rw [← hj'] at h1
          unfold occ at h1; rw [hstop] at h1; simp at h1
      · -- j' = x
        have : m + d = dist cap (home k) x := by omega
        have hpx := probe_dist hh hx
        rw [← this, ← hj'] at hpx
        rw [hpx] at hstop; rw [hstop] at hs; cases hs
    · exact hocc

theorem LI_skip {cap : Nat} {home : K → Nat} {s : Slots K V} {hole j e : Nat}
    (li : LI cap home s hole j e) {kj : K} {vj : V}
    (hsj : s (probe cap j 1) = some (kj, vj))
    (hno : ¬ dist cap hole (probe cap j 1) ≤ dist cap (home kj) (probe cap j 1)) :
    LI cap home s hole (probe cap j 1) e := by
  have hpl : probe cap j 1 < cap := probe_lt li.capPos
  have hde : dist cap hole e < cap := dist_lt li.capPos
  have hstep := dist_step li.holeLt li.jLt (by have := li.ahead; omega)
  refine { li with jLt := hpl, ahead := ?_, needAhead := ?_ }
  · have := li.ahead
    by_cases heq : dist cap hole (probe cap j 1) = dist cap hole e
    · have := dist_inj li.holeLt hpl li.eLt heq
      rw [this, li.eEmpty] at hsj; cases hsj
    · omega
  · intro x hx k v hs hneed
    have h1 := li.needAhead x hx k v hs hneed
    by_cases heq : dist cap hole x = dist cap hole (probe cap j 1)
    · exfalso
      have hxe := dist_inj li.holeLt hx hpl heq
      subst hxe
      rw [hsj] at hs; cases hs
      have := dist_add (li.homeLt kj) li.holeLt hpl (by omega)
      omega
    · omega

theorem LI_move {cap : Nat} {home : K → Nat} {s : Slots K V} {hole j e : Nat}
    (li : LI cap home s hole j e) {kj : K} {vj : V}
    (hsj : s (probe cap j 1) = some (kj, vj))
    (hyes : dist cap hole (probe cap j 1) ≤ dist cap (home kj) (probe cap j 1)) :
    LI cap home (upd (upd s hole (some (kj, vj))) (probe cap j 1) none)
      (probe cap j 1) (probe cap j 1) e := by
  have hpl : probe cap j 1 < cap := probe_lt li.capPos
  have hde : dist cap hole e < cap := dist_lt li.capPos
  have hstep := dist_step li.holeLt li.jLt (by have := li.ahead; omega)
  have hjh : probe cap j 1 ≠ hole := by
    intro h; rw [h, dist_self li.holeLt] at hstep; omega
  have hej : e ≠ probe cap j 1 := by
    intro h; rw [← h, li.eEmpty] at hsj; cases hsj
  have heh : e ≠ hole := by
    intro h; have := li.ahead; rw [h, dist_self li.holeLt] at this; omega
  have hh := li.homeLt kj
  have hadd := dist_add' hh li.holeLt hpl hyes
  have hval : ∀ p, p ≠ hole → p ≠ probe cap j 1 →
      upd (upd s hole (some (kj, vj))) (probe cap j 1) none p = s p := by
    intro p h1 h2; rw [upd_other _ _ _ _ h2, upd_other _ _ _ _ h1]
  have hvalh : upd (upd s hole (some (kj, vj))) (probe cap j 1) none hole = some (kj, vj) := by
    rw [upd_other _ _ _ _ (Ne.symm hjh)]; simp
  refine
    { capPos := li.capPos, homeLt := li.homeLt, holeLt := hpl, jLt := hpl, eLt := li.eLt
      holeEmpty := by simp
      eEmpty := by rw [hval e heh hej]; exact li.eEmpty
      ahead := ?_, pathH := ?_, needAhead := ?_, distinct := ?_ }
  · rw [dist_self hpl]
    have : dist cap (probe cap j 1) e ≠ 0 := fun h => hej (dist_eq_zero hpl li.eLt h).symm
    omega
  · intro x hx k v hs m hm
    by_cases hxj : x = probe cap j 1
    · subst hxj; simp at hs
    by_cases hxh : x = hole
    · subst hxh
      rw [hvalh] at hs
      obtain ⟨rfl, rfl⟩ : k = kj ∧ v = vj := by simpa [eq_comm] using hs
      -- moved element, now at the old hole
      have hmj : m < dist cap (home k) (probe cap j 1) := by omega
      have hmc : m < cap := by have := dist_lt (a := home k) (b := probe cap j 1) li.capPos; omega
      have hdm := dist_probe hh hmc
      rcases li.pathH _ hpl k v hsj m hmj with h1 | h1
      · rw [h1] at hdm; omega
      · right
        have hp1 : probe cap (home k) m ≠ x := by intro h; rw [h] at hdm; omega
        have hp2 : probe cap (home k) m ≠ probe cap j 1 := by intro h; rw [h] at hdm; omega
        unfold occ; rw [hval _ hp1 hp2]; exact h1
    · rw [hval x hxh hxj] at hs
      rcases li.pathH x hx k v hs m hm with h1 | h1
      · right; unfold occ; rw [h1, hvalh]; rfl
      · by_cases hp2 : probe cap (home k) m = probe cap j 1
        · left; exact hp2
        · right
          have hp1 : probe cap (home k) m ≠ hole := by
            intro h; rw [h] at h1; unfold occ at h1; rw [li.holeEmpty] at h1; simp at h1
          unfold occ; rw [hval _ hp1 hp2]; exact h1
  · intro x hx k v hs _
    rw [dist_self hpl]
    have : dist cap (probe cap j 1) x ≠ 0 := by
      intro h
      have := dist_eq_zero hpl hx h
      subst this; simp at hs
    omega
  · intro a ha b hb k v w hsa hsb
    by_cases haj : a = probe cap j 1
    · subst haj; simp at hsa
    by_cases hbj : b = probe cap j 1
    · subst hbj; simp at hsb
    by_cases hah : a = hole <;> by_cases hbh : b = hole
    · omega
    · subst hah
      rw [hvalh] at hsa
      obtain ⟨rfl, rfl⟩ : k = kj ∧ v = vj := by simpa [eq_comm] using hsa
      rw [hval b hbh hbj] at hsb
      exact absurd (li.distinct b hb _ hpl k w v hsb hsj) hbj
    · subst hbh
      rw [hvalh] at hsb
      obtain ⟨rfl, rfl⟩ : k = kj ∧ w = vj := by simpa [eq_comm] using hsb
      rw [hval a hah haj] at hsa
      exact absurd (li.distinct a ha _ hpl k v w hsa hsj) haj
    · rw [hval a hah haj] at hsa
      rw [hval b hbh hbj] at hsb
      exact li.distinct a ha b hb k v w hsa hsb

theorem shift_inv {cap : Nat} {home : K → Nat} {e : Nat} :
    ∀ (fuel : Nat) (s : Slots K V) (hole j : Nat), LI cap home s hole j e → dist cap j e ≤ fuel →
      Inv cap home (shift cap home s hole j fuel) := by
  intro fuel
  induction fuel with
  | zero =>
    intro s hole j li hf
    exfalso
    have hje : j ≠ e := by intro h; have := li.ahead; rw [h] at this; omega
    have := dist_eq_zero li.jLt li.eLt (by omega)
    exact hje this
  | succ fuel ih =>
    intro s hole j li hf
    have hje : j ≠ e := by intro h; have := li.ahead; rw [h] at this; omega
    have hpred := dist_pred li.jLt li.eLt hje
    cases hsj : s (probe cap j 1) with
    | none => simp only [shift, hsj]; exact LI_done li hsj
    | some kv =>
      obtain ⟨kj, vj⟩ := kv
      simp only [shift, hsj]
      by_cases hyes : dist cap hole (probe cap j 1) ≤ dist cap (home kj) (probe cap j 1)
      · rw [if_pos hyes]
        exact ih _ _ _ (LI_move li hsj hyes) (by omega)
      · rw [if_neg hyes]
        exact ih _ _ _ (LI_skip li hsj hyes) (by omega)

theorem remove_inv {cap : Nat} {home : K → Nat} {s : Slots K V} (inv : Inv cap home s)
    {i : Nat} (hi : i < cap) {k : K} {v : V} (hs : s i = some (k, v)) :
    Inv cap home (shift cap home (upd s i none) i i cap) := by
  obtain ⟨e, he, hse⟩ := inv.hasEmpty
  have hei : e ≠ i := by intro h; rw [h, hs] at hse; cases hse
  have hli : LI cap home (upd s i none) i i e :=
    { capPos := inv.capPos, homeLt := inv.homeLt, holeLt := hi, jLt := hi, eLt := he
      holeEmpty := by simp
      eEmpty := by rw [upd_other _ _ _ _ hei]; exact hse
      ahead := by
        rw [dist_self hi]
        have : dist cap i e ≠ 0 := fun h => hei (dist_eq_zero hi he h).symm
        omega
      pathH := by
        intro x hx k' v' hsx m hm
        by_cases hxi : x = i
        · subst hxi; simp at hsx
        rw [upd_other _ _ _ _ hxi] at hsx
        by_cases hp : probe cap (home k') m = i
        · left; exact hp
        · right; unfold occ; rw [upd_other _ _ _ _ hp]; exact inv.path x hx k' v' hsx m hm
      needAhead := by
        intro x hx k' v' hsx _
        rw [dist_self hi]
        have : dist cap i x ≠ 0 := by
          intro h; have := dist_eq_zero hi hx h; subst this; simp at hsx
        omega
      distinct := by
        intro a ha b hb k' v' w' hsa hsb
        by_cases hai : a = i
        · subst hai; simp at hsa
        by_cases hbi : b = i
        · subst hbi; simp at hsb
        rw [upd_other _ _ _ _ hai] at hsa
        rw [upd_other _ _ _ _ hbi] at hsb
        exact inv.distinct a ha b hb k' v' w' hsa hsb }
  exact shift_inv cap _ _ _ hli (by have := dist_lt (a := i) (b := e) inv.capPos; omega)

end Cao.OA
