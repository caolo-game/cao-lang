import CaoProofs.Props.C04
import CaoProofs.Props.C10b
import CaoProofs.Lemmas.CaptureStatic
import CaoProofs.Lemmas.CaptureExec
import CaoProofs.Lemmas.CaptureCheck
import CaoProofs.Lemmas.CaptureCompiled
/-!
# C04c — the capture assertions of `RegisterUpvalue` in runs of COMPILED programs

The lemma files of this property name the stage of the proof they serve:
* stage 1 (§2, `Lemmas/CaptureStatic.lean`): what the level structure `UpT` of compiled bytecode says about the
  `CopyLast; RegisterUpvalue` tails of closure expressions;
* stages A, B (§3, `Lemmas/CaptureInv.lean` … `Lemmas/CaptureExec.lean`): a program with the static facts `CapStatic`
  never reaches the capture assertions — one instruction (A), the dispatch loop and `run` (B);
* stage C (§3, `Lemmas/CapCheckDef.lean`, `Lemmas/CaptureCheck.lean`): the executable checker `capStaticB` of `CapStatic`;
* stage D (§4, §5, `Lemmas/CaptureJumps.lean`, `Lemmas/CaptureCompiled.lean`): every compiled program passes the checker.

## 1. The counterexample of K9 after the repair of `run_function`

`abortInCallback`: `main` binds a local `x` and a closure `f`; `f` passes the function `h` to the host
function `papply` (which calls it back through `run_function`), then creates a closure that captures
`x` — a non-local capture (`RegisterUpvalue 0 0`), since `x` is an upvalue of `f`.  `h` is `abort`.

`Exit` inside the callback makes the nested dispatch loop return normally.  Before `run_function` was
repaired in /repo, it then popped only one of the two frames it had pushed: `h`'s frame — with no
closure — stayed on the call stack, `f` continued under it, and the non-local capture found no
closure in the running frame: `panic "closure not found for capture"` (K9, a consequence of K6).
The repaired `run_function` pops the call stack back to its entry depth however the callee ended; the
capture succeeds and the run ends normally (`abort_in_callback_no_longer_panics`).  "Compiled programs
never reach the capture assertions" is proved for every program that passes the executable checker
`capStaticB` (§3), which this program does (`ac_checks`), and for ALL compiled programs under the
no-collision hypotheses on closure and function-pointer handles (§5).
-/
namespace Cao.C04c
open Cao Cao.Compiler Cao.Bytecode Cao.Vm Cao.C10 Cao.C10b

/-! `String.splitOn` does not reduce in the kernel: the compilation is evaluated on a `splitOn`-free
twin, as in `Props/C10b.lean`. -/

def acMain : List Card :=
  [.setVar "x" (.scalarInt 1),
   .setVar "f" (.closure [] [.callNative "papply" [.function "h"], .closure [] [.readVar "x"]]),
   .dynamicCall [] (.readVar "f")]

def abortInCallback : Module :=
  Module.mk [] [("main", ⟨[], acMain⟩), ("h", ⟨[], [.abort]⟩)] []

def acMainIr : FunctionIr :=
  { functionIndex := 0, name := "main", arguments := [], cards := acMain, ns := [], imports := [],
    handle := Hash.handleFromU64 (UInt64.ofNat 0) }
def acHIr : FunctionIr :=
  { functionIndex := 1, name := "h", arguments := [], cards := [.abort], ns := [], imports := [],
    handle := Hash.handleFromU64 (UInt64.ofNat 1) }

theorem ac_ir : intoIrStream abortInCallback stdE Gen.recursionLimit = .ok #[acMainIr, acHIr] := by rfl

def acMainT : {A : CM Unit // processFunctionCards 0 acMain = A} :=
  ⟨_, by
    simp only [acMain, processFunctionCards, processCard, compileSubexprFrom, setVarCode,
      readVarCardT.2, setVarTargetT.2, encodeJumpT.2]
    rfl⟩

def acUnitT : {A : CM Unit // compileUnit #[acMainIr, acHIr] = A} :=
  ⟨_, by
    have h0 : (#[acMainIr, acHIr])[0]! = acMainIr := rfl
    have hc : acMainIr.cards = acMain := rfl
    simp only [compileUnit, h0, processFunction, hc, acMainT.2]; rfl⟩

theorem ac_compile : compile abortInCallback stdE = finish (acUnitT.1.run {}) := by
  rw [← acUnitT.2]
  exact compile_eq_finish ac_ir

theorem ac_labelLog : labelLog abortInCallback stdE Gen.recursionLimit = labelsOf (acUnitT.1.run {}) := by
  rw [← acUnitT.2]
  exact labelLog_eq_labelsOf ac_ir

def endsNormally (r : Except CErr Program) : Bool :=
  match r with
  | .error _ => false
  | .ok p =>
    match run (Prog.ofProgram p) 10000 (VmState.fresh {}) with
    | (s', none) => s'.frames.length == 0 && s'.dispatches == 21
    | (_, some _) => false

def okCap (r : Except CErr Program) : Bool :=
  match r with
  | .ok p => capStaticB p
  | .error _ => false

/-- one evaluation of the compilation by the kernel serves the three checks -/
theorem ac_checks : endsNormally (compile abortInCallback stdE) = true ∧
    hypsCheck acMainIr.handle (compile abortInCallback stdE) (labelLog abortInCallback stdE Gen.recursionLimit) = true ∧
    okCap (compile abortInCallback stdE) = true := by
  rw [← Bool.and_eq_true, ← Bool.and_eq_true, ac_compile, ac_labelLog]
  decide +kernel

theorem ac_hyps : ∃ p, compile abortInCallback stdE = .ok p ∧ p.bytecode.size < 2 ^ 31 ∧
    p.data.size < 2 ^ 32 ∧ NoEntryRef abortInCallback stdE Gen.recursionLimit p ∧
    ClosureHandlesDistinct abortInCallback stdE Gen.recursionLimit p ∧
    LabelHandlesDistinct abortInCallback stdE Gen.recursionLimit :=
  hypsCheck_sound ac_ir ac_checks.2.1

/-- **`abort_in_callback_no_longer_panics`** (K9): the compiled program, run from a fresh machine, does
not report `panic "closure not found for capture"` (as it did before `run_function` was repaired in
/repo): the run reports NO error at all. -/
theorem abort_in_callback_no_longer_panics :
    ∃ p, compile abortInCallback stdE = .ok p ∧ Bytecode.WF p ∧
      NoEntryRef abortInCallback stdE Gen.recursionLimit p ∧
      ClosureHandlesDistinct abortInCallback stdE Gen.recursionLimit p ∧
      (run (Prog.ofProgram p) 10000 (VmState.fresh {})).2 = none ∧
      (run (Prog.ofProgram p) 10000 (VmState.fresh {})).1.frames = [] ∧
      (run (Prog.ofProgram p) 10000 (VmState.fresh {})).1.dispatches = 21 := by
  obtain ⟨p, hp, h1, h2, h3, h4, _⟩ := ac_hyps
  refine ⟨p, hp, compile_wf hp h1 h2 h3 h4, h3, h4, ?_⟩
  have h := ac_checks.1
  rw [hp] at h
  unfold endsNormally at h
  dsimp only at h
  split at h
  · next s' heq =>
    rw [heq]
    simp only [Bool.and_eq_true, beq_iff_eq, List.length_eq_zero_iff] at h
    exact ⟨rfl, h.1, h.2⟩
  · cases h


/-! ## 2. Stage 1: static facts about compiled programs -/

/-- **the tails of closure expressions**: every `CopyLast` and every `RegisterUpvalue` of a compiled
program is in the `k`-th pair behind a `Closure` instruction at `c`; so a `RegisterUpvalue` is always
reached by falling through its `CopyLast`, which follows the `Closure` instruction or the previous pair -/
theorem compile_tail_structure {m std : Module} {limit : Nat} {p : Program}
    (h : compile m std limit = .ok p) {x : Nat} {o : UInt8} (hi : IsInstr p x o)
    (ho : o = op.copyLast ∨ o = op.registerUpvalue) :
    ∃ c k, IsInstr p c op.closure ∧ c + 9 + 4 * k < p.bytecode.size ∧
      ((x = c + 9 + 4 * k ∧ o = op.copyLast) ∨
       (x = c + 9 + 4 * k + 1 ∧ o = op.registerUpvalue ∧ p.bytecode.getD (x - 1) 0 = op.copyLast)) := by
  obtain ⟨unit, s, hC, rfl⟩ := compile_run h
  have T : UpT (programOf s).bytecode s.labels 0 0 (programOf s).bytecode.size := compileUnit_level hC.run
  obtain ⟨h1, h2, h3⟩ := hi
  obtain ⟨c, k, _, hc1, hc2, hc3, hor⟩ := T.tail_instr x h1 h2 (by rw [← h3]; exact ho)
  refine ⟨c, k, ⟨hc1, by omega, hc2.symm⟩, hc3, ?_⟩
  rcases hor with ⟨e1, e2⟩ | ⟨e1, e2, e3, _⟩
  · exact .inl ⟨e1, by rw [h3, e2]⟩
  · exact .inr ⟨e1, by rw [h3, e2], e3⟩

/-- **the label of a region is its start**: `a` is the skip `Goto` of the closure expression -/
theorem compile_closure_label {m std : Module} {limit : Nat} {p : Program}
    (h : compile m std limit = .ok p) (hd : ClosureHandlesDistinct m std limit p) {c : Nat}
    (hi : IsInstr p c op.closure) :
    ∃ a e, a + 5 ≤ c ∧ p.labels.find? (fun l => l.1 == UInt32.ofNat (Bytecode.rdU32 p.bytecode (c + 1))) = some e ∧
      e.2 = a + 5 := by
  obtain ⟨unit, s, hC, rfl⟩ := compile_run h
  obtain ⟨a, _, h2, h3⟩ := (compileUnit_level hC.run).closure_label c hi.1 hi.2.1 hi.2.2.symm
  rw [← labelLog_eq hC] at h3
  refine ⟨a, (UInt32.ofNat (Bytecode.rdU32 s.bytecode (c + 1)), a + 5), h2, ?_, rfl⟩
  rw [compile_labels h]
  exact resolveLog_find_of_unique h3 (fun l2 hl2 e2 => hd c hi _ h3 l2 hl2 rfl e2)

/-- `C10b.compile_upvalues_checked` again: the whole upvalue clause of the well-formedness checker
(`C10.checkUpOf`). The part behind the field `reg` of `CapStatic`: a non-local `RegisterUpvalue j` of a compiled
program lies in a closure region whose count is above `j` -/
theorem compile_nonlocal_in_region {m std : Module} {limit : Nat} {p : Program}
    (h : compile m std limit = .ok p) (hd : ClosureHandlesDistinct m std limit p) : UpvaluesChecked p :=
  compile_upvalues_checked h hd

/-! ## 3. Stages A–C: programs with the static facts `CapStatic` never reach the capture assertions

The invariant `InvX` of the dynamic proof: every `fn` object enters code of level 0 (`FnSafe`), every closure
object is `Complete` (its handle enters code whose level is at most its number of upvalues), the obligations
`(closure of a frame, level it continues at)` hold and are rooted in the call stack; one closure — under
construction, on the live stack — may be exempt.  One instruction keeps it and raises only `NoCap` errors
(`Cao.Vm.st_step`); the rule of the dispatch loop carries that through `exec` and `run` (`Cao.Vm.exec_capture`).

`CapStatic` asks nothing about `Exit` in callee code: `run_function` pops the call stack back to its entry
depth, an `Exit` in a callee just ends the callee.  It has the fields `lastLvl` (the final `Exit`, the return
address `run_function` gives its callee, has level 0) and `entryLvl` (`lvl 0 = 0`).  `StepQ.ret`/`st_step`
need the obligations below the running frame to be rooted below it (`RootedIn W0 fs0`): an obligation rooted
only in the frame that returns would be lost. -/

theorem run_no_capture_panic_fresh {p : Prog} {G : Nat → Prop} {lvl cnt : Nat → Nat}
    (hs : CapStatic p G lvl cnt) (hc : Cfi p G) (h0 : G 0) (n : Nat) (c : Config) (e : RunErr)
    (h : (run p n (VmState.fresh c)).2 = some e) : NoCap e.kind :=
  run_no_capture_panic_of hs hc h0 n _ (invX_fresh c) (fun f hf => by cases hf) e h

theorem run_no_capture_panic_clear {p : Prog} {G : Nat → Prop} {lvl cnt : Nat → Nat}
    (hs : CapStatic p G lvl cnt) (hc : Cfi p G) (h0 : G 0) (n : Nat) (s : VmState) (e : RunErr)
    (h : (run p n (clear s)).2 = some e) : NoCap e.kind :=
  run_no_capture_panic_of hs hc h0 n _ (invX_clear s) (fun f hf => by cases hf) e h

/-- **`run_no_capture_panic`** (stages B + C): the property for well-formed programs that pass the
executable checker `capStaticB` -/
theorem run_no_capture_panic {p : Program} (hwf : Bytecode.WF p) (hcs : capStaticB p = true) (n : Nat)
    (c : Config) (e : RunErr) (h : (run (Prog.ofProgram p) n (VmState.fresh c)).2 = some e) :
    rootCause e.kind ≠ .panic "closure not found for capture" ∧
    rootCause e.kind ≠ .panic "upvalue index out of bounds" :=
  run_no_capture_panic_fresh (capStaticB_iff.1 hcs) (C04.wf_cfi hwf).1 (C04.wf_cfi hwf).2 n c e h

theorem run_no_capture_panic_cleared {p : Program} (hwf : Bytecode.WF p) (hcs : capStaticB p = true) (n : Nat)
    (s : VmState) (e : RunErr) (h : (run (Prog.ofProgram p) n (clear s)).2 = some e) :
    rootCause e.kind ≠ .panic "closure not found for capture" ∧
    rootCause e.kind ≠ .panic "upvalue index out of bounds" :=
  run_no_capture_panic_clear (capStaticB_iff.1 hcs) (C04.wf_cfi hwf).1 (C04.wf_cfi hwf).2 n s e h

/-- **combined with `C04.run_no_panic_partial`**: the only panic left as a root cause is the model's own
fuel, and only below a host function (the reported error itself is not that panic) -/
theorem run_only_gas_panic {p : Program} (hwf : Bytecode.WF p) (hcs : capStaticB p = true) (n : Nat)
    (c : Config) (e : RunErr) (h : (run (Prog.ofProgram p) n (VmState.fresh c)).2 = some e) :
    (∀ w, rootCause e.kind = .panic w → w = "gas exhausted") ∧ e.kind ≠ .panic "gas exhausted" := by
  have h1 := C04.run_no_panic_partial hwf n (VmState.fresh c) (C04.goodFrames_fresh p c) e h
  have h2 := run_no_capture_panic hwf hcs n c e h
  refine ⟨fun w hw => ?_, h1.2⟩
  have hm := h1.1 w hw
  simp only [C04.residualPanics, List.mem_cons, List.mem_nil_iff, or_false] at hm
  rcases hm with hm | hm | hm
  · exact hm
  · exact absurd (hm ▸ hw) h2.1
  · exact absurd (hm ▸ hw) h2.2

/-- **a reused machine** — heap, globals and value stack as the first run left them: an error-free run
re-establishes the invariant (`Cao.Vm.run_keeps_inv`) -/
theorem run_twice_no_capture_panic {p : Program} (hwf : Bytecode.WF p) (hcs : capStaticB p = true)
    (n m : Nat) (c : Config) (hok : (run (Prog.ofProgram p) n (VmState.fresh c)).2 = none) (e : RunErr)
    (h : (run (Prog.ofProgram p) m (run (Prog.ofProgram p) n (VmState.fresh c)).1).2 = some e) :
    rootCause e.kind ≠ .panic "closure not found for capture" ∧
    rootCause e.kind ≠ .panic "upvalue index out of bounds" := by
  have hs := capStaticB_iff.1 hcs
  have hc := (C04.wf_cfi hwf).1
  have h0 := (C04.wf_cfi hwf).2
  have hfr1 : (run (Prog.ofProgram p) n (VmState.fresh c)).1.frames = [] :=
    C17.run_frames_nil _ n _ rfl
  have hK1 := run_keeps_inv hs hc h0 n (VmState.fresh c) rfl (invX_fresh c) hok
  refine run_no_capture_panic_of hs hc h0 m _ ?_ ?_ e h
  · rw [hfr1]; exact hK1
  · rw [hfr1]; intro f hf; cases hf

/-! ### the checker on examples -/

/-- the two-level closure of `Props/C10b.lean` passes the checker -/
theorem twoLevel_capStatic : okCap (compile twoLevel stdE) = true := by
  rw [compile_twin]
  decide +kernel

/-- the well-formed program of `Props/C04.lean` that jumps into a closure body (and panics) is rejected -/
example : capStaticB C04.jumpIntoClosure = false := by decide +kernel

/-- non-vacuity, end to end: no run of the compiled `abortInCallback`, with any budget and configuration,
reports a capture assertion -/
theorem abortInCallback_no_capture_panic : ∃ p, compile abortInCallback stdE = .ok p ∧
    ∀ (n : Nat) (c : Config) (e : RunErr), (run (Prog.ofProgram p) n (VmState.fresh c)).2 = some e →
      rootCause e.kind ≠ .panic "closure not found for capture" ∧
      rootCause e.kind ≠ .panic "upvalue index out of bounds" := by
  obtain ⟨p, hp, h1, h2, h3, h4, _⟩ := ac_hyps
  have h := ac_checks.2.2
  rw [hp] at h
  exact ⟨p, hp, fun n c e he => run_no_capture_panic (compile_wf hp h1 h2 h3 h4) h n c e he⟩

/-! ## 4. Stage D: the statements for all compiled programs

`CaptureStatic.lean`/§2 give the fields `reg` (from `C10b.compile_upvalues_checked`), `closLabel`
(`compile_closure_label` + the count of the region) and `pairs` (`compile_tail_structure`) of `CapStatic` as
facts about the level derivation `UpT`, which says nothing about jump targets; the other fields are the
subject of §5.  The differential harness can decide `capStaticB` on the bytes of the real compiler
(`Lemmas/CapCheckDef.lean` imports only the models).  Evaluated (`#eval`, not part of the build): the closure
`K = closure [a] { z = a; closure { x; z; closure { x; z } }; x }` placed in each of 33 one-hole card
contexts (operands, conditions and bodies of `if`/`ifElse`/`while`/`repeat`/`forEach`, call arguments,
callee position, arrays, composite cards, closure bodies, `return`) and in all 33 × 33 compositions of two
contexts: 1122 compiled programs, all well-formed, all accepted; also with the standard library linked. -/

/-- the statement for all compiled programs under the hypotheses of `C10b.compile_wf` only — OPEN in this
form; §5 proves it under one more no-collision hypothesis (`PointerHandlesDistinct`,
`compiled_run_no_capture_panic`) -/
def compiled_run_no_capture_panic_Full : Prop :=
  ∀ (m std : Module) (limit : Nat) (p : Program), compile m std limit = .ok p →
    p.bytecode.size < 2 ^ 31 → p.data.size < 2 ^ 32 → NoEntryRef m std limit p →
    ClosureHandlesDistinct m std limit p →
    ∀ (n : Nat) (c : Config) (e : RunErr), (run (Prog.ofProgram p) n (VmState.fresh c)).2 = some e →
      rootCause e.kind ≠ .panic "closure not found for capture" ∧
      rootCause e.kind ≠ .panic "upvalue index out of bounds"

theorem compiled_run_only_gas_panic {m std : Module} {limit : Nat} {p : Program}
    (hp : compile m std limit = .ok p) (h1 : p.bytecode.size < 2 ^ 31) (h2 : p.data.size < 2 ^ 32)
    (h3 : NoEntryRef m std limit p) (h4 : ClosureHandlesDistinct m std limit p) (hcs : capStaticB p = true)
    (n : Nat) (c : Config) (e : RunErr) (h : (run (Prog.ofProgram p) n (VmState.fresh c)).2 = some e) :
    (∀ w, rootCause e.kind = .panic w → w = "gas exhausted") ∧ e.kind ≠ .panic "gas exhausted" :=
  run_only_gas_panic (compile_wf hp h1 h2 h3 h4) hcs n c e h

/-- every compiled program passes the checker, under the hypotheses of `C10b.compile_wf` only — OPEN in this
form (`compiled_capStatic` in §5 needs `PointerHandlesDistinct` in addition: a `FunctionPointer` whose 32-bit
handle collides with a later card label inside a closure body would resolve into that body) -/
def compiled_capStatic_Full : Prop :=
  ∀ (m std : Module) (limit : Nat) (p : Program), compile m std limit = .ok p →
    p.bytecode.size < 2 ^ 31 → p.data.size < 2 ^ 32 → NoEntryRef m std limit p →
    ClosureHandlesDistinct m std limit p → capStaticB p = true

theorem compiled_run_no_capture_panic_of_capStatic (h : compiled_capStatic_Full) :
    compiled_run_no_capture_panic_Full :=
  fun m std limit p hp h1 h2 h3 h4 n c e he =>
    run_no_capture_panic (compile_wf hp h1 h2 h3 h4) (h m std limit p hp h1 h2 h3 h4) n c e he

/-! ## 5. Stage D: every compiled program passes the checker

The jump discipline that `processCard` keeps (`jLogic`): the code `[n0, n1)` a block emits is a segment
`JSeg bc L T n0 n1 Bs` — `Bs` lists the closure blocks `(a, c)` in it (skip-`Goto` at `a` with operand `c`, `Return` at
`c - 1`, `Closure` at `c` whose handle is labelled `a + 5`), every `Closure` instruction belongs to a listed block, and
every jump has its target in `T` and lies in the body of a listed block iff its target does.  The whole bytecode is
such a segment from 0, and the label of every non-entry function lies outside of all bodies (`compileUnit_jspec`).
`capStaticB_of_seg` evaluates the checker on such a program: its regions are exactly the bodies, fall-through and
jumps keep the bodies, the level at the start of a body is the number of pairs of its `Closure` instruction (from the
nesting the skip-`Goto`s enforce), the `reg` field is the checker's `checkUp` clause. -/

/-- **no-collision hypothesis for function pointers** (the analogue of `ClosureHandlesDistinct`): the handle
of a `FunctionPointer` instruction is not the handle of a label at another position.  Weaker than `C08c.FunctionHandlesDistinct` (only the
functions that are referred to matter) and implied by `C10b.LabelHandlesDistinct`. -/
def PointerHandlesDistinct (m std : Module) (limit : Nat) (p : Program) : Prop :=
  ∀ x, IsInstr p x op.functionPointer → ∀ l1 ∈ labelLog m std limit, ∀ l2 ∈ labelLog m std limit,
    l1.1 = UInt32.ofNat (Bytecode.rdU32 p.bytecode (x + 1)) → l2.1 = l1.1 → l2.2 = l1.2

theorem LabelHandlesDistinct.pointer {m std : Module} {limit : Nat} (h : LabelHandlesDistinct m std limit)
    (p : Program) : PointerHandlesDistinct m std limit p :=
  fun _ _ l1 h1 l2 h2 _ e => h l1 h1 l2 h2 e

/-- **`compiled_seq_jump`**: the segment fact above in terms of `compile`; the targets are `≤ size` -/
theorem compiled_seq_jump {m std : Module} {limit : Nat} {p : Program} (hp : compile m std limit = .ok p) :
    ∃ unit Bs, intoIrStream m std limit = .ok unit ∧
      JSeg p.bytecode (labelLog m std limit) (fun t => t ≤ p.bytecode.size) 0 p.bytecode.size Bs ∧
      ∀ f ∈ unit.toList.drop 1, ∃ q, (f.handle, q) ∈ labelLog m std limit ∧ ∀ B ∈ Bs, ¬ InBody B q := by
  obtain ⟨unit, s, hC, rfl⟩ := compile_run hp
  obtain ⟨Bs, G, fl⟩ := compileUnit_jspec hC.run
  rw [labelLog_eq hC]
  exact ⟨unit, Bs, hC.ir, G, fl⟩

/-- **`compiled_capStatic`**: every compiled program passes the executable checker `capStaticB`, under
the hypotheses of `C10b.compile_wf` without the bound on the data section, and the no-collision hypothesis for
function pointers -/
theorem compiled_capStatic {m std : Module} {limit : Nat} {p : Program} (hp : compile m std limit = .ok p)
    (h1 : p.bytecode.size < 2 ^ 31) (h3 : NoEntryRef m std limit p)
    (h4 : ClosureHandlesDistinct m std limit p) (h5 : PointerHandlesDistinct m std limit p) :
    capStaticB p = true := by
  obtain ⟨unit, s, hC, rfl⟩ := compile_run hp
  obtain ⟨Bs, G, fl⟩ := compileUnit_jspec hC.run
  obtain ⟨l, hdec, _, _⟩ := compile_decodes hp
  rw [← labelLog_eq hC] at G fl
  refine capStaticB_of_seg (compile_labels hp) (by omega) G hdec h4 (compile_upvalues_checked hp h4) ?_
  intro x hi e he B hB
  -- the operand is the handle of a function behind the entry function, labelled outside of all bodies
  obtain ⟨f, _, hfh, hd⟩ := (Out.of_run hC.run).function_pointer hi
  obtain ⟨q, q1, q2⟩ := fl f (hd (hfh ▸ h3 unit hC.ir x hi))
  rw [hfh] at q1
  rw [compile_labels hp, resolveLog_find_of_unique q1 (fun l2 hl2 e2 => h5 x hi _ q1 l2 hl2 rfl e2)] at he
  cases he
  exact q2 B hB

/-- all static facts at once, for the level function of the checker -/
theorem compiled_CapStatic {m std : Module} {limit : Nat} {p : Program} (hp : compile m std limit = .ok p)
    (h1 : p.bytecode.size < 2 ^ 31) (h3 : NoEntryRef m std limit p)
    (h4 : ClosureHandlesDistinct m std limit p) (h5 : PointerHandlesDistinct m std limit p) :
    CapStatic (Prog.ofProgram p) (C04.Start p) (lvlOf (regionsOf p)) (cntOf p.bytecode) :=
  capStaticB_iff.1 (compiled_capStatic hp h1 h3 h4 h5)

/-- **`compiled_run_no_capture_panic`**: the property for all compiled programs — no `capStaticB`
hypothesis -/
theorem compiled_run_no_capture_panic {m std : Module} {limit : Nat} {p : Program}
    (hp : compile m std limit = .ok p) (h1 : p.bytecode.size < 2 ^ 31) (h2 : p.data.size < 2 ^ 32)
    (h3 : NoEntryRef m std limit p) (h4 : ClosureHandlesDistinct m std limit p)
    (h5 : PointerHandlesDistinct m std limit p)
    (n : Nat) (c : Config) (e : RunErr) (h : (run (Prog.ofProgram p) n (VmState.fresh c)).2 = some e) :
    rootCause e.kind ≠ .panic "closure not found for capture" ∧
    rootCause e.kind ≠ .panic "upvalue index out of bounds" :=
  run_no_capture_panic (compile_wf hp h1 h2 h3 h4) (compiled_capStatic hp h1 h3 h4 h5) n c e h

theorem compiled_run_no_capture_panic_cleared {m std : Module} {limit : Nat} {p : Program}
    (hp : compile m std limit = .ok p) (h1 : p.bytecode.size < 2 ^ 31) (h2 : p.data.size < 2 ^ 32)
    (h3 : NoEntryRef m std limit p) (h4 : ClosureHandlesDistinct m std limit p)
    (h5 : PointerHandlesDistinct m std limit p)
    (n : Nat) (s : VmState) (e : RunErr) (h : (run (Prog.ofProgram p) n (clear s)).2 = some e) :
    rootCause e.kind ≠ .panic "closure not found for capture" ∧
    rootCause e.kind ≠ .panic "upvalue index out of bounds" :=
  run_no_capture_panic_cleared (compile_wf hp h1 h2 h3 h4) (compiled_capStatic hp h1 h3 h4 h5) n s e h

/-- **`compiled_run_only_gas_panic'`**: `run_only_gas_panic` for all compiled programs — no `capStaticB`
hypothesis -/
theorem compiled_run_only_gas_panic' {m std : Module} {limit : Nat} {p : Program}
    (hp : compile m std limit = .ok p) (h1 : p.bytecode.size < 2 ^ 31) (h2 : p.data.size < 2 ^ 32)
    (h3 : NoEntryRef m std limit p) (h4 : ClosureHandlesDistinct m std limit p)
    (h5 : PointerHandlesDistinct m std limit p)
    (n : Nat) (c : Config) (e : RunErr) (h : (run (Prog.ofProgram p) n (VmState.fresh c)).2 = some e) :
    (∀ w, rootCause e.kind = .panic w → w = "gas exhausted") ∧ e.kind ≠ .panic "gas exhausted" :=
  run_only_gas_panic (compile_wf hp h1 h2 h3 h4) (compiled_capStatic hp h1 h3 h4 h5) n c e h

theorem compiled_run_twice_no_capture_panic {m std : Module} {limit : Nat} {p : Program}
    (hp : compile m std limit = .ok p) (h1 : p.bytecode.size < 2 ^ 31) (h2 : p.data.size < 2 ^ 32)
    (h3 : NoEntryRef m std limit p) (h4 : ClosureHandlesDistinct m std limit p)
    (h5 : PointerHandlesDistinct m std limit p)
    (n k : Nat) (c : Config) (hok : (run (Prog.ofProgram p) n (VmState.fresh c)).2 = none) (e : RunErr)
    (h : (run (Prog.ofProgram p) k (run (Prog.ofProgram p) n (VmState.fresh c)).1).2 = some e) :
    rootCause e.kind ≠ .panic "closure not found for capture" ∧
    rootCause e.kind ≠ .panic "upvalue index out of bounds" :=
  run_twice_no_capture_panic (compile_wf hp h1 h2 h3 h4) (compiled_capStatic hp h1 h3 h4 h5) n k c hok e h

/-- the hypothesis-free forms of §4 follow from `PointerHandlesDistinct` for all compiled programs — the
only thing that remains open is whether that hypothesis can be dropped (like `ClosureHandlesDistinct`, it
excludes a collision of 32-bit hashes, which the model cannot exclude) -/
theorem compiled_capStatic_Full_of_pointers
    (h : ∀ (m std : Module) (limit : Nat) (p : Program), compile m std limit = .ok p →
      PointerHandlesDistinct m std limit p) : compiled_capStatic_Full :=
  fun m std limit p hp h1 _ h3 h4 => compiled_capStatic hp h1 h3 h4 (h m std limit p hp)

/-! ### non-vacuity -/

/-- the hypotheses of `compiled_run_no_capture_panic` hold for `abortInCallback` (which contains a function
pointer to `h`, two closures, one nested with a non-local capture) -/
theorem ac_all_hyps : ∃ p, compile abortInCallback stdE = .ok p ∧ p.bytecode.size < 2 ^ 31 ∧
    p.data.size < 2 ^ 32 ∧ NoEntryRef abortInCallback stdE Gen.recursionLimit p ∧
    ClosureHandlesDistinct abortInCallback stdE Gen.recursionLimit p ∧
    PointerHandlesDistinct abortInCallback stdE Gen.recursionLimit p := by
  obtain ⟨p, hp, a1, a2, a3, a4, hl⟩ := ac_hyps
  exact ⟨p, hp, a1, a2, a3, a4, LabelHandlesDistinct.pointer hl p⟩

/-- the theorem and the evaluation of the checker agree on it -/
example : ∃ p, compile abortInCallback stdE = .ok p ∧ capStaticB p = true := by
  obtain ⟨p, hp, a1, _, a3, a4, a5⟩ := ac_all_hyps
  exact ⟨p, hp, compiled_capStatic hp a1 a3 a4 a5⟩

/-- end to end, from the theorem: no run of the compiled `abortInCallback` reports a capture assertion -/
example : ∃ p, compile abortInCallback stdE = .ok p ∧
    ∀ (n : Nat) (c : Config) (e : RunErr), (run (Prog.ofProgram p) n (VmState.fresh c)).2 = some e →
      rootCause e.kind ≠ .panic "closure not found for capture" ∧
      rootCause e.kind ≠ .panic "upvalue index out of bounds" := by
  obtain ⟨p, hp, a1, a2, a3, a4, a5⟩ := ac_all_hyps
  exact ⟨p, hp, fun n c e he => compiled_run_no_capture_panic hp a1 a2 a3 a4 a5 n c e he⟩

/-- a concrete segment: `Goto 7; ScalarNil; Return; Closure h 0` with the label `(h, 5)` is one closure
block `(0, 7)` -/
example : JSeg #[op.goto, 7, 0, 0, 0, op.scalarNil, op.ret, op.closure, 1, 0, 0, 0, 0, 0, 0, 0] [(1, 5)]
    (fun t => t ≤ 16) 0 16 [(0, 7)] :=
  JSeg.closure (c' := 5) (Tb := fun _ => False) (by decide) (by decide) (JSeg.nil _ _ _ _) (fun _ h => h.elim)
    (by decide) (by decide) (by decide) (by decide) (.nil _) (fun x hx hlt => by have := hx.le; omega)
    (by decide) (fun _ h => h.elim)

end Cao.C04c
