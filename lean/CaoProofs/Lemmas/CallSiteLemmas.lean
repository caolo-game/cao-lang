import CaoProofs.Lemmas.ResolveLemmas
/-!
# Every name called by a `Call` card has its static-call sequence in the final bytecode (C08b)

For every name `n` of a `Call` card, the ten bytes `FunctionPointer h a; CallFunction`, `(h, a)`
being what `n` resolves to, sit somewhere in the code of the card: a window property in the sense
of `Found` (`ResolveLemmas`), established by `callCode` (`site_head`) and carried through the
card tree by the rules of `Found`.
-/
namespace Cao.Compiler
open Cao

def siteBytes (h a : UInt32) : List UInt8 := op.functionPointer :: (le32 h ++ le32 a ++ [op.callFunction])

theorem siteBytes_length (h a : UInt32) : (siteBytes h a).length = 10 := by
  simp [siteBytes, Bytecode.le32_length]

def SiteAt (bc : Array UInt8) (src : Nat) (h a : UInt32) : Prop :=
  src + 10 ≤ bc.size ∧ ∀ k, k < 10 → bc[src + k]? = (siteBytes h a)[k]?

theorem SiteAt.ext {bc bc' : Array UInt8} {src : Nat} {h a : UInt32} (hs : SiteAt bc src h a)
    (hsz : bc.size ≤ bc'.size) (hk : ∀ i, src ≤ i → i < src + 10 → bc'[i]? = bc[i]?) : SiteAt bc' src h a :=
  ⟨Nat.le_trans hs.1 hsz, fun k hk' => by rw [hk (src + k) (by omega) (by omega)]; exact hs.2 k hk'⟩

/-- a static call of `n`, with the operands it resolves to under `T`, sits inside `[lo, hi)` -/
def Emitted (T : Tables) (n : String) (lo hi : Nat) (bc : Array UInt8) : Prop :=
  ∃ h a src, resolveSpec T.jt T.ns T.imports n = .ok (h, a) ∧ lo ≤ src ∧ src + 10 ≤ hi ∧ SiteAt bc src h a

instance (T : Tables) : Window (Emitted T) where
  stable := fun ⟨h, a, src, hr, h1, h2, hs⟩ hsz hk =>
    ⟨h, a, src, hr, h1, h2, hs.ext hsz fun i hi1 hi2 => hk i (by omega) (by omega)⟩
  widen := fun ⟨h, a, src, hr, h1, h2, hs⟩ hlo hhi => ⟨h, a, src, hr, by omega, by omega, hs⟩

theorem getElem?_of_toList {bc : Array UInt8} {pre l : List UInt8} (h : bc.toList = pre ++ l) (k : Nat) :
    bc[pre.length + k]? = l[k]? := by
  rw [← Array.getElem?_toList, h, List.getElem?_append_right (Nat.le_add_right _ _), Nat.add_sub_cancel_left]

theorem pushInstr_bytecode {o : UInt8} {s s' : CState} (h : pushInstr o s = .ok ((), s')) :
    s'.bytecode = s.bytecode.push o := by cases h; rfl

/-- **a `Call` card emits `FunctionPointer h a; CallFunction` with the operands its name resolves
    to** -/
theorem site_head {T : Tables} (name : String) (s s' : CState) (hT : T.holds s)
    (hr : (pushInstr op.functionPointer >>= fun _ => encodeJump name >>= fun _ =>
      pushInstr op.callFunction) s = .ok ((), s')) :
    Emitted T name s.bytecode.size s'.bytecode.size s'.bytecode := by
  obtain ⟨_, s2, h2, hr⟩ := bind_ok.1 hr
  obtain ⟨_, s3, h3, h4⟩ := bind_ok.1 hr
  have hT2 := Tables.holds_of_keeps hT (kp_run (pushInstr_kp _) h2)
  obtain ⟨h, a, hres, rfl⟩ := encodeJump_ok h3
  rw [hT2.1, hT2.2.1, hT2.2.2] at hres
  have e : s'.bytecode.toList = s.bytecode.toList ++ siteBytes h a := by
    rw [pushInstr_bytecode h4]; simp [pushInstr_bytecode h2, siteBytes]
  have hsz : s'.bytecode.size = s.bytecode.size + 10 := by
    rw [← Array.length_toList, e, List.length_append, siteBytes_length, Array.length_toList]
  refine ⟨h, a, s.bytecode.size, hres, Nat.le_refl _, Nat.le_of_eq hsz.symm, Nat.le_of_eq hsz.symm, fun k _ => ?_⟩
  have := getElem?_of_toList e k
  rwa [Array.length_toList] at this

mutual
  /-- the names of all `Call` cards in a card tree (`calls` without the `Function` references,
      which emit a `FunctionPointer` but no `CallFunction`) -/
  def callNames : Card → List String
    | .bin _ a b => callNames a ++ callNames b
    | .un _ c => callNames c
    | .tri _ a b c => callNames a ++ (callNames b ++ callNames c)
    | .function _ => []
    | .setVar _ v => callNames v
    | .setGlobalVar _ v => callNames v
    | .callNative _ args => callNamesList args
    | .call name args => name :: callNamesList args
    | .repeat _ n body => callNames n ++ callNames body
    | .forEach _ _ _ it body => callNames it ++ callNames body
    | .composite _ cards => callNamesList cards
    | .dynamicCall args f => callNamesList args ++ callNames f
    | .array cards => callNamesList cards
    | .closure _ cards => callNamesList cards
    | .scalarNil | .createTable | .abort | .scalarInt _ | .scalarFloat _ | .stringLiteral _
    | .comment _ | .nativeFunction _ | .readVar _ => []
  def callNamesList : List Card → List String
    | [] => []
    | c :: cs => callNames c ++ callNamesList cs
end

section
variable {T : Tables}

mutual
theorem processCard_site : ∀ c, Found T (Emitted T) (processCard c) (callNames c)
  | .composite _ cards => found_card (compileSubexprFrom_site 0 cards)
  | .forEach _ _ _ it body => found_card (found_forEachCode (processCard_site it) (processCard_site body))
  | .repeat _ n body => found_card (found_repeatCode (processCard_site n) (processCard_site body))
  | .readVar v => found_leaf fun _ => readVarCard_runs v
  | .setVar _ value => found_card (found_setVarCode (processCard_site value))
  | .setGlobalVar _ value => found_card (found_setGlobalVarCode (processCard_site value))
  | .call name args => found_card (found_callCode (compileSubexprFrom_site 0 args) (site_head name))
  | .stringLiteral s => found_leaf fun _ => runs_seq (pushInstr_runs _) (pushStr_runs s)
  | .callNative _ args => found_card (found_callNativeCode (compileSubexprFrom_site 0 args))
  | .scalarInt i => found_leaf fun _ => scalarIntCode_runs i
  | .scalarFloat _ => found_leaf fun _ => runs_seq (pushInstr_runs _) (emitBytes_runs _)
  | .function name => found_leaf fun _ => runs_seq (pushInstr_runs _) (encodeJump_runs name)
  | .closure _ cards => found_card (found_closureCode (compileSubexprFrom_site 0 cards))
  | .nativeFunction name => found_leaf fun _ => runs_seq (pushInstr_runs _) (pushStr_runs name)
  | .array cards => found_card (found_arrayCode fun tv => processArrayItems_site tv 0 cards)
  | .un _ c => found_card (found_unCode (processCard_site c))
  | .bin _ a b => found_card (found_binCode (processCard_site a) (processCard_site b))
  | .tri _ a b c => found_card (found_triCode (processCard_site a) (processCard_site b) (processCard_site c))
  | .dynamicCall args f =>
    found_card (found_dynamicCallCode (compileSubexprFrom_site 1 args) (processCard_site f))
  | .scalarNil => found_leaf fun _ => pushInstr_runs _
  | .abort => found_leaf fun _ => pushInstr_runs _
  | .createTable => found_leaf fun _ => pushInstr_runs _
  | .comment _ => found_leaf fun _ => runs_ret
theorem compileSubexprFrom_site : ∀ i cs, Found T (Emitted T) (compileSubexprFrom i cs) (callNamesList cs)
  | _, [] => found_nil fun _ => runs_ret
  | i, c :: cs => found_seq (found_withSub (processCard_site c)) (compileSubexprFrom_site (i + 1) cs)
theorem processArrayItems_site (tv : Nat) : ∀ i cs, Found T (Emitted T) (processArrayItems tv i cs) (callNamesList cs)
  | _, [] => found_nil fun _ => runs_ret
  | i, c :: cs => found_pre (fun _ => pushInstr_runs _) fun _ => found_seq (found_withSub (processCard_site c)) <|
      found_pre (fun _ => readLocalVar_runs _) fun _ => found_pre (fun _ => pushInstr_runs _) fun _ =>
      processArrayItems_site tv (i + 1) cs
end

theorem processFunctionCards_site : ∀ i cs, Found T (Emitted T) (processFunctionCards i cs) (callNamesList cs)
  | _, [] => found_nil fun _ => runs_ret
  | i, c :: cs => found_pre (fun _ => popSub_runs) fun _ => found_pre (fun _ => pushSub_runs i) fun _ =>
      found_seq (processCard_site c) (processFunctionCards_site (i + 1) cs)

end

/-- **for every name called by a `Call` card of a compiled function, the final bytecode has the ten bytes
    `FunctionPointer h a; CallFunction` with the operands the name resolves to (under the function's
    namespace and imports) at some position not before the body** (per name; no upper bound) -/
theorem BodyAt.call_sites {jt : JumpTable} {f : FunctionIr} {pos : Nat} {final : CState}
    (h : BodyAt jt f pos final) :
    ∀ n ∈ callNamesList f.cards, ∃ hd a src, resolveSpec jt f.ns f.imports n = .ok (hd, a) ∧
      pos ≤ src ∧ SiteAt final.bytecode src hd a := by
  obtain ⟨sb, sb', h1, h2, h3, _, h5, h6, _, h8⟩ := h
  intro n hn
  obtain ⟨hd, a, src, hr, hle, hhi, hs⟩ :=
    (processFunctionCards_site (T := ⟨jt, f.ns, f.imports⟩) 0 f.cards).run sb () sb' ⟨h1, h2, h3⟩ h6 n hn
  exact ⟨hd, a, src, hr, by omega, hs.ext h8.size_le fun i _ hi => h8.pref i (by omega)⟩

end Cao.Compiler
