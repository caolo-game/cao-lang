import CaoProofs.Lemmas.WfUpvalues
/-!
# Static facts about the `CopyLast; RegisterUpvalue` tails of closure expressions (C04c, stage 1)

Everything here is a consequence of the level structure `UpT` of compiled bytecode
(`compileUnit_level`): every `CopyLast` / `RegisterUpvalue` instruction of level code sits in the tail of
a closure expression — `Closure` at `c`, then pairs at `c + 9 + 4 k` — so a `RegisterUpvalue` is
always preceded (fall-through) by its `CopyLast`, which follows the `Closure` instruction or the
previous pair. The bound `j < n` of a non-local `RegisterUpvalue j` is in `Pairs.starts_idx` for the `n` of
one `Pairs`; `UpT.tail_instr` keeps only `∃ n', j < n'`, which says nothing.
-/
namespace Cao.Compiler
open Cao Cao.Bytecode

theorem Pairs.starts_idx {bc : Array UInt8} {n : Nat} : ∀ {m at_ pos : Nat}, Pairs bc n m at_ →
    Tiled bc at_ pos → pos < at_ + 4 * m →
    ∃ k, k < m ∧ ((pos = at_ + 4 * k ∧ bc.getD pos 0 = op.copyLast) ∨
      (pos = at_ + 4 * k + 1 ∧ bc.getD pos 0 = op.registerUpvalue ∧ bc.getD (pos - 1) 0 = op.copyLast ∧
        (bc.getD (pos + 2) 0 = 0 → (bc.getD (pos + 1) 0).toNat < n)))
  | 0, _, _, _, ht, hlt => by have := ht.le; omega
  | m+1, at_, pos, h, ht, hlt => by
    obtain ⟨h1, h2, h3, h4⟩ := h
    cases ht with
    | nil => exact ⟨0, by omega, .inl ⟨by omega, h1⟩⟩
    | @cons _ k _ hs ht' =>
      rw [h1] at hs
      have : k = 1 := by
        have : Gen.spanOf op.copyLast = some 1 := by decide
        rw [this] at hs; cases hs; rfl
      subst this
      cases ht' with
      | nil => exact ⟨0, by omega, .inr ⟨by omega, h2, by rw [Nat.add_sub_cancel]; exact h1, h3⟩⟩
      | @cons _ k' _ hs' ht'' =>
        rw [h2] at hs'
        have : k' = 3 := by
          have : Gen.spanOf op.registerUpvalue = some 3 := by decide
          rw [this] at hs'; cases hs'; rfl
        subst this
        obtain ⟨k, hk, hor⟩ := Pairs.starts_idx h4 (by rwa [show at_ + 1 + 3 = at_ + 4 by omega] at ht'') (by omega)
        refine ⟨k + 1, by omega, ?_⟩
        rcases hor with ⟨e, ho⟩ | ⟨e, ho⟩
        · exact .inl ⟨by omega, ho⟩
        · exact .inr ⟨by omega, ho⟩

/-- `C04c.compile_tail_structure` at one level of `UpT` -/
theorem UpT.tail_instr {bc : Array UInt8} {L : List (UInt32 × Nat)} {n a b : Nat} (h : UpT bc L n a b) :
    ∀ x, Tiled bc a x → x < b →
      (bc.getD x 0 = op.copyLast ∨ bc.getD x 0 = op.registerUpvalue) →
      ∃ c k, a ≤ c ∧ Tiled bc a c ∧ bc.getD c 0 = op.closure ∧ c + 9 + 4 * k < b ∧
        ((x = c + 9 + 4 * k ∧ bc.getD x 0 = op.copyLast) ∨
         (x = c + 9 + 4 * k + 1 ∧ bc.getD x 0 = op.registerUpvalue ∧ bc.getD (x - 1) 0 = op.copyLast ∧
           (bc.getD (x + 2) 0 = 0 → ∃ n', (bc.getD (x + 1) 0).toNat < n'))) := by
  induction h with
  | nil => intro x ht hlt; have := ht.le; omega
  | @plain n a k b hs hc hu ht ih =>
    intro x htx hlt hop
    cases htx with
    | nil =>
      rcases hop with h | h <;> (rw [h] at hc; exact absurd hc (by decide))
    | @cons _ k' _ hs' ht' =>
      rw [hs] at hs'; cases hs'
      obtain ⟨c, j, h1, h2, h3, h4, h5⟩ := ih x ht' hlt hop
      exact ⟨c, j, by have := span_pos hs; omega, .cons hs h2, h3, h4, h5⟩
  | @clos n m a c0 b hg hb hcl0 hl hm hp ht ihb iht =>
    intro x htx hlt hop
    have hbt := hb.tiled
    have hble := hb.le
    have htle := ht.le
    have sg : Gen.spanOf (bc.getD a 0) = some 5 := by rw [hg]; decide
    have sc : Gen.spanOf (bc.getD c0 0) = some 9 := by rw [hcl0]; decide
    cases htx with
    | nil => rcases hop with h | h <;> (rw [hg] at h; exact absurd h (by decide))
    | @cons _ k' _ hs' ht' =>
      rw [sg] at hs'; cases hs'
      rcases Nat.lt_or_ge x c0 with hlt0 | hge0
      · obtain ⟨c, j, h1, h2, h3, h4, h5⟩ := ihb x ht' hlt0 hop
        exact ⟨c, j, by omega, .cons sg h2, h3, by omega, h5⟩
      · have ht2 := hbt.split ht' hge0
        cases ht2 with
        | nil => rcases hop with h | h <;> (rw [hcl0] at h; exact absurd h (by decide))
        | @cons _ k'' _ hs'' ht'' =>
          rw [sc] at hs''; cases hs''
          rcases Nat.lt_or_ge x (c0 + 9 + 4 * m) with hlt1 | hge1
          · obtain ⟨j, hj, hor⟩ := hp.starts_idx ht'' hlt1
            refine ⟨c0, j, by omega, .cons sg hbt, hcl0, by omega, ?_⟩
            rcases hor with ⟨e, ho⟩ | ⟨e, ho1, ho2, ho3⟩
            · exact .inl ⟨e, ho⟩
            · exact .inr ⟨e, ho1, ho2, fun hz => ⟨n, ho3 hz⟩⟩
          · have ht3 := hp.tiled.split ht'' hge1
            obtain ⟨c, j, h1, h2, h3, h4, h5⟩ := iht x ht3 hlt hop
            exact ⟨c, j, by omega, ((Tiled.cons sg hbt).trans (.cons sc hp.tiled)).trans h2, h3, h4, h5⟩

end Cao.Compiler
