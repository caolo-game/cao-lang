import CaoProofs.Lemmas.VmPrims
import CaoProofs.Props.C05
/-!
# Lemmas for the native functions (C09, C18)

`Grown s₀ s`: `s` is `s₀` plus private objects and guards, everything reachable in `s₀` is untouched; it is closed
under allocation (with collections: `Quiet`), object creation and guard handling. `guardRows` / `unguardRows` as
functions of the guard list, the second undoing the first (`unrow_rowGuards`). Flat values (everything but tables):
their deep value only depends on their own object. The contracts of a callback: `PureCallback` (heap and roots
untouched), `GcCallback` (it may allocate), `Balanced` (it pops its arguments); `callKV` is the protocol push value,
push key, call back. `PresOk R m`: the frame logic of `Lemmas/VmLogic.lean` for successful runs only, with `Bal` (live
stack and call stack as before) as the relation C18 uses. At the end the body of `__min` / `__max` as a definition
(`C09.minmaxBody`).
-/
namespace Cao.Native
open Cao Cao.Vm Cao.Gc Cao.C02 Cao.C05

/-! ## the heap -/

theorem set_next (h : Heap) (a : Nat) (o : Obj) : (h.set a o).next = h.next := rfl

/-! ## `Grown`: the machine plus private objects -/

theorem rootAddrs_congr {s s' : VmState} (h1 : s'.stack.contents = s.stack.contents)
    (h2 : s'.globals = s.globals) (h3 : s'.frames = s.frames)
    (h4 : s'.openUpvalues = s.openUpvalues) (h5 : s'.guards = s.guards) :
    rootAddrs s' = rootAddrs s := by
  unfold rootAddrs roots; rw [h1, h2, h3, h4, h5]

theorem rootAddrs_sub {s s' : VmState} (h1 : s'.stack.contents = s.stack.contents)
    (h2 : s'.globals = s.globals) (h3 : s'.frames = s.frames)
    (h4 : s'.openUpvalues = s.openUpvalues) (h5 : ∀ g ∈ s.guards, g ∈ s'.guards) :
    ∀ a ∈ rootAddrs s, a ∈ rootAddrs s' := by
  intro a ha
  rw [rootAddrs, mem_addrs] at ha ⊢
  unfold roots at ha ⊢
  rw [h1, h2, h3, h4]
  simp only [List.mem_append, List.mem_map] at ha ⊢
  rcases ha with h | ⟨g, hg, hge⟩
  · exact Or.inl h
  · exact Or.inr ⟨g, h5 g hg, hge⟩

/-- `Reach.transfer` only needs the allocated objects to agree -/
theorem reach_transfer {h h' : Heap} {rs : List Nat}
    (hag : ∀ a o, Reach h rs a → h.get a = some o → h'.get a = some o) {a : Nat}
    (ha : Reach h rs a) : Reach h' rs a := by
  induction ha with
  | root hr => exact Reach.root hr
  | step hr ho hc ih => exact Reach.step ih (hag _ _ hr ho) hc

/-- `s` is `s₀` with more guards and more objects: the live stack, the frames, the globals and
    the open upvalues are those of `s₀`, and every object reachable in `s₀` is unchanged -/
structure Grown (s₀ s : VmState) : Prop where
  stack : StackSame s₀.stack s.stack
  frames : s.frames = s₀.frames
  globals : s.globals = s₀.globals
  openUpvalues : s.openUpvalues = s₀.openUpvalues
  guards : ∀ g ∈ s₀.guards, g ∈ s.guards
  keep : ∀ b o, Reach s₀.heap (rootAddrs s₀) b → s₀.heap.get b = some o → s.heap.get b = some o
  next : s₀.heap.next ≤ s.heap.next
  fresh : FreshNext s.heap
  fresh₀ : FreshNext s₀.heap

theorem Grown.refl (s : VmState) (hf : FreshNext s.heap) : Grown s s :=
  ⟨StackSame.refl _, rfl, rfl, rfl, fun _ h => h, fun _ _ _ h => h, Nat.le_refl _, hf, hf⟩

theorem Grown.reach {s₀ s : VmState} (h : Grown s₀ s) {b : Nat}
    (hb : Reach s₀.heap (rootAddrs s₀) b) : Reach s.heap (rootAddrs s) b := by
  have h1 : Reach s.heap (rootAddrs s₀) b := reach_transfer (fun a o ha ho => h.keep a o ha ho) hb
  exact Reach.mono (fun r hr => Reach.root
    (rootAddrs_sub h.stack.contents h.globals h.frames h.openUpvalues h.guards r hr)) h1

theorem Grown.step {s₀ s s' : VmState} (h : Grown s₀ s) (hst : StackSame s.stack s'.stack)
    (hfr : s'.frames = s.frames) (hgl : s'.globals = s.globals)
    (hup : s'.openUpvalues = s.openUpvalues)
    (hgu : ∀ g ∈ s₀.guards, g ∈ s'.guards)
    (hkeep : ∀ b o, Reach s.heap (rootAddrs s) b → s.heap.get b = some o → s'.heap.get b = some o)
    (hnext : s.heap.next ≤ s'.heap.next) (hfresh : FreshNext s'.heap) : Grown s₀ s' :=
  ⟨h.stack.trans hst, hfr.trans h.frames, hgl.trans h.globals, hup.trans h.openUpvalues, hgu,
   fun b o hb ho => hkeep b o (h.reach hb) (h.keep b o hb ho), Nat.le_trans h.next hnext, hfresh,
   h.fresh₀⟩

/-! ## allocation -/

theorem allocBytes_fresh (c : Nat) (s : VmState) (hf : FreshNext s.heap) :
    FreshNext ((allocBytes c).go s).2.heap := by
  rcases (allocBytes_vs_no_collection c s).2 with h | h
  · show FreshNext ((allocBytes c).run.run s).2.heap
    rw [h]; exact hf
  · show FreshNext ((allocBytes c).run.run s).2.heap
    rw [h]; exact gc_fresh s hf

/-- the observable effect of a run: same roots, same reachable objects, fresh address kept -/
structure Quiet (s s' : VmState) : Prop where
  obs : ObsEq s s'
  fresh : FreshNext s.heap → FreshNext s'.heap

theorem Quiet.refl (s : VmState) : Quiet s s := ⟨ObsEq.refl s, id⟩
theorem Quiet.trans {a b c : VmState} (h1 : Quiet a b) (h2 : Quiet b c) : Quiet a c :=
  ⟨h1.obs.trans h2.obs, fun h => h2.fresh (h1.fresh h)⟩

theorem allocBytes_quiet (c : Nat) (s : VmState) : Quiet s ((allocBytes c).go s).2 :=
  ⟨allocBytes_obs c s, allocBytes_fresh c s⟩

theorem Grown.quiet {s₀ s s' : VmState} (h : Grown s₀ s) (q : Quiet s s') : Grown s₀ s' :=
  h.step (StackSame.of_eq q.obs.stack) q.obs.frames q.obs.globals q.obs.openUpvalues
    (fun g hg => by rw [q.obs.guards]; exact h.guards g hg)
    (fun b o hb ho => by rw [q.obs.fwd b hb]; exact ho) (Nat.le_of_eq q.obs.next.symm)
    (q.fresh h.fresh)

theorem Quiet.get {s s' : VmState} (q : Quiet s s') {b : Nat}
    (hb : Reach s.heap (rootAddrs s) b) : s'.heap.get b = s.heap.get b := q.obs.fwd b hb

theorem alloc2Pure_ok {c1 c2 : Nat} {o : Obj} {s s' : VmState} {a : Nat}
    (h : alloc2Pure c1 c2 o s = (.ok a, s')) :
    ∃ s₂, Quiet s s₂ ∧ a = s.heap.next ∧ s' = withObject o s₂ := by
  unfold alloc2Pure at h
  have q1 := allocBytes_quiet c1 s
  rw [show (allocBytes c1).go s = allocPure c1 s from allocBytes_run c1 s] at q1
  rcases h1 : allocPure c1 s with ⟨r1, s1⟩
  rw [h1] at h q1
  cases r1 with
  | error e => simp at h
  | ok u =>
    dsimp only at h
    have q2 := allocBytes_quiet c2 s1
    rw [show (allocBytes c2).go s1 = allocPure c2 s1 from allocBytes_run c2 s1] at q2
    rcases h2 : allocPure c2 s1 with ⟨r2, s2⟩
    rw [h2] at h q2
    cases r2 with
    | error e => simp at h
    | ok u =>
      simp only [Prod.mk.injEq, Except.ok.injEq] at h
      have q := q1.trans q2
      exact ⟨s2, q, by rw [← h.1, q.obs.next], h.2.symm⟩

theorem initTable_ok {s s' : VmState} {a : Nat} (h : initTable.go s = (.ok a, s')) :
    ∃ s₂, Quiet s s₂ ∧ a = s.heap.next ∧ s' = withObject (.table Gen.tableInitCap []) s₂ := by
  rw [show initTable.go s = _ from initTable_run s] at h
  exact alloc2Pure_ok h

theorem initString_ok {b : List UInt8} {s s' : VmState} {a : Nat}
    (h : (initString b).go s = (.ok a, s')) :
    ∃ s₂, Quiet s s₂ ∧ a = s.heap.next ∧ s' = withObject (.str b) s₂ := by
  rw [show (initString b).go s = _ from initString_run b s] at h
  exact alloc2Pure_ok h

theorem Grown.withObject {s₀ s : VmState} (h : Grown s₀ s) (o : Obj) :
    Grown s₀ (withObject o s) := by
  refine ⟨h.stack, h.frames, h.globals, h.openUpvalues,
    fun g hg => List.mem_cons_of_mem _ (h.guards g hg), ?_, Nat.le_succ_of_le h.next,
    withObject_fresh o s h.fresh, h.fresh₀⟩
  intro b ob hb ho
  have h1 := h.keep b ob hb ho
  have hp : b ≠ s.heap.next := Nat.ne_of_lt (get_lt_next h.fresh h1)
  rw [get_withObject_old o s b hp]; exact h1


theorem Grown.old_lt {s₀ s : VmState} (h : Grown s₀ s) {b : Nat} {o : Obj}
    (ho : s₀.heap.get b = some o) : b < s₀.heap.next := get_lt_next h.fresh₀ ho

theorem Grown.setGuards {s₀ s : VmState} (h : Grown s₀ s) (G : List Nat)
    (hg : ∀ g ∈ s₀.guards, g ∈ G) : Grown s₀ { s with guards := G } :=
  ⟨h.stack, h.frames, h.globals, h.openUpvalues, hg, h.keep, h.next, h.fresh, h.fresh₀⟩

theorem Grown.dropGuard {s₀ s : VmState} (h : Grown s₀ s) (a : Nat)
    (hg : ∀ g ∈ s₀.guards, g ∈ s.guards.erase a) :
    Grown s₀ { s with guards := s.guards.erase a } :=
  h.setGuards _ hg

/-- the guard a native holds on a value: only objects are guarded -/
def guardOf (v : Val) : List Nat := match v with | .obj a => [a] | _ => []

def unguard (v : Val) (g : List Nat) : List Nat := match v with | .obj a => g.erase a | _ => g

theorem unguard_guardOf (v : Val) (g : List Nat) : unguard v (guardOf v ++ g) = g := by
  cases v <;> simp [unguard, guardOf]

theorem go_guardVal (v : Val) (s : VmState) :
    (guardVal v).go s = (.ok ⟨⟩, { s with guards := guardOf v ++ s.guards }) := by
  cases v <;> rfl

theorem go_unguardVal (v : Val) (s : VmState) :
    (unguardVal v).go s = (.ok ⟨⟩, { s with guards := unguard v s.guards }) := by
  cases v <;> rfl

/-! ## `guardRows` / `unguardRows` -/

/-- the guards `guardRows es` adds, as they end up on the guard list (last row first) -/
def rowGuards : List (Val × Val) → List Nat
  | [] => []
  | e :: es => rowGuards es ++ (guardOf e.2 ++ guardOf e.1)

/-- what `unguardRows es` does to the guard list -/
def unrow : List (Val × Val) → List Nat → List Nat
  | [], g => g
  | e :: es, g => unrow es (unguard e.2 (unguard e.1 g))

theorem guardRows_cons (k v : Val) (es : List (Val × Val)) :
    guardRows ((k, v) :: es) = (guardVal k >>= fun _ => guardVal v >>= fun _ => guardRows es) := by
  unfold guardRows
  simp only [List.forIn_cons, bind_assoc, pure_bind]

theorem unguardRows_cons (k v : Val) (es : List (Val × Val)) :
    unguardRows ((k, v) :: es) = (unguardVal k >>= fun _ => unguardVal v >>= fun _ => unguardRows es) := by
  unfold unguardRows
  simp only [List.forIn_cons, bind_assoc, pure_bind]

theorem go_guardRows (es : List (Val × Val)) : ∀ s : VmState,
    (guardRows es).go s = (.ok ⟨⟩, { s with guards := rowGuards es ++ s.guards }) := by
  induction es with
  | nil => intro s; rfl
  | cons e es ih =>
    intro s
    obtain ⟨k, v⟩ := e
    rw [guardRows_cons, go_bind_ok (go_guardVal k s), go_bind_ok (go_guardVal v _), ih]
    simp only [rowGuards, List.append_assoc]

theorem go_unguardRows (es : List (Val × Val)) : ∀ s : VmState,
    (unguardRows es).go s = (.ok ⟨⟩, { s with guards := unrow es s.guards }) := by
  induction es with
  | nil => intro s; rfl
  | cons e es ih =>
    intro s
    obtain ⟨k, v⟩ := e
    rw [unguardRows_cons, go_bind_ok (go_unguardVal k s), go_bind_ok (go_unguardVal v _), ih]
    rfl

/-- the addresses `unguardRows es` releases, in order -/
def rowAddrs (es : List (Val × Val)) : List Nat := es.flatMap (fun e => guardOf e.1 ++ guardOf e.2)

theorem unguard_eq_foldl (v : Val) (g : List Nat) : unguard v g = (guardOf v).foldl List.erase g := by
  cases v <;> rfl

theorem unrow_eq_foldl (es : List (Val × Val)) : ∀ g, unrow es g = (rowAddrs es).foldl List.erase g := by
  induction es with
  | nil => intro g; rfl
  | cons e es ih =>
    intro g
    simp only [unrow, rowAddrs, List.flatMap_cons, List.foldl_append, ih, unguard_eq_foldl]

theorem rowGuards_perm (es : List (Val × Val)) : (rowAddrs es).Perm (rowGuards es) := by
  induction es with
  | nil => exact List.Perm.refl _
  | cons e es ih =>
    simp only [rowAddrs, rowGuards, List.flatMap_cons]
    exact (List.Perm.append List.perm_append_comm ih).trans List.perm_append_comm

theorem foldl_erase_front {β : Type} [BEq β] [LawfulBEq β] :
    ∀ (P' P R : List β), P'.Perm P → P'.foldl List.erase (P ++ R) = R := by
  intro P'
  induction P' with
  | nil => intro P R h; rw [List.nil_perm.mp h]; rfl
  | cons x xs ih =>
    intro P R h
    have hx : x ∈ P := h.subset List.mem_cons_self
    have h' : xs.Perm (P.erase x) := by
      have := h.erase x
      rwa [List.erase_cons_head] at this
    rw [List.foldl_cons, List.erase_append_left _ hx]
    exact ih _ _ h'

/-- **`unguardRows` undoes `guardRows`** exactly (not only up to permutation): every address it
    erases is first found among the ones `guardRows` put in front -/
theorem unrow_rowGuards (es : List (Val × Val)) (g : List Nat) : unrow es (rowGuards es ++ g) = g := by
  rw [unrow_eq_foldl]; exact foldl_erase_front _ _ _ (rowGuards_perm es)

theorem mem_of_mem_unguard {v : Val} {g : List Nat} {x : Nat} (h : x ∈ unguard v g) : x ∈ g := by
  cases v with
  | obj a => exact List.mem_of_mem_erase h
  | _ => exact h

theorem mem_of_mem_unrow (es : List (Val × Val)) : ∀ {g : List Nat} {x : Nat}, x ∈ unrow es g → x ∈ g := by
  induction es with
  | nil => intro g x h; exact h
  | cons e es ih => intro g x h; exact mem_of_mem_unguard (mem_of_mem_unguard (ih h))

theorem mem_rowGuards {es : List (Val × Val)} {x : Nat} (h : x ∈ rowGuards es) :
    ∃ e ∈ es, e.1 = .obj x ∨ e.2 = .obj x := by
  induction es with
  | nil => cases h
  | cons e es ih =>
    simp only [rowGuards, List.mem_append] at h
    rcases h with h | h | h
    · obtain ⟨e', he', h'⟩ := ih h
      exact ⟨e', List.mem_cons_of_mem _ he', h'⟩
    · refine ⟨e, List.mem_cons_self, Or.inr ?_⟩
      cases hv : e.2 <;> rw [hv] at h <;> simp [guardOf] at h
      rw [h]
    · refine ⟨e, List.mem_cons_self, Or.inl ?_⟩
      cases hv : e.1 <;> rw [hv] at h <;> simp [guardOf] at h
      rw [h]

theorem unguard_erase_comm (v : Val) (g : List Nat) (a : Nat) :
    unguard v (g.erase a) = (unguard v g).erase a := by
  cases v with
  | obj b => exact List.erase_comm a b
  | _ => rfl

theorem unrow_erase_comm (es : List (Val × Val)) : ∀ (g : List Nat) (a : Nat),
    unrow es (g.erase a) = (unrow es g).erase a := by
  induction es with
  | nil => intro g a; rfl
  | cons e es ih => intro g a; simp only [unrow, unguard_erase_comm, ih]

theorem Grown.trans {s₀ s₁ s₂ : VmState} (h1 : Grown s₀ s₁) (h2 : Grown s₁ s₂) : Grown s₀ s₂ :=
  h1.step h2.stack h2.frames h2.globals h2.openUpvalues (fun g hg => h2.guards g (h1.guards g hg))
    h2.keep h2.next h2.fresh

theorem Grown.rows (s : VmState) (hf : FreshNext s.heap) (es : List (Val × Val)) :
    Grown s { s with guards := rowGuards es ++ s.guards } :=
  (Grown.refl s hf).setGuards _ (fun _ hg => List.mem_append_right _ hg)

theorem Grown.unrow {s s₁ : VmState} {es : List (Val × Val)} (hf : FreshNext s.heap)
    (hG : Grown { s with guards := rowGuards es ++ s.guards } s₁)
    (hgu : s₁.guards = rowGuards es ++ s.guards) :
    Grown s { s₁ with guards := Native.unrow es s₁.guards } ∧ Native.unrow es s₁.guards = s.guards := by
  have e : Native.unrow es s₁.guards = s.guards := by rw [hgu, unrow_rowGuards]
  exact ⟨((Grown.rows s hf es).trans hG).setGuards _ (fun g hg => by rw [e]; exact hg), e⟩

/-! ## `tableInsert` on success -/

/-- the entry list after an insertion: overwrite the entry with an equal key, or append -/
def tinsert (h : Heap) (es : List (Val × Val)) (k v : Val) : List (Val × Val) :=
  if (findEntry h es (ownD h k)).isSome then
    es.map (fun e => if decide (ownD h e.1 = ownD h k) then (e.1, v) else e)
  else es ++ [(k, v)]

theorem tinsert_new {h : Heap} {es : List (Val × Val)} {k v : Val}
    (hk : ∀ e ∈ es, ownD h e.1 ≠ ownD h k) : tinsert h es k v = es ++ [(k, v)] := by
  unfold tinsert findEntry
  have : es.find? (fun e => decide (ownD h e.1 = ownD h k)) = none := by
    rw [List.find?_eq_none]
    intro e he; simpa using hk e he
  simp [this]

theorem tableInsert_ok {a : Nat} {k v : Val} {s s' : VmState} {cap : Nat} {es : List (Val × Val)}
    {u : PUnit} (hg : s.heap.get a = some (.table cap es))
    (hok : (tableInsert a k v).go s = (.ok u, s')) :
    ∃ s₁ cap', Quiet s s₁ ∧ s'.heap = s₁.heap.set a (.table cap' (tinsert s.heap es k v)) ∧
      s'.stack = s₁.stack ∧ s'.frames = s₁.frames ∧ s'.globals = s₁.globals ∧
      s'.openUpvalues = s₁.openUpvalues ∧ s'.guards = s₁.guards := by
  rw [show (tableInsert a k v).go s = _ from tableInsert_run a k v s] at hok
  unfold tableInsertPure at hok
  rw [hg] at hok
  dsimp only at hok
  unfold tinsert
  split at hok
  · rename_i hfe
    simp only [Prod.mk.injEq] at hok
    refine ⟨s, cap, Quiet.refl s, ?_⟩
    rw [if_pos hfe, ← hok.2]
    exact ⟨rfl, rfl, rfl, rfl, rfl, rfl⟩
  · rename_i hfe
    rw [if_neg hfe]
    split at hok
    · have q := allocBytes_quiet (Heap.tableCharge (HMap.growCap cap)) s
      rw [show (allocBytes (Heap.tableCharge (HMap.growCap cap))).go s = _ from
        allocBytes_run _ s] at q
      rcases h1 : allocPure (Heap.tableCharge (HMap.growCap cap)) s with ⟨r1, s1⟩
      rw [h1] at hok q
      cases r1 with
      | error e => simp at hok
      | ok u' =>
        simp only [Prod.mk.injEq] at hok
        refine ⟨s1, HMap.growCap cap, q, ?_⟩
        rw [← hok.2]
        exact ⟨rfl, rfl, rfl, rfl, rfl, rfl⟩
    · simp only [Prod.mk.injEq] at hok
      refine ⟨s, cap, Quiet.refl s, ?_⟩
      rw [← hok.2]
      exact ⟨rfl, rfl, rfl, rfl, rfl, rfl⟩

theorem Grown.tableInsert {s₀ s s' : VmState} {a : Nat} {k v : Val} {cap : Nat}
    {es : List (Val × Val)} {u : PUnit} (h : Grown s₀ s) (hpriv : s₀.heap.next ≤ a)
    (hg : s.heap.get a = some (.table cap es)) (hr : Reach s.heap (rootAddrs s) a)
    (hok : (Vm.tableInsert a k v).go s = (.ok u, s')) :
    Grown s₀ s' ∧ (∃ cap', s'.heap.get a = some (.table cap' (tinsert s.heap es k v))) ∧
    s'.guards = s.guards ∧
    (∀ b, b ≠ a → Reach s.heap (rootAddrs s) b → s'.heap.get b = s.heap.get b) ∧
    s'.heap.next = s.heap.next := by
  obtain ⟨s₁, cap', q, hheap, hst, hfr, hgl, hup, hgu⟩ := tableInsert_ok hg hok
  have hg1 : s₁.heap.get a = some (.table cap es) := by rw [q.get hr]; exact hg
  have h1 : Grown s₀ s₁ := h.quiet q
  refine ⟨?_, ⟨cap', by rw [hheap]; exact get_set_self _ _ _ _ hg1⟩, by rw [hgu, q.obs.guards], ?_⟩
  · refine ⟨h1.stack.trans (StackSame.of_eq hst), hfr.trans h1.frames, hgl.trans h1.globals,
      hup.trans h1.openUpvalues, fun g hg' => by rw [hgu]; exact h1.guards g hg', ?_,
      by rw [hheap]; exact h1.next, by rw [hheap]; exact set_fresh _ _ _ h1.fresh, h1.fresh₀⟩
    intro b o hb ho
    have hba : b ≠ a := Nat.ne_of_lt (Nat.lt_of_lt_of_le (h.old_lt ho) hpriv)
    rw [hheap, get_set_ne _ _ _ _ hba]; exact h1.keep b o hb ho
  · refine ⟨?_, by rw [hheap]; exact q.obs.next⟩
    intro b hb hrb
    rw [hheap, get_set_ne _ _ _ _ hb]; exact q.get hrb


/-! ## creating objects, seen from `s₀` -/

theorem Grown.alloc2 {s₀ s s' : VmState} {a : Nat} {o : Obj} (h : Grown s₀ s)
    (hq : ∃ s₂, Quiet s s₂ ∧ a = s.heap.next ∧ s' = Gc.withObject o s₂) :
    Grown s₀ s' ∧ s'.heap.get a = some o ∧ s'.guards = a :: s.guards ∧ s₀.heap.next ≤ a ∧
    s.heap.get a = none ∧
    (∀ b ob, Reach s.heap (rootAddrs s) b → s.heap.get b = some ob → s'.heap.get b = some ob) ∧
    s'.heap.next = a + 1 := by
  obtain ⟨s₂, q, ha, hs'⟩ := hq
  have h2 : Grown s₀ s₂ := h.quiet q
  have hn : s₂.heap.next = s.heap.next := q.obs.next
  subst hs'
  refine ⟨h2.withObject o, ?_, ?_, by rw [ha]; exact h.next, by rw [ha]; exact get_next_none h.fresh, ?_,
    by rw [ha, ← hn]; rfl⟩
  · rw [ha, ← hn]; exact get_withObject_new o s₂ h2.fresh
  · show s₂.heap.next :: s₂.guards = _
    rw [hn, ha, q.obs.guards]
  · intro b ob hb ho
    have h1 : s₂.heap.get b = some ob := by rw [q.get hb]; exact ho
    rw [get_withObject_old o s₂ b (Nat.ne_of_lt (get_lt_next h2.fresh h1))]; exact h1

/-! ## deep values of scalars and of flat objects -/

theorem ownD_int (h : Heap) (i : Int64) : ownD h (.int i) = .int i := by
  unfold ownD ownFuel; simp [own]
theorem ownD_nil (h : Heap) : ownD h .nil = .nil := by
  unfold ownD ownFuel; simp [own]
theorem ownD_real (h : Heap) (b : UInt64) : ownD h (.real b) = .real b := by
  unfold ownD ownFuel; simp [own]
theorem ownD_str {h : Heap} {a : Nat} {b : List UInt8} (hg : h.get a = some (.str b)) :
    ownD h (.obj a) = .str b := by
  unfold ownD ownFuel; simp [own, hg]

/-- everything but a table: the deep value is read off the object itself -/
def Flat (h : Heap) (v : Val) : Prop := ∀ a, v = .obj a → ∀ cap es, h.get a ≠ some (.table cap es)

theorem ownD_congr_flat {h h' : Heap} {v : Val} (hf : Flat h v)
    (hag : ∀ a, v = .obj a → h'.get a = h.get a) : ownD h' v = ownD h v := by
  cases v with
  | nil => rw [ownD_nil, ownD_nil]
  | int i => rw [ownD_int, ownD_int]
  | real b => rw [ownD_real, ownD_real]
  | obj a =>
    have h1 := hag a rfl
    have h2 := hf a rfl
    unfold ownD ownFuel
    simp only [own, h1]
    cases hg : h.get a with
    | none => rfl
    | some o =>
      cases o with
      | table cap es => exact absurd hg (h2 cap es)
      | _ => rfl

theorem int64_ofNat_inj {i j : Nat} (hi : i < 2 ^ 64) (hj : j < 2 ^ 64)
    (h : Int64.ofNat i = Int64.ofNat j) : i = j := by
  have := congrArg (fun x => x.toBitVec.toNat) h
  simp at this
  omega

/-! ## `for … in` loops: an invariant indexed by the number of iterations -/

theorem forIn_inv {γ σ : Type} (L : List γ) (I : Nat → σ → VmState → Prop)
    (f : γ → σ → M (ForInStep σ))
    (hstep : ∀ (i : Nat) (x : γ) (b : σ) (s : VmState) (r : ForInStep σ) (s' : VmState),
      L[i]? = some x → I i b s → (f x b).go s = (.ok r, s') → ∃ b', r = .yield b' ∧ I (i + 1) b' s') :
    ∀ (l : List γ) (i : Nat) (b : σ) (s : VmState) (b' : σ) (s' : VmState),
      L.drop i = l → i ≤ L.length → I i b s → (forIn l b f).go s = (.ok b', s') →
      I L.length b' s' := by
  intro l
  induction l with
  | nil =>
    intro i b s b' s' hd hi hI hok
    rw [List.forIn_nil] at hok
    simp only [go_pure, Prod.mk.injEq, Except.ok.injEq] at hok
    have : L.length ≤ i := List.drop_eq_nil_iff.mp hd
    have : i = L.length := by omega
    rw [← hok.1, ← hok.2, ← this]; exact hI
  | cons x xs ih =>
    intro i b s b' s' hd hi hI hok
    rw [List.forIn_cons] at hok
    obtain ⟨r, s₁, h1, h2⟩ := ok_bind hok
    have hlt : i < L.length :=
      Nat.lt_of_not_le fun h => by rw [List.drop_eq_nil_iff.mpr h] at hd; cases hd
    rw [List.drop_eq_getElem_cons hlt] at hd
    obtain ⟨rfl, hd'⟩ := List.cons.inj hd
    obtain ⟨b₁, hr, hI'⟩ := hstep i _ b s r s₁ (List.getElem?_eq_getElem hlt) hI h1
    subst hr
    exact ih (i + 1) b₁ s₁ b' s' hd' hlt hI' h2

theorem forIn_inv' {γ σ : Type} (L : List γ) (I : Nat → σ → VmState → Prop)
    (f : γ → σ → M (ForInStep σ)) {b b' : σ} {s s' : VmState}
    (hstep : ∀ (i : Nat) (x : γ) (b : σ) (s : VmState) (r : ForInStep σ) (s' : VmState),
      L[i]? = some x → I i b s → (f x b).go s = (.ok r, s') → ∃ b', r = .yield b' ∧ I (i + 1) b' s')
    (h0 : I 0 b s) (hok : (forIn L b f).go s = (.ok b', s')) : I L.length b' s' :=
  forIn_inv L I f hstep L 0 b s b' s' rfl (Nat.zero_le _) h0 hok


/-! ## recognising tables -/

theorem isTable_of_get {h : Heap} {a cap : Nat} {es : List (Val × Val)}
    (hg : h.get a = some (.table cap es)) : isTable h (.obj a) = some es := by
  simp [isTable, hg]

theorem isTable_some {h : Heap} {v : Val} {es : List (Val × Val)} (hs : isTable h v = some es) :
    ∃ a cap, v = .obj a ∧ h.get a = some (.table cap es) := by
  unfold isTable at hs
  cases v with
  | obj a =>
    simp only at hs
    cases hg : h.get a with
    | none => rw [hg] at hs; cases hs
    | some o =>
      rw [hg] at hs
      cases o with
      | table cap es' => simp only [Option.some.injEq] at hs; subst hs; exact ⟨a, cap, rfl, hg⟩
      | _ => cases hs
  | _ => cases hs

theorem reach_peek {s : VmState} {n a : Nat} (h : s.stack.peekLast n = .obj a) :
    Reach s.heap (rootAddrs s) a :=
  reach_of_stack (peekLast_mem h)


theorem Grown.same_heap {s₀ s s' : VmState} (h : Grown s₀ s) (hst : StackSame s.stack s'.stack)
    (hheap : s'.heap = s.heap) (hgu : s'.guards = s.guards) (hfr : s'.frames = s.frames)
    (hgl : s'.globals = s.globals) (hup : s'.openUpvalues = s.openUpvalues) : Grown s₀ s' :=
  h.step hst hfr hgl hup (fun g hg => by rw [hgu]; exact h.guards g hg)
    (fun b o _ ho => by rw [hheap]; exact ho) (by rw [hheap]; exact Nat.le_refl _)
    (by rw [hheap]; exact h.fresh)

/-! ## well-behaved callbacks -/

/-- `reenter f` behaves like the pure binary function `φ` of the key and the value the native
    pushed (value first, key on top): when it succeeds, it has popped exactly those two slots,
    returns `φ key value`, and has changed neither the heap nor the roots. (Budget counters,
    the host log and the allocator's counters are unconstrained; failure is unconstrained.) -/
structure PureCallback (re : Reenter) (f : Val) (φ : Val → Val → Val) : Prop where
  ok : ∀ (s : VmState) (r : Val) (s' : VmState), 2 ≤ s.stack.count →
    s.stack.count < s.stack.data.length → (re f).go s = (.ok r, s') →
    r = φ (s.stack.peekLast 0) (s.stack.peekLast 1) ∧
    Prefix s'.stack s.stack ∧ s'.stack.count + 2 = s.stack.count ∧
    s'.heap = s.heap ∧ s'.guards = s.guards ∧ s'.frames = s.frames ∧ s'.globals = s.globals ∧
    s'.openUpvalues = s.openUpvalues

/-- the protocol of the natives: push the value, push the key, call back -/
def callKV (re : Reenter) (f : Val) (k v : Val) : M Val := do
  push v; push k
  re f

theorem callKV_inv {re : Reenter} {f k v r : Val} {t t' : VmState}
    (hok : (callKV re f k v).go t = (.ok r, t')) :
    ∃ st : VStack Val, (re f).go { t with stack := st } = (.ok r, t') ∧
      st.count = t.stack.count + 2 ∧ st.count < st.data.length ∧
      st.peekLast 0 = k ∧ st.peekLast 1 = v ∧
      ∀ st', Prefix st' st → st'.count + 2 = st.count → StackSame t.stack st' := by
  unfold callKV at hok
  obtain ⟨_, t₁, h1, hok⟩ := ok_bind hok
  obtain ⟨_, t₂, h2, hok⟩ := ok_bind hok
  obtain ⟨hc1, rfl⟩ := push_ok h1
  obtain ⟨hc2, rfl⟩ := push_ok h2
  dsimp only at hc2
  rw [List.length_set] at hc2
  refine ⟨_, hok, rfl, by dsimp only; rw [List.length_set, List.length_set]; omega,
    peekLast_push0 _ _ _ (by rw [List.length_set]; omega),
    by rw [peekLast_succ_push, peekLast_push0 _ _ _ (by omega)], fun st' hpre hcnt => ?_⟩
  exact StackSame.of_prefix ((Prefix.push t.stack v).trans (Prefix.push _ k)) hpre (by dsimp only at hcnt; omega)

/-! ## callbacks that may allocate -/

/-- the contract of a callback that may allocate: like `PureCallback`, but the heap may change by what
    an allocating (and collecting) computation does to it: what is reachable from the roots the callback
    *leaves behind* (the stack without the two arguments, guards, frames, globals, open upvalues) is unchanged.
    Like `PureCallback` it is asked of every entry state with two arguments on the stack; the contract that the
    compiled `row_to_value` is shown to meet is `PureCallbackAt` (`Lemmas/RowValue.lean`). -/
structure GcCallback (re : Reenter) (f : Val) (φ : Val → Val → Val) : Prop where
  ok : ∀ (s : VmState) (r : Val) (s' : VmState), 2 ≤ s.stack.count →
    s.stack.count < s.stack.data.length → FreshNext s.heap → (re f).go s = (.ok r, s') →
    r = φ (s.stack.peekLast 0) (s.stack.peekLast 1) ∧
    Prefix s'.stack s.stack ∧ s'.stack.count + 2 = s.stack.count ∧
    s'.guards = s.guards ∧ s'.frames = s.frames ∧ s'.globals = s.globals ∧
    s'.openUpvalues = s.openUpvalues ∧
    (∀ b o, Reach s.heap (rootAddrs s') b → s.heap.get b = some o → s'.heap.get b = some o) ∧
    s.heap.next ≤ s'.heap.next ∧ FreshNext s'.heap

theorem PureCallback.gc {re : Reenter} {f : Val} {φ : Val → Val → Val}
    (h : PureCallback re f φ) : GcCallback re f φ :=
  ⟨fun s r s' hc hl hf hok => by
    obtain ⟨h1, h2, h3, h4, h5, h6, h7, h8⟩ := h.ok s r s' hc hl hok
    exact ⟨h1, h2, h3, h5, h6, h7, h8, fun b o _ ho => by rw [h4]; exact ho,
      by rw [h4]; exact Nat.le_refl _, by rw [h4]; exact hf⟩⟩

theorem Grown.callKV {s₀ t t' : VmState} {re : Reenter} {f : Val} {φ : Val → Val → Val}
    (hcb : GcCallback re f φ) {k v r : Val} (hG : Grown s₀ t)
    (hok : (callKV re f k v).go t = (.ok r, t')) :
    r = φ k v ∧ Grown s₀ t' ∧ t'.guards = t.guards ∧ t.heap.next ≤ t'.heap.next ∧
    (∀ b o, Reach t.heap (rootAddrs t) b → t.heap.get b = some o → t'.heap.get b = some o) := by
  obtain ⟨st, hre, hc, hl, hk, hv, hsame⟩ := callKV_inv hok
  obtain ⟨hr, hpre, hcnt, hgu, hfr, hgl, hup, hkeep, hnext, hfresh⟩ :=
    hcb.ok _ r t' (by dsimp only; omega) hl (by exact hG.fresh) hre
  dsimp only at hr hgu hfr hgl hup hkeep hnext
  have hst := hsame _ hpre hcnt
  rw [rootAddrs_congr hst.contents hgl hfr hup hgu] at hkeep
  exact ⟨by rw [hr, hk, hv], hG.step hst hfr hgl hup (fun g hg => by rw [hgu]; exact hG.guards g hg)
    hkeep hnext hfresh, hgu, hnext, hkeep⟩

/-! ## a success-only frame logic: what a computation leaves alone *when it returns* -/

structure PresOk {α : Type} (R : VmState → VmState → Prop) (m : M α) : Prop where
  ok : ∀ s a s', m.go s = (.ok a, s') → R s s'

section presok
variable {R : VmState → VmState → Prop} [StateOrder R] {α β : Type}
set_option linter.unusedSectionVars false

theorem presOk_of_go {m : M α} {f : VmState → VmState}
    (hgo : ∀ s, ∃ a, m.go s = (.ok a, f s)) (hR : ∀ s, R s (f s)) : PresOk R m :=
  ⟨fun s a s' h => by
    obtain ⟨a', ha⟩ := hgo s
    rw [ha] at h
    cases h
    exact hR s⟩

theorem presOk_pure (a : α) : PresOk R (pure a : M α) :=
  presOk_of_go (fun s => ⟨a, go_pure a s⟩) StateOrder.refl
theorem presOk_throwE (e : ErrKind) : PresOk R (throwE e : M α) := ⟨fun s a s' h => by simp at h⟩
theorem presOk_throw (e : ErrKind) : PresOk R (throw e : M α) := ⟨fun s a s' h => by simp at h⟩
theorem presOk_get : PresOk R (get : M VmState) :=
  presOk_of_go (fun s => ⟨s, go_get s⟩) StateOrder.refl
theorem presOk_modify {f : VmState → VmState} (h : ∀ s, R s (f s)) : PresOk R (modify f : M PUnit) :=
  presOk_of_go (fun s => ⟨_, go_modify f s⟩) h

theorem presOk_bind {m : M α} {f : α → M β} (hm : PresOk R m) (hf : ∀ a, PresOk R (f a)) :
    PresOk R (m >>= f) :=
  ⟨fun s b s'' h => by
    obtain ⟨a, s', h1, h2⟩ := ok_bind h
    exact StateOrder.trans (hm.ok s a s' h1) ((hf a).ok s' b s'' h2)⟩

theorem presOk_ite {c : Prop} [Decidable c] {a b : M α} (ha : PresOk R a) (hb : PresOk R b) :
    PresOk R (if c then a else b) := by split <;> assumption

theorem presOk_forIn {γ σ : Type} (l : List γ) (init : σ) (f : γ → σ → M (ForInStep σ))
    (hf : ∀ x b, PresOk R (f x b)) : PresOk R (forIn l init f) := by
  induction l generalizing init with
  | nil => rw [List.forIn_nil]; exact presOk_pure _
  | cons x xs ih =>
    rw [List.forIn_cons]
    refine presOk_bind (hf x init) (fun r => ?_)
    cases r with
    | done b => exact presOk_pure _
    | yield b => exact ih b

theorem PresOk.of_pres {m : M α} (h : Pres R m) : PresOk R m :=
  ⟨fun s a s' hs => by have := h.rel s; rw [hs] at this; exact this⟩

end presok

def Bal (s s' : VmState) : Prop := StackSame s.stack s'.stack ∧ s'.frames = s.frames

instance : StateOrder Bal where
  refl _ := ⟨StackSame.refl _, rfl⟩
  trans h1 h2 := ⟨h1.1.trans h2.1, h2.2.trans h1.2⟩

theorem Bal.of_quiet {s s' : VmState} (q : Quiet s s') : Bal s s' :=
  ⟨StackSame.of_eq q.obs.stack, q.obs.frames⟩

theorem presOk_peek (n : Nat) : PresOk Bal (peek n) :=
  presOk_of_go (fun s => ⟨_, go_peek n s⟩) StateOrder.refl
theorem presOk_dropGuard (a : Nat) : PresOk Bal (dropGuard a) :=
  presOk_of_go (fun s => ⟨_, go_dropGuard a s⟩) fun _ => ⟨StackSame.refl _, rfl⟩
theorem presOk_guardVal (v : Val) : PresOk Bal (guardVal v) :=
  presOk_of_go (fun s => ⟨_, go_guardVal v s⟩) fun _ => ⟨StackSame.refl _, rfl⟩
theorem presOk_unguardVal (v : Val) : PresOk Bal (unguardVal v) :=
  presOk_of_go (fun s => ⟨_, go_unguardVal v s⟩) fun _ => ⟨StackSame.refl _, rfl⟩
theorem presOk_guardRows (es : List (Val × Val)) : PresOk Bal (guardRows es) :=
  presOk_of_go (fun s => ⟨_, go_guardRows es s⟩) fun _ => ⟨StackSame.refl _, rfl⟩
theorem presOk_unguardRows (es : List (Val × Val)) : PresOk Bal (unguardRows es) :=
  presOk_of_go (fun s => ⟨_, go_unguardRows es s⟩) fun _ => ⟨StackSame.refl _, rfl⟩
theorem presOk_allocBytes (c : Nat) : PresOk Bal (allocBytes c) :=
  ⟨fun s a s' h => by
    have := allocBytes_quiet c s; rw [h] at this; exact Bal.of_quiet this⟩
theorem presOk_initTable : PresOk Bal initTable :=
  ⟨fun s a s' h => by
    obtain ⟨s₂, q, -, rfl⟩ := initTable_ok h
    exact ⟨StackSame.of_eq q.obs.stack, q.obs.frames⟩⟩
theorem presOk_initString (b : List UInt8) : PresOk Bal (initString b) :=
  ⟨fun s a s' h => by
    obtain ⟨s₂, q, -, rfl⟩ := initString_ok h
    exact ⟨StackSame.of_eq q.obs.stack, q.obs.frames⟩⟩
theorem presOk_tableInsert (a : Nat) (k v : Val) : PresOk Bal (tableInsert a k v) :=
  ⟨fun s u s' h => by
    have h' := h
    rw [show (tableInsert a k v).go s = _ from tableInsert_run a k v s] at h'
    unfold tableInsertPure at h'
    split at h'
    · next cap es hg =>
      obtain ⟨s₁, cap', q, -, hst, hfr, -⟩ := tableInsert_ok hg h
      exact ⟨StackSame.of_eq (hst.trans q.obs.stack), hfr.trans q.obs.frames⟩
    · cases h'⟩

/-- the callback pops exactly the `n` arguments the native pushed for it, and restores the call
    stack (when it returns); when arguments were pushed (`0 < n`) the entry stack is known not to
    be over-full -/
def Balanced (re : Reenter) (f : Val) (n : Nat) : Prop :=
  ∀ s r s', n ≤ s.stack.count → (0 < n → s.stack.count < s.stack.data.length) →
    (re f).go s = (.ok r, s') →
    Prefix s'.stack s.stack ∧ s'.stack.count + n = s.stack.count ∧ s'.frames = s.frames

theorem PureCallback.balanced {re : Reenter} {f : Val} {φ : Val → Val → Val}
    (h : PureCallback re f φ) : Balanced re f 2 := fun s r s' hc hl hok => by
  obtain ⟨-, h1, h2, -, -, h3, -, -⟩ := h.ok s r s' hc (hl (by omega)) hok
  exact ⟨h1, h2, h3⟩

theorem presOk_callKV {re : Reenter} {f : Val} (hb : Balanced re f 2) (k v : Val) :
    PresOk Bal (callKV re f k v) :=
  ⟨fun t r t' hok => by
    obtain ⟨st, hre, hc, hl, -, -, hsame⟩ := callKV_inv hok
    obtain ⟨hpre, hcnt, hfr⟩ := hb _ r t' (by dsimp only; omega) (fun _ => hl) hre
    exact ⟨hsame _ hpre hcnt, hfr⟩⟩

theorem presOk_call1 {re : Reenter} {f : Val} (hb : Balanced re f 1) (x : Val) :
    PresOk Bal (push x >>= fun _ => re f) :=
  ⟨fun t r t' hok => by
    obtain ⟨_, t₁, h1, hok⟩ := ok_bind hok
    obtain ⟨hc1, rfl⟩ := push_ok h1
    obtain ⟨hpre, hcnt, hfr⟩ := hb _ r t' (by dsimp only; omega)
      (fun _ => by dsimp only; rw [List.length_set]; omega) hok
    dsimp only at hpre hcnt hfr
    exact ⟨StackSame.of_prefix (Prefix.push t.stack x) hpre (by omega), hfr⟩⟩


theorem mergeSort_congr {α : Type} {l : List α} {r r' : α → α → Bool}
    (h : ∀ a ∈ l, ∀ b ∈ l, r a b = r' a b) : l.mergeSort r = l.mergeSort r' := by
  have := List.map_mergeSort (f := id) (r := r) (s := r') (l := l) (by simpa using h)
  simpa using this

end Cao.Native

/-! ## the body of `__min` / `__max`

Written as the loop `scanStep` and the construction of the result row `mkRowG`, so that the functional
specification (`Props/C09.lean`), the balance of the value stack (`Props/C18.lean`) and the comparison of two
collection schedules (`Lemmas/SchedNat.lean`) speak of the same text. -/
namespace Cao.C09
open Cao Cao.Vm Cao.Gc Cao.C02 Cao.C05 Cao.Native

/-- is `x` strictly better than the current best `y`? (`__min`: smaller, `__max`: larger) -/
def better (isMin : Bool) (h : Heap) (x y : Val) : Bool :=
  if isMin then OVal.vlt hostF64 (ownD h x) (ownD h y) else OVal.vlt hostF64 (ownD h y) (ownD h x)

def scanStep (isMin : Bool) (re : Reenter) (keyFn : Val) (x : Val × Val) (st : Val × Nat × Nat) :
    M (ForInStep (Val × Nat × Nat)) := do
  push x.2; push x.1
  let key ← re keyFn
  let h := (← get).heap
  if better isMin h key st.1 then do
    unguardVal st.1
    guardVal key
    pure (.yield (key, st.2.2, st.2.2 + 1))
  else pure (.yield (st.1, st.2.1, st.2.2 + 1))

/-- the result row `{ "key": k, "value": v }`; the guard of the best key is released last (it lives
    until the native returns) -/
def mkRow (k v best : Val) : M Val := do
  let row ← initTable
  let ks ← initString "key".toUTF8.toList
  tableInsert row (.obj ks) k
  dropGuard ks
  let vs ← initString "value".toUTF8.toList
  tableInsert row (.obj vs) v
  dropGuard vs
  dropGuard row
  unguardVal best
  return .obj row

/-- `mkRow`, then the guards of the copied rows are released -/
def mkRowG (es : List (Val × Val)) (k v best : Val) : M Val := do
  let row ← initTable
  let ks ← initString "key".toUTF8.toList
  tableInsert row (.obj ks) k
  dropGuard ks
  let vs ← initString "value".toUTF8.toList
  tableInsert row (.obj vs) v
  dropGuard vs
  dropGuard row
  unguardVal best
  unguardRows es
  return .obj row

/-- the body of `__min` (`isMin = true`) and `__max` (`isMin = false`) -/
def minmaxBody (isMin : Bool) (re : Reenter) : M Val := do
  let h := (← get).heap
  let keyFn ← peek 0
  let iterable ← peek 1
  match isTable h iterable with
  | none => return iterable
  | some es =>
    match es with
    | [] => return .nil
    | (k0, v0) :: rest => do
      guardRows es
      push v0; push k0
      let best ← re keyFn
      guardVal best
      let st ← forIn rest (best, 0, 1) (scanStep isMin re keyFn)
      mkRowG es (es.getD st.2.1 (.nil, .nil)).1 (es.getD st.2.1 (.nil, .nil)).2 st.1

theorem callNativeBody_min (re : Reenter) : callNativeBody re "__min" = minmaxBody true re := by
  unfold callNativeBody
  simp (config := { decide := true }) only []
  rfl
theorem callNativeBody_max (re : Reenter) : callNativeBody re "__max" = minmaxBody false re := by
  unfold callNativeBody
  simp (config := { decide := true }) only []
  rfl

end Cao.C09
