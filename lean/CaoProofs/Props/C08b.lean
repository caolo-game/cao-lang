import CaoProofs.Lemmas.CrossLemmas
import CaoProofs.Lemmas.CallSiteLemmas
import CaoProofs.Props.C08
import CaoProofs.Props.C06
/-!
# C08b — the run-time half of "a static call executes the designated function's body"

C08 (`Props/C08.lean`) proves the compile-time half: the operand of every static call is the handle
of the function the reference lookup designates, and the label table maps that handle to the
position where the body of that function starts (`compile_calls_resolve`,
`compile_call_target_labelled`). This file adds what the interpreter model does with it.

Sections 1-4 are facts about `step` and `exec`, for any program and any state: the two instructions
`FunctionPointer h a; CallFunction` continue at the position the label table gives for `h`, in a new
frame that holds exactly the `a` arguments (`static_call_enters_body`, `callee_sees_arguments`);
local indices address nothing below the frame's offset (`readLocal_reach`, `writeLocal_reach`);
`Return` gives the caller back its frame and leaves its slots below the arguments untouched
(`return_restores_caller`, `call_return_roundtrip`).

Sections 5 and 5b join this with C08 for compiled programs: every `Call` card, however deeply nested, has
its 10-byte sequence in the final program, inside the code of its function, with the operands its
name resolves to (`BodyAt.call_sites`, `Lemmas/CallSiteLemmas.lean`: a window property carried
through the card tree by the rules of `Found`; back-patches only touch jump placeholders outside
the sequence), and executing it enters the body of the designated function
(`compiled_call_card_enters_body`).
-/
namespace Cao.C08b
open Cao Cao.Vm Cao.Compiler Cao.Cross Cao.C05

/-! ## 1. the two instructions of a static call -/

/-- the handle operand of the `FunctionPointer` at `src` -/
def fpHandle (p : Prog) (src : Nat) : UInt32 := UInt32.ofNat (Vm.rdU32 p.bytecode (src + 1))
/-- the arity operand of the `FunctionPointer` at `src` -/
def fpArity (p : Prog) (src : Nat) : UInt32 := UInt32.ofNat (Vm.rdU32 p.bytecode (src + 1 + 4))

/-- the code of a static call sits at `src`: `FunctionPointer h a` (9 bytes), `CallFunction` -/
structure StaticCallAt (p : Prog) (src : Nat) : Prop where
  fp : p.bytecode.getD src 0 = op.functionPointer
  call : p.bytecode.getD (src + 9) 0 = op.callFunction

/-- the frame a static call at `src` pushes from a state with `count` values on the stack -/
def calleeFrame (p : Prog) (src count : Nat) : Frame :=
  { src := src + 9, dst := src + 10, stackOffset := count - (fpArity p src).toNat, closure := none }

/-- the caller's frame after the call: only the return address is updated -/
def callerFrame (s : VmState) (src : Nat) : Frame :=
  { (s.frames.getLast?.getD ⟨0, 0, 0, none⟩) with dst := src + 10 }

theorem callerFrame_eq {s : VmState} {fr : Frame} (src : Nat) (h : s.frames.getLast? = some fr) :
    callerFrame s src = { fr with dst := src + 10 } := by
  unfold callerFrame; rw [h]; rfl

theorem function_pointer_pushes (p : Prog) (re : Reenter) (src : Nat)
    (hop : p.bytecode.getD src 0 = op.functionPointer) (s : VmState) (hfresh : FreshNext s.heap)
    {ctl1 : Ctl} {s1 : VmState} (h1 : (step p re src).go s = (.ok ctl1, s1)) :
    ctl1 = { ip := src + 9 } ∧ s.stack.count + 1 < s.stack.data.length ∧ ∃ a,
      s1.stack = { count := s.stack.count + 1, data := s.stack.data.set s.stack.count (.obj a) } ∧
      s1.heap.get a = some (.fn (fpHandle p src) (fpArity p src)) ∧ s1.frames = s.frames ∧
      s1.frameCap = s.frameCap ∧ s1.openUpvalues = s.openUpvalues ∧ FreshNext s1.heap ∧
      s1.remaining = s.remaining ∧ s1.dispatches = s.dispatches := by
  rw [step_functionPointer p re src hop] at h1
  have hk := (functionPointer_keep (fpHandle p src) (fpArity p src) (src + 1)).rel s
  unfold fpHandle fpArity at hk
  rw [h1] at hk
  obtain ⟨h2, h3, a, h4, h5, h6, h7, h8, h9⟩ := functionPointer_ok hfresh h1
  exact ⟨h2, h3, a, h4, h5, h6, h7, h8, h9, hk.1, hk.2.1⟩

/-- the second instruction, from any state that looks like the one the first instruction left -/
theorem call_function_enters (p : Prog) (re : Reenter) (src : Nat) (hat : StaticCallAt p src)
    {hd : UInt32} {pos a : Nat}
    (hl : p.labels.find? (fun l => l.1 == fpHandle p src) = some (hd, pos))
    (s t : VmState) (hfr : s.frames ≠ [])
    (hargs : (fpArity p src).toNat ≤ s.stack.count) (hroom : s.frames.length < s.frameCap)
    (hst : t.stack = { count := s.stack.count + 1, data := s.stack.data.set s.stack.count (.obj a) })
    (hcap : s.stack.count + 1 < s.stack.data.length)
    (hget : t.heap.get a = some (.fn (fpHandle p src) (fpArity p src)))
    (hfrm : t.frames = s.frames) (hfc : t.frameCap = s.frameCap) :
    (step p re (src + 9)).go t = (.ok { ip := pos },
      { t with stack := { count := s.stack.count, data := s.stack.data.set s.stack.count .nil },
               frames := s.frames.dropLast ++ [callerFrame s src] ++ [calleeFrame p src s.stack.count] }) := by
  have hcount : t.stack.count = s.stack.count + 1 := by rw [hst]
  have hpos : t.stack.count ≠ 0 := by omega
  have htop : t.stack.data.getD (t.stack.count - 1) .nil = .obj a := by
    rw [hst]
    simp only [Nat.add_sub_cancel]
    rw [List.getD_eq_getElem?_getD, List.getElem?_set_self (by omega)]
    rfl
  rw [callFunction_enters p re (src + 9) hat.call t hpos htop hget hl (by rw [hfrm]; exact hfr)
    (by rw [hcount]; simpa using hargs) (by rw [hfrm, hfc]; exact hroom)]
  congr 2
  · rw [hst]
    simp only [Nat.add_sub_cancel, List.set_set]
  · rw [hfrm, hcount]
    rfl

/-- **`static_call_enters_body`**: if the first instruction (`FunctionPointer`) succeeds — it
    allocates — the second (`CallFunction`) succeeds as well and continues at the label of the
    handle operand (first match in the label table), in a new frame for exactly the `a` topmost
    values. Hypotheses: a call stack with a frame (every run has one) and room for one more, at
    least `a` values on the stack, a heap whose next address is fresh (an invariant of every run,
    `C05`). The two instructions may be given different re-entry callbacks (the dispatch loop
    does). -/
theorem static_call_enters_body (p : Prog) (re re' : Reenter) (src : Nat) (hat : StaticCallAt p src)
    {hd : UInt32} {pos : Nat}
    (hl : p.labels.find? (fun l => l.1 == fpHandle p src) = some (hd, pos))
    (s : VmState) (hfresh : FreshNext s.heap) (hfr : s.frames ≠ [])
    (hargs : (fpArity p src).toNat ≤ s.stack.count) (hroom : s.frames.length < s.frameCap)
    {ctl1 : Ctl} {s1 : VmState} (h1 : (step p re src).go s = (.ok ctl1, s1)) :
    ctl1 = { ip := src + 9 } ∧
    ∃ s2, (step p re' (src + 9)).go s1 = (.ok { ip := pos }, s2) ∧
      s2.frames = s.frames.dropLast ++ [callerFrame s src] ++ [calleeFrame p src s.stack.count] ∧
      s2.stack = { count := s.stack.count, data := s.stack.data.set s.stack.count .nil } ∧
      s2.frameCap = s.frameCap ∧ s2.openUpvalues = s.openUpvalues ∧ FreshNext s2.heap := by
  obtain ⟨hc1, hcap, a, hst, hget, hfrm, hfc, hou, hfresh1, _, _⟩ :=
    function_pointer_pushes p re src hat.fp s hfresh h1
  refine ⟨hc1, _, call_function_enters p re' src hat hl s s1 hfr hargs hroom hst hcap hget hfrm hfc,
    rfl, rfl, hfc, hou, hfresh1⟩

/-- the first instruction succeeds whenever the allocator grants the header of one object and the
    value stack has a free slot -/
theorem static_call_first_ok (p : Prog) (re : Reenter) (src : Nat) (hat : StaticCallAt p src) (s s0 : VmState)
    (halloc : (allocBytes Heap.objCharge).go s = (.ok (), s0))
    (hcap : s.stack.count + 1 < s.stack.data.length) :
    ∃ ctl1 s1, (step p re src).go s = (.ok ctl1, s1) := by
  rw [step_functionPointer p re src hat.fp, go_functionPointer]
  unfold Gc.alloc1Pure
  rw [go_allocBytes] at halloc
  have hrel := Upv.allocPure_rel Heap.objCharge s
  rw [halloc] at hrel ⊢
  dsimp only
  have hst : (Gc.withObject (.fn (UInt32.ofNat (Vm.rdU32 p.bytecode (src + 1)))
      (UInt32.ofNat (Vm.rdU32 p.bytecode (src + 1 + 4)))) s0).stack = s.stack := hrel.stack_eq
  rw [hst, if_pos hcap]
  exact ⟨_, _, rfl⟩

/-! ## 2. what the callee can address -/

theorem getD_set_ne {α : Type} (l : List α) {i j : Nat} (v d : α) (h : i ≠ j) :
    (l.set i v).getD j d = l.getD j d := by
  rw [List.getD_eq_getElem?_getD, List.getD_eq_getElem?_getD, List.getElem?_set_ne h]

/-- **`readLocal off i` reads slot `off + i`** (or `nil` above the top): no slot below the frame's
    offset is addressable -/
theorem readLocal_reach (off idx : Nat) (s : VmState) :
    (readLocal off idx).go s =
      (.ok (if off + idx ≥ s.stack.count then .nil else s.stack.data.getD (off + idx) .nil), s) ∧
    off ≤ off + idx :=
  ⟨rfl, Nat.le_add_right _ _⟩

/-- **`writeLocal off i v` writes slot `off + i` and nothing else** (it may raise the height by one
    when `off + i` is the top): every slot below the frame's offset keeps its value -/
theorem writeLocal_reach (off idx : Nat) (v : Val) (s s' : VmState)
    (h : (writeLocal off idx v).go s = (.ok (), s')) :
    s'.stack.data = s.stack.data.set (off + idx) v ∧ s.stack.count ≤ s'.stack.count ∧
    (∀ j, j < off → s'.stack.data.getD j .nil = s.stack.data.getD j .nil) ∧
    s'.frames = s.frames := by
  unfold writeLocal at h
  simp only [go_bind, go_get, VStack.set, VStack.push] at h
  by_cases h1 : off + idx > s.stack.count
  · simp only [h1, if_true] at h
    cases h
  simp only [h1, if_false] at h
  by_cases h2 : off + idx = s.stack.count
  · simp only [h2, if_true] at h
    by_cases h3 : s.stack.count + 1 < s.stack.data.length
    · simp only [h3, if_true] at h
      simp only [go_set, Prod.mk.injEq, true_and] at h
      subst h
      exact ⟨by rw [h2], Nat.le_succ _, fun j hj => getD_set_ne _ _ _ (by omega), rfl⟩
    · simp only [h3, if_false] at h
      cases h
  · simp only [h2, if_false] at h
    simp only [go_set, Prod.mk.injEq, true_and] at h
    subst h
    exact ⟨rfl, Nat.le_refl _, fun j hj => getD_set_ne _ _ _ (by omega), rfl⟩

/-- **the callee sees exactly the supplied arguments**: in the frame a static call pushes from a
    stack of height `count`, local `i < a` is the value at `count - a + i` of the caller's stack,
    and every local index `≥ a` reads `nil` (until the callee pushes) -/
theorem callee_sees_arguments (p : Prog) (src : Nat) (s s2 : VmState)
    (hst : s2.stack = { count := s.stack.count, data := s.stack.data.set s.stack.count .nil })
    (hargs : (fpArity p src).toNat ≤ s.stack.count) (i : Nat) :
    (readLocal (calleeFrame p src s.stack.count).stackOffset i).go s2 =
      (.ok (if i < (fpArity p src).toNat
              then s.stack.data.getD (s.stack.count - (fpArity p src).toNat + i) .nil else .nil), s2) := by
  rw [go_readLocal]
  have : s2.stack.get ((calleeFrame p src s.stack.count).stackOffset + i) =
      (if i < (fpArity p src).toNat
        then s.stack.data.getD (s.stack.count - (fpArity p src).toNat + i) .nil else .nil) := by
    show VStack.get s2.stack (s.stack.count - (fpArity p src).toNat + i) = _
    rw [hst]
    unfold VStack.get
    dsimp only
    by_cases hi : i < (fpArity p src).toNat
    · rw [if_pos hi, if_neg (by omega)]
      exact getD_set_ne _ _ _ (by omega)
    · rw [if_neg hi, if_pos (by omega)]
      rfl
  rw [this]

/-! ## 3. `Return` -/

/-- **`return_restores_caller`**: `Return` in a frame `callee` above a frame `caller` continues at
    the caller's return address with the callee's frame popped; the value stack is cut at the
    callee's `stackOffset` — at `c = min stackOffset height`: `clear_until` only truncates (repaired
    in /repo e9e35ff, where it could also raise the height to the offset), a frame that starts above the
    height (a call with too few values left) leaves the height alone — and the return value (the
    top of the stack) is pushed there. No slot below `c` is written. (Open upvalues at or above
    `stackOffset` are closed: heap and `openUpvalues` change as `closeState` says.) -/
theorem return_restores_caller (p : Prog) (re : Reenter) (src : Nat)
    (hop : p.bytecode.getD src 0 = op.ret) (s : VmState) {fs : List Frame} {caller callee : Frame}
    (hfs : s.frames = fs ++ [caller, callee])
    (hroom : min callee.stackOffset s.stack.count + 1 < s.stack.data.length) :
    ∃ s', (step p re src).go s = (.ok { ip := caller.dst }, s') ∧
      s'.frames = fs ++ [caller] ∧
      s'.stack = { count := min callee.stackOffset s.stack.count + 1,
                   data := s.stack.data.set (min callee.stackOffset s.stack.count) s.stack.last } ∧
      s'.stack.last = s.stack.last ∧
      (∀ j, j < min callee.stackOffset s.stack.count →
        s'.stack.data.getD j .nil = s.stack.data.getD j .nil) ∧
      s'.globals = s.globals ∧ s'.frameCap = s.frameCap := by
  generalize hc : min callee.stackOffset s.stack.count = c at hroom ⊢
  rw [Upv.step_ret p re src hop, go_ret]
  have hl : s.frames.getLast? = some callee := by rw [hfs]; simp
  have hd : s.frames.dropLast = fs ++ [caller] := by
    rw [hfs, show fs ++ [caller, callee] = (fs ++ [caller]) ++ [callee] by simp, List.dropLast_concat]
  have hl2 : s.frames.dropLast.getLast? = some caller := by rw [hd]; simp
  rw [hl]
  dsimp only
  rw [hl2]
  dsimp only
  rw [hc, if_pos hroom]
  refine ⟨_, rfl, hd, rfl, ?_, fun j hj => getD_set_ne _ _ _ (by omega), rfl, rfl⟩
  show VStack.last { count := c + 1, data := _ } = _
  unfold VStack.last
  dsimp only
  rw [if_pos (Nat.succ_pos _), Nat.add_sub_cancel, List.getD_eq_getElem?_getD,
    List.getElem?_set_self (by omega)]
  rfl

theorem return_without_caller (p : Prog) (re : Reenter) (src : Nat)
    (hop : p.bytecode.getD src 0 = op.ret) (s : VmState) (h : s.frames.length ≤ 1) :
    ∃ s', (step p re src).go s = (.error .badReturn, s') := by
  rw [Upv.step_ret p re src hop, go_ret]
  cases hf : s.frames with
  | nil => exact ⟨_, rfl⟩
  | cons a t =>
    cases t with
    | nil => exact ⟨_, rfl⟩
    | cons b t' => rw [hf] at h; simp at h

/-- **round trip**: `t` is any later state in which the call stack is again the one the static call
    at `src` left (the callee is about to return). `Return` then gives the caller back its frame
    (with the return address `src + 10`, the instruction behind the call), and a value stack of
    height `min (count - a) height(t) + 1` — `count - a + 1` when the callee has not dropped values
    of its callers (`call_return_roundtrip_height`): the `a` arguments have been replaced by the
    result; the caller's slots below hold whatever `t` holds there (`Return` does not touch them). -/
theorem call_return_roundtrip (p : Prog) (re : Reenter) (src r : Nat) (hop : p.bytecode.getD r 0 = op.ret)
    (s t : VmState) {fr : Frame} (hlast : s.frames.getLast? = some fr)
    (ht : t.frames = s.frames.dropLast ++ [callerFrame s src] ++ [calleeFrame p src s.stack.count])
    (hroom : min (s.stack.count - (fpArity p src).toNat) t.stack.count + 1 < t.stack.data.length) :
    ∃ t', (step p re r).go t = (.ok { ip := src + 10 }, t') ∧
      t'.frames = s.frames.dropLast ++ [{ fr with dst := src + 10 }] ∧
      t'.stack.count = min (s.stack.count - (fpArity p src).toNat) t.stack.count + 1 ∧
      t'.stack.last = t.stack.last ∧
      ∀ j, j < min (s.stack.count - (fpArity p src).toNat) t.stack.count →
        t'.stack.data.getD j .nil = t.stack.data.getD j .nil := by
  have ht' : t.frames = s.frames.dropLast ++ [callerFrame s src, calleeFrame p src s.stack.count] := by
    rw [ht]; simp
  obtain ⟨t', h1, h2, h3, h4, h5, _⟩ := return_restores_caller p re r hop t ht' hroom
  refine ⟨t', h1, ?_, ?_, h4, h5⟩
  · rw [h2, callerFrame_eq src hlast]
  · rw [h3]; rfl

/-- when the callee is at or above its own frame's offset at the `Return` (it has not dropped values
    of its callers), the height afterwards is `count - a + 1` -/
theorem call_return_roundtrip_height (p : Prog) (re : Reenter) (src r : Nat) (hop : p.bytecode.getD r 0 = op.ret)
    (s t : VmState) {fr : Frame} (hlast : s.frames.getLast? = some fr)
    (ht : t.frames = s.frames.dropLast ++ [callerFrame s src] ++ [calleeFrame p src s.stack.count])
    (hle : s.stack.count - (fpArity p src).toNat ≤ t.stack.count)
    (hroom : s.stack.count - (fpArity p src).toNat + 1 < t.stack.data.length) :
    ∃ t', (step p re r).go t = (.ok { ip := src + 10 }, t') ∧
      t'.frames = s.frames.dropLast ++ [{ fr with dst := src + 10 }] ∧
      t'.stack.count = s.stack.count - (fpArity p src).toNat + 1 ∧
      t'.stack.last = t.stack.last ∧
      ∀ j, j < s.stack.count - (fpArity p src).toNat →
        t'.stack.data.getD j .nil = t.stack.data.getD j .nil := by
  have hm : min (s.stack.count - (fpArity p src).toNat) t.stack.count
      = s.stack.count - (fpArity p src).toNat := Nat.min_eq_left hle
  have := call_return_roundtrip p re src r hop s t hlast ht (by rw [hm]; exact hroom)
  rw [hm] at this
  exact this

/-! ## 4. the dispatch loop -/

/-- **two iterations of the dispatch loop** at a static call continue the loop in the callee:
    with a budget of at least 3, code for both instructions, and the first instruction succeeding
    (see `static_call_first_ok`), the loop is at the label of the handle operand, two units of
    fuel and of budget later, in the new frame -/
theorem exec_static_call (p : Prog) (gas src : Nat) (hat : StaticCallAt p src)
    {hd : UInt32} {pos : Nat}
    (hl : p.labels.find? (fun l => l.1 == fpHandle p src) = some (hd, pos))
    (s : VmState) (hfresh : FreshNext s.heap) (hfr : s.frames ≠ [])
    (hargs : (fpArity p src).toNat ≤ s.stack.count) (hroom : s.frames.length < s.frameCap)
    (hsz : src + 9 < p.bytecode.size) (hbudget : 3 ≤ s.remaining)
    {ctl1 : Ctl} {s1 : VmState} (h1 : (step p (reenterOf p (gas + 1)) src).go s.tick = (.ok ctl1, s1)) :
    ∃ s2, exec p (gas + 2) (.loop src) s = exec p gas (.loop pos) s2 ∧
      s2.frames = s.frames.dropLast ++ [callerFrame s src] ++ [calleeFrame p src s.stack.count] ∧
      s2.stack = { count := s.stack.count, data := s.stack.data.set s.stack.count .nil } ∧
      s2.remaining = s.remaining - 2 ∧ s2.dispatches = s.dispatches + 2 := by
  have hfr' : s.tick.frames ≠ [] := hfr
  obtain ⟨hc1, hcap, a, hst, hget, hfrm, hfc, hou, hfresh1, hrem, hdis⟩ :=
    function_pointer_pushes p (reenterOf p (gas + 1)) src hat.fp s.tick hfresh h1
  have h2 := call_function_enters p (reenterOf p gas) src hat hl s.tick s1.tick hfr' hargs hroom hst hcap hget hfrm hfc
  refine ⟨{ s1.tick with
      stack := { count := s.stack.count, data := s.stack.data.set s.stack.count .nil }
      frames := s.frames.dropLast ++ [callerFrame s src] ++ [calleeFrame p src s.stack.count] },
    ?_, rfl, rfl, ?_, ?_⟩
  · subst hc1
    rw [exec_loop, if_neg (by omega), if_neg (by omega), h1]
    dsimp only
    rw [if_neg (by simp)]
    rw [exec_loop, if_neg (by omega), if_neg (by rw [hrem]; show s.remaining - 1 - 1 ≠ 0; omega), h2]
    dsimp only
    rw [if_neg (by simp)]
    rfl
  · show s1.remaining - 1 = _
    rw [hrem]
    show s.remaining - 1 - 1 = _
    omega
  · show s1.dispatches + 1 = _
    rw [hdis]
    rfl

/-! ## 5. compiled programs: C08 + the interpreter -/

theorem static_call_labelled {p : Prog} {src pos : Nat} {hd : UInt32} (hat : StaticCallAt p src)
    (hl : p.labels.find? (fun l => l.1 == hd) = some (hd, pos)) (hh : fpHandle p src = hd)
    (re re' : Reenter) (s : VmState) (hfresh : FreshNext s.heap) (hfr : s.frames ≠ [])
    (hargs : (fpArity p src).toNat ≤ s.stack.count) (hroom : s.frames.length < s.frameCap)
    (ctl1 : Ctl) (s1 : VmState) (h1 : (step p re src).go s = (.ok ctl1, s1)) :
    ctl1 = { ip := src + 9 } ∧
    ∃ s2, (step p re' (src + 9)).go s1 = (.ok { ip := pos }, s2) ∧
      s2.frames = s.frames.dropLast ++ [callerFrame s src] ++ [calleeFrame p src s.stack.count] ∧
      s2.stack = { count := s.stack.count, data := s.stack.data.set s.stack.count .nil } := by
  obtain ⟨e1, s2, e2, e3, e4, _⟩ :=
    static_call_enters_body p re re' src hat (hh ▸ hl) s hfresh hfr hargs hroom h1
  exact ⟨e1, s2, e2, e3, e4⟩

/-- **(C08, both halves)** for a successful `compile`: every static call / function reference `n`
    in the body of a function `unit[i]` resolves to the handle and arity of the function `unit[j]`
    that the reference lookup `Sem.resolve` designates (`C08.compile_calls_resolve`; these are the
    two operands the compiler emits behind `FunctionPointer`: `C08.encodeJump_emits_target`), and
    for `j > 0` there is the position `pos` where the body of `unit[j]` was compiled (`BodyAt`: its
    cards were compiled from there, with its namespace and imports, and the bytes are still there
    in the final program) such that — if no other label was inserted under the same 32-bit handle —
    **executing a static-call sequence whose handle operand is that handle transfers control to
    `pos`**, in a new frame holding exactly the supplied arguments (`static_call_enters_body`). The
    sequence is any `src` with `StaticCallAt` and that handle; that the bytes compiled from the `Call`
    card are such a sequence is `compiled_call_card_enters_body`.
    For `j = 0` (`main`) the compiler inserts no label (known finding K3): the call raises
    `ProcedureNotFound` unless another label collides with `main`'s handle (no theorem says so). -/
theorem compiled_static_call_enters_body {m std : Module} {limit : Nat} {p : Program}
    (h : compile m std limit = .ok p) :
    ∃ unit sF, intoIrStream m std limit = .ok unit ∧ (compileUnit unit).run {} = .ok ((), sF) ∧
      p.bytecode = sF.bytecode ∧
      ∀ i (hi : i < unit.size), ∀ n ∈ callsList unit[i].cards,
        ∃ j, ∃ hj : j < unit.size,
          resolveSpec (jumpTableOf unit.toList) unit[i].ns unit[i].imports n =
            .ok (unit[j].handle, UInt32.ofNat unit[j].arguments.length) ∧
          Sem.resolve (unit.map toFnDef) i n = some j ∧
          (0 < j → ∃ pos, BodyAt (jumpTableOf unit.toList) unit[j] pos sF ∧
            ((∀ q ∈ sF.labels, q.1 = unit[j].handle → q.2 = pos) →
              ∀ (re re' : Reenter) (src : Nat), StaticCallAt (Prog.ofProgram p) src →
                fpHandle (Prog.ofProgram p) src = unit[j].handle →
                ∀ (s : VmState), FreshNext s.heap → s.frames ≠ [] →
                  (fpArity (Prog.ofProgram p) src).toNat ≤ s.stack.count → s.frames.length < s.frameCap →
                  ∀ ctl1 s1, (step (Prog.ofProgram p) re src).go s = (.ok ctl1, s1) →
                    ctl1 = { ip := src + 9 } ∧
                    ∃ s2, (step (Prog.ofProgram p) re' (src + 9)).go s1 = (.ok { ip := pos }, s2) ∧
                      s2.frames = s.frames.dropLast ++ [callerFrame s src] ++
                        [calleeFrame (Prog.ofProgram p) src s.stack.count] ∧
                      s2.stack = { count := s.stack.count, data := s.stack.data.set s.stack.count .nil })) := by
  obtain ⟨unit, sF, hC, rfl⟩ := compile_run h
  refine ⟨unit, sF, hC.ir, hC.run, rfl, fun i hi n hn => ?_⟩
  obtain ⟨j, hj, d⟩ := C08.calls_designate hC.run hi hn
  refine ⟨j, hj, d.resolves, d.sem, fun h0 => ?_⟩
  obtain ⟨pos, _, hbody, hlabel⟩ := d.body h0
  exact ⟨pos, hbody, fun huniq re re' src hat hh => static_call_labelled hat (hlabel huniq) hh re re'⟩

/-! ## 5b. every `Call` card has its call sequence in the program -/

theorem getD_of_getElem? {bc : Array UInt8} {i : Nat} {x : UInt8} (h : bc[i]? = some x) : bc.getD i 0 = x := by
  obtain ⟨hlt, rfl⟩ := Array.getElem?_eq_some_iff.1 h
  simp [Array.getD, hlt]

/-- the ten bytes, read the way the interpreter reads them (`siteBytes hd a` is a list of ten
    explicit bytes, up to unfolding) -/
theorem siteAt_static_call {p : Program} {src : Nat} {hd a : UInt32} (h : SiteAt p.bytecode src hd a) :
    StaticCallAt (Prog.ofProgram p) src ∧ fpHandle (Prog.ofProgram p) src = hd ∧
    fpArity (Prog.ofProgram p) src = a := by
  obtain ⟨_, hb⟩ := h
  unfold siteBytes at hb
  obtain ⟨x0, x1, x2, x3, hx⟩ : ∃ x0 x1 x2 x3, le32 hd = [x0, x1, x2, x3] := ⟨_, _, _, _, rfl⟩
  obtain ⟨y0, y1, y2, y3, hy⟩ : ∃ y0 y1 y2 y3, le32 a = [y0, y1, y2, y3] := ⟨_, _, _, _, rfl⟩
  rw [hx, hy] at hb
  have hhd : ∀ j, j < 4 → p.bytecode[src + 1 + j]? = [x0, x1, x2, x3][j]? := fun j hj => by
    rw [Nat.add_assoc, hb (1 + j) (by omega)]
    rcases j with _ | _ | _ | _ | j <;> first | rfl | omega
  have har : ∀ j, j < 4 → p.bytecode[src + 1 + 4 + j]? = [y0, y1, y2, y3][j]? := fun j hj => by
    rw [Nat.add_assoc, Nat.add_assoc, hb (1 + (4 + j)) (by omega)]
    rcases j with _ | _ | _ | _ | j <;> first | rfl | omega
  refine ⟨⟨getD_of_getElem? (hb 0 (by omega)), getD_of_getElem? (hb 9 (by omega))⟩, ?_, ?_⟩
  · show UInt32.ofNat (Vm.rdU32 p.bytecode (src + 1)) = hd
    rw [C06.rdU32_le32 _ _ _ (hx ▸ hhd), UInt32.ofNat_toNat]
  · show UInt32.ofNat (Vm.rdU32 p.bytecode (src + 1 + 4)) = a
    rw [C06.rdU32_le32 _ _ _ (hy ▸ har), UInt32.ofNat_toNat]

theorem call_sites_designate {unit : Array FunctionIr} {sF : CState}
    (hc : (compileUnit unit).run {} = .ok ((), sF)) {i : Nat} (hi : i < unit.size) {n : String}
    (hn : n ∈ callNamesList unit[i].cards) :
    ∃ j, ∃ hj : j < unit.size, C08.Designates unit sF i hi n j hj ∧ ∃ src bodyI,
      BodyAt (jumpTableOf unit.toList) unit[i] bodyI sF ∧ bodyI ≤ src ∧
      SiteAt sF.bytecode src unit[j].handle (UInt32.ofNat unit[j].arguments.length) := by
  obtain ⟨bodyI, hb⟩ := C08.compileUnit_bodyAt hc i hi
  obtain ⟨hd, a, src, hr, hle, hs⟩ := hb.call_sites n hn
  obtain ⟨j, hj, d, rfl, rfl⟩ := C08.designates_of_resolves hc hi hr
  exact ⟨j, hj, d, src, bodyI, hb, hle, hs⟩

/-- the compile-time part of `compiled_call_card_enters_body`: every `Call` card (name `n`) anywhere
    in the body of a function `unit[i]` has its static-call sequence in the final program, at an
    address `src` inside the code of `unit[i]`, with the handle and arity of the function `unit[j]`
    the reference lookup designates as operands; for `j > 0` the label table maps the handle to the
    position of the body of `unit[j]` if no other label was inserted under the same handle -/
theorem compiled_call_card_site {m std : Module} {limit : Nat} {p : Program}
    (h : compile m std limit = .ok p) :
    ∃ unit sF, intoIrStream m std limit = .ok unit ∧ (compileUnit unit).run {} = .ok ((), sF) ∧
      p.bytecode = sF.bytecode ∧
      ∀ i (hi : i < unit.size), ∀ n ∈ callNamesList unit[i].cards,
        ∃ j, ∃ hj : j < unit.size, Sem.resolve (unit.map toFnDef) i n = some j ∧
          ∃ src bodyI, BodyAt (jumpTableOf unit.toList) unit[i] bodyI sF ∧ bodyI ≤ src ∧
            StaticCallAt (Prog.ofProgram p) src ∧
            fpHandle (Prog.ofProgram p) src = unit[j].handle ∧
            fpArity (Prog.ofProgram p) src = UInt32.ofNat unit[j].arguments.length ∧
            (0 < j → ∃ pos, (unit[j].handle, pos) ∈ sF.labels ∧
              BodyAt (jumpTableOf unit.toList) unit[j] pos sF ∧
              ((∀ q ∈ sF.labels, q.1 = unit[j].handle → q.2 = pos) →
                p.labels.find? (fun q => q.1 == unit[j].handle) = some (unit[j].handle, pos))) := by
  obtain ⟨unit, sF, hC, rfl⟩ := compile_run h
  refine ⟨unit, sF, hC.ir, hC.run, rfl, fun i hi n hn => ?_⟩
  obtain ⟨j, hj, d, src, bodyI, hb, hle, hs⟩ := call_sites_designate hC.run hi hn
  obtain ⟨hat, hh, har⟩ := siteAt_static_call (p := programOf sF) hs
  exact ⟨j, hj, d.sem, src, bodyI, hb, hle, hat, hh, har, d.body⟩

/-- **(C08, complete for `Call` cards)** for a successful `compile`: for every `Call` card (name
    `n`) anywhere in the body of a function `unit[i]` — nested in expressions, loops,
    conditionals, closures — there are the function `unit[j]` the reference lookup designates and
    an address `src` inside the code of `unit[i]` such that the final program has the static-call
    sequence at `src`, its handle operand is `unit[j].handle` and its arity operand is the number of
    parameters of `unit[j]`; and for `j > 0`, if no other label was inserted under the same 32-bit
    handle, executing the two instructions at `src` (from any state with a frame, room for
    another, enough arguments, a fresh heap address, and an allocation that succeeds) transfers
    control to the first instruction of the body of `unit[j]`, in a new frame whose slots are
    exactly the arguments. -/
theorem compiled_call_card_enters_body {m std : Module} {limit : Nat} {p : Program}
    (h : compile m std limit = .ok p) :
    ∃ unit sF, intoIrStream m std limit = .ok unit ∧ (compileUnit unit).run {} = .ok ((), sF) ∧
      p.bytecode = sF.bytecode ∧
      ∀ i (hi : i < unit.size), ∀ n ∈ callNamesList unit[i].cards,
        ∃ j, ∃ hj : j < unit.size, Sem.resolve (unit.map toFnDef) i n = some j ∧
          ∃ src bodyI, BodyAt (jumpTableOf unit.toList) unit[i] bodyI sF ∧ bodyI ≤ src ∧
            StaticCallAt (Prog.ofProgram p) src ∧
            fpHandle (Prog.ofProgram p) src = unit[j].handle ∧
            fpArity (Prog.ofProgram p) src = UInt32.ofNat unit[j].arguments.length ∧
            (0 < j → ∃ pos, BodyAt (jumpTableOf unit.toList) unit[j] pos sF ∧
              ((∀ q ∈ sF.labels, q.1 = unit[j].handle → q.2 = pos) →
                ∀ (re re' : Reenter) (s : VmState), FreshNext s.heap → s.frames ≠ [] →
                  (fpArity (Prog.ofProgram p) src).toNat ≤ s.stack.count → s.frames.length < s.frameCap →
                  ∀ ctl1 s1, (step (Prog.ofProgram p) re src).go s = (.ok ctl1, s1) →
                    ctl1 = { ip := src + 9 } ∧
                    ∃ s2, (step (Prog.ofProgram p) re' (src + 9)).go s1 = (.ok { ip := pos }, s2) ∧
                      s2.frames = s.frames.dropLast ++ [callerFrame s src] ++
                        [calleeFrame (Prog.ofProgram p) src s.stack.count] ∧
                      s2.stack = { count := s.stack.count, data := s.stack.data.set s.stack.count .nil })) := by
  obtain ⟨unit, sF, hi, hc, hb, hsite⟩ := compiled_call_card_site h
  refine ⟨unit, sF, hi, hc, hb, fun i hlt n hn => ?_⟩
  obtain ⟨j, hj, hsem, src, bodyI, hbI, hle, hat, hh, har, hpos⟩ := hsite i hlt n hn
  refine ⟨j, hj, hsem, src, bodyI, hbI, hle, hat, hh, har, fun h0 => ?_⟩
  obtain ⟨pos, _, hbody, hlabel⟩ := hpos h0
  exact ⟨pos, hbody, fun huniq re re' => static_call_labelled hat (hlabel huniq) hh re re'⟩

/-! ## 6. non-vacuity

`main` calls `f(7)`; `f(x)` calls the host function `fail`. The static call sits at address 9
(`FunctionPointer f 1`), `CallFunction` at 18, the body of `f` starts at 20. -/

def exM : Module :=
  Module.mk [] [("main", ⟨[], [.call "f" [.scalarInt 7]]⟩), ("f", ⟨["x"], [.callNative "fail" []]⟩)] []
def exStd : Module := Module.mk [] [] []

/-- the machine `run` starts the loop in, after `ScalarInt 7` -/
def exState : VmState :=
  let s0 := started 1000 (VmState.fresh {})
  { s0 with stack := (s0.stack.push (.int 7)).1 }

def noReenter : Reenter := fun _ => pure .nil

example : callNamesList [Card.call "f" [.scalarInt 7]] = ["f"] := by simp [callNamesList, callNames]

/-- everything that is claimed about the example, as one Boolean -/
def exCheck : Bool :=
  match compile exM exStd with
  | .error _ => false
  | .ok p =>
    let q := Prog.ofProgram p
    q.bytecode.getD 9 0 == op.functionPointer && q.bytecode.getD 18 0 == op.callFunction &&
    (match q.labels.find? (fun l => l.1 == fpHandle q 9) with | some (_, pos) => pos == 20 | none => false) &&
    (fpArity q 9).toNat == 1 && exState.stack.count == 1 && exState.frames.length == 1 &&
    decide (exState.frames.length < exState.frameCap) &&
    match (step q noReenter 9).go exState with
    | (.error _, _) => false
    | (.ok ctl1, s1) =>
      ctl1.ip == 18 &&
      match (step q noReenter 18).go s1 with
      | (.error _, _) => false
      | (.ok ctl2, s2) =>
        ctl2.ip == 20 && s2.stack.count == 1 &&
        s2.frames.map (fun f => (f.src, f.dst, f.stackOffset)) == [(0, 19, 0), (18, 19, 0)] &&
        -- the callee's local 0 is the argument
        (match (readLocal 0 0).go s2 with | (.ok (.int i), _) => i == 7 | _ => false)

theorem exCheck_true : exCheck = true := by decide +kernel

theorem exState_fresh : FreshNext exState.heap := fun _ hq => nomatch hq

/-- the hypotheses of `static_call_enters_body` are satisfiable (and its conclusion is what the
    evaluation shows) -/
theorem example_static_call : ∃ p hd ctl1 s1, compile exM exStd = .ok p ∧
    StaticCallAt (Prog.ofProgram p) 9 ∧
    (Prog.ofProgram p).labels.find? (fun l => l.1 == fpHandle (Prog.ofProgram p) 9) = some (hd, 20) ∧
    FreshNext exState.heap ∧ exState.frames ≠ [] ∧
    (fpArity (Prog.ofProgram p) 9).toNat ≤ exState.stack.count ∧ exState.frames.length < exState.frameCap ∧
    (step (Prog.ofProgram p) noReenter 9).go exState = (.ok ctl1, s1) := by
  have h := exCheck_true
  unfold exCheck at h
  split at h
  · cases h
  next p hp =>
  simp only [Bool.and_eq_true, decide_eq_true_eq, beq_iff_eq] at h
  obtain ⟨⟨⟨⟨⟨⟨⟨h9, h18⟩, hl⟩, har⟩, hcount⟩, hlen⟩, hroom⟩, h⟩ := h
  split at h
  · cases h
  next ctl1 s1 h1 =>
  split at hl
  · next hd pos hfind =>
    have : pos = 20 := by simpa using hl
    subst this
    refine ⟨p, hd, ctl1, s1, hp, ⟨h9, h18⟩, hfind, exState_fresh, ?_, by rw [har, hcount]; exact Nat.le_refl _,
      hroom, h1⟩
    intro h0
    rw [h0] at hlen
    cases hlen
  · cases hl

example : ∃ (p : Program) (s2 : VmState), compile exM exStd = .ok p ∧
    s2.stack.count = exState.stack.count ∧
    s2.frames.getLast? = some (calleeFrame (Prog.ofProgram p) 9 exState.stack.count) := by
  obtain ⟨p, hd, ctl1, s1, hp, hat, hl, hf, hne, har, hroom, h1⟩ := example_static_call
  obtain ⟨_, s2, _, hfr, hst, _⟩ :=
    static_call_enters_body (Prog.ofProgram p) noReenter noReenter 9 hat hl exState hf hne har hroom h1
  refine ⟨p, s2, hp, by rw [hst], ?_⟩
  rw [hfr, List.getLast?_append, List.getLast?_singleton]
  rfl

end Cao.C08b
