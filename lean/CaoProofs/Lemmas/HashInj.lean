import CaoProofs.Lemmas.WfInv
/-!
# `Handle::from_u32` is injective on `0 … 2^32 - 2`

`hash_u64(key, 0xFFFFFFFF)` maps `0` to the image of `0xFFFFFFFF` and is otherwise a composition of
bijections of 32-bit words (xor-shift by 16, multiplication by an odd constant).
-/
namespace Cao.Compiler
open Cao

theorem mul_mod_inj {N c cinv q a b : Nat} (hc : c * cinv = 1 + q * N) (ha : a < N) (hb : b < N)
    (h : a * c % N = b * c % N) : a = b := by
  have key : ∀ x, x < N → (x * c % N) * cinv % N = x := by
    intro x hx
    rw [Nat.mod_mul_mod, Nat.mul_assoc, hc, Nat.mul_add, Nat.mul_one, ← Nat.mul_assoc,
      Nat.add_mul_mod_self_right, Nat.mod_eq_of_lt hx]
  rw [← key a ha, ← key b hb, h]

def xs16 (y : Nat) : Nat := (y >>> 16) ^^^ y

theorem xs16_lt {y : Nat} (h : y < 2 ^ 32) : xs16 y < 2 ^ 32 :=
  Nat.xor_lt_two_pow (Nat.lt_of_le_of_lt (Nat.shiftRight_le _ _) h) h

theorem xs16_invol {y : Nat} (h : y < 2 ^ 32) : xs16 (xs16 y) = y := by
  unfold xs16
  rw [Nat.shiftRight_xor_distrib, ← Nat.shiftRight_add]
  have h0 : y >>> (16 + 16) = 0 := by
    rw [Nat.shiftRight_eq_div_pow]
    exact Nat.div_eq_of_lt h
  rw [h0, Nat.zero_xor, ← Nat.xor_assoc, Nat.xor_self, Nat.zero_xor]

theorem xs16_inj {a b : Nat} (ha : a < 2 ^ 32) (hb : b < 2 ^ 32) (h : xs16 a = xs16 b) : a = b := by
  rw [← xs16_invol ha, ← xs16_invol hb, h]

/-- multiplication by the hash constant `0x45d0f3b` modulo `2^32` -/
def mulC (y : Nat) : Nat := y * 73207611 % 4294967296

theorem mulC_lt (y : Nat) : mulC y < 2 ^ 32 := Nat.mod_lt _ (by decide)

theorem mulC_inj {a b : Nat} (ha : a < 2 ^ 32) (hb : b < 2 ^ 32) (h : mulC a = mulC b) : a = b :=
  mul_mod_inj (N := 4294967296) (c := 73207611) (cinv := 599585267) (q := 10219916) (by decide) ha hb h

/-- one `((key >> 16) ^ key) * C & mask` round on 32-bit values -/
theorem round_toNat (k : UInt64) :
    ((((k >>> 16) ^^^ k) * 0x45d0f3b) &&& 0xFFFFFFFF).toNat = mulC (xs16 k.toNat) := by
  rw [UInt64.toNat_and, UInt64.toNat_mul, UInt64.toNat_xor, UInt64.toNat_shiftRight]
  have e1 : (16 : UInt64).toNat % 64 = 16 := by decide
  have e2 : (0x45d0f3b : UInt64).toNat = 73207611 := by decide
  have e3 : (0xFFFFFFFF : UInt64).toNat = 2 ^ 32 - 1 := by decide
  rw [e1, e2, e3, Nat.and_two_pow_sub_one_eq_mod]
  unfold mulC xs16
  exact Nat.mod_mod_of_dvd _ (by decide)

theorem last_toNat (k : UInt64) :
    (((k >>> 16) ^^^ k) &&& 0xFFFFFFFF).toNat = xs16 k.toNat % 2 ^ 32 := by
  rw [UInt64.toNat_and, UInt64.toNat_xor, UInt64.toNat_shiftRight]
  have e1 : (16 : UInt64).toNat % 64 = 16 := by decide
  have e3 : (0xFFFFFFFF : UInt64).toNat = 2 ^ 32 - 1 := by decide
  rw [e1, e3, Nat.and_two_pow_sub_one_eq_mod]
  rfl

theorem fold_toNat (k : UInt64) (hk : k.toNat < 2 ^ 32) :
    ((k >>> 32) ^^^ k).toUInt32.toNat = k.toNat := by
  rw [UInt64.toNat_toUInt32, UInt64.toNat_xor, UInt64.toNat_shiftRight]
  have e1 : (32 : UInt64).toNat % 64 = 32 := by decide
  rw [e1]
  have h0 : k.toNat >>> 32 = 0 := by
    rw [Nat.shiftRight_eq_div_pow]; exact Nat.div_eq_of_lt hk
  rw [h0, Nat.zero_xor, Nat.mod_eq_of_lt hk]

/-- the start value of `hash_u64` with mask `0xFFFFFFFF` -/
def key0 (x : Nat) : Nat := if x = 0 then 2 ^ 32 - 1 else x

theorem key0_toNat (k : UInt64) (hk : k.toNat < 2 ^ 32) :
    (k + 0xFFFFFFFF * (if k = 0 then 1 else 0)).toNat = key0 k.toNat := by
  unfold key0
  by_cases h : k = 0
  · subst h
    decide
  · have : k.toNat ≠ 0 := fun h0 => h (UInt64.toNat_inj.1 h0)
    rw [if_neg h, if_neg this, UInt64.toNat_add, UInt64.toNat_mul]
    have e0 : (0 : UInt64).toNat = 0 := rfl
    rw [e0, Nat.mul_zero, Nat.zero_mod, Nat.add_zero]
    exact Nat.mod_eq_of_lt (Nat.lt_trans hk (by decide))

theorem hashU64_toNat (k : UInt64) (hk : k.toNat < 2 ^ 32) :
    (Hash.hashU64 k 0xFFFFFFFF).toNat = xs16 (mulC (xs16 (mulC (xs16 (key0 k.toNat))))) := by
  unfold Hash.hashU64
  dsimp only
  generalize hk0 : k + 0xFFFFFFFF * (if k = 0 then 1 else 0) = k0
  have h0 : k0.toNat = key0 k.toNat := by rw [← hk0]; exact key0_toNat k hk
  generalize hk1 : (((k0 >>> 16) ^^^ k0) * 0x45d0f3b) &&& 0xFFFFFFFF = k1
  have h1 : k1.toNat = mulC (xs16 k0.toNat) := by rw [← hk1]; exact round_toNat k0
  generalize hk2 : (((k1 >>> 16) ^^^ k1) * 0x45d0f3b) &&& 0xFFFFFFFF = k2
  have h2 : k2.toNat = mulC (xs16 k1.toNat) := by rw [← hk2]; exact round_toNat k1
  generalize hk3 : ((k2 >>> 16) ^^^ k2) &&& 0xFFFFFFFF = k3
  have h3 : k3.toNat = xs16 k2.toNat := by
    rw [← hk3, last_toNat, Nat.mod_eq_of_lt (xs16_lt (by rw [h2]; exact mulC_lt _))]
  rw [fold_toNat k3 (by rw [h3]; exact xs16_lt (by rw [h2]; exact mulC_lt _)), h3, h2, h1, h0]

theorem key0_lt {x : Nat} (h : x < 2 ^ 32) : key0 x < 2 ^ 32 := by
  unfold key0; split
  · decide
  · exact h

theorem key0_inj {a b : Nat} (ha : a < 2 ^ 32 - 1) (hb : b < 2 ^ 32 - 1) (h : key0 a = key0 b) : a = b := by
  unfold key0 at h
  split at h <;> split at h <;> omega

theorem idHash_inj {n : Nat} (hn : n ≤ 2 ^ 32 - 1) : HInj n := by
  intro i j hi hj h
  have hi' : i < 2 ^ 32 := by omega
  have hj' : j < 2 ^ 32 := by omega
  have ti : (UInt32.ofNat i).toUInt64.toNat = i := by
    rw [UInt32.toNat_toUInt64, UInt32.toNat_ofNat', Nat.mod_eq_of_lt hi']
  have tj : (UInt32.ofNat j).toUInt64.toNat = j := by
    rw [UInt32.toNat_toUInt64, UInt32.toNat_ofNat', Nat.mod_eq_of_lt hj']
  have e := congrArg UInt32.toNat h
  unfold idHash Hash.handleFromU32 at e
  rw [hashU64_toNat _ (by rw [ti]; exact hi'), hashU64_toNat _ (by rw [tj]; exact hj'), ti, tj] at e
  have a1 := xs16_inj (mulC_lt _) (mulC_lt _) e
  have a2 := mulC_inj (xs16_lt (mulC_lt _)) (xs16_lt (mulC_lt _)) a1
  have a3 := xs16_inj (mulC_lt _) (mulC_lt _) a2
  have a4 := mulC_inj (xs16_lt (key0_lt hi')) (xs16_lt (key0_lt hj')) a3
  have a5 := xs16_inj (key0_lt hi') (key0_lt hj') a4
  exact key0_inj (by omega) (by omega) a5

/-- the bound of `idHash_inj` is sharp -/
theorem idHash_collision : idHash 0 = idHash (2 ^ 32 - 1) := by decide

end Cao.Compiler
