import CaoProofs.Props.C10b
import CaoProofs.Props.C15b
import CaoProofs.Props.C04b
/-!
# C15c — where a run-time error of a COMPILED program is located (no `WF` hypothesis)

`Props/C15b.lean` proves `run_error_located`, `sites_classified` and `compiled_error_trace` with
`Bytecode.WF p` as a hypothesis; `C10b.compile_wf` proves `WF` for compiled programs. This file composes
them:

* `compiled_error_located` — for `compile m std limit = .ok p` (under the four hypotheses of
  `C10b.compile_wf`), a failing run from a machine without call frames: the full conclusion of
  `C15b.run_error_located`;
* `compiled_error_trace'` — … and the full conclusion of `C15b.compiled_error_trace`;
* `compiled_error_located_and_traced` — both, as one conjunction;
* `compiled_sites_classified` — `C15b.sites_classified`;
* `compiled_error_head_resolves` — a corollary that combines the two: unless the failing opcode is a raw
  `Pop` / `CloseUpvalue`, the error trace is non-empty and its head designates a card of the source
  (or is an epilogue entry).
-/
namespace Cao.C15c
open Cao Cao.Vm Cao.Compiler Cao.Bytecode Cao.Cross

/-- **`compiled_error_located`**: `C15b.run_error_located` for compiled programs -/
theorem compiled_error_located {m std : Module} {limit : Nat} {p : Program}
    (hc : compile m std limit = .ok p) (hsz : p.bytecode.size < 2 ^ 31) (hdata : p.data.size < 2 ^ 32)
    (hentry : C10.NoEntryRef m std limit p) (hd : C10b.ClosureHandlesDistinct m std limit p)
    (n : Nat) (s : VmState) (hs : s.frames = [])
    (e : RunErr) (he : (run (Prog.ofProgram p) n s).2 = some e) :
    -- (1) the failing address is an instruction start …
    C04.Start p e.at_ ∧
    -- … the error is the budget's, or the instruction there raised it (or the run did not start)
    (e.kind = .timeout ∨
      (∃ (re : Reenter) (s0 s1 : VmState), (step (Prog.ofProgram p) re e.at_).go s0 = (.error e.kind, s1)) ∨
      (e = ⟨.callStackOverflow, 0, []⟩ ∧ s.frameCap = 0)) ∧
    -- … and it has a trace entry, except at the two raw opcodes of `scope_end`
    ((∃ t, C15.lookup (Prog.ofProgram p) e.at_ = some t) ∨
      (p.bytecode.getD e.at_ 0 = op.pop ∧ (e.kind = .timeout ∨ s.frameCap = 0)) ∨
      (p.bytecode.getD e.at_ 0 = op.closeUpvalue ∧
        (e.kind = .timeout ∨ e.kind = .invalidArgument ∨ s.frameCap = 0))) ∧
    -- (2) the frames of the moment of failure
    (∀ f ∈ e.frames, C04.Start p f.dst ∧ C15b.SiteOK p f.src) ∧
    (∀ f ∈ e.frames, p.bytecode.getD f.src 0 = op.callFunction → C04.Start p f.src →
      ∃ t, C15.lookup (Prog.ofProgram p) f.src = some t) :=
  C15b.run_error_located (C10b.compile_wf hc hsz hdata hentry hd) n s hs e he

/-- **`compiled_error_trace'`**: `C15b.compiled_error_trace` without the `WF` hypothesis -/
theorem compiled_error_trace' {m std : Module} {limit : Nat} {p : Program}
    (hc : compile m std limit = .ok p) (hsz : p.bytecode.size < 2 ^ 31) (hdata : p.data.size < 2 ^ 32)
    (hentry : C10.NoEntryRef m std limit p) (hd : C10b.ClosureHandlesDistinct m std limit p)
    (n : Nat) (s : VmState) (hs : s.frames = [])
    (e : RunErr) (he : (run (Prog.ofProgram p) n s).2 = some e) :
    (∀ t, C15.lookup (Prog.ofProgram p) e.at_ = some t →
      errTrace (Prog.ofProgram p) e = t :: (C15b.sites e).filterMap (C15.lookup (Prog.ofProgram p)) ∧
      ∃ o, p.bytecode[e.at_]? = some o ∧
        (C15.CardEntry (withStd m std) t o ∨ C15.EpilogueEntry (withStd m std) t o)) ∧
    (∀ f ∈ e.frames, C04.Start p f.src → p.bytecode.getD f.src 0 = op.callFunction →
      ∃ t, C15.lookup (Prog.ofProgram p) f.src = some t ∧
        ∃ sub d, (withStd m std).descend t.ns = some sub ∧
          sub.getCard { function := t.function, indices := t.indices } = .ok d ∧ C15.IsCallCard d) :=
  C15b.compiled_error_trace hc (C10b.compile_wf hc hsz hdata hentry hd) n s hs e he

theorem compiled_error_located_and_traced {m std : Module} {limit : Nat} {p : Program}
    (hc : compile m std limit = .ok p) (hsz : p.bytecode.size < 2 ^ 31) (hdata : p.data.size < 2 ^ 32)
    (hentry : C10.NoEntryRef m std limit p) (hd : C10b.ClosureHandlesDistinct m std limit p)
    (n : Nat) (s : VmState) (hs : s.frames = [])
    (e : RunErr) (he : (run (Prog.ofProgram p) n s).2 = some e) :
    (C04.Start p e.at_ ∧
     (e.kind = .timeout ∨
       (∃ (re : Reenter) (s0 s1 : VmState), (step (Prog.ofProgram p) re e.at_).go s0 = (.error e.kind, s1)) ∨
       (e = ⟨.callStackOverflow, 0, []⟩ ∧ s.frameCap = 0)) ∧
     ((∃ t, C15.lookup (Prog.ofProgram p) e.at_ = some t) ∨
       (p.bytecode.getD e.at_ 0 = op.pop ∧ (e.kind = .timeout ∨ s.frameCap = 0)) ∨
       (p.bytecode.getD e.at_ 0 = op.closeUpvalue ∧
         (e.kind = .timeout ∨ e.kind = .invalidArgument ∨ s.frameCap = 0))) ∧
     (∀ f ∈ e.frames, C04.Start p f.dst ∧ C15b.SiteOK p f.src) ∧
     (∀ f ∈ e.frames, p.bytecode.getD f.src 0 = op.callFunction → C04.Start p f.src →
       ∃ t, C15.lookup (Prog.ofProgram p) f.src = some t)) ∧
    ((∀ t, C15.lookup (Prog.ofProgram p) e.at_ = some t →
       errTrace (Prog.ofProgram p) e = t :: (C15b.sites e).filterMap (C15.lookup (Prog.ofProgram p)) ∧
       ∃ o, p.bytecode[e.at_]? = some o ∧
         (C15.CardEntry (withStd m std) t o ∨ C15.EpilogueEntry (withStd m std) t o)) ∧
     (∀ f ∈ e.frames, C04.Start p f.src → p.bytecode.getD f.src 0 = op.callFunction →
       ∃ t, C15.lookup (Prog.ofProgram p) f.src = some t ∧
         ∃ sub d, (withStd m std).descend t.ns = some sub ∧
           sub.getCard { function := t.function, indices := t.indices } = .ok d ∧ C15.IsCallCard d)) :=
  ⟨compiled_error_located hc hsz hdata hentry hd n s hs e he,
   compiled_error_trace' hc hsz hdata hentry hd n s hs e he⟩

/-- **`compiled_sites_classified`**: `C15b.sites_classified` for compiled programs -/
theorem compiled_sites_classified {m std : Module} {limit : Nat} {p : Program}
    (hc : compile m std limit = .ok p) (hsz : p.bytecode.size < 2 ^ 31) (hdata : p.data.size < 2 ^ 32)
    (hentry : C10.NoEntryRef m std limit p) (hd : C10b.ClosureHandlesDistinct m std limit p)
    (n : Nat) (s : VmState) (hs : s.frames = [])
    (e : RunErr) (he : (run (Prog.ofProgram p) n s).2 = some e) :
    ∀ a ∈ C15b.sites e, C15b.SiteOK p a ∧
      (C04.Start p a → p.bytecode.getD a 0 = op.callFunction →
        ∃ t, C15.lookup (Prog.ofProgram p) a = some t) :=
  C15b.sites_classified (C10b.compile_wf hc hsz hdata hentry hd) n s hs e he

theorem compiled_error_located_fresh {m std : Module} {limit : Nat} {p : Program}
    (hc : compile m std limit = .ok p) (hsz : p.bytecode.size < 2 ^ 31) (hdata : p.data.size < 2 ^ 32)
    (hentry : C10.NoEntryRef m std limit p) (hd : C10b.ClosureHandlesDistinct m std limit p)
    (n : Nat) (c : Config) (e : RunErr) (he : (run (Prog.ofProgram p) n (VmState.fresh c)).2 = some e) :
    C04.Start p e.at_ ∧ (∀ f ∈ e.frames, C04.Start p f.dst ∧ C15b.SiteOK p f.src) :=
  C15b.run_error_located_fresh (C10b.compile_wf hc hsz hdata hentry hd) n c e he

theorem compiled_error_located_cleared {m std : Module} {limit : Nat} {p : Program}
    (hc : compile m std limit = .ok p) (hsz : p.bytecode.size < 2 ^ 31) (hdata : p.data.size < 2 ^ 32)
    (hentry : C10.NoEntryRef m std limit p) (hd : C10b.ClosureHandlesDistinct m std limit p)
    (n : Nat) (s : VmState) (e : RunErr) (he : (run (Prog.ofProgram p) n (clear s)).2 = some e) :
    C04.Start p e.at_ ∧ (∀ f ∈ e.frames, C04.Start p f.dst ∧ C15b.SiteOK p f.src) :=
  C15b.run_error_located_cleared (C10b.compile_wf hc hsz hdata hentry hd) n s e he

theorem compiled_error_located_again {m std : Module} {limit : Nat} {p : Program}
    (hc : compile m std limit = .ok p) (hsz : p.bytecode.size < 2 ^ 31) (hdata : p.data.size < 2 ^ 32)
    (hentry : C10.NoEntryRef m std limit p) (hd : C10b.ClosureHandlesDistinct m std limit p)
    (q : Prog) (n k : Nat) (s : VmState) (hs : s.frames = []) (e : RunErr)
    (he : (run (Prog.ofProgram p) n (run q k s).1).2 = some e) :
    C04.Start p e.at_ ∧ (∀ f ∈ e.frames, C04.Start p f.dst ∧ C15b.SiteOK p f.src) :=
  C15b.run_error_located_again (C10b.compile_wf hc hsz hdata hentry hd) q n k s hs e he

/-- **the head of the error trace of a compiled program resolves**: unless the failing opcode is a
    raw `Pop` (then the error is `Timeout`, or the run did not start) or a raw `CloseUpvalue`
    (`Timeout` / `InvalidArgument` / not started), the error trace is `t :: …` where `t` is the trace
    entry of the failing address, and `t` designates a card of the source module that emitted the
    opcode at `e.at_`, or is an epilogue entry. -/
theorem compiled_error_head_resolves {m std : Module} {limit : Nat} {p : Program}
    (hc : compile m std limit = .ok p) (hsz : p.bytecode.size < 2 ^ 31) (hdata : p.data.size < 2 ^ 32)
    (hentry : C10.NoEntryRef m std limit p) (hd : C10b.ClosureHandlesDistinct m std limit p)
    (n : Nat) (s : VmState) (hs : s.frames = [])
    (e : RunErr) (he : (run (Prog.ofProgram p) n s).2 = some e)
    (hpop : p.bytecode.getD e.at_ 0 ≠ op.pop) (hclose : p.bytecode.getD e.at_ 0 ≠ op.closeUpvalue) :
    ∃ t, errTrace (Prog.ofProgram p) e = t :: (C15b.sites e).filterMap (C15.lookup (Prog.ofProgram p)) ∧
      ∃ o, p.bytecode[e.at_]? = some o ∧
        (C15.CardEntry (withStd m std) t o ∨ C15.EpilogueEntry (withStd m std) t o) := by
  obtain ⟨_, _, h3, _, _⟩ := compiled_error_located hc hsz hdata hentry hd n s hs e he
  rcases h3 with ⟨t, ht⟩ | ⟨h, _⟩ | ⟨h, _⟩
  · exact ⟨t, (compiled_error_trace' hc hsz hdata hentry hd n s hs e he).1 t ht⟩
  · exact absurd h hpop
  · exact absurd h hclose

/-! ## non-vacuity

The example of `C15b` (`main` calls `f(7)`, `f` calls the host function `fail`): the four hypotheses
hold for it (by the executable check `C04b.hypsOK2`; `C10b.hypsOK` does not apply, the program
contains a `FunctionPointer`), its run from a fresh machine fails at address 20 inside `f` with a
`CallFunction` frame on the stack, and the theorems above apply to that run. -/

/-- `C15b.exM` is the module `C04b.exM`, evaluated there -/
theorem exM_hyps : C04b.hypsOK2 C15b.exM C15b.exStd Gen.recursionLimit = true := C04b.exM_hyps

theorem exM_ok : ∃ p, C04b.CompiledOK C15b.exM C15b.exStd Gen.recursionLimit p :=
  C04b.hypsOK2_sound exM_hyps

/-- all hypotheses of `compiled_error_located` / `compiled_error_trace'` hold together, for a run
    that fails at address 20 with the frames `[⟨0, 19⟩, ⟨18, 19⟩]` -/
theorem example_compiled_located : ∃ p e,
    compile C15b.exM C15b.exStd = .ok p ∧ p.bytecode.size < 2 ^ 31 ∧ p.data.size < 2 ^ 32 ∧
    C10.NoEntryRef C15b.exM C15b.exStd Gen.recursionLimit p ∧
    C10b.ClosureHandlesDistinct C15b.exM C15b.exStd Gen.recursionLimit p ∧
    (VmState.fresh {}).frames = [] ∧
    (run (Prog.ofProgram p) 1000 (VmState.fresh {})).2 = some e ∧ e.at_ = 20 ∧
    e.frames.map (fun f => (f.src, f.dst)) = [(0, 19), (18, 19)] ∧
    p.bytecode.getD 18 0 = op.callFunction := by
  obtain ⟨p, hp⟩ := exM_ok
  obtain ⟨p', e, hc', _, he, hat, hfr, h18, _, _⟩ := C15b.example_located
  have : p' = p := by
    have h1 : compile C15b.exM C15b.exStd = .ok p := hp.compiled
    rw [h1] at hc'
    cases hc'; rfl
  subst this
  exact ⟨p', e, hp.compiled, hp.code_small, hp.data_small, hp.no_entry_ref, hp.closure_handles, rfl,
    he, hat, hfr, h18⟩

def exFacts : Bool :=
  match compile C15b.exM C15b.exStd with
  | .error _ => false
  | .ok p => p.bytecode.getD 20 0 != op.pop && p.bytecode.getD 20 0 != op.closeUpvalue &&
      decide (C04.Start p 18)

theorem exFacts_true : exFacts = true := by decide +kernel

/-- … and the conclusions, instantiated: the error trace of that run starts with an entry that
    designates a card of the source (or an epilogue), and the entry of the `CallFunction` frame
    (call site 18) is a `Call` / `DynamicCall` card -/
theorem example_compiled_trace : ∃ p e t, compile C15b.exM C15b.exStd = .ok p ∧
    (run (Prog.ofProgram p) 1000 (VmState.fresh {})).2 = some e ∧
    (errTrace (Prog.ofProgram p) e).head? = some t ∧
    (∃ o, p.bytecode[e.at_]? = some o ∧
      (C15.CardEntry (withStd C15b.exM C15b.exStd) t o ∨ C15.EpilogueEntry (withStd C15b.exM C15b.exStd) t o)) ∧
    (∃ f ∈ e.frames, f.src = 18 ∧ ∃ t', C15.lookup (Prog.ofProgram p) f.src = some t' ∧
      ∃ sub d, (withStd C15b.exM C15b.exStd).descend t'.ns = some sub ∧
        sub.getCard { function := t'.function, indices := t'.indices } = .ok d ∧ C15.IsCallCard d) := by
  obtain ⟨p, e, hc, hsz, hdata, hentry, hd, hs, he, hat, hfr, h18⟩ := example_compiled_located
  have hfacts := exFacts_true
  unfold exFacts at hfacts
  rw [hc] at hfacts
  simp only [Bool.and_eq_true, bne_iff_ne, ne_eq, decide_eq_true_eq] at hfacts
  obtain ⟨⟨hpop, hclose⟩, hst18⟩ := hfacts
  obtain ⟨t, hshape, hres⟩ := compiled_error_head_resolves hc hsz hdata hentry hd 1000 _ hs e he
    (by rw [hat]; exact hpop) (by rw [hat]; exact hclose)
  obtain ⟨_, htr2⟩ := compiled_error_trace' hc hsz hdata hentry hd 1000 _ hs e he
  have hm : (18, 19) ∈ e.frames.map (fun f => (f.src, f.dst)) := by rw [hfr]; simp
  obtain ⟨f, hfm, hfe⟩ := List.mem_map.1 hm
  have hf18 : f.src = 18 := (Prod.mk.inj hfe).1
  obtain ⟨t', ht', hcall⟩ := htr2 f hfm (by rw [hf18]; exact hst18) (by rw [hf18]; exact h18)
  exact ⟨p, e, t, hc, he, by rw [hshape]; rfl, hres, f, hfm, hf18, t', ht', hcall⟩

end Cao.C15c
