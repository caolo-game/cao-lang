import CaoProofs.Props.C18
import CaoProofs.Props.C04
/-!
# C18b — `run_function` restores the call stack also when it fails (`C18.run_function_frames_all_Full`)

`C18.run_function_frames` (from `exec_cfi`, `Lemmas/NoPanicExec.lean`) says that, for a program with control-flow integrity,
`run_function` *returns* with exactly the call stack it was called on; `C18.run_function_frames_all_Full`
asks the same for failing runs (`exec_cfi` describes returning runs only).

`FramePrefix.exec_frames` (`Lemmas/NoPanicExec.lean`) is the statement about the final state of **every**
run: the loop, started above a protected base `B`, ends — however it ends — on a call stack that extends `B`
(an instruction pops at most the running frame, `Lemmas/FramePrefix.lean`, and the base is entered only through
a return to the final `Exit`).  `run_function` cuts the call stack to its entry depth, hence restores it exactly.
-/
namespace Cao.C18
open Cao Cao.Vm Cao.FramePrefix

/-- **`run_function_frames_all_Full` holds**: after `run_function` — whether the callee returned, executed
    `Exit`, raised an error, a host function failed, the call stack overflowed, or the budget or the fuel
    ran out — the call stack of the machine is exactly the one it was called on. -/
theorem run_function_frames_all : run_function_frames_all_Full :=
  fun _ p hc gas f s hg => (exec_frames p hc gas).2 f s hg

/-- the form with the outcome named: the state after a *failing* `run_function` -/
theorem run_function_frames_err {G : Nat → Prop} (p : Prog) (hc : Cfi p G) (gas : Nat) (f : Val)
    {s s' : VmState} {e : RunErr} (hg : Good G s.frames)
    (herr : exec p gas (.call f) s = (s', .error e)) : s'.frames = s.frames := by
  have h := run_function_frames_all G p hc gas f s hg
  rw [herr] at h
  exact h

/-- the dispatch loop itself, for every outcome -/
theorem loop_keeps_base {G : Nat → Prop} (p : Prog) (hc : Cfi p G) (gas ip : Nat) (s : VmState)
    (B rest : List Frame) (hB : BaseExit p B) (hr : rest ≠ []) (he : s.frames = B ++ rest)
    (hg : Good G s.frames) (hip : G ip) : B <+: (exec p gas (.loop ip) s).1.frames :=
  (exec_frames p hc gas).1 B ip s hB hg hip (.inl ⟨rest, hr, he⟩)

/-- every compiled (well-formed) program: `Bytecode.WF` gives `Cfi` (`C04.wf_cfi`) -/
theorem run_function_frames_all_wf {p : Compiler.Program} (h : Bytecode.WF p) (gas : Nat) (f : Val)
    (s : VmState) (hg : Good (C04.Start p) s.frames) :
    (exec (Prog.ofProgram p) gas (.call f) s).1.frames = s.frames :=
  run_function_frames_all _ _ (C04.wf_cfi h).1 gas f s hg

/-! ### non-vacuity -/

/-- a callee that fails: `CallFunction` (on an empty stack: the popped value is not a function object,
    `InvalidArgument`), followed by the final `Exit`; label 0 ↦ 0 -/
def failProg : Prog :=
  { bytecode := #[Compiler.op.callFunction, Compiler.op.exit], data := #[], labels := [(0, 0)], varNames := [],
    trace := [] }

theorem failProg_cfi : Cfi failProg (fun a => a = 0 ∨ a = 1) where
  valid src h := by rcases h with rfl | rfl <;> decide
  seq src sp h hs hne := by
    rcases h with rfl | rfl
    · have : sp = 1 := by
        have h1 : Gen.spanOf (failProg.bytecode.getD 0 0) = some 1 := by decide
        rw [h1] at hs; cases hs; rfl
      subst this; exact Or.inr rfl
    · exact absurd (by decide) hne
  jump src h hj := by rcases h with rfl | rfl <;> revert hj <;> decide
  label l hl := by
    simp only [failProg, List.mem_singleton] at hl
    subst hl; exact Or.inl rfl
  last := Or.inr rfl
  lastExit := by decide

/-- the run fails inside the callee (the error record has the three frames of that moment) and the call
    stack of the machine — one frame — is restored -/
example : (match exec failProg 5 (.call (.obj 1))
      { exitVm with frames := [⟨0, 1, 0, none⟩] } with
    | (s', .error e) => s'.frames.length == 1 && e.frames.length == 3
    | _ => false) = true := by decide +kernel

example : Good (fun a => a = 0 ∨ a = 1) ({ exitVm with frames := [⟨0, 1, 0, none⟩] } : VmState).frames := by
  intro f hf
  simp only [List.mem_singleton] at hf
  subst hf
  exact Or.inr rfl

end Cao.C18
