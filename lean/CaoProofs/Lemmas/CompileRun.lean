import CaoModel.Compiler
/-!
# The run behind a compilation

`compile m std limit` has two stages: `intoIrStream` flattens the module tree into the stream `unit`,
`compileUnit unit` runs from the empty state to a final state `sF`, and the program is read off `sF`
(`programOf`). Every fact about a compiled program is a fact about such a pair `(unit, sF)`:
`CompileRun m std limit unit sF`. `compile_run` opens a successful `compile` once; `compile_error_iff`
is the failing half.
-/
namespace Cao.Compiler
open Cao

structure CompileRun (m std : Module) (limit : Nat) (unit : Array FunctionIr) (sF : CState) : Prop where
  ir : intoIrStream m std limit = .ok unit
  run : (compileUnit unit).run {} = .ok ((), sF)

/-- the program `compile` makes of the final state: the label and trace logs are resolved (the last
    insertion of a key wins), the rest is copied -/
def programOf (s : CState) : Program :=
  { bytecode := s.bytecode, data := s.data, labels := resolveLog s.labels,
    varIds := s.varIds, varNames := s.varNames, trace := resolveLog s.trace }

section
variable {m std : Module} {limit : Nat} {unit : Array FunctionIr} {sF : CState}

theorem CompileRun.compiles (h : CompileRun m std limit unit sF) : compile m std limit = .ok (programOf sF) := by
  unfold compile
  rw [h.ir]
  simp only [h.run]
  rfl

theorem compile_run {p : Program} (h : compile m std limit = .ok p) :
    ∃ unit sF, CompileRun m std limit unit sF ∧ p = programOf sF := by
  unfold compile at h
  split at h
  · cases h
  · next unit hi =>
    split at h
    · cases h
    · next s hc => exact ⟨unit, s, ⟨hi, hc⟩, (Except.ok.inj h).symm⟩

theorem compile_error_iff {e : CErr} :
    compile m std limit = .error e ↔
      (∃ k, intoIrStream m std limit = .error k ∧ e = .err k (some { ns := [], function := 0, indices := [] })) ∨
      ∃ unit, intoIrStream m std limit = .ok unit ∧ (compileUnit unit).run {} = .error e := by
  unfold compile
  constructor
  · intro h
    split at h
    · next k hk => exact .inl ⟨k, hk, (Except.error.inj h).symm⟩
    · next unit hu =>
      split at h
      · next e' he => exact .inr ⟨unit, hu, Except.error.inj h ▸ he⟩
      · cases h
  · rintro (⟨k, hk, rfl⟩ | ⟨unit, hu, he⟩)
    · rw [hk]
    · rw [hu]; simp only [he]

end
end Cao.Compiler
