import CaoProofs.Lemmas.CompilerLemmas
/-!
# Which errors the compiler model can end with (C04, item 1)

"A `panic` outcome carries one of the model's two zero-handle messages" (`HandlePanic`) is
a condition on the errors in the sense of `Raises`, so `compileUnit_runs` shows it of `compileUnit`, with the trivial
relation on the states.
-/
namespace Cao.Compiler
open Cao

/-- `HandleTable::insert` rejects the null handle and the compiler unwraps the result. `entry` has no
such test in the Rust (`find_ind` stops at an empty slot, which is handed out as occupied); the model panics. -/
def handlePanics : List String :=
  ["HandleTable::insert with handle 0", "HandleTable::entry with handle 0"]

/-- a compilation error proper, or one of the two zero-handle panics -/
def HandlePanic (e : CErr) : Prop := ∀ w, e = .panic w → w ∈ handlePanics

instance : Raises HandlePanic where
  located _ _ _ h := nomatch h
  panicInsert w h := by cases h; decide
  panicEntry w h := by cases h; decide

instance : UnitPrims (fun _ _ _ => True) where
  refl _ _ := trivial
  trans _ _ := trivial
  weaken _ _ := trivial
  emit _ _ := trivial
  instr _ _ _ := trivial
  patch _ _ _ _ := trivial
  label _ := trivial
  data _ := trivial
  varId _ := trivial
  varName _ := trivial
  book _ _ _ _ _ := trivial
  enter _ _ _ := trivial
  pos _ _ := trivial
  jump _ := trivial

/-- **`compile` ends with a program, a compilation error, or one of the two zero-handle panics** -/
theorem compile_handlePanic (m std : Module) (limit : Nat) (e : CErr)
    (h : compile m std limit = .error e) : HandlePanic e := by
  rcases compile_error_iff.1 h with ⟨k, _, rfl⟩ | ⟨unit, _, he⟩
  · intro w hw; cases hw
  · exact (compileUnit_runs (R := fun _ _ _ => True) (k := 0) unit).err _ _ he (Nat.zero_le _)

/-- the label table asserts a non-zero handle — and nothing else -/
theorem insertLabel_panic_iff (h : UInt32) (pos : Nat) (s : CState) (w : String) :
    insertLabel h pos s = .error (.panic w) ↔ h = 0 ∧ w = "HandleTable::insert with handle 0" := by
  by_cases h0 : h = 0
  · subst h0
    rw [insertLabel_zero]
    simp only [Except.error.injEq, CErr.panic.injEq, true_and]
    exact eq_comm
  · rw [insertLabel_ne h0]
    simp [h0]

theorem globalId_panic_iff (name : String) (s : CState) (w : String) :
    globalId name s = .error (.panic w) ↔
      Hash.handleFromBytes name.toUTF8.toList = 0 ∧ w = "HandleTable::entry with handle 0" := by
  rcases globalId_cases name s with ⟨h0, h⟩ | ⟨h0, _, _, _, h, _⟩ <;> rw [h]
  · simp only [Except.error.injEq, CErr.panic.injEq, h0, true_and]
    exact eq_comm
  · exact ⟨fun h => (nomatch h), fun h => absurd h.1 h0⟩

end Cao.Compiler
