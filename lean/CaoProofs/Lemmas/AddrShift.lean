import CaoModel.Vm
/-!
# The uniform shift of all heap addresses

`shiftS δ s` adds `δ` to every heap address that occurs anywhere in the machine state `s`
(values on the stack — also in the stale slots above `count` —, globals, closure addresses in
frames, keys of the heap, addresses inside objects, `heap.next`, guards, open upvalues). The
interpreter never looks at the numeric value of an address (it only compares addresses and takes
`heap.next`), so every computation commutes with the renaming — for all states, without any
well-formedness side condition (`Lemmas/Equivariance.lean`, `Lemmas/EquivarianceRun.lean`).

This file is about the pure operations of the model only: the renaming (`shiftV` … `shiftS`, `mapRes`; on the results
of computations `shiftT` and the type-directed `ShiftState.sh`), its action on the operations of the heap, of the value
stack and of the collector (`gc_shiftA`), and the shift by zero, which is the identity.
-/
namespace Cao.Vm
open Cao

/-! ## the renaming -/

def shiftV (δ : Nat) : Val → Val
  | .nil => .nil
  | .int i => .int i
  | .real b => .real b
  | .obj a => .obj (a + δ)

def shiftE (δ : Nat) (e : Val × Val) : Val × Val := (shiftV δ e.1, shiftV δ e.2)

def shiftLoc (δ : Nat) : UpLoc → UpLoc
  | .stack i => .stack i
  | .closed v => .closed (shiftV δ v)

def shiftObj (δ : Nat) : Obj → Obj
  | .table cap es => .table cap (es.map (shiftE δ))
  | .str b => .str b
  | .fn h ar => .fn h ar
  | .native h => .native h
  | .closure h ar ups => .closure h ar (ups.map (· + δ))
  | .upvalue l => .upvalue (shiftLoc δ l)

def shiftP (δ : Nat) (p : Nat × Obj) : Nat × Obj := (p.1 + δ, shiftObj δ p.2)

def shiftHeap (δ : Nat) (h : Heap) : Heap :=
  { objs := h.objs.map (shiftP δ), next := h.next + δ }

def shiftFrame (δ : Nat) (f : Frame) : Frame :=
  { f with closure := f.closure.map (· + δ) }

def shiftStack (δ : Nat) (st : VStack Val) : VStack Val :=
  { count := st.count, data := st.data.map (shiftV δ) }

def shiftS (δ : Nat) (s : VmState) : VmState :=
  { s with stack := shiftStack δ s.stack,
           frames := s.frames.map (shiftFrame δ),
           globals := s.globals.map (shiftV δ),
           heap := shiftHeap δ s.heap,
           guards := s.guards.map (· + δ),
           openUpvalues := s.openUpvalues.map (· + δ) }

def shiftErr (δ : Nat) (e : RunErr) : RunErr := { e with frames := e.frames.map (shiftFrame δ) }

def shiftTask (δ : Nat) : Task → Task
  | .loop ip => .loop ip
  | .call f => .call (shiftV δ f)

/-- the renaming on the result of `exec` -/
def mapRes (δ : Nat) : Except RunErr (Option Val) → Except RunErr (Option Val)
  | .ok v => .ok (v.map (shiftV δ))
  | .error e => .error (shiftErr δ e)

section basic
variable (δ : Nat)

@[simp] theorem shiftV_nil : shiftV δ .nil = .nil := rfl
@[simp] theorem shiftV_int (i : Int64) : shiftV δ (.int i) = .int i := rfl
@[simp] theorem shiftV_real (b : UInt64) : shiftV δ (.real b) = .real b := rfl
@[simp] theorem shiftV_obj (a : Nat) : shiftV δ (.obj a) = .obj (a + δ) := rfl
@[simp] theorem shiftV_default : shiftV δ default = default := rfl
@[simp] theorem shiftV_boolVal (b : Bool) : shiftV δ (boolVal b) = boolVal b := rfl
@[simp] theorem shiftE_mk (k v : Val) : shiftE δ (k, v) = (shiftV δ k, shiftV δ v) := rfl
@[simp] theorem shiftE_fst (e : Val × Val) : (shiftE δ e).1 = shiftV δ e.1 := rfl
@[simp] theorem shiftE_snd (e : Val × Val) : (shiftE δ e).2 = shiftV δ e.2 := rfl
@[simp] theorem shiftLoc_stack (i : Nat) : shiftLoc δ (.stack i) = .stack i := rfl
@[simp] theorem shiftLoc_closed (v : Val) : shiftLoc δ (.closed v) = .closed (shiftV δ v) := rfl
@[simp] theorem shiftObj_table (cap : Nat) (es : List (Val × Val)) :
    shiftObj δ (.table cap es) = .table cap (es.map (shiftE δ)) := rfl
@[simp] theorem shiftObj_str (b : List UInt8) : shiftObj δ (.str b) = .str b := rfl
@[simp] theorem shiftObj_fn (h ar : UInt32) : shiftObj δ (.fn h ar) = .fn h ar := rfl
@[simp] theorem shiftObj_native (h : UInt32) : shiftObj δ (.native h) = .native h := rfl
@[simp] theorem shiftObj_closure (h ar : UInt32) (ups : List Nat) :
    shiftObj δ (.closure h ar ups) = .closure h ar (ups.map (· + δ)) := rfl
@[simp] theorem shiftObj_upvalue (l : UpLoc) : shiftObj δ (.upvalue l) = .upvalue (shiftLoc δ l) := rfl
@[simp] theorem shiftP_mk (a : Nat) (o : Obj) : shiftP δ (a, o) = (a + δ, shiftObj δ o) := rfl
@[simp] theorem shiftP_fst (p : Nat × Obj) : (shiftP δ p).1 = p.1 + δ := rfl
@[simp] theorem shiftP_snd (p : Nat × Obj) : (shiftP δ p).2 = shiftObj δ p.2 := rfl
@[simp] theorem shiftHeap_objs (h : Heap) : (shiftHeap δ h).objs = h.objs.map (shiftP δ) := rfl
@[simp] theorem shiftHeap_next (h : Heap) : (shiftHeap δ h).next = h.next + δ := rfl
@[simp] theorem shiftFrame_src (f : Frame) : (shiftFrame δ f).src = f.src := rfl
@[simp] theorem shiftFrame_dst (f : Frame) : (shiftFrame δ f).dst = f.dst := rfl
@[simp] theorem shiftFrame_stackOffset (f : Frame) : (shiftFrame δ f).stackOffset = f.stackOffset := rfl
@[simp] theorem shiftFrame_closure (f : Frame) : (shiftFrame δ f).closure = f.closure.map (· + δ) := rfl
@[simp] theorem shiftFrame_mk (a b c : Nat) (cl : Option Nat) :
    shiftFrame δ ⟨a, b, c, cl⟩ = ⟨a, b, c, cl.map (· + δ)⟩ := rfl
@[simp] theorem shiftStack_count (st : VStack Val) : (shiftStack δ st).count = st.count := rfl
@[simp] theorem shiftStack_data (st : VStack Val) : (shiftStack δ st).data = st.data.map (shiftV δ) := rfl

variable (s : VmState)
@[simp] theorem shiftS_stack : (shiftS δ s).stack = shiftStack δ s.stack := rfl
@[simp] theorem shiftS_frames : (shiftS δ s).frames = s.frames.map (shiftFrame δ) := rfl
@[simp] theorem shiftS_frameCap : (shiftS δ s).frameCap = s.frameCap := rfl
@[simp] theorem shiftS_globals : (shiftS δ s).globals = s.globals.map (shiftV δ) := rfl
@[simp] theorem shiftS_heap : (shiftS δ s).heap = shiftHeap δ s.heap := rfl
@[simp] theorem shiftS_mem : (shiftS δ s).mem = s.mem := rfl
@[simp] theorem shiftS_guards : (shiftS δ s).guards = s.guards.map (· + δ) := rfl
@[simp] theorem shiftS_openUpvalues : (shiftS δ s).openUpvalues = s.openUpvalues.map (· + δ) := rfl
@[simp] theorem shiftS_remaining : (shiftS δ s).remaining = s.remaining := rfl
@[simp] theorem shiftS_hostLog : (shiftS δ s).hostLog = s.hostLog := rfl
@[simp] theorem shiftS_dispatches : (shiftS δ s).dispatches = s.dispatches := rfl
@[simp] theorem shiftS_gcRuns : (shiftS δ s).gcRuns = s.gcRuns := rfl
@[simp] theorem shiftS_sched : (shiftS δ s).sched = s.sched := rfl
@[simp] theorem shiftS_allocIndex : (shiftS δ s).allocIndex = s.allocIndex := rfl
@[simp] theorem shiftS_forcedGcs : (shiftS δ s).forcedGcs = s.forcedGcs := rfl

theorem shiftV_inj {a b : Val} (h : shiftV δ a = shiftV δ b) : a = b := by
  cases a <;> cases b <;> simp [shiftV] at h <;> simp [h]

@[simp] theorem add_beq_add (x a : Nat) : (x + δ == a + δ) = (x == a) := by
  rw [Bool.eq_iff_iff]; simp

end basic

/-! ## lists under an injective map -/

theorem contains_map_add (δ : Nat) (l : List Nat) (a : Nat) :
    (l.map (· + δ)).contains (a + δ) = l.contains a := by
  induction l with
  | nil => rfl
  | cons x xs ih =>
    simp only [List.map_cons, List.contains_cons, ih]
    congr 1
    rw [Bool.eq_iff_iff]; simp

theorem erase_map_add (δ : Nat) (l : List Nat) (a : Nat) :
    (l.map (· + δ)).erase (a + δ) = (l.erase a).map (· + δ) := by
  induction l with
  | nil => rfl
  | cons x xs ih =>
    simp only [List.map_cons, List.erase_cons, add_beq_add]
    split
    · rfl
    · rw [List.map_cons, ih]

theorem getD_map {α β : Type} (f : α → β) (l : List α) (i : Nat) (d : α) :
    (l.map f).getD i (f d) = f (l.getD i d) := by
  simp only [List.getD_eq_getElem?_getD, List.getElem?_map]
  cases l[i]? <;> rfl

theorem getD_map_shiftV (δ : Nat) (l : List Val) (i : Nat) :
    (l.map (shiftV δ)).getD i .nil = shiftV δ (l.getD i .nil) := getD_map (shiftV δ) l i .nil

theorem getD_map_shiftV' (δ : Nat) (l : List Val) (i : Nat) :
    (l.map (shiftV δ)).getD i default = shiftV δ (l.getD i default) := getD_map_shiftV δ l i

theorem getD_map_shiftE (δ : Nat) (l : List (Val × Val)) (i : Nat) :
    (l.map (shiftE δ)).getD i (.nil, .nil) = shiftE δ (l.getD i (.nil, .nil)) :=
  getD_map (shiftE δ) l i (.nil, .nil)

theorem getD_cons_shiftE (δ : Nat) (e : Val × Val) (l : List (Val × Val)) (i : Nat) :
    (shiftE δ e :: l.map (shiftE δ)).getD i (.nil, .nil) = shiftE δ ((e :: l).getD i (.nil, .nil)) :=
  getD_map_shiftE δ (e :: l) i

theorem getD_cons_map_shiftE (δ : Nat) (k v : Val) (l : List (Val × Val)) (i : Nat) :
    ((shiftV δ k, shiftV δ v) :: l.map (shiftE δ)).getD i (.nil, .nil) =
      shiftE δ (((k, v) :: l).getD i (.nil, .nil)) :=
  getD_cons_shiftE δ (k, v) l i

theorem set_map_shiftV (δ : Nat) (l : List Val) (i : Nat) (v : Val) :
    (l.map (shiftV δ)).set i (shiftV δ v) = (l.set i v).map (shiftV δ) := by
  rw [List.map_set]

/-! ## the heap -/

theorem get_shiftHeap (δ : Nat) (h : Heap) (a : Nat) :
    (shiftHeap δ h).get (a + δ) = (h.get a).map (shiftObj δ) := by
  unfold Heap.get
  simp only [shiftHeap_objs, List.find?_map, Option.map_map]
  have : ((fun x : Nat × Obj => x.1 == a + δ) ∘ shiftP δ) = (fun x => x.1 == a) := by
    funext x; simp
  rw [this]
  rfl

theorem set_shiftHeap (δ : Nat) (h : Heap) (a : Nat) (o : Obj) :
    (shiftHeap δ h).set (a + δ) (shiftObj δ o) = shiftHeap δ (h.set a o) := by
  unfold Heap.set shiftHeap
  simp only [List.map_map]
  congr 1
  apply List.map_congr_left
  intro p _
  simp only [Function.comp, shiftP_fst, add_beq_add]
  split <;> rfl

theorem set_shiftHeap_upv (δ : Nat) (h : Heap) (a : Nat) (v : Val) :
    (shiftHeap δ h).set (a + δ) (.upvalue (.closed (shiftV δ v))) =
      shiftHeap δ (h.set a (.upvalue (.closed v))) := set_shiftHeap δ h a (.upvalue (.closed v))
theorem set_shiftHeap_table (δ : Nat) (h : Heap) (a cap : Nat) (es : List (Val × Val)) :
    (shiftHeap δ h).set (a + δ) (.table cap (es.map (shiftE δ))) =
      shiftHeap δ (h.set a (.table cap es)) := set_shiftHeap δ h a (.table cap es)
theorem set_shiftHeap_closure (δ : Nat) (h : Heap) (a : Nat) (hd ar : UInt32) (ups : List Nat) :
    (shiftHeap δ h).set (a + δ) (.closure hd ar (ups.map (· + δ))) =
      shiftHeap δ (h.set a (.closure hd ar ups)) := set_shiftHeap δ h a (.closure hd ar ups)

theorem children_shiftObj (δ : Nat) (o : Obj) :
    Heap.children (shiftObj δ o) = (Heap.children o).map (shiftV δ) := by
  cases o with
  | table cap es =>
    simp only [shiftObj_table, Heap.children]
    induction es with
    | nil => rfl
    | cons e es ih => simp [List.flatMap_cons, ih]
  | closure h ar ups =>
    simp only [shiftObj_closure, Heap.children, List.map_map]
    rfl
  | upvalue l => cases l <;> rfl
  | _ => rfl

theorem chargeOf_shiftObj (δ : Nat) (o : Obj) : Heap.chargeOf (shiftObj δ o) = Heap.chargeOf o := by
  cases o <;> rfl

/-! ## deep values contain no addresses -/

theorem own_shift (δ : Nat) (h : Heap) : ∀ (fuel : Nat) (v : Val),
    own (shiftHeap δ h) fuel (shiftV δ v) = own h fuel v := by
  intro fuel
  induction fuel with
  | zero => intro v; cases v <;> rfl
  | succ fuel ih =>
    intro v
    cases v with
    | obj a =>
      simp only [shiftV_obj, own, get_shiftHeap]
      cases h.get a with
      | none => rfl
      | some o =>
        cases o with
        | table cap es =>
          simp only [Option.map_some, shiftObj_table]
          congr 1
          induction es with
          | nil => rfl
          | cons e es ihes =>
            simp only [List.map_cons, List.mapM_cons, shiftE_fst, shiftE_snd, ih, ihes]
        | _ => rfl
    | _ => rfl

theorem ownD_shiftA (δ : Nat) (h : Heap) (v : Val) : ownD (shiftHeap δ h) (shiftV δ v) = ownD h v := by
  unfold ownD ownFuel
  simp only [shiftHeap_objs, List.length_map, own_shift]

theorem toI64_shift (δ : Nat) (h : Heap) (v : Val) : toI64 (shiftHeap δ h) (shiftV δ v) = toI64 h v := by
  unfold toI64; rw [ownD_shiftA]

theorem findEntry_shift (δ : Nat) (h : Heap) (es : List (Val × Val)) (k : OVal) :
    findEntry (shiftHeap δ h) (es.map (shiftE δ)) k = (findEntry h es k).map (shiftE δ) := by
  unfold findEntry
  rw [List.find?_map]
  congr 2
  funext e
  simp only [Function.comp, shiftE_fst, ownD_shiftA]

theorem tableAppendKey_go_shift (δ : Nat) (h : Heap) (es : List (Val × Val)) :
    ∀ fuel i, tableAppendKey.go (shiftHeap δ h) (es.map (shiftE δ)) fuel i = tableAppendKey.go h es fuel i := by
  intro fuel
  induction fuel with
  | zero => intro i; rfl
  | succ f ih =>
    intro i
    simp only [tableAppendKey.go, findEntry_shift, Option.isSome_map, ih]

theorem tableAppendKey_shift (δ : Nat) (h : Heap) (es : List (Val × Val)) :
    tableAppendKey (shiftHeap δ h) (es.map (shiftE δ)) = tableAppendKey h es := by
  unfold tableAppendKey
  simp only [List.length_map, tableAppendKey_go_shift]

theorem isTable_shift (δ : Nat) (h : Heap) (v : Val) :
    isTable (shiftHeap δ h) (shiftV δ v) = (isTable h v).map (List.map (shiftE δ)) := by
  cases v with
  | obj a =>
    simp only [shiftV_obj, isTable, get_shiftHeap]
    cases h.get a with
    | none => rfl
    | some o => cases o <;> rfl
  | _ => rfl

theorem shiftV_ite (δ : Nat) (c : Prop) [Decidable c] (a b : Val) :
    shiftV δ (if c then a else b) = if c then shiftV δ a else shiftV δ b := by
  split <;> rfl

theorem upvalueSlot_shift (δ : Nat) (h : Heap) (a : Nat) :
    upvalueSlot (shiftHeap δ h) (a + δ) = upvalueSlot h a := by
  unfold upvalueSlot
  rw [get_shiftHeap]
  cases h.get a with
  | none => rfl
  | some o =>
    cases o with
    | upvalue l => cases l <;> rfl
    | _ => rfl

theorem find?_upvalueSlot_shift (δ : Nat) (h : Heap) (l : List Nat) (slot : Nat) :
    (l.map (· + δ)).find? (fun a => upvalueSlot (shiftHeap δ h) a == some slot) =
      (l.find? (fun a => upvalueSlot h a == some slot)).map (· + δ) := by
  rw [List.find?_map]
  congr 2
  funext a
  simp only [Function.comp, upvalueSlot_shift]

/-! ## the value stack -/

section stack
variable (δ : Nat) (st : VStack Val)

theorem set_map_default (l : List Val) (i : Nat) :
    (l.map (shiftV δ)).set i default = (l.set i default).map (shiftV δ) := by
  rw [List.map_set]; rfl

theorem push_shiftStack (v : Val) :
    (shiftStack δ st).push (shiftV δ v) = (shiftStack δ (st.push v).1, (st.push v).2) := by
  unfold VStack.push
  simp only [shiftStack_count, shiftStack_data, List.length_map]
  split
  · simp only [shiftStack, List.map_set]
  · rfl

theorem pop_shiftStack : (shiftStack δ st).pop = (shiftStack δ st.pop.1, shiftV δ st.pop.2) := by
  unfold VStack.pop
  simp only [shiftStack_count, shiftStack_data]
  by_cases h : st.count = 0
  · simp only [h, if_true]; rfl
  · simp only [h, if_false, shiftStack, set_map_default, getD_map_shiftV']

theorem popN_shiftStack (n : Nat) : ((shiftStack δ st).popN n).1 = shiftStack δ (st.popN n).1 := rfl

theorem popWOffset_shiftStack (off : Nat) :
    (shiftStack δ st).popWOffset off = (shiftStack δ (st.popWOffset off).1, shiftV δ (st.popWOffset off).2) := by
  unfold VStack.popWOffset
  simp only [shiftStack_count]
  by_cases h : st.count ≤ off
  · simp only [h, if_true]; rfl
  · simp only [h, if_false]; exact pop_shiftStack δ st

theorem set_shiftStack (i : Nat) (v : Val) :
    (shiftStack δ st).set i (shiftV δ v) =
      (shiftStack δ (st.set i v).1, Except.map (shiftV δ) (st.set i v).2) := by
  unfold VStack.set
  simp only [shiftStack_count, shiftStack_data]
  by_cases h1 : i > st.count
  · simp only [h1, if_true]; rfl
  · simp only [h1, if_false]
    by_cases h2 : i = st.count
    · simp only [h2, if_true]
      rw [push_shiftStack]
      rcases st.push v with ⟨st', (e | u)⟩ <;> rfl
    · simp only [h2, if_false, shiftStack, List.map_set, getD_map_shiftV']
      rfl

theorem get_shiftStack (i : Nat) : (shiftStack δ st).get i = shiftV δ (st.get i) := by
  unfold VStack.get
  simp only [shiftStack_count, shiftStack_data, getD_map_shiftV']
  split <;> rfl

theorem last_shiftStack : (shiftStack δ st).last = shiftV δ st.last := by
  unfold VStack.last
  simp only [shiftStack_count, shiftStack_data, getD_map_shiftV']
  split <;> rfl

theorem peekLast_shiftStack (n : Nat) : (shiftStack δ st).peekLast n = shiftV δ (st.peekLast n) := by
  unfold VStack.peekLast
  simp only [shiftStack_count, shiftStack_data, getD_map_shiftV']
  split <;> rfl

theorem clearUntil_shiftStack (i : Nat) :
    (shiftStack δ st).clearUntil i = (shiftStack δ (st.clearUntil i).1, shiftV δ (st.clearUntil i).2) := by
  unfold VStack.clearUntil
  simp only [last_shiftStack]
  rfl

theorem contents_shiftStack : (shiftStack δ st).contents = st.contents.map (shiftV δ) := by
  unfold VStack.contents
  simp only [shiftStack_count, shiftStack_data, List.map_take]

theorem clear_shiftStack : (shiftStack δ st).clear = shiftStack δ st.clear := by
  unfold VStack.clear
  simp only [shiftStack, set_map_default]

end stack

/-- `SetGlobalVar` pads the list of globals with `nil` up to the index -/
theorem setGlobal_shift (δ i : Nat) (v : Val) (g : List Val) :
    (if g.length ≤ i then g.map (shiftV δ) ++ List.replicate (i + 1 - g.length) .nil
      else g.map (shiftV δ)).set i (shiftV δ v) =
      ((if g.length ≤ i then g ++ List.replicate (i + 1 - g.length) .nil else g).set i v).map (shiftV δ) := by
  split <;> simp [List.map_set, List.map_append, List.map_replicate]

/-! ## the collector -/

theorem addrs_map_shiftV (δ : Nat) (p : Val → Option Nat)
    (hp : ∀ v, p (shiftV δ v) = (p v).map (· + δ)) (vs : List Val) :
    (vs.map (shiftV δ)).filterMap p = (vs.filterMap p).map (· + δ) := by
  induction vs with
  | nil => rfl
  | cons v vs ih =>
    simp only [List.map_cons, List.filterMap_cons, hp]
    cases p v <;> simp [ih]

theorem markLoop_shift (δ : Nat) (h : Heap) : ∀ (fuel : Nat) (work marked : List Nat),
    markLoop (shiftHeap δ h) fuel (work.map (· + δ)) (marked.map (· + δ)) =
      (markLoop h fuel work marked).map (· + δ) := by
  intro fuel
  induction fuel with
  | zero => intro w m; simp [markLoop]
  | succ f ih =>
    intro w m
    cases w with
    | nil => simp [markLoop]
    | cons a w =>
      simp only [List.map_cons, markLoop, contains_map_add, get_shiftHeap]
      split
      · exact ih w m
      · cases h.get a with
        | none =>
          simp only [Option.map_none, List.nil_append]
          exact ih w (a :: m)
        | some o =>
          simp only [Option.map_some, children_shiftObj]
          rw [addrs_map_shiftV δ _ (by intro v; cases v <;> rfl), ← List.map_append]
          exact ih _ (a :: m)

theorem closures_shift (δ : Nat) (fs : List Frame) :
    (fs.map (shiftFrame δ)).filterMap (·.closure) = (fs.filterMap (·.closure)).map (· + δ) := by
  induction fs with
  | nil => rfl
  | cons f fs ih =>
    simp only [List.map_cons, List.filterMap_cons, shiftFrame_closure]
    cases f.closure <;> simp [ih]

theorem roots_shift (δ : Nat) (s : VmState) : roots (shiftS δ s) = (roots s).map (shiftV δ) := by
  unfold roots
  simp only [shiftS_stack, shiftS_globals, shiftS_frames, shiftS_openUpvalues, shiftS_guards,
    contents_shiftStack, List.map_append, List.map_map, closures_shift]
  rfl

theorem edges_shift (δ : Nat) (l : List (Nat × Obj)) (n : Nat) :
    (l.map (shiftP δ)).foldl (fun n p => n + (Heap.children p.2).length) n =
      l.foldl (fun n p => n + (Heap.children p.2).length) n := by
  induction l generalizing n with
  | nil => rfl
  | cons p l ih => simp only [List.map_cons, List.foldl_cons, shiftP_snd, children_shiftObj, List.length_map, ih]

theorem reachable_shift (δ : Nat) (s : VmState) :
    reachable (shiftS δ s) = (reachable s).map (· + δ) := by
  unfold reachable
  simp only [roots_shift, shiftS_heap, shiftHeap_objs, edges_shift, List.length_map]
  rw [addrs_map_shiftV δ _ (by intro v; cases v <;> rfl), List.length_map]
  exact markLoop_shift δ s.heap _ _ []

theorem charge_shift (δ : Nat) (l : List (Nat × Obj)) (n : Nat) :
    (l.map (shiftP δ)).foldl (fun n p => n + Heap.chargeOf p.2) n =
      l.foldl (fun n p => n + Heap.chargeOf p.2) n := by
  induction l generalizing n with
  | nil => rfl
  | cons p l ih => simp only [List.map_cons, List.foldl_cons, shiftP_snd, chargeOf_shiftObj, ih]

theorem gc_shiftA (δ : Nat) (s : VmState) : gc (shiftS δ s) = shiftS δ (gc s) := by
  unfold gc
  simp only [List.partition_eq_filter_filter, reachable_shift, shiftS_heap, shiftHeap_objs,
    List.filter_map, charge_shift, shiftS_mem, shiftS_gcRuns]
  have h1 : ((fun p : Nat × Obj => ((reachable s).map (· + δ)).contains p.1) ∘ shiftP δ) =
      (fun p => (reachable s).contains p.1) := by
    funext p; simp only [Function.comp, shiftP_fst, contains_map_add]
  have h2 : ((not ∘ fun p : Nat × Obj => ((reachable s).map (· + δ)).contains p.1) ∘ shiftP δ) =
      (not ∘ fun p => (reachable s).contains p.1) := by
    funext p; simp only [Function.comp, shiftP_fst, contains_map_add]
  rw [h1, h2]
  rfl

/-! ## the renaming on results -/

/-- the renaming on the result of `getTable` -/
def shiftT (δ : Nat) (x : Nat × Nat × List (Val × Val)) : Nat × Nat × List (Val × Val) :=
  (x.1 + δ, x.2.1, x.2.2.map (shiftE δ))

@[simp] theorem shiftT_mk (δ a cap : Nat) (es : List (Val × Val)) :
    shiftT δ (a, cap, es) = (a + δ, cap, es.map (shiftE δ)) := rfl
@[simp] theorem shiftT_fst (δ : Nat) (x : Nat × Nat × List (Val × Val)) : (shiftT δ x).1 = x.1 + δ := rfl
@[simp] theorem shiftT_snd_fst (δ : Nat) (x : Nat × Nat × List (Val × Val)) : (shiftT δ x).2.1 = x.2.1 := rfl
@[simp] theorem shiftT_snd_snd (δ : Nat) (x : Nat × Nat × List (Val × Val)) :
    (shiftT δ x).2.2 = x.2.2.map (shiftE δ) := rfl

/-- type-directed renaming of the state of a `for` loop (counters are left alone, values are renamed) -/
class ShiftState (σ : Type) where
  sh : Nat → σ → σ

instance : ShiftState Nat := ⟨fun _ n => n⟩
instance : ShiftState PUnit := ⟨fun _ u => u⟩
instance : ShiftState Val := ⟨shiftV⟩
instance {α β : Type} [ShiftState α] [ShiftState β] : ShiftState (α × β) :=
  ⟨fun δ p => (ShiftState.sh δ p.1, ShiftState.sh δ p.2)⟩
instance {α β : Type} [ShiftState α] [ShiftState β] : ShiftState (MProd α β) :=
  ⟨fun δ p => ⟨ShiftState.sh δ p.1, ShiftState.sh δ p.2⟩⟩
instance {α : Type} [ShiftState α] : ShiftState (List α) := ⟨fun δ l => l.map (ShiftState.sh δ)⟩

@[simp] theorem sh_nat (d n : Nat) : ShiftState.sh d n = n := rfl
@[simp] theorem sh_punit (d : Nat) (u : PUnit) : ShiftState.sh d u = u := rfl
@[simp] theorem sh_val (d : Nat) (v : Val) : ShiftState.sh d v = shiftV d v := rfl
@[simp] theorem sh_prod {α β : Type} [ShiftState α] [ShiftState β] (d : Nat) (a : α) (b : β) :
    ShiftState.sh d (a, b) = (ShiftState.sh d a, ShiftState.sh d b) := rfl
@[simp] theorem sh_prod_fst {α β : Type} [ShiftState α] [ShiftState β] (d : Nat) (p : α × β) :
    (ShiftState.sh d p).1 = ShiftState.sh d p.1 := rfl
@[simp] theorem sh_prod_snd {α β : Type} [ShiftState α] [ShiftState β] (d : Nat) (p : α × β) :
    (ShiftState.sh d p).2 = ShiftState.sh d p.2 := rfl
@[simp] theorem sh_mprod {α β : Type} [ShiftState α] [ShiftState β] (d : Nat) (a : α) (b : β) :
    ShiftState.sh d (⟨a, b⟩ : MProd α β) = ⟨ShiftState.sh d a, ShiftState.sh d b⟩ := rfl
@[simp] theorem sh_mprod_fst {α β : Type} [ShiftState α] [ShiftState β] (d : Nat) (p : MProd α β) :
    (ShiftState.sh d p).1 = ShiftState.sh d p.1 := rfl
@[simp] theorem sh_mprod_snd {α β : Type} [ShiftState α] [ShiftState β] (d : Nat) (p : MProd α β) :
    (ShiftState.sh d p).2 = ShiftState.sh d p.2 := rfl
@[simp] theorem sh_list {α : Type} [ShiftState α] (d : Nat) (l : List α) :
    ShiftState.sh d l = l.map (ShiftState.sh d) := rfl

/-! ## the shift by zero -/

theorem shiftV_zero (v : Val) : shiftV 0 v = v := by cases v <;> rfl

theorem shiftFrame_zero (f : Frame) : shiftFrame 0 f = f := by
  cases f; simp [shiftFrame]

theorem shiftS_zero (s : VmState) : shiftS 0 s = s := by
  have hV : shiftV 0 = id := funext shiftV_zero
  have hE : shiftE 0 = id := funext fun e => by simp [shiftE, shiftV_zero]
  have hL : ∀ l, shiftLoc 0 l = l := fun l => by cases l <;> simp [shiftLoc, shiftV_zero]
  have hO : ∀ o, shiftObj 0 o = o := fun o => by cases o <;> simp [shiftObj, hE, hL]
  have hP : shiftP 0 = id := funext fun p => by simp [shiftP, hO]
  have hF : shiftFrame 0 = id := funext shiftFrame_zero
  simp [shiftS, shiftStack, shiftHeap, hV, hP, hF]

theorem shiftTask_zero (t : Task) : shiftTask 0 t = t := by
  cases t <;> simp [shiftTask, shiftV_zero]

theorem mapRes_zero (r : Except RunErr (Option Val)) : mapRes 0 r = r := by
  have hF : shiftFrame 0 = id := funext shiftFrame_zero
  rcases r with e | (_ | v) <;> simp [mapRes, shiftErr, shiftV_zero, hF]

end Cao.Vm
