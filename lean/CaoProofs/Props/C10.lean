import CaoProofs.Lemmas.WfUnit
import CaoProofs.Lemmas.WfFinal
import CaoProofs.Lemmas.HashInj
import CaoProofs.Lemmas.WfChecker
import CaoProofs.Lemmas.CompileRun
/-!
# C10 — structural validity of compiled programs

Every program the (model of the) compiler returns satisfies the conditions of the executable
checker `Bytecode.wfReason`, component by component.  What is proved, under which hypotheses, and
what is missing is summed up at the end of the file.

Each component is read off `Out unit s p`: the final compiler state `s` satisfies `UnitSpec`
(`compileUnit_spec`, `Lemmas/WfUnit.lean`: the invariant `Compiler.Inv` of `Lemmas/WfInv.lean` without holes,
carried through the card compiler by the triple `Tr` of `Lemmas/WfLemmas.lean`), and `p` copies its
fields; the invariant's `OperOK` is turned into the checker's view of each operand below, with the byte facts
of `Lemmas/WfFinal.lean`; `wfReason_none_iff` (`Lemmas/WfChecker.lean`) lists the checker's clauses.
-/
namespace Cao.C10
open Cao Cao.Compiler Cao.Compiler.Wf Cao.Bytecode

/-! ## from `compile` to the final compiler state -/

/-- the program `p` is the output for the final compiler state `s` of the unit `unit` -/
structure Out (unit : Array FunctionIr) (s : CState) (p : Program) : Prop where
  spec : UnitSpec unit s
  bc : p.bytecode = s.bytecode
  data : p.data = s.data
  labels : p.labels = resolveLog s.labels
  varIds : p.varIds = s.varIds
  varNames : p.varNames = s.varNames
  trace : p.trace = resolveLog s.trace

theorem Out.of_run {unit : Array FunctionIr} {s : CState} (h : (compileUnit unit).run {} = .ok ((), s)) :
    Out unit s (programOf s) :=
  ⟨compileUnit_spec h, rfl, rfl, rfl, rfl, rfl, rfl⟩

theorem compile_out {m std : Module} {limit : Nat} {p : Program} (h : compile m std limit = .ok p) :
    ∃ unit s, intoIrStream m std limit = .ok unit ∧ Out unit s p := by
  obtain ⟨unit, s, hC, rfl⟩ := compile_run h
  exact ⟨unit, s, hC.ir, .of_run hC.run⟩

/-- `(pos, o)` is an instruction of `p`: `pos` is reached by decoding from 0 and holds opcode `o` -/
def IsInstr (p : Program) (pos : Nat) (o : UInt8) : Prop :=
  Start p.bytecode pos ∧ pos < p.bytecode.size ∧ o = p.bytecode.getD pos 0

/-- `a` is the first byte of an instruction of `p` -/
def IsStartPos (p : Program) (a : Nat) : Prop := Start p.bytecode a ∧ a < p.bytecode.size

theorem Out.instr_ok {unit : Array FunctionIr} {s : CState} {p : Program} (h : Out unit s p) {pos : Nat}
    {o : UInt8} (hi : IsInstr p pos o) {n : Nat} (hn : Gen.spanOf o = some n) :
    OperOK (fun _ => False) s pos o (opBytes p.bytecode pos (n - 1)) := by
  obtain ⟨h1, h2, h3⟩ := hi
  rw [h.bc] at h1 h2 h3 ⊢
  rw [h3] at hn ⊢
  exact h.spec.inv.instr pos n h1 h2 hn

theorem rd_u32 {bc : Array UInt8} {pos x : Nat} (h : opBytes bc pos (5 - 1) = le32 (UInt32.ofNat x)) :
    rdU32 bc (pos + 1) = x % 2 ^ 32 := by
  have := rdU32_opBytes bc pos (5 - 1) 0 (by omega)
  rw [Nat.add_zero] at this
  rw [this, h, u32L_ofNat]

/-! ## 1. the bytecode decodes front to back -/

/-- (1) decoding succeeds and lists exactly the instructions of the unique tiling -/
theorem compile_decodes {m std : Module} {limit : Nat} {p : Program} (h : compile m std limit = .ok p) :
    ∃ l, decodeAll p.bytecode (p.bytecode.size + 1) 0 [] = .ok l ∧
      (∀ pos o, (pos, o) ∈ l ↔ IsInstr p pos o) ∧
      (∀ x, l.getLast? = some x → ∃ n, Gen.spanOf x.2 = some n ∧ x.1 + n = p.bytecode.size) := by
  obtain ⟨unit, s, _, out⟩ := compile_out h
  have ht : Tiled p.bytecode 0 p.bytecode.size := by rw [out.bc]; exact out.spec.inv.tiled
  obtain ⟨l, hl, hmem, hlast⟩ := decodeAll_of_tiled ht (p.bytecode.size + 1) [] (by omega)
  exact ⟨l, by simpa using hl, fun pos o => hmem (pos, o), hlast⟩

theorem compile_tiled {m std : Module} {limit : Nat} {p : Program} (h : compile m std limit = .ok p) :
    Tiled p.bytecode 0 p.bytecode.size := by
  obtain ⟨unit, s, _, out⟩ := compile_out h
  rw [out.bc]; exact out.spec.inv.tiled

/-! ## 2. the last instruction is `Exit` -/

theorem Out.last_exit {unit : Array FunctionIr} {s : CState} {p : Program} (h : Out unit s p) :
    IsInstr p (p.bytecode.size - 1) op.exit := by
  obtain ⟨sB, iB, e⟩ := h.spec.before
  have hb : p.bytecode = sB.bytecode ++ [op.exit].toArray := by rw [h.bc, e]; rfl
  have hsz : p.bytecode.size = sB.bytecode.size + 1 := by rw [hb]; simp
  refine ⟨?_, by omega, ?_⟩
  · rw [hsz, Nat.add_sub_cancel]
    exact iB.tiled.congr fun i _ hi => by rw [hb]; exact getD_append_left hi
  · rw [hsz, Nat.add_sub_cancel, hb, getD_append_right (Nat.le_refl _), Nat.sub_self]; rfl

/-- (2) the last decoded instruction is `Exit` -/
theorem compile_ends_with_exit {m std : Module} {limit : Nat} {p : Program} {l : List (Nat × UInt8)}
    (h : compile m std limit = .ok p) (hl : decodeAll p.bytecode (p.bytecode.size + 1) 0 [] = .ok l) :
    l.getLast? = some (p.bytecode.size - 1, op.exit) := by
  obtain ⟨unit, s, _, out⟩ := compile_out h
  obtain ⟨l', hl', hmem, hlast⟩ := compile_decodes h
  rw [hl] at hl'; cases hl'
  obtain ⟨e1, e2, e3⟩ := out.last_exit
  have hin : (p.bytecode.size - 1, op.exit) ∈ l := (hmem _ _).2 ⟨e1, e2, e3⟩
  cases hg : l.getLast? with
  | none => rw [List.getLast?_eq_none_iff] at hg; rw [hg] at hin; cases hin
  | some x =>
    obtain ⟨n, hn, hx⟩ := hlast x hg
    obtain ⟨x1, x2⟩ := x
    obtain ⟨f1, f2, f3⟩ := (hmem x1 x2).1 (List.mem_of_getLast? hg)
    have hnp := span_pos hn
    simp only at hx hn
    have hpos : x1 = p.bytecode.size - 1 := by
      rcases Nat.lt_trichotomy x1 (p.bytecode.size - 1) with hlt | heq | hgt
      · have := f1.no_overlap e1 hlt (by rw [← f3]; exact hn)
        have hs1 : Gen.spanOf (p.bytecode.getD (p.bytecode.size - 1) 0) = some 1 := by rw [← e3]; decide
        obtain ⟨n', hn', hle', _⟩ := e1.start_lt (compile_tiled h) e2
        omega
      · exact heq
      · omega
    subst hpos
    rw [f3, ← e3]

/-! ## 3./4. jumps and labels land on instruction starts -/

theorem Out.before_start {unit : Array FunctionIr} {s : CState} {p : Program} (h : Out unit s p) :
    ∃ sB, Inv (fun _ => False) sB ∧ p.bytecode = sB.bytecode ++ [op.exit].toArray ∧ s.labels = sB.labels ∧
      Grow sB s := by
  obtain ⟨sB, iB, e⟩ := h.spec.before
  refine ⟨sB, iB, by rw [h.bc, e]; rfl, by rw [e]; rfl, ?_⟩
  rw [e]
  exact ⟨by simp [afterInstr], fun i hi => getD_append_left hi, ⟨#[], by simp [afterInstr]⟩, fun _ h => h,
    fun t ht => by simp [afterInstr, ht], Nat.le_refl _, fun _ h => h⟩

/-- (3) every jump operand is the first byte of an instruction of the program -/
theorem compile_jumps_land {m std : Module} {limit : Nat} {p : Program} (h : compile m std limit = .ok p)
    (hsz : p.bytecode.size < 2 ^ 32) {pos : Nat} {o : UInt8} (hi : IsInstr p pos o)
    (hj : o = op.goto ∨ o = op.gotoIfTrue ∨ o = op.gotoIfFalse) :
    IsStartPos p (rdU32 p.bytecode (pos + 1)) := by
  obtain ⟨unit, s, _, out⟩ := compile_out h
  obtain ⟨sB, iB, hb, _, hg⟩ := out.before_start
  have hjo : isJump o = true := by
    rcases hj with rfl | rfl | rfl <;> decide
  have hszB : p.bytecode.size = sB.bytecode.size + 1 := by rw [hb]; simp
  obtain ⟨h1, h2, h3⟩ := hi
  have hpos : pos < sB.bytecode.size := by
    rcases Nat.lt_or_ge pos sB.bytecode.size with h | h
    · exact h
    · exfalso
      have : pos = sB.bytecode.size := by omega
      rw [this, hb, getD_append_right (Nat.le_refl _), Nat.sub_self] at h3
      have : o = op.exit := h3
      rw [this] at hjo
      exact absurd hjo (by decide)
  have hpre : ∀ i, i < sB.bytecode.size → p.bytecode.getD i 0 = sB.bytecode.getD i 0 := by
    intro i hi; rw [hb]; exact getD_append_left hi
  have h1B : Start sB.bytecode pos := h1.congr fun i _ hi => (hpre i (by omega)).symm
  obtain ⟨n, hn, hle, _⟩ := h1B.start_lt iB.tiled hpos
  rw [← hpre pos hpos, ← h3] at hn
  have hn5 := isJump_span hjo
  rw [hn] at hn5; cases hn5
  have hok := iB.instr pos 5 h1B hpos (by rw [← hpre pos hpos, ← h3]; exact hn)
  rw [← hpre pos hpos, ← h3] at hok
  rcases hok.jump hjo with hf | ⟨t, ht1, ht2, ht3⟩
  · exact hf.elim
  · have hrd : rdU32 p.bytecode (pos + 1) = t := by
      have := rdU32_opBytes p.bytecode pos 4 0 (by omega)
      rw [Nat.add_zero] at this
      rw [this, opBytes_congr (bc := sB.bytecode) (fun i h1 h2 => hpre i (by omega)), ht1, u32L_ofNat]
      exact Nat.mod_eq_of_lt (by omega)
    rw [hrd]
    exact ⟨ht2.congr fun i _ hi => hpre i (by omega), by omega⟩

/-- (4) every label lands on the first byte of an instruction of the program -/
theorem compile_labels_land {m std : Module} {limit : Nat} {p : Program} (h : compile m std limit = .ok p)
    {l : UInt32 × Nat} (hl : l ∈ p.labels) : IsStartPos p l.2 := by
  obtain ⟨unit, s, _, out⟩ := compile_out h
  obtain ⟨sB, iB, hb, hlab, hg⟩ := out.before_start
  rw [out.labels] at hl
  have hl' := resolveLog_subset _ l hl
  rw [hlab] at hl'
  obtain ⟨h1, h2⟩ := iB.labels l hl'
  refine ⟨h1.congr fun i _ hi => by rw [hb]; exact getD_append_left (by omega), ?_⟩
  rw [hb]; simp; omega

/-! ## 5. the source trace -/

/-- (5a) every trace key is the first byte of an instruction -/
theorem compile_trace_starts {m std : Module} {limit : Nat} {p : Program} (h : compile m std limit = .ok p)
    {t : Nat × Trace} (ht : t ∈ p.trace) : IsStartPos p t.1 := by
  obtain ⟨unit, s, _, out⟩ := compile_out h
  rw [out.trace] at ht
  have := out.spec.inv.trace t (resolveLog_subset _ t ht)
  rw [← out.bc] at this
  exact this

/-- (5b) every instruction other than the raw `Pop`/`CloseUpvalue` of `scope_end` has a trace entry -/
theorem compile_trace_complete {m std : Module} {limit : Nat} {p : Program} (h : compile m std limit = .ok p)
    {pos : Nat} {o : UInt8} (hi : IsInstr p pos o) (hn : needsTrace o = true) :
    ∃ t ∈ p.trace, t.1 = pos := by
  obtain ⟨unit, s, _, out⟩ := compile_out h
  obtain ⟨h1, h2, h3⟩ := hi
  rw [out.bc] at h1 h2 h3
  obtain ⟨n, hsp, _⟩ := h1.start_lt out.spec.inv.tiled h2
  rw [out.trace]
  exact resolveLog_mem_key _ _ ((out.spec.inv.instr pos n h1 h2 hsp).trace (by rw [← h3]; exact hn))

/-! ## 6. string operands -/

/-- (6) every `StringLiteral` / `NativeFunctionPointer` operand is the offset of a complete valid
length-prefixed UTF-8 string in the data section -/
theorem compile_strings_valid {m std : Module} {limit : Nat} {p : Program} (h : compile m std limit = .ok p)
    (hd : p.data.size < 2 ^ 32) {pos : Nat} {o : UInt8} (hi : IsInstr p pos o)
    (ho : o = op.stringLiteral ∨ o = op.nativeFunctionPointer) :
    validStr p.data (rdU32 p.bytecode (pos + 1)) = true := by
  obtain ⟨unit, s, _, out⟩ := compile_out h
  obtain ⟨off, h1, h2⟩ := (out.instr_ok hi (n := 5) (by rcases ho with rfl | rfl <;> decide)).str
    (by rcases ho with rfl | rfl <;> decide)
  rw [← out.data] at h2
  have hoff : off < 2 ^ 32 := by
    obtain ⟨str, pre, post, e1, e2⟩ := h2
    have := congrArg List.length e1
    simp only [Array.length_toList, List.length_append] at this
    omega
  rw [rd_u32 h1, Nat.mod_eq_of_lt hoff]
  exact validStr_of_StrAt h2 hd

/-! ## 7. global variables -/

/-- (7a) ids are `0 … n-1` in order, handles are distinct, and every id has a name keyed by its hash -/
theorem compile_globals_dense {m std : Module} {limit : Nat} {p : Program} (h : compile m std limit = .ok p) :
    p.varIds.map (·.2) = List.range p.varIds.length ∧
    (p.varIds.map (·.1)).Pairwise (· ≠ ·) ∧
    ∀ i, i < p.varIds.length → ∃ n ∈ p.varNames, n.1 = Hash.handleFromU32 (UInt32.ofNat i) := by
  obtain ⟨unit, s, _, out⟩ := compile_out h
  have ha := out.spec.inv.aux
  have hlen : s.varIds.length = s.nextVar := ha.gaux.len
  rw [out.varIds, out.varNames, hlen]
  exact ⟨ha.ids, ha.nodup, ha.names⟩

/-- (7b) names and ids correspond one to one, provided the id hash does not collide below the number
of globals (see `idHash_collision` for why the hypothesis is needed in general) -/
theorem compile_names_count {m std : Module} {limit : Nat} {p : Program} (h : compile m std limit = .ok p)
    (hinj : HInj p.varIds.length) :
    p.varNames.map (·.1) = (List.range p.varIds.length).map idHash ∧ p.varNames.length = p.varIds.length := by
  obtain ⟨unit, s, _, out⟩ := compile_out h
  have ha := out.spec.inv.aux
  have hlen : s.varIds.length = s.nextVar := ha.gaux.len
  rw [out.varIds, hlen] at hinj
  have := ha.namesEq hinj
  rw [out.varIds, out.varNames, hlen]
  refine ⟨this, ?_⟩
  have := congrArg List.length this
  simpa using this

/-- every global costs at least one instruction: there are at most `bytecode.size` globals -/
theorem compile_globals_bound {m std : Module} {limit : Nat} {p : Program} (h : compile m std limit = .ok p) :
    p.varIds.length ≤ p.bytecode.size := by
  obtain ⟨unit, s, _, out⟩ := compile_out h
  have ha := out.spec.inv.aux
  rw [out.varIds, out.bc, ha.gaux.len]
  exact ha.nv

/-- (7b') names and ids correspond one to one: the name keys are exactly the hashes of `0 … n-1`, in
order (`Handle::from_u32` is injective below `2^32 - 1`, see `idHash_inj`) -/
theorem compile_names_one_to_one {m std : Module} {limit : Nat} {p : Program}
    (h : compile m std limit = .ok p) (hsz : p.bytecode.size < 2 ^ 31) :
    p.varNames.map (·.1) = (List.range p.varIds.length).map idHash ∧ p.varNames.length = p.varIds.length :=
  compile_names_count h (idHash_inj (by have := compile_globals_bound h; omega))

/-- (7c) every global-variable operand is a declared id -/
theorem compile_global_operands {m std : Module} {limit : Nat} {p : Program} (h : compile m std limit = .ok p)
    {pos : Nat} {o : UInt8} (hi : IsInstr p pos o) (ho : o = op.setGlobalVar ∨ o = op.readGlobalVar) :
    rdU32 p.bytecode (pos + 1) < p.varIds.length := by
  obtain ⟨unit, s, _, out⟩ := compile_out h
  obtain ⟨x, h1, h2⟩ := (out.instr_ok hi (n := 5) (by rcases ho with rfl | rfl <;> decide)).glob
    (by rcases ho with rfl | rfl <;> decide)
  rw [rd_u32 h2, out.varIds]
  exact Nat.lt_of_le_of_lt (Nat.mod_le _ _) h1

/-! ## 8. local, for-each and upvalue slots (ranges only) -/

/-- (8a) local-variable and upvalue indices are below the declared limit of 255 slots -/
theorem compile_slot_ranges {m std : Module} {limit : Nat} {p : Program} (h : compile m std limit = .ok p)
    {pos : Nat} {o : UInt8} (hi : IsInstr p pos o)
    (ho : o = op.setLocalVar ∨ o = op.readLocalVar ∨ o = op.setUpvalue ∨ o = op.readUpvalue) :
    rdU32 p.bytecode (pos + 1) < maxSlots := by
  obtain ⟨unit, s, _, out⟩ := compile_out h
  obtain ⟨x, h1, h2⟩ := (out.instr_ok hi (n := 5) (by rcases ho with rfl | rfl | rfl | rfl <;> decide)).slot
    (by rcases ho with rfl | rfl | rfl | rfl <;> decide)
  rw [rd_u32 h2]
  exact Nat.lt_of_le_of_lt (Nat.mod_le _ _) h1

/-- (8b) the five slots of `BeginForEach` / `ForEach` are below the limit -/
theorem compile_foreach_slots {m std : Module} {limit : Nat} {p : Program} (h : compile m std limit = .ok p)
    {pos : Nat} {o : UInt8} (hi : IsInstr p pos o) (ho : o = op.beginForEach ∨ o = op.forEach)
    {i : Nat} (hi5 : i < 5) : rdU32 p.bytecode (pos + 1 + 4 * i) < maxSlots := by
  obtain ⟨unit, s, _, out⟩ := compile_out h
  obtain ⟨a, b, c, d, e, ha, hb, hc, hd, he, hbs⟩ :=
    (out.instr_ok hi (n := 21) (by rcases ho with rfl | rfl <;> decide)).each (by rcases ho with rfl | rfl <;> decide)
  rw [rdU32_opBytes p.bytecode pos (21 - 1) (4 * i) (by omega), hbs]
  have hm : ∀ x, x < 255 → x % 2 ^ 32 < maxSlots := fun x hx => Nat.lt_of_le_of_lt (Nat.mod_le _ _) hx
  have la := le32_length (UInt32.ofNat a)
  have lb := le32_length (UInt32.ofNat b)
  have lc := le32_length (UInt32.ofNat c)
  have ld := le32_length (UInt32.ofNat d)
  rcases (by omega : i = 0 ∨ i = 1 ∨ i = 2 ∨ i = 3 ∨ i = 4) with rfl | rfl | rfl | rfl | rfl
  · rw [u32L_append_left _ _ _ (by omega), u32L_ofNat]; exact hm a ha
  · rw [u32L_append_right _ _ _ (by omega), la, u32L_append_left _ _ _ (by omega), u32L_ofNat]
    exact hm b hb
  · rw [u32L_append_right _ _ _ (by omega), la, u32L_append_right _ _ _ (by omega), lb,
      u32L_append_left _ _ _ (by omega), u32L_ofNat]
    exact hm c hc
  · rw [u32L_append_right _ _ _ (by omega), la, u32L_append_right _ _ _ (by omega), lb,
      u32L_append_right _ _ _ (by omega), lc, u32L_append_left _ _ _ (by omega), u32L_ofNat]
    exact hm d hd
  · rw [u32L_append_right _ _ _ (by omega), la, u32L_append_right _ _ _ (by omega), lb,
      u32L_append_right _ _ _ (by omega), lc, u32L_append_right _ _ _ (by omega), ld,
      u32L_ofNat]
    exact hm e he

/-- (8c) the "is local" flag of `RegisterUpvalue` is a boolean -/
theorem compile_register_flag {m std : Module} {limit : Nat} {p : Program} (h : compile m std limit = .ok p)
    {pos : Nat} (hi : IsInstr p pos op.registerUpvalue) : (p.bytecode.getD (pos + 1 + 1) 0).toNat ≤ 1 := by
  obtain ⟨unit, s, _, out⟩ := compile_out h
  obtain ⟨i, f, hf, hbs⟩ := (out.instr_ok hi (n := 3) (by decide)).reg (by decide)
  rw [← opBytes_getD p.bytecode pos 2 1 (by omega), hbs]
  exact hf

/-! ## function pointers and closures -/

theorem handle_operand {bc : Array UInt8} {pos : Nat} {h : UInt32}
    (hb : (opBytes bc pos (9 - 1)).take 4 = le32 h) : UInt32.ofNat (rdU32 bc (pos + 1)) = h := by
  have := rdU32_opBytes bc pos (9 - 1) 0 (by omega)
  rw [Nat.add_zero] at this
  rw [this, ← u32L_take, hb, u32L_le32, UInt32.ofNat_toNat]

/-- every `Closure` handle operand has a label (landing on an instruction start by
`compile_labels_land`) -/
theorem compile_closure_labels {m std : Module} {limit : Nat} {p : Program} (h : compile m std limit = .ok p)
    {pos : Nat} (hi : IsInstr p pos op.closure) :
    ∃ l ∈ p.labels, l.1 = UInt32.ofNat (rdU32 p.bytecode (pos + 1)) := by
  obtain ⟨unit, s, _, out⟩ := compile_out h
  obtain ⟨l, hl, hb⟩ := (out.instr_ok hi (n := 9) (by decide)).clos (by decide)
  rw [handle_operand hb, out.labels]
  exact resolveLog_mem_key _ _ ⟨l, hl, rfl⟩

theorem Out.function_pointer {unit : Array FunctionIr} {s : CState} {p : Program} (out : Out unit s p)
    {pos : Nat} (hi : IsInstr p pos op.functionPointer) :
    ∃ f ∈ unit.toList, f.handle = UInt32.ofNat (rdU32 p.bytecode (pos + 1)) ∧
      (f.handle ≠ unit[0]!.handle → f ∈ unit.toList.drop 1) := by
  obtain ⟨e, he, hb⟩ := (out.instr_ok hi (n := 9) (by decide)).fnp (by decide)
  rw [out.spec.jt] at he
  obtain ⟨f, hf, rfl⟩ := List.mem_map.1 he
  refine ⟨f, hf, (handle_operand hb).symm, fun hne => ?_⟩
  obtain ⟨l⟩ := unit
  cases l with
  | nil => cases hf
  | cons x xs =>
    rcases List.mem_cons.1 hf with rfl | hf'
    · exact absurd rfl hne
    · exact hf'

/-- every `FunctionPointer` handle operand is the handle of a function of the compilation unit, and it
has a label unless it is the handle of the entry function `unit[0]` (`main`), which `compile` never
labels (finding: a program that refers to `main` compiles to a function pointer without label) -/
theorem compile_function_pointers {m std : Module} {limit : Nat} {p : Program}
    (h : compile m std limit = .ok p) {pos : Nat} (hi : IsInstr p pos op.functionPointer) :
    ∃ unit, intoIrStream m std limit = .ok unit ∧
      (∃ f ∈ unit.toList, f.handle = UInt32.ofNat (rdU32 p.bytecode (pos + 1))) ∧
      (UInt32.ofNat (rdU32 p.bytecode (pos + 1)) ≠ unit[0]!.handle →
        ∃ l ∈ p.labels, l.1 = UInt32.ofNat (rdU32 p.bytecode (pos + 1))) := by
  obtain ⟨unit, s, hu, out⟩ := compile_out h
  obtain ⟨f, hf, hfh, hd⟩ := out.function_pointer hi
  refine ⟨unit, hu, ⟨f, hf, hfh⟩, fun hne => ?_⟩
  obtain ⟨l, hl, e⟩ := out.spec.fnLabels f (hd (hfh ▸ hne))
  rw [out.labels]
  exact resolveLog_mem_key _ _ ⟨l, hl, e.trans hfh⟩

/-- no `FunctionPointer` operand is the handle of the entry function -/
def NoEntryRef (m std : Module) (limit : Nat) (p : Program) : Prop :=
  ∀ unit, intoIrStream m std limit = .ok unit → ∀ pos, IsInstr p pos op.functionPointer →
    UInt32.ofNat (rdU32 p.bytecode (pos + 1)) ≠ unit[0]!.handle

/-- the result of the checker on the output of `compile` (`none` also if compilation fails) -/
def wfOf (m : Module) : Option String :=
  match compile m (Module.mk [] [] []) with
  | .ok p => wfReason p
  | .error _ => none

/-- **counter-example to the unconditional `compile_wf`**: a `main` that calls itself compiles, but the
emitted function pointer has no label (the compiler never labels the entry function). -/
theorem entry_ref_not_wf :
    wfOf (Module.mk [] [("main", ⟨[], [.call "main" []]⟩)] []) = some "function handle at 0 has no label" := by
  decide +kernel

/-! ## assembling the checker's verdict -/

/-- the one component of the checker that is proved elsewhere (`C10b.compile_upvalues_checked`; item 8,
second half): upvalue indices are below the number of `RegisterUpvalue` pairs of their closure -/
def UpvaluesChecked (p : Program) : Prop :=
  ∀ instrs, decodeAll p.bytecode (p.bytecode.size + 1) 0 [] = .ok instrs →
    instrs.findSome? (checkUpOf p instrs) = none

/-- **WF, all components but the upvalue counts.**  Hypotheses: sizes fit the 32-bit operands; no
function pointer refers to the entry function (`entry_ref_not_wf`); and the upvalue-count check
(`C10b.compile_upvalues_checked`) passes. -/
theorem compile_wf_partial {m std : Module} {limit : Nat} {p : Program} (h : compile m std limit = .ok p)
    (hsz : p.bytecode.size < 2 ^ 31) (hd : p.data.size < 2 ^ 32) (hentry : NoEntryRef m std limit p)
    (hup : UpvaluesChecked p) : Bytecode.WF p := by
  obtain ⟨l, hl, hmem, _⟩ := compile_decodes h
  have hst : ∀ {a : Nat}, IsStartPos p a → a ∈ l.map (·.1) := fun ha => (decoded_start_iff hl _).2 ha
  obtain ⟨g1, g2, g3⟩ := compile_globals_dense h
  -- the clauses of the checker, one component theorem each
  refine (wfReason_none_iff p).2 ⟨l, hl, ⟨_, compile_ends_with_exit h hl⟩, fun ⟨pos, o⟩ hx => ?_, hup l hl,
    fun _ hm => hst (compile_labels_land h hm), fun _ ht => hst (compile_trace_starts h ht),
    fun _ hx => compile_trace_complete h ((hmem _ _).1 hx),
    fun i hi => by rw [g1]; exact List.mem_range.2 hi, dupH_false_of_pairwise _ g2, g3,
    (compile_names_one_to_one h hsz).2⟩
  have hi := (hmem pos o).1 hx
  refine checkInstrOf_none_iff.2 ⟨fun ho => hst (compile_jumps_land h (by omega) hi ho), compile_strings_valid h hd hi,
    ?_, compile_slot_ranges h hi, compile_global_operands h hi, fun ho i => compile_foreach_slots h hi ho,
    fun ho => compile_register_flag h (ho ▸ hi)⟩
  rintro (rfl | rfl)
  · obtain ⟨unit, hu, _, hlab⟩ := compile_function_pointers h hi
    exact hlab (hentry unit hu pos hi)
  · exact compile_closure_labels h hi

/-! ## the full statement, and what is missing

`compile_wf_Full` is the property as literally stated.  It is **false** for the model (and, by the
same mechanism, for the Rust compiler): `entry_ref_not_wf`.  What is proved is
`compile_wf_partial`: `WF p` follows from `compile … = .ok p` under

* `p.bytecode.size < 2^31` (as in the statement) and `p.data.size < 2^32` (string offsets are emitted
  as `u32`; every literal adds ≥ 5 bytes of code but an unbounded number of data bytes, so the bound on
  the code does not bound the data),
* `NoEntryRef`: no `FunctionPointer` operand is the entry function's handle,
* `UpvaluesChecked p`: the checker's upvalue-count clause (`checkUp`; item 8, second half: upvalue
  indices are below the number of `RegisterUpvalue` pairs of the innermost enclosing closure region),
  proved in `Props/C10b.lean`.  That clause looks closures up by label *handle*; it can only hold under
  a no-collision hypothesis on the 32-bit label handles (a later label with the same handle wins in
  `resolveLog`).

Everything else (decoding, final `Exit`, jump targets, labels, trace keys and completeness, string
records incl. UTF-8 validity, closure labels, slot ranges, for-each slots, `RegisterUpvalue` flags,
global ids dense / handles distinct / every id named / names and ids equal in number) is proved for
all modules, component by component (`compile_decodes`, `compile_ends_with_exit`, …).  -/

/-- the property as stated (false in general: `entry_ref_not_wf`) -/
def compile_wf_Full : Prop :=
  ∀ (m std : Module) (limit : Nat) (p : Program),
    compile m std limit = .ok p → p.bytecode.size < 2 ^ 31 → Bytecode.WF p

/-- the counter-example program is small and its checker verdict is a violation -/
theorem entry_ref_not_wf' :
    (match compile (Module.mk [] [("main", ⟨[], [.call "main" []]⟩)] []) (Module.mk [] [] []) with
     | .ok p => decide (p.bytecode.size < 2 ^ 31) && (wfReason p).isSome
     | .error _ => false) = true := by
  decide +kernel

theorem not_compile_wf_Full : ¬ compile_wf_Full := by
  intro h
  have e := entry_ref_not_wf'
  split at e
  · rename_i p hp
    simp only [Bool.and_eq_true, decide_eq_true_eq] at e
    have hw : wfReason p = none := h _ _ _ p hp e.1
    rw [hw] at e
    exact absurd e.2 (by decide)
  · cases e

def okWF (m : Module) : Bool :=
  match compile m (Module.mk [] [] []) with
  | .ok p => (wfReason p).isNone
  | .error _ => false

/-- non-vacuity: the smallest program, `main = [ScalarNil]`, compiles and is well-formed -/
example : okWF (Module.mk [] [("main", ⟨[], [.scalarNil]⟩)] []) = true := by decide +kernel

end Cao.C10
