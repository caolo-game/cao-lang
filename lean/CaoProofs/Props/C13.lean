import CaoModel.HandleTable
import CaoProofs.Lemmas.OpenAddrRefine
/-!
# C13 — `HandleTable` is a finite map on non-zero handles

`HTable` (in `CaoModel/HandleTable.lean`) is the code-shaped model of the
repaired `handle_table.rs`; here it is proved, for every capacity, every operation sequence and
every choice of injected allocation failures, that

* every reachable capacity is a power of two `≥ 2` (`ht_pow2`),
* the representation invariant `HTInv` is preserved and the probe loop terminates
  (`ht_inv_preserved`, `ht_find_terminates`); inserting any number of distinct non-zero handles
  through `insert`, `entry().or_insert_with` or a mix never panics and all are found afterwards
  (`ht_all_paths_terminate`),
* the model refines an association-list specification (`ht_refines`; the null handle is
  rejected and never stored; an operation whose allocation fails reports the error and leaves the
  table untouched: `ht_alloc_fail`),
* the frame property holds (`ht_frame`) and every accepted entry is handed back exactly once
  (`ht_drop_once`).

The only panics of the model are the two of `entry(k).or_insert_with`, which has no error
channel: the growth it needs fails to allocate (`expect` in the Rust), or `k` is the null handle
(no test in the Rust `entry`: it hands out an empty slot as occupied; a panic in the model only). They
are part of the specification (`specStep`), and excluded by `Safe` in `ht_never_panics`.

The reusable theory is in `CaoProofs/Lemmas/OpenAddr.lean` and `OpenAddrRefine.lean`.
-/
namespace Cao.C13
open Cao

variable {V : Type}

/-! ## arithmetic of the growth policy -/

/-- a power of two that is at least 2 -/
def IsPow2 (n : Nat) : Prop := ∃ e, 1 ≤ e ∧ n = 2 ^ e

theorem ht_room {c cap : Nat} (h : HTable.needsGrow (c + 1) cap = false) : c + 1 < cap := by
  simp [HTable.needsGrow] at h; omega

theorem ht_padPot_pow2 (n : Nat) : IsPow2 (HTable.padPot n) :=
  ⟨Nat.log2 (n - 1) + 1, by omega, by unfold HTable.padPot; rw [Nat.pow_succ]; omega⟩

theorem ht_padPot_ge {x : Nat} (h : 2 ≤ x) : x ≤ HTable.padPot x := by
  have := Nat.lt_log2_self (n := x - 1)
  unfold HTable.padPot
  rw [Nat.pow_succ] at this
  omega

/-- capacity chosen by `adjust_capacity(c)` -/
def adjCap (c : Nat) : Nat := max (HTable.padPot c) 4

/-- capacity after `grow` -/
def grownCap (cap : Nat) : Nat := adjCap ((max cap 2 * 3) / 2)

theorem ht_adjCap_pow2 (c : Nat) : IsPow2 (adjCap c) := by
  obtain ⟨e, he, hp⟩ := ht_padPot_pow2 c
  unfold adjCap
  rw [hp]
  by_cases h2 : 2 ≤ e
  · have : 2 ^ 2 ≤ 2 ^ e := Nat.pow_le_pow_right (by omega) h2
    exact ⟨e, he, by omega⟩
  · have : e = 1 := by omega
    subst this
    exact ⟨2, by omega, by decide⟩

theorem ht_adjCap_ge (c : Nat) : c ≤ adjCap c := by
  unfold adjCap
  by_cases h : 2 ≤ c
  · have := ht_padPot_ge h; omega
  · omega

theorem ht_grownCap_gt (cap : Nat) : cap < grownCap cap := by
  unfold grownCap
  have := ht_adjCap_ge ((max cap 2 * 3) / 2)
  omega

private theorem home_lt {cap : Nat} (hc : 0 < cap) (k : UInt32) : HTable.home cap k < cap := by
  unfold HTable.home Hash.fibHome32; exact Nat.mod_lt _ hc

private theorem pow2_pos {n : Nat} (h : IsPow2 n) : 2 ≤ n := by
  obtain ⟨e, he, rfl⟩ := h
  have : 2 ^ 1 ≤ 2 ^ e := Nat.pow_le_pow_right (by omega) he
  omega

/-! ## representation invariant -/

def HTInv (t : HTable V) : Prop :=
  IsPow2 t.cap ∧ OA.Inv t.cap (HTable.home t.cap) t.slots ∧
    t.count = OA.size t.cap t.slots ∧ t.count < t.cap ∧ ∀ v, ¬ OA.Mem t.cap t.slots 0 v

private theorem zero_none {t : HTable V} {f : UInt32 → Option V} (hI : HTInv t)
    (habs : OA.Abs t.cap t.slots f) : f 0 = none := (OA.Abs_none habs).mpr hI.2.2.2.2

private theorem adjust_spec {t : HTable V} {f : UInt32 → Option V}
    (hI : HTInv t) (habs : OA.Abs t.cap t.slots f) (c : Nat) (hn : t.count < adjCap c)
    (al : Alloc) :
    ∃ t', t.adjustCapacity c al = ((HTable.allocStorage al).2,
        if (HTable.allocStorage al).1 then .ok t' else .allocErr) ∧
      t'.cap = adjCap c ∧ t'.count = t.count ∧ HTInv t' ∧ OA.Abs t'.cap t'.slots f := by
  have hz := zero_none hI habs
  obtain ⟨_, inv, hcnt, _, _⟩ := hI
  have hp := ht_adjCap_pow2 c
  have hc : 0 < adjCap c := by have := pow2_pos hp; omega
  obtain ⟨s', h1, h2, h3, h4⟩ := OA.rehash_compact (home' := HTable.home (adjCap c)) inv habs hc
    (home_lt hc) (by omega)
  refine ⟨⟨adjCap c, OA.compact (adjCap c) s', t.count⟩, ?_, rfl, rfl,
    ⟨hp, h2, by rw [h4, hcnt], hn, (OA.Abs_none h3).mp hz⟩, h3⟩
  unfold adjCap at h1
  cases h : (HTable.allocStorage al).1 <;> simp [HTable.adjustCapacity, h, h1, adjCap]

private theorem insertRaw_spec {t : HTable V} {f : UInt32 → Option V}
    (hI : HTInv t) (habs : OA.Abs t.cap t.slots f) {k : UInt32} (hk0 : k ≠ 0) (v : V)
    (hroom : f k = none → t.count + 1 < t.cap) :
    ∃ t', t.insertRaw k v = .ok (t', (f k).map (fun w => (k, w))) ∧ t'.cap = t.cap ∧
      t'.count = t.count + (if (f k).isSome then 0 else 1) ∧ HTInv t' ∧
      OA.Abs t'.cap t'.slots (OA.fupd f k (some v)) := by
  have hz := zero_none hI habs
  obtain ⟨hp, inv, hcnt, hlt, _⟩ := hI
  obtain ⟨s', hput, inv', habs', hsz⟩ := OA.put_spec inv habs k v (by rw [← hcnt]; exact hroom)
  refine ⟨{ t with slots := s', count := if (f k).isSome then t.count else t.count + 1 }, ?_, rfl,
    ?_, ⟨hp, inv', ?_, ?_, ?_⟩, habs'⟩
  · simp only [HTable.insertRaw, hput]
    cases f k <;> rfl
  · simp only; split <;> omega
  · simp only; rw [hsz, hcnt]; split <;> omega
  · cases hfk : f k with
    | none => simpa using hroom hfk
    | some w => simpa using hlt
  · apply (OA.Abs_none habs').mp
    rw [OA.fupd_other _ _ _ (Ne.symm hk0)]; exact hz

private theorem insert_spec {t : HTable V} {f : UInt32 → Option V}
    (hI : HTInv t) (habs : OA.Abs t.cap t.slots f) {k : UInt32} (hk0 : k ≠ 0) (v : V)
    (al : Alloc) :
    ∃ t', t.insert k v al =
        (if HTable.needsGrow (t.count + 1) t.cap then
          if (HTable.allocStorage al).1 then
            (t', (HTable.allocStorage al).2, .ok (.ok ((f k).map (fun w => (k, w)))))
          else (t, (HTable.allocStorage al).2, .ok (.error .alloc))
        else (t', al, .ok (.ok ((f k).map (fun w => (k, w)))))) ∧
      t'.cap = (if HTable.needsGrow (t.count + 1) t.cap then grownCap t.cap else t.cap) ∧
      t'.count = t.count + (if (f k).isSome then 0 else 1) ∧ HTInv t' ∧
      OA.Abs t'.cap t'.slots (OA.fupd f k (some v)) := by
  cases hg : HTable.needsGrow (t.count + 1) t.cap with
  | false =>
    obtain ⟨t', hraw, h1, h2, h3, h4⟩ := insertRaw_spec hI habs hk0 v (fun _ => ht_room hg)
    exact ⟨t', by simp [HTable.insert, hk0, hg, hraw], h1, h2, h3, h4⟩
  | true =>
    have hgc : t.cap < adjCap ((max t.cap 2 * 3) / 2) := ht_grownCap_gt t.cap
    have hlt := hI.2.2.2.1
    obtain ⟨t1, hadj, hcap1, hcnt1, hI1, habs1⟩ :=
      adjust_spec hI habs ((max t.cap 2 * 3) / 2) (by omega) al
    obtain ⟨t', hraw, h1, h2, h3, h4⟩ := insertRaw_spec hI1 habs1 hk0 v
      (by intro _; rw [hcnt1, hcap1]; omega)
    refine ⟨t', ?_, by rw [h1, hcap1]; rfl, by rw [h2, hcnt1], h3, h4⟩
    cases hal : (HTable.allocStorage al).1 <;>
      simp [HTable.insert, hk0, hg, HTable.grow, hadj, hal, hraw]

private theorem insert_zero (t : HTable V) (v : V) (al : Alloc) :
    t.insert 0 v al = (t, al, .ok (.error .invalidHandle)) := by
  simp [HTable.insert]

private theorem get_eq {t : HTable V} {f : UInt32 → Option V}
    (hI : HTInv t) (habs : OA.Abs t.cap t.slots f) (k : UInt32) : t.get k = f k :=
  OA.get_spec hI.2.1 habs k

private theorem remove_spec {t : HTable V} {f : UInt32 → Option V}
    (hI : HTInv t) (habs : OA.Abs t.cap t.slots f) (k : UInt32) :
    ∃ t', t.remove k = (t', .ok ((f k).map (fun w => (k, w)))) ∧ t'.cap = t.cap ∧
      t'.count + (if (f k).isSome then 1 else 0) = t.count ∧ HTInv t' ∧
      OA.Abs t'.cap t'.slots (OA.fupd f k none) := by
  have hz := zero_none hI habs
  have hI' := hI
  obtain ⟨hp, inv, hcnt, hlt, hzero⟩ := hI
  obtain ⟨s', he, inv', habs', hsz, hsame⟩ := OA.erase_spec inv habs k
  cases hk : f k with
  | none =>
    obtain rfl := hsame hk
    rw [hk] at he
    exact ⟨t, by simp [HTable.remove, he], rfl, by simp, hI', habs'⟩
  | some w =>
    rw [hk] at he hsz
    simp only [Option.isSome_some, if_true] at hsz
    refine ⟨{ t with slots := s', count := t.count - 1 }, by simp [HTable.remove, he], rfl,
      by simp; omega, ⟨hp, inv', by simp only; omega, by simp only; omega, ?_⟩, habs'⟩
    apply (OA.Abs_none habs').mp
    by_cases h0 : (0 : UInt32) = k
    · subst h0; exact OA.fupd_same _ _ _
    · rw [OA.fupd_other _ _ _ h0]; exact hz

private theorem reserve_spec {t : HTable V} {f : UInt32 → Option V}
    (hI : HTInv t) (habs : OA.Abs t.cap t.slots f) (n : Nat) (al : Alloc) :
    ∃ t', t.reserve n al =
        (if n + t.count > t.cap then
          ((HTable.allocStorage al).2, if (HTable.allocStorage al).1 then .ok t' else .allocErr)
        else (al, .ok t')) ∧
      t'.cap = (if n + t.count > t.cap then adjCap ((n + t.count) * 169 / 100) else t.cap) ∧
      HTInv t' ∧ OA.Abs t'.cap t'.slots f := by
  by_cases h : n + t.count > t.cap
  · have hge := ht_adjCap_ge ((n + t.count) * 169 / 100)
    have hlt := hI.2.2.2.1
    obtain ⟨t', hadj, h1, _, h3, h4⟩ :=
      adjust_spec hI habs ((n + t.count) * 169 / 100) (by omega) al
    exact ⟨t', by simp [HTable.reserve, h, hadj], by simp [h, h1], h3, h4⟩
  · exact ⟨t, by simp [HTable.reserve, h], by simp [h], hI, habs⟩

private theorem empty_inv {cap : Nat} (hp : IsPow2 cap) :
    HTInv ({ cap := cap, slots := OA.empty, count := 0 } : HTable V) := by
  have hc : 0 < cap := by have := pow2_pos hp; omega
  refine ⟨hp, OA.empty_inv hc (home_lt hc), by simp, hc, ?_⟩
  rintro v ⟨i, _, hs⟩; simp [OA.empty] at hs

theorem ht_withCapacity_eq (c : Nat) (al : Alloc) :
    (HTable.withCapacity c al : Alloc × Res (HTable V)) = ((HTable.allocStorage al).2,
      if (HTable.allocStorage al).1 then .ok ⟨HTable.padPot (max c 2), OA.empty, 0⟩
      else .allocErr) := by
  cases h : (HTable.allocStorage al).1 <;> simp [HTable.withCapacity, h]

private theorem withCapacity_ok {c : Nat} {al al' : Alloc} {t : HTable V}
    (h0 : HTable.withCapacity c al = (al', .ok t)) :
    t = ⟨HTable.padPot (max c 2), OA.empty, 0⟩ := by
  rw [ht_withCapacity_eq] at h0
  cases hal : (HTable.allocStorage al).1 <;> simp [hal] at h0
  exact h0.2.symm

/-! ## `clone`: the capacity it ends with and the allocations it performs -/

/-- capacity after inserting `n` further new handles into a table of capacity `cap` holding
    `cnt` handles (`none`: an allocation failed) -/
def specCloneLoop : Nat → Nat → Nat → Alloc → Option Nat × Alloc
  | 0, cap, _, al => (some cap, al)
  | n+1, cap, cnt, al =>
    if HTable.needsGrow (cnt + 1) cap then
      if (HTable.allocStorage al).1 then
        specCloneLoop n (grownCap cap) (cnt + 1) (HTable.allocStorage al).2
      else (none, (HTable.allocStorage al).2)
    else specCloneLoop n cap (cnt + 1) al

/-- capacity of the clone of a table with capacity `cap` and `n` handles -/
def specCloneCap (cap n : Nat) (al : Alloc) : Option Nat :=
  if (HTable.allocStorage al).1 then
    (specCloneLoop n (HTable.padPot (max cap 2)) 0 (HTable.allocStorage al).2).1
  else none

private def cloneStep (acc : Alloc × Res (HTable V)) (kv : UInt32 × V) : Alloc × Res (HTable V) :=
  match acc with
  | (al, .ok c) =>
    match c.insert kv.1 kv.2 al with
    | (c', al, .ok (.ok _)) => (al, .ok c')
    | (_, al, .ok (.error _)) => (al, .allocErr)
    | (_, al, .allocErr) => (al, .allocErr)
    | (_, al, .panic w) => (al, .panic w)
  | other => other

private theorem foldl_cloneStep_err (xs : List (UInt32 × V)) (al : Alloc) :
    xs.foldl cloneStep (al, (.allocErr : Res (HTable V))) = (al, .allocErr) := by
  induction xs with
  | nil => rfl
  | cons x xs ih => simp only [List.foldl_cons, cloneStep]; exact ih

private theorem clone_loop :
    ∀ (xs : List (UInt32 × V)) (c : HTable V) (f : UInt32 → Option V) (al : Alloc), HTInv c →
      OA.Abs c.cap c.slots f → (xs.map Prod.fst).Nodup → (∀ kv ∈ xs, kv.1 ≠ 0 ∧ f kv.1 = none) →
      ∃ c', xs.foldl cloneStep (al, .ok c) =
          ((specCloneLoop xs.length c.cap c.count al).2,
            if ((specCloneLoop xs.length c.cap c.count al).1).isSome then .ok c' else .allocErr) ∧
        (∀ cap', (specCloneLoop xs.length c.cap c.count al).1 = some cap' →
          c'.cap = cap' ∧ c'.count = c.count + xs.length ∧ HTInv c' ∧
            OA.Abs c'.cap c'.slots (xs.foldl (fun f kv => OA.fupd f kv.1 (some kv.2)) f)) := by
  intro xs
  induction xs with
  | nil => intro c f al hI habs _ _; exact ⟨c, rfl, fun cap' h => ⟨by cases h; rfl, rfl, hI, habs⟩⟩
  | cons kv xs ih =>
    intro c f al hI habs hnd hfresh
    obtain ⟨k, v⟩ := kv
    simp only [List.map_cons, List.nodup_cons] at hnd
    obtain ⟨hk0, hk⟩ := hfresh (k, v) List.mem_cons_self
    obtain ⟨c1, hins, hcap1, hcnt1, hI1, habs1⟩ := insert_spec hI habs hk0 v al
    rw [hk] at hins hcnt1
    have hfresh1 : ∀ kv ∈ xs, kv.1 ≠ 0 ∧ OA.fupd f k (some v) kv.1 = none := fun kv' h => by
      have hne : kv'.1 ≠ k := fun e => hnd.1 (e ▸ List.mem_map_of_mem (f := Prod.fst) h)
      rw [OA.fupd_other _ _ _ hne]
      exact hfresh kv' (List.mem_cons_of_mem _ h)
    simp only [List.length_cons, specCloneLoop, List.foldl_cons, cloneStep, hins]
    cases hg : HTable.needsGrow (c.count + 1) c.cap with
    | false =>
      rw [hg] at hcap1
      obtain ⟨c', h1, h2⟩ := ih c1 _ al hI1 habs1 hnd.2 hfresh1
      rw [hcap1, hcnt1] at h1 h2
      exact ⟨c', by simpa using h1, fun cap' h => by
        obtain ⟨e1, e2, e3, e4⟩ := h2 cap' (by simpa using h)
        exact ⟨e1, by simp at e2; omega, e3, e4⟩⟩
    | true =>
      rw [hg] at hcap1
      cases hal : (HTable.allocStorage al).1 with
      | false => exact ⟨c, by simp [foldl_cloneStep_err], fun cap' h => by simp at h⟩
      | true =>
        obtain ⟨c', h1, h2⟩ := ih c1 _ (HTable.allocStorage al).2 hI1 habs1 hnd.2 hfresh1
        rw [hcap1, hcnt1] at h1 h2
        exact ⟨c', by simpa using h1, fun cap' h => by
          obtain ⟨e1, e2, e3, e4⟩ := h2 cap' (by simpa using h)
          exact ⟨e1, by simp at e2; omega, e3, e4⟩⟩

private theorem clone_spec {t : HTable V} {f : UInt32 → Option V}
    (hI : HTInv t) (habs : OA.Abs t.cap t.slots f) (al : Alloc) :
    ∃ t' al', t.clone al =
        (al', if (specCloneCap t.cap t.count al).isSome then .ok t' else .allocErr) ∧
      (∀ cap', specCloneCap t.cap t.count al = some cap' →
        t'.cap = cap' ∧ t'.count = t.count ∧ HTInv t' ∧ OA.Abs t'.cap t'.slots f) := by
  have wf : AL.WF t.toList := AL.WF_toList hI.2.1
  have hf : AL.lookup t.toList = f := (OA.Abs_unique habs (AL.abs_toList hI.2.1)).symm
  obtain ⟨c', h1, h2⟩ := clone_loop t.toList ⟨HTable.padPot (max t.cap 2), OA.empty, 0⟩ _
    (HTable.allocStorage al).2 (empty_inv (ht_padPot_pow2 _)) (OA.empty_abs _) wf
    (fun kv hkv => ⟨fun h0 => hI.2.2.2.2 kv.2 (h0 ▸ OA.mem_toList'.mp hkv), rfl⟩)
  have hlen : t.toList.length = t.count := by rw [hI.2.2.1]; rfl
  rw [hlen] at h1 h2
  simp only [AL.foldl_fupd wf, Option.or_none, hf] at h2
  show ∃ t' al', (match (HTable.withCapacity t.cap al : Alloc × Res (HTable V)) with
      | (al, .ok fresh) => t.toList.foldl cloneStep (al, .ok fresh)
      | (al, .allocErr) => (al, .allocErr)
      | (al, .panic w) => (al, .panic w)) = _ ∧ _
  rw [ht_withCapacity_eq]
  unfold specCloneCap
  cases hal : (HTable.allocStorage al).1 with
  | false => exact ⟨t, (HTable.allocStorage al).2, by simp, fun cap' h => by simp at h⟩
  | true =>
    refine ⟨c', _, by simpa using h1, fun cap' h => ?_⟩
    obtain ⟨e1, e2, e3, e4⟩ := h2 cap' (by simpa using h)
    exact ⟨e1, by omega, e3, e4⟩

/-! ## Specification: an association list without duplicate keys, plus the capacity -/

structure Spec (V : Type) where
  cap : Nat
  l : List (UInt32 × V)

/-- allocation oracle of one operation: its `failAt`-th allocation fails -/
def oracle (failAt : Option Nat) : Alloc := { n := 0, failAt := failAt }

inductive Op (V : Type) where
  | insert (k : UInt32) (v : V) (failAt : Option Nat)
  | entry (k : UInt32) (v : V) (failAt : Option Nat)
  | remove (k : UInt32)
  | get (k : UInt32)
  | contains (k : UInt32)
  | reserve (n : Nat) (failAt : Option Nat)
  | clear
  /-- clone the table and continue on the clone -/
  | clone (failAt : Option Nat)
  | len
  | iter

inductive Out (V : Type) where
  | displaced (old : Option (UInt32 × V))
  | invalidHandle
  | entry (inserted : Bool) (stored : V)
  | removed (old : Option (UInt32 × V))
  | value (o : Option V)
  | bool (b : Bool)
  | unit
  | num (n : Nat)
  | items (l : List (UInt32 × V))
  | dropped (l : List (UInt32 × V))
  | allocErr
  | panic
  deriving DecidableEq

/-- make room before an insertion: grow (two allocations) when `(len+1) > 0.69 cap` -/
def specMakeRoom (st : Spec V) (al : Alloc) : Option (Spec V) :=
  if HTable.needsGrow (st.l.length + 1) st.cap then
    if (HTable.allocStorage al).1 then some { st with cap := grownCap st.cap } else none
  else some st

def specStep (st : Spec V) : Op V → Spec V × Out V
  | .insert k v fa =>
    if k = 0 then (st, .invalidHandle) else
    match specMakeRoom st (oracle fa) with
    | some st' => ({ st' with l := AL.insert st'.l k v },
                   .displaced ((AL.lookup st.l k).map (fun w => (k, w))))
    | none => (st, .allocErr)
  | .entry k v fa =>
    match AL.lookup st.l k with
    | some cur => (st, .entry false cur)
    | none =>
      -- `entry` has no error channel: the null handle and a failed growth are panics
      if k = 0 then (st, .panic) else
      match specMakeRoom st (oracle fa) with
      | some st' => ({ st' with l := AL.insert st'.l k v }, .entry true v)
      | none => (st, .panic)
  | .remove k => ({ st with l := AL.erase st.l k }, .removed ((AL.lookup st.l k).map (fun w => (k, w))))
  | .get k => (st, .value (AL.lookup st.l k))
  | .contains k => (st, .bool (AL.lookup st.l k).isSome)
  | .reserve n fa =>
    if n + st.l.length > st.cap then
      if (HTable.allocStorage (oracle fa)).1 then
        ({ st with cap := adjCap ((n + st.l.length) * 169 / 100) }, .unit)
      else (st, .allocErr)
    else (st, .unit)
  | .clear => ({ st with l := [] }, .dropped st.l)
  | .clone fa =>
    match specCloneCap st.cap st.l.length (oracle fa) with
    | some cap' => ({ st with cap := cap' }, .unit)
    | none => (st, .allocErr)
  | .len => (st, .num st.l.length)
  | .iter => (st, .items st.l)

/-! ## The model's step function -/

def modelStep (t : HTable V) : Op V → HTable V × Out V
  | .insert k v fa =>
    match t.insert k v (oracle fa) with
    | (t', _, .ok (.ok old)) => (t', .displaced old)
    | (t', _, .ok (.error .invalidHandle)) => (t', .invalidHandle)
    | (t', _, .ok (.error .alloc)) => (t', .allocErr)
    | (t', _, .allocErr) => (t', .allocErr)
    | (t', _, .panic _) => (t', .panic)
  | .entry k v fa =>
    match t.entryOrInsert k v (oracle fa) with
    | (t', _, .ok (b, x)) => (t', .entry b x)
    | (t', _, .allocErr) => (t', .allocErr)
    | (t', _, .panic _) => (t', .panic)
  | .remove k =>
    match t.remove k with
    | (t', .ok old) => (t', .removed old)
    | (t', .allocErr) => (t', .allocErr)
    | (t', .panic _) => (t', .panic)
  | .get k => (t, .value (t.get k))
  | .contains k => (t, .bool (t.contains k))
  | .reserve n fa =>
    match t.reserve n (oracle fa) with
    | (_, .ok t') => (t', .unit)
    | (_, .allocErr) => (t, .allocErr)
    | (_, .panic _) => (t, .panic)
  | .clear => ((t.clear).1, .dropped (t.clear).2)
  | .clone fa =>
    match t.clone (oracle fa) with
    | (_, .ok t') => (t', .unit)
    | (_, .allocErr) => (t, .allocErr)
    | (_, .panic _) => (t, .panic)
  | .len => (t, .num t.count)
  | .iter => (t, .items t.toList)

/-- outputs agree; iteration orders agree up to permutation -/
def OutEq (a b : Out V) : Prop :=
  a = b ∨ (∃ x y, a = .items x ∧ b = .items y ∧ x.Perm y) ∨
    (∃ x y, a = .dropped x ∧ b = .dropped y ∧ x.Perm y)

def R (t : HTable V) (st : Spec V) : Prop :=
  HTInv t ∧ st.cap = t.cap ∧ AL.WF st.l ∧ OA.Abs t.cap t.slots (AL.lookup st.l)

private theorem R_len {t : HTable V} {st : Spec V} (h : R t st) : st.l.length = t.count := by
  rw [h.1.2.2.1]; exact AL.length_eq_size h.1.2.1 h.2.2.1 h.2.2.2

private theorem R_perm {t : HTable V} {st : Spec V} (h : R t st) : (t.toList).Perm st.l :=
  (AL.perm_toList h.1.2.1 h.2.2.1 h.2.2.2).symm

theorem R_canon {t : HTable V} (hI : HTInv t) : R t { cap := t.cap, l := t.toList } :=
  ⟨hI, rfl, AL.WF_toList hI.2.1, AL.abs_toList hI.2.1⟩

private theorem insert_step {t : HTable V} {st : Spec V} (h : R t st) {k : UInt32} (hk0 : k ≠ 0)
    (v : V) (al : Alloc) :
    ∃ t' al', t.insert k v al =
        (match specMakeRoom st al with
          | some _ => (t', al', .ok (.ok ((AL.lookup st.l k).map (fun w => (k, w)))))
          | none => (t, al', .ok (.error .alloc))) ∧
      ∀ st', specMakeRoom st al = some st' → R t' { st' with l := AL.insert st'.l k v } := by
  have hlen := R_len h
  obtain ⟨hI, hcap, wf, habs⟩ := h
  obtain ⟨t', hins, hcap', _, hI', habs'⟩ := insert_spec hI habs hk0 v al
  rw [AL.lookup_insert_fupd] at habs'
  unfold specMakeRoom
  rw [hlen, hcap, hins]
  cases hg : HTable.needsGrow (t.count + 1) t.cap <;> cases hal : (HTable.allocStorage al).1 <;>
    simp only [hg] at hcap' <;> refine ⟨t', _, rfl, ?_⟩ <;> simp <;> try rintro _ rfl
  all_goals exact ⟨hI', by simp [hcap', hcap], AL.WF_insert wf k v, habs'⟩

/-! ## one-step refinement -/

theorem step_refines {t : HTable V} {st : Spec V} (h : R t st) (op : Op V) :
    R (modelStep t op).1 (specStep st op).1 ∧ OutEq (modelStep t op).2 (specStep st op).2 := by
  have hlen := R_len h
  have hperm := R_perm h
  have h0 := h
  obtain ⟨hI, hcap, wf, habs⟩ := h
  cases op with
  | insert k v fa =>
    by_cases hk0 : k = 0
    · subst hk0
      simp only [modelStep, specStep, insert_zero, if_true]
      exact ⟨h0, Or.inl rfl⟩
    · obtain ⟨t', al', hins, hR⟩ := insert_step h0 hk0 v (oracle fa)
      simp only [modelStep, specStep, hins, hk0, if_false]
      cases hr : specMakeRoom st (oracle fa) with
      | some st' => exact ⟨hR st' hr, Or.inl rfl⟩
      | none => exact ⟨h0, Or.inl rfl⟩
  | entry k v fa =>
    have hget := get_eq hI habs k
    cases hl : AL.lookup st.l k with
    | some cur =>
      rw [hl] at hget
      simp only [modelStep, specStep, HTable.entryOrInsert, hget, hl]
      exact ⟨h0, Or.inl rfl⟩
    | none =>
      rw [hl] at hget
      by_cases hk0 : k = 0
      · subst hk0
        simp only [modelStep, specStep, HTable.entryOrInsert, hget, hl, insert_zero, if_true]
        exact ⟨h0, Or.inl rfl⟩
      · obtain ⟨t', al', hins, hR⟩ := insert_step h0 hk0 v (oracle fa)
        simp only [modelStep, specStep, HTable.entryOrInsert, hget, hins, hl, hk0, if_false]
        cases hr : specMakeRoom st (oracle fa) with
        | some st' => exact ⟨hR st' hr, Or.inl rfl⟩
        | none => exact ⟨h0, Or.inl rfl⟩
  | remove k =>
    obtain ⟨t', hrem, hcap', _, hI', habs'⟩ := remove_spec hI habs k
    rw [AL.lookup_erase_fupd] at habs'
    simp only [modelStep, specStep, hrem]
    exact ⟨⟨hI', by simp only; rw [hcap', hcap], AL.WF_erase wf k, habs'⟩, Or.inl rfl⟩
  | get k =>
    simp only [modelStep, specStep, get_eq hI habs k]
    exact ⟨h0, Or.inl rfl⟩
  | contains k =>
    simp only [modelStep, specStep, HTable.contains, get_eq hI habs k]
    exact ⟨h0, Or.inl rfl⟩
  | reserve n fa =>
    obtain ⟨t', hres, hcap', hI', habs'⟩ := reserve_spec hI habs n (oracle fa)
    simp only [modelStep, specStep, hlen, hcap, hres]
    by_cases hgt : n + t.count > t.cap <;> simp only [hgt, if_true, if_false] at hcap' ⊢
    · cases (HTable.allocStorage (oracle fa)).1
      · exact ⟨h0, Or.inl rfl⟩
      · exact ⟨⟨hI', by simp [hcap'], wf, habs'⟩, Or.inl rfl⟩
    · exact ⟨⟨hI', by simp [hcap', hcap], wf, habs'⟩, Or.inl rfl⟩
  | clear =>
    refine ⟨⟨empty_inv hI.1, hcap, AL.WF_nil, OA.empty_abs _⟩,
      Or.inr (Or.inr ⟨_, _, rfl, rfl, hperm⟩)⟩
  | clone fa =>
    obtain ⟨t', al', hcl, ht'⟩ := clone_spec hI habs (oracle fa)
    simp only [modelStep, specStep, hlen, hcap, hcl]
    cases hc : specCloneCap t.cap t.count (oracle fa) with
    | some cap' =>
      obtain ⟨hcap', _, hI', habs'⟩ := ht' cap' hc
      exact ⟨⟨hI', by simp [hcap'], wf, by simpa using habs'⟩, Or.inl rfl⟩
    | none => exact ⟨h0, Or.inl rfl⟩
  | len =>
    simp only [modelStep, specStep, hlen]
    exact ⟨h0, Or.inl rfl⟩
  | iter =>
    simp only [modelStep, specStep]
    exact ⟨h0, Or.inr (Or.inl ⟨_, _, rfl, rfl, hperm⟩)⟩

/-! ## runs -/

def runModel (t : HTable V) : List (Op V) → List (Out V)
  | [] => []
  | op :: ops => (modelStep t op).2 :: runModel (modelStep t op).1 ops

def runSpec (st : Spec V) : List (Op V) → List (Out V)
  | [] => []
  | op :: ops => (specStep st op).2 :: runSpec (specStep st op).1 ops

def finalModel (t : HTable V) : List (Op V) → HTable V
  | [] => t
  | op :: ops => finalModel (modelStep t op).1 ops

def finalSpec (st : Spec V) : List (Op V) → Spec V
  | [] => st
  | op :: ops => finalSpec (specStep st op).1 ops

def OutsEq : List (Out V) → List (Out V) → Prop
  | [], [] => True
  | a :: as, b :: bs => OutEq a b ∧ OutsEq as bs
  | _, _ => False

theorem run_refines (ops : List (Op V)) :
    ∀ {t : HTable V} {st : Spec V}, R t st →
      OutsEq (runModel t ops) (runSpec st ops) ∧ R (finalModel t ops) (finalSpec st ops) := by
  induction ops with
  | nil => intro t st h; exact ⟨True.intro, h⟩
  | cons op ops ih =>
    intro t st h
    obtain ⟨h1, h2⟩ := step_refines h op
    obtain ⟨h3, h4⟩ := ih h1
    exact ⟨⟨h2, h3⟩, h4⟩

private theorem withCapacity_R {c : Nat} {al al' : Alloc} {t : HTable V}
    (h0 : HTable.withCapacity c al = (al', .ok t)) :
    R t { cap := HTable.padPot (max c 2), l := [] } := by
  rw [withCapacity_ok h0]
  exact ⟨empty_inv (ht_padPot_pow2 _), rfl, AL.WF_nil, OA.empty_abs _⟩

/-- **C13 (refinement)**: for every requested capacity, every operation sequence and every
    choice of injected allocation failures, the outputs of the code-shaped model (started from a
    successful `with_capacity(c)`) equal those of the association-list specification
    (iteration orders up to permutation). -/
theorem ht_refines (c : Nat) (al al' : Alloc) (t : HTable V)
    (h0 : HTable.withCapacity c al = (al', .ok t)) (ops : List (Op V)) :
    OutsEq (runModel t ops) (runSpec { cap := HTable.padPot (max c 2), l := [] } ops) :=
  (run_refines ops (withCapacity_R h0)).1

/-! ## capacities are powers of two -/

/-- **C13 (capacity)**: every capacity reachable from `with_capacity(c)` — for any `c`, including
    0 and 1 — through any operation sequence is a power of two and at least 2. -/
theorem ht_pow2 (c : Nat) (al al' : Alloc) (t : HTable V)
    (h0 : HTable.withCapacity c al = (al', .ok t)) (ops : List (Op V)) :
    (∃ e, 1 ≤ e ∧ (finalModel t ops).cap = 2 ^ e) ∧ 2 ≤ (finalModel t ops).cap := by
  have hI := (run_refines ops (withCapacity_R h0)).2.1
  exact ⟨hI.1, pow2_pos hI.1⟩

/-! ## termination, invariant preservation, allocation failure -/

/-- **the probe loop terminates**: in every state satisfying the invariant `find_ind` returns -/
theorem ht_find_terminates {t : HTable V} (hI : HTInv t) (k : UInt32) :
    ∃ i < t.cap, OA.find t.cap (HTable.home t.cap) t.slots k = some i := by
  obtain ⟨i, hi, hf, _⟩ := OA.find_spec hI.2.1 k
  exact ⟨i, hi, hf⟩

def OkInv : Res (HTable V) → Prop
  | .ok t' => HTInv t'
  | .allocErr => True
  | .panic _ => False

def NoPanic {α : Type} : Res α → Prop
  | .panic _ => False
  | _ => True

private theorem insert_total {t : HTable V} {f : UInt32 → Option V}
    (hI : HTInv t) (habs : OA.Abs t.cap t.slots f) {k : UInt32} (hk0 : k ≠ 0) (v : V) (al : Alloc) :
    ∃ t' al' r, t.insert k v al = (t', al', r) ∧ HTInv t' ∧
      ((r = .ok (.error .alloc) ∧ t' = t ∧ HTable.needsGrow (t.count + 1) t.cap = true ∧
          (HTable.allocStorage al).1 = false) ∨
       (r = .ok (.ok ((f k).map (fun w => (k, w)))) ∧
          OA.Abs t'.cap t'.slots (OA.fupd f k (some v)))) := by
  obtain ⟨t', hins, _, _, hI', habs'⟩ := insert_spec hI habs hk0 v al
  rw [hins]
  cases hg : HTable.needsGrow (t.count + 1) t.cap <;> cases hal : (HTable.allocStorage al).1
  all_goals first
    | exact ⟨t', _, _, rfl, hI', Or.inr ⟨rfl, habs'⟩⟩
    | exact ⟨t, _, _, rfl, hI, Or.inl ⟨rfl, rfl, rfl, rfl⟩⟩

private theorem entry_total {t : HTable V} {f : UInt32 → Option V}
    (hI : HTInv t) (habs : OA.Abs t.cap t.slots f) (k : UInt32) (v : V) (al : Alloc) :
    ∃ t' al' r, t.entryOrInsert k v al = (t', al', r) ∧ HTInv t' ∧
      ((∃ w, r = .panic w ∧ t' = t ∧ f k = none ∧
          (k = 0 ∨ (HTable.needsGrow (t.count + 1) t.cap = true ∧
            (HTable.allocStorage al).1 = false))) ∨
       (∃ cur, f k = some cur ∧ r = .ok (false, cur) ∧ t' = t) ∨
       (f k = none ∧ k ≠ 0 ∧ r = .ok (true, v) ∧
          OA.Abs t'.cap t'.slots (OA.fupd f k (some v)))) := by
  have hget := get_eq hI habs k
  cases hk : f k with
  | some cur =>
    rw [hk] at hget
    exact ⟨t, al, _, by simp only [HTable.entryOrInsert, hget], hI,
      Or.inr (Or.inl ⟨cur, rfl, rfl, rfl⟩)⟩
  | none =>
    rw [hk] at hget
    by_cases hk0 : k = 0
    · subst hk0
      exact ⟨t, al, .panic "entry: failed to grow",
        by simp only [HTable.entryOrInsert, hget, insert_zero], hI,
        Or.inl ⟨_, rfl, rfl, rfl, Or.inl rfl⟩⟩
    · obtain ⟨t', al', r, hins, hI', h⟩ := insert_total hI habs hk0 v al
      rcases h with ⟨rfl, rfl, hg, hal⟩ | ⟨rfl, habs'⟩
      · exact ⟨t', al', .panic "entry: failed to grow",
          by simp only [HTable.entryOrInsert, hget, hins], hI',
          Or.inl ⟨_, rfl, rfl, rfl, Or.inr ⟨hg, hal⟩⟩⟩
      · exact ⟨t', al', _, by simp only [HTable.entryOrInsert, hget, hins], hI',
          Or.inr (Or.inr ⟨rfl, hk0, rfl, habs'⟩)⟩

/-- `with_capacity` establishes the invariant (or reports the allocation failure) -/
theorem ht_withCapacity_inv (c : Nat) (al : Alloc) :
    OkInv (HTable.withCapacity c al : Alloc × Res (HTable V)).2 := by
  rw [ht_withCapacity_eq]
  cases (HTable.allocStorage al).1
  · exact True.intro
  · exact empty_inv (ht_padPot_pow2 _)

/-- **C13 (invariant)**: every operation preserves the representation invariant, for every value
    of the allocation oracle. `insert`, `remove`, `reserve`, `clone` never panic (the probe loop
    always returns); `entry(k).or_insert_with` panics only in the two documented situations: the
    null handle, or a failed growth (its signature has no error channel) — and then the table is
    unchanged. `_insert` (`insertRaw`) is correct under its precondition. -/
theorem ht_inv_preserved {t : HTable V} (hI : HTInv t) :
    (∀ k v al, HTInv (t.insert k v al).1 ∧ NoPanic (t.insert k v al).2.2) ∧
    (∀ k v al, HTInv (t.entryOrInsert k v al).1 ∧
        ((t.get k).isSome ∨ (k ≠ 0 ∧ (HTable.allocStorage al).1 = true) →
          NoPanic (t.entryOrInsert k v al).2.2)) ∧
    (∀ k, HTInv (t.remove k).1 ∧ NoPanic (t.remove k).2) ∧
    (∀ n al, OkInv (t.reserve n al).2) ∧
    HTInv (t.clear).1 ∧
    (∀ al, OkInv (t.clone al).2) ∧
    (∀ k v, k ≠ 0 → ((t.get k).isSome ∨ t.count + 1 < t.cap) →
      ∃ t' old, t.insertRaw k v = .ok (t', old) ∧ HTInv t') := by
  have habs := OA.Abs_get hI.2.1
  refine ⟨?_, ?_, ?_, ?_, empty_inv hI.1, ?_, ?_⟩
  · intro k v al
    by_cases hk0 : k = 0
    · subst hk0; rw [insert_zero]; exact ⟨hI, True.intro⟩
    · obtain ⟨t', al', r, hins, hI', h⟩ := insert_total hI habs hk0 v al
      rw [hins]
      rcases h with ⟨rfl, _⟩ | ⟨rfl, _⟩ <;> exact ⟨hI', True.intro⟩
  · intro k v al
    obtain ⟨t', al', r, hins, hI', h⟩ := entry_total hI habs k v al
    rw [hins]
    refine ⟨hI', ?_⟩
    rcases h with ⟨w, rfl, _, hnone, hwhy⟩ | ⟨_, _, rfl, _⟩ | ⟨_, _, rfl, _⟩
    · intro hsafe
      exfalso
      rcases hsafe with hs | ⟨hk0, hal⟩
      · change (OA.get t.cap (HTable.home t.cap) t.slots k).isSome = true at hs
        rw [hnone] at hs; cases hs
      · rcases hwhy with h | ⟨_, h⟩
        · exact hk0 h
        · rw [hal] at h; cases h
    · intro _; exact True.intro
    · intro _; exact True.intro
  · intro k
    obtain ⟨t', hrem, _, _, hI', _⟩ := remove_spec hI habs k
    rw [hrem]; exact ⟨hI', True.intro⟩
  · intro n al
    obtain ⟨t', hres, _, hI', _⟩ := reserve_spec hI habs n al
    rw [hres]
    split
    · cases (HTable.allocStorage al).1
      · exact True.intro
      · exact hI'
    · exact hI'
  · intro al
    obtain ⟨t', al', hcl, ht'⟩ := clone_spec hI habs al
    rw [hcl]
    cases hc : specCloneCap t.cap t.count al with
    | some cap' => exact (ht' cap' hc).2.2.1
    | none => exact True.intro
  · intro k v hk0 hroom
    obtain ⟨t', hraw, _, _, hI', _⟩ := insertRaw_spec hI habs hk0 v (by
      intro hnone
      rcases hroom with hs | hs
      · change (OA.get t.cap (HTable.home t.cap) t.slots k).isSome = true at hs
        rw [hnone] at hs; cases hs
      · exact hs)
    exact ⟨t', _, hraw, hI'⟩

/-- **C13 (allocation failure / panic)**: a step that reports `allocErr` (or panics) leaves the
    table untouched — the very same state. `ht_refines` says exactly when that happens. -/
theorem ht_alloc_fail {t : HTable V} (hI : HTInv t) (op : Op V)
    (h : (modelStep t op).2 = .allocErr ∨ (modelStep t op).2 = .panic) :
    (modelStep t op).1 = t := by
  have habs := OA.Abs_get hI.2.1
  cases op with
  | insert k v fa =>
    by_cases hk0 : k = 0
    · subst hk0; simp only [modelStep, insert_zero]
    · obtain ⟨t', al', r, hins, _, hr⟩ := insert_total hI habs hk0 v (oracle fa)
      rcases hr with ⟨rfl, rfl, _⟩ | ⟨rfl, _⟩
      · simp only [modelStep, hins]
      · simp only [modelStep, hins] at h; rcases h with h | h <;> cases h
  | entry k v fa =>
    obtain ⟨t', al', r, hins, _, hr⟩ := entry_total hI habs k v (oracle fa)
    rcases hr with ⟨_, rfl, rfl, _⟩ | ⟨_, _, rfl, rfl⟩ | ⟨_, _, rfl, _⟩
    · simp only [modelStep, hins]
    · simp only [modelStep, hins]
    · simp only [modelStep, hins] at h; rcases h with h | h <;> cases h
  | remove k =>
    obtain ⟨t', hrem, _⟩ := remove_spec hI habs k
    simp only [modelStep, hrem] at h; rcases h with h | h <;> cases h
  | reserve n fa =>
    rcases hr : t.reserve n (oracle fa) with ⟨al', r⟩
    cases r <;> simp only [modelStep, hr] at h ⊢ <;> rcases h with h | h <;> cases h
  | clone fa =>
    rcases hr : t.clone (oracle fa) with ⟨al', r⟩
    cases r <;> simp only [modelStep, hr] at h ⊢ <;> rcases h with h | h <;> cases h
  | get k => rfl
  | contains k => rfl
  | len => rfl
  | iter => rfl
  | clear => simp only [modelStep] at h; rcases h with h | h <;> cases h

/-- the specification side of `ht_alloc_fail` -/
theorem spec_alloc_fail (st : Spec V) (op : Op V)
    (h : (specStep st op).2 = .allocErr ∨ (specStep st op).2 = .panic) :
    (specStep st op).1 = st := by
  rcases h with h | h <;>
    (cases op <;> simp only [specStep] at h ⊢ <;> (try cases h) <;> split at h <;>
      (try split at h) <;> (try split at h) <;> simp_all)

/-! ## every insertion path terminates -/

/-- insert a pair through `insert` (`false`) or through `entry(k).or_insert_with` (`true`),
    without injected allocation failure -/
def viaOp (x : UInt32 × V × Bool) : Op V :=
  if x.2.2 then .entry x.1 x.2.1 none else .insert x.1 x.2.1 none

private theorem specMakeRoom_ok (st : Spec V) :
    ∃ st', specMakeRoom st (oracle none) = some st' ∧ st'.l = st.l := by
  have hal : (HTable.allocStorage (oracle none)).1 = true := by decide
  unfold specMakeRoom
  rw [hal]
  split
  · exact ⟨_, rfl, rfl⟩
  · exact ⟨_, rfl, rfl⟩

private theorem spec_via (st : Spec V) (x : UInt32 × V × Bool) (h0 : x.1 ≠ 0)
    (hl : AL.lookup st.l x.1 = none) :
    ((specStep st (viaOp x)).2 = .displaced none ∨ (specStep st (viaOp x)).2 = .entry true x.2.1) ∧
    AL.lookup (specStep st (viaOp x)).1.l = OA.fupd (AL.lookup st.l) x.1 (some x.2.1) := by
  obtain ⟨st', hr, hl'⟩ := specMakeRoom_ok st
  obtain ⟨k, v, b⟩ := x
  simp only at h0 hl
  cases b with
  | false =>
    simp only [viaOp, specStep, h0, hr, hl, if_false, Bool.false_eq_true, Option.map_none, hl']
    exact ⟨by simp, (AL.lookup_insert_fupd _ _ _).symm⟩
  | true =>
    simp only [viaOp, specStep, h0, hr, hl, if_false, if_true, hl']
    exact ⟨by simp, (AL.lookup_insert_fupd _ _ _).symm⟩

private theorem spec_inserts :
    ∀ (xs : List (UInt32 × V × Bool)) (st : Spec V), (∀ x ∈ xs, x.1 ≠ 0) →
      (xs.map (·.1)).Nodup → (∀ x ∈ xs, AL.lookup st.l x.1 = none) →
      (∀ o ∈ runSpec st (xs.map viaOp), o = .displaced none ∨ ∃ v, o = .entry true v) ∧
      AL.lookup (finalSpec st (xs.map viaOp)).l =
        (xs.map fun x => (x.1, x.2.1)).foldl (fun f kv => OA.fupd f kv.1 (some kv.2))
          (AL.lookup st.l) := by
  intro xs
  induction xs with
  | nil => intro st _ _ _; simp [runSpec, finalSpec]
  | cons x xs ih =>
    intro st hnz hnd hfresh
    simp only [List.map_cons, List.nodup_cons] at hnd
    obtain ⟨hout, hlook⟩ := spec_via st x (hnz x (by simp)) (hfresh x (by simp))
    obtain ⟨ih1, ih2⟩ := ih (specStep st (viaOp x)).1
      (fun y hy => hnz y (List.mem_cons_of_mem _ hy)) hnd.2
      (fun y hy => by
        have hne : y.1 ≠ x.1 := fun e => hnd.1 (e ▸ List.mem_map_of_mem (f := (·.1)) hy)
        rw [hlook, OA.fupd_other _ _ _ hne]
        exact hfresh y (List.mem_cons_of_mem _ hy))
    simp only [List.map_cons, runSpec, finalSpec, List.mem_cons, List.foldl_cons]
    refine ⟨?_, by rw [ih2, hlook]⟩
    rintro o (rfl | ho)
    · rcases hout with h | h
      · exact Or.inl h
      · exact Or.inr ⟨_, h⟩
    · exact ih1 o ho

private theorem outsEq_forall {P : Out V → Prop}
    (hP : ∀ a b, OutEq a b → P b → P a) :
    ∀ (as bs : List (Out V)), OutsEq as bs → (∀ o ∈ bs, P o) → ∀ o ∈ as, P o := by
  intro as
  induction as with
  | nil => intro bs _ _ o ho; cases ho
  | cons a as ih =>
    intro bs h hb o ho
    cases bs with
    | nil => exact absurd h (by simp [OutsEq])
    | cons b bs =>
      obtain ⟨h1, h2⟩ := h
      rcases List.mem_cons.mp ho with rfl | ho
      · exact hP _ b h1 (hb b (by simp))
      · exact ih bs h2 (fun o ho => hb o (List.mem_cons_of_mem _ ho)) o ho

/-- **C13 (all insertion paths terminate)**: for every `n` and every list of `n` distinct
    non-zero handles, inserted through `insert`, through `entry().or_insert_with`, or any mix of
    the two (the `Bool`), into a table created with any capacity: when no allocation fails no step
    panics or errs — each reports a fresh insertion — and afterwards all `n` handles are found
    with their values. -/
theorem ht_all_paths_terminate (c : Nat) (al al' : Alloc) (t : HTable V)
    (h0 : HTable.withCapacity c al = (al', .ok t)) (xs : List (UInt32 × V × Bool))
    (hnz : ∀ x ∈ xs, x.1 ≠ 0) (hnd : (xs.map (·.1)).Nodup) :
    (∀ o ∈ runModel t (xs.map viaOp), o = .displaced none ∨ ∃ v, o = .entry true v) ∧
    (∀ x ∈ xs, (finalModel t (xs.map viaOp)).get x.1 = some x.2.1) ∧
    (finalModel t (xs.map viaOp)).count = xs.length := by
  obtain ⟨hout, hR⟩ := run_refines (xs.map viaOp) (withCapacity_R h0)
  obtain ⟨h1, h2⟩ := spec_inserts xs { cap := HTable.padPot (max c 2), l := [] } hnz hnd
    (fun _ _ => rfl)
  have wf : AL.WF (xs.map fun x => (x.1, x.2.1)) := by unfold AL.WF AL.keys; rwa [List.map_map]
  rw [AL.foldl_fupd wf] at h2
  simp only [AL.lookup_nil, Option.or_none] at h2
  refine ⟨?_, ?_, ?_⟩
  · apply outsEq_forall (P := fun o => o = .displaced none ∨ ∃ v, o = .entry true v) ?_ _ _ hout h1
    intro a b hab hb
    rcases hab with rfl | ⟨x, y, rfl, rfl, _⟩ | ⟨x, y, rfl, rfl, _⟩
    · exact hb
    · rcases hb with hb | ⟨_, hb⟩ <;> cases hb
    · rcases hb with hb | ⟨_, hb⟩ <;> cases hb
  · intro x hx
    rw [get_eq hR.1 hR.2.2.2, h2]
    exact AL.lookup_of_mem wf (List.mem_map_of_mem hx)
  · rw [← R_len hR, (AL.perm_of_lookup_eq hR.2.2.1 wf (congrFun h2)).length_eq, List.length_map]

/-! ## frame property -/

/-- **C13 (frame)**: inserting / removing / `entry`-ing handle `k` does not change what any
    other handle maps to. -/
theorem ht_frame {t : HTable V} (hI : HTInv t) {k k' : UInt32} (hne : k' ≠ k) :
    (∀ v al, (t.insert k v al).1.get k' = t.get k') ∧
    (∀ v al, (t.entryOrInsert k v al).1.get k' = t.get k') ∧
    (t.remove k).1.get k' = t.get k' := by
  have habs := OA.Abs_get hI.2.1
  refine ⟨?_, ?_, ?_⟩
  · intro v al
    by_cases hk0 : k = 0
    · subst hk0; rw [insert_zero]
    · obtain ⟨t', al', r, hins, hI', h⟩ := insert_total hI habs hk0 v al
      rw [hins]
      rcases h with ⟨_, rfl, _⟩ | ⟨_, habs'⟩
      · rfl
      · simp only; rw [get_eq hI' habs', OA.fupd_other _ _ _ hne]; rfl
  · intro v al
    obtain ⟨t', al', r, hins, hI', h⟩ := entry_total hI habs k v al
    rw [hins]
    rcases h with ⟨_, _, rfl, _⟩ | ⟨_, _, _, rfl⟩ | ⟨_, _, _, habs'⟩
    · rfl
    · rfl
    · simp only; rw [get_eq hI' habs', OA.fupd_other _ _ _ hne]; rfl
  · obtain ⟨t', hrem, _, _, hI', habs'⟩ := remove_spec hI habs k
    rw [hrem]
    simp only; rw [get_eq hI' habs', OA.fupd_other _ _ _ hne]; rfl

/-- `insert` of a non-zero handle completely, in terms of `get`: the map is updated at `k`, after
    growing first (two allocations, which may fail) exactly when `(count+1) > 0.69 cap` -/
theorem ht_insert_eq {t : HTable V} (hI : HTInv t) {k : UInt32} (hk0 : k ≠ 0) (v : V)
    (al : Alloc) :
    ∃ t', t.insert k v al =
        (if HTable.needsGrow (t.count + 1) t.cap then
          if (HTable.allocStorage al).1 then
            (t', (HTable.allocStorage al).2, .ok (.ok ((t.get k).map (fun w => (k, w)))))
          else (t, (HTable.allocStorage al).2, .ok (.error .alloc))
        else (t', al, .ok (.ok ((t.get k).map (fun w => (k, w)))))) ∧
      HTInv t' ∧ ∀ k', t'.get k' = if k' = k then some v else t.get k' := by
  obtain ⟨t', hins, _, _, hI', habs'⟩ := insert_spec hI (OA.Abs_get hI.2.1) hk0 v al
  exact ⟨t', hins, hI', fun k' => get_eq hI' habs' k'⟩

theorem ht_get_after {t : HTable V} (hI : HTInv t) (k : UInt32) :
    (∀ v al, (∃ old, (t.insert k v al).2.2 = .ok (.ok old)) → (t.insert k v al).1.get k = some v) ∧
    (t.remove k).1.get k = none ∧ t.get 0 = none := by
  have habs := OA.Abs_get hI.2.1
  refine ⟨?_, ?_, zero_none hI habs⟩
  · rintro v al ⟨old, hok⟩
    by_cases hk0 : k = 0
    · subst hk0; rw [insert_zero] at hok; cases hok
    · obtain ⟨t', al', r, hins, hI', h⟩ := insert_total hI habs hk0 v al
      rw [hins] at hok ⊢
      rcases h with ⟨rfl, _⟩ | ⟨_, habs'⟩
      · cases hok
      · simp only; rw [get_eq hI' habs', OA.fupd_same]
  · obtain ⟨t', hrem, _, _, hI', habs'⟩ := remove_spec hI habs k
    rw [hrem]
    simp only; rw [get_eq hI' habs', OA.fupd_same]

/-! ## entry accounting: nothing is lost, nothing is duplicated -/

/-- entries handed back by one step: displaced by an overwrite, removed, or dropped by `clear` -/
def returned : Out V → List (UInt32 × V)
  | .displaced old => old.toList
  | .removed old => old.toList
  | .dropped l => l
  | _ => []

/-- entries that entered the table in one step -/
def accepted : Op V → Out V → List (UInt32 × V)
  | .insert k v _, .displaced _ => [(k, v)]
  | .entry k v _, .entry true _ => [(k, v)]
  | _, _ => []

private theorem returned_perm {a b : Out V} (h : OutEq a b) : (returned a).Perm (returned b) := by
  rcases h with rfl | ⟨x, y, rfl, rfl, _⟩ | ⟨x, y, rfl, rfl, hp⟩
  · exact List.Perm.refl _
  · exact List.Perm.refl _
  · exact hp

private theorem accepted_eq (op : Op V) {a b : Out V} (h : OutEq a b) :
    accepted op a = accepted op b := by
  rcases h with rfl | ⟨x, y, rfl, rfl, _⟩ | ⟨x, y, rfl, rfl, _⟩
  · rfl
  · cases op <;> rfl
  · cases op <;> rfl

private theorem specMakeRoom_l {st st' : Spec V} {al : Alloc} (hr : specMakeRoom st al = some st') :
    st'.l = st.l := by
  unfold specMakeRoom at hr
  split at hr
  · split at hr
    · cases hr; rfl
    · cases hr
  · cases hr; rfl

private theorem spec_accounting (st : Spec V) (wf : AL.WF st.l) (op : Op V) :
    ((specStep st op).1.l ++ returned (specStep st op).2).Perm
      (st.l ++ accepted op (specStep st op).2) := by
  cases op with
  | insert k v fa =>
    by_cases hk0 : k = 0
    · simp only [specStep, hk0, if_true, returned, accepted]
      exact List.Perm.refl _
    · cases hr : specMakeRoom st (oracle fa) with
      | some st' =>
        simp only [specStep, hk0, if_false, hr, returned, accepted, specMakeRoom_l hr]
        exact AL.perm_insert wf k v
      | none =>
        simp only [specStep, hk0, if_false, hr, returned, accepted]
        exact List.Perm.refl _
  | entry k v fa =>
    cases hl : AL.lookup st.l k with
    | some w =>
      simp only [specStep, hl, returned, accepted]
      exact List.Perm.refl _
    | none =>
      by_cases hk0 : k = 0
      · subst hk0
        simp only [specStep, hl, eq_self, if_true, returned, accepted]
        exact List.Perm.refl _
      · cases hr : specMakeRoom st (oracle fa) with
        | some st' =>
          simp only [specStep, hl, hk0, if_false, hr, returned, accepted, specMakeRoom_l hr]
          have := AL.perm_insert wf k v
          rw [hl] at this
          simpa using this
        | none =>
          simp only [specStep, hl, hk0, if_false, hr, returned, accepted]
          exact List.Perm.refl _
  | remove k =>
    have hp := AL.perm_erase wf k
    simp only [specStep, returned, accepted, List.append_nil]
    exact (List.perm_append_comm).trans hp.symm
  | clear =>
    simp only [specStep, returned, accepted, List.nil_append, List.append_nil]
    exact List.Perm.refl _
  | reserve n fa =>
    simp only [specStep]
    split
    · split <;> exact List.Perm.refl _
    · exact List.Perm.refl _
  | clone fa =>
    simp only [specStep]
    split <;> exact List.Perm.refl _
  | get k => exact List.Perm.refl _
  | contains k => exact List.Perm.refl _
  | len => exact List.Perm.refl _
  | iter => exact List.Perm.refl _

theorem step_accounting {t : HTable V} (hI : HTInv t) (op : Op V) :
    ((modelStep t op).1.toList ++ returned (modelStep t op).2).Perm
      (t.toList ++ accepted op (modelStep t op).2) := by
  have hR := R_canon hI
  obtain ⟨hR', hout⟩ := step_refines hR op
  have hspec := spec_accounting { cap := t.cap, l := t.toList } hR.2.2.1 op
  rw [accepted_eq op hout]
  exact ((R_perm hR').append (returned_perm hout)).trans hspec

/-- a run with its two logs: everything handed back, everything accepted -/
def runLog : HTable V → List (Op V) → HTable V × List (UInt32 × V) × List (UInt32 × V)
  | t, [] => (t, [], [])
  | t, op :: ops =>
    let r := modelStep t op
    let rest := runLog r.1 ops
    (rest.1, returned r.2 ++ rest.2.1, accepted op r.2 ++ rest.2.2)

/-- **C13 (entries are dropped exactly once)**: along every run, the entries currently stored
    together with all entries handed back so far (displaced by an overwriting `insert`, returned
    by `remove`, dropped by `clear`) are — as a multiset — exactly the entries stored initially
    together with all entries accepted by `insert`/`entry`. (`clone` continues on the copy.) -/
theorem ht_drop_once (ops : List (Op V)) :
    ∀ {t : HTable V}, HTInv t →
      ((runLog t ops).1.toList ++ (runLog t ops).2.1).Perm (t.toList ++ (runLog t ops).2.2) := by
  induction ops with
  | nil => intro t _; simp [runLog]
  | cons op ops ih =>
    intro t hI
    exact AL.perm_accounting (step_accounting hI op) (ih (step_refines (R_canon hI) op).1.1)

/-- corollary with counts: after a final `clear` of a fresh table nothing is stored and every
    entry was handed back exactly as often as it was accepted -/
theorem ht_drop_once_fresh [DecidableEq V] (c : Nat) (al al' : Alloc)
    (t : HTable V) (h0 : HTable.withCapacity c al = (al', .ok t)) (ops : List (Op V))
    (x : UInt32 × V) :
    let r := runLog t (ops ++ [Op.clear])
    r.1.toList = [] ∧ r.2.1.count x = r.2.2.count x := by
  have hR := withCapacity_R h0
  have hI : HTInv t := hR.1
  have ht : t.toList = [] := by
    have := (R_perm hR).length_eq
    simpa using this
  have hfin : ∀ (ops : List (Op V)) (t : HTable V),
      (runLog t (ops ++ [Op.clear])).1.toList = [] := by
    intro ops
    induction ops with
    | nil => intro t; simp [runLog, modelStep, HTable.clear, HTable.toList]
    | cons op ops ih => intro t; simp only [List.cons_append, runLog]; exact ih _
  have h := ht_drop_once (ops ++ [Op.clear]) hI
  refine ⟨hfin ops t, ?_⟩
  rw [hfin ops t, ht] at h
  simpa using h.count_eq x

/-! ## when can a run panic? -/

/-- operations that cannot panic: everything except `entry` with the null handle or with an
    injected allocation failure -/
def Safe : Op V → Prop
  | .entry k _ fa => k ≠ 0 ∧ fa = none
  | _ => True

/-- along every run of safe operations from a state satisfying the invariant, no step panics -/
theorem ht_never_panics (ops : List (Op V)) :
    ∀ {t : HTable V}, HTInv t → (∀ op ∈ ops, Safe op) → Out.panic ∉ runModel t ops := by
  induction ops with
  | nil => intro t _ _; simp [runModel]
  | cons op ops ih =>
    intro t hI hsafe
    obtain ⟨hR', hout⟩ := step_refines (R_canon hI) op
    simp only [runModel, List.mem_cons, not_or]
    refine ⟨?_, ih hR'.1 (fun o ho => hsafe o (List.mem_cons_of_mem _ ho))⟩
    intro hp
    rw [← hp] at hout
    have hs := hsafe op (by simp)
    have hspec : ∀ (st : Spec V), (specStep st op).2 ≠ .panic := by
      intro st
      cases op with
      | entry k v fa =>
        obtain ⟨hk0, rfl⟩ := hs
        obtain ⟨st', hr, _⟩ := specMakeRoom_ok st
        simp only [specStep, hk0, if_false, hr]
        split <;> simp
      | insert k v fa => simp only [specStep]; split <;> (try split) <;> simp
      | reserve n fa => simp only [specStep]; split <;> (try split) <;> simp
      | clone fa => simp only [specStep]; split <;> simp
      | remove k => simp [specStep]
      | get k => simp [specStep]
      | contains k => simp [specStep]
      | clear => simp [specStep]
      | len => simp [specStep]
      | iter => simp [specStep]
    rcases hout with h | ⟨x, y, h, _⟩ | ⟨x, y, h, _⟩
    · exact hspec _ h.symm
    · cases h
    · cases h

/-! ## non-vacuity -/

private def exT2 : HTable Nat := { cap := 2, slots := OA.empty, count := 0 }
private def exT8 : HTable Nat := { cap := 8, slots := OA.empty, count := 0 }

/-- the hypothesis of `ht_refines` / `ht_pow2` / `ht_all_paths_terminate` is satisfiable, also
    for the degenerate requests 0 and 1 -/
example : (HTable.withCapacity 0 {} : Alloc × Res (HTable Nat)) = ({ n := 2 }, .ok exT2) := rfl
example : (HTable.withCapacity 1 {} : Alloc × Res (HTable Nat)) = ({ n := 2 }, .ok exT2) := rfl
example : (HTable.withCapacity 5 {} : Alloc × Res (HTable Nat)) = ({ n := 2 }, .ok exT8) := rfl

/-- handles 3 and 11 both start probing at slot 3 of 8 -/
example : [3, 11, 4].map (HTable.home 8) = [3, 3, 4] := by decide

example : runModel exT8
    [.insert 3 30 none, .insert 11 110 none, .insert 4 40 none, .insert 0 1 none,
     .insert 3 31 none, .get 11, .remove 3, .get 11, .get 4, .len, .get 3, .iter, .clear]
  = [.displaced none, .displaced none, .displaced none, .invalidHandle,
     .displaced (some (3, 30)), .value (some 110), .removed (some (3, 31)), .value (some 110),
     .value (some 40), .num 2, .value none, .items [(11, 110), (4, 40)],
     .dropped [(11, 110), (4, 40)]] := by decide

/-- `ht_refines` instantiated: growth from capacity 2, injected allocation failures (second of the
    two allocations of `alloc_storage`), `entry` incl. its panic on the null handle, `reserve`,
    `clone` (the right-hand side is the evaluated specification run) -/
example : OutsEq
    (runModel exT2
      [.insert 1 10 (some 0), .insert 1 10 (some 1), .insert 1 10 none, .insert 2 20 none,
       .insert 3 30 (some 1), .entry 3 30 none, .entry 3 31 none, .entry 0 5 none,
       .entry 4 40 (some 0), .reserve 20 none, .clone (some 1), .clone none, .len, .iter])
    [.displaced none, .allocErr, .displaced (some (1, 10)), .displaced none, .allocErr,
     .entry true 30, .entry false 30, .panic, .entry true 40, .unit, .allocErr, .unit, .num 4,
     .items [(4, 40), (3, 30), (2, 20), (1, 10)]] :=
  ht_refines 0 {} _ exT2 rfl _

/-- the hypotheses of `ht_all_paths_terminate` are satisfiable -/
example : let xs : List (UInt32 × Nat × Bool) := [(5, 50, false), (13, 130, true), (21, 210, false)]
    (∀ x ∈ xs, x.1 ≠ 0) ∧ (xs.map (·.1)).Nodup := by decide

end Cao.C13
