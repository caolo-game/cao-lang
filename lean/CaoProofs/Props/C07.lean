import CaoModel.Table
import CaoProofs.Props.C12
import CaoProofs.Lemmas.TableLemmas
/-!
# C07 — a table is an associative array that remembers insertion order

`TableM` (in `CaoModel/Table.lean`) is the code-shaped model of the
repaired `cao_lang_table.rs`: a hash part (`HMap`, proved to be a finite map in C12) storing
`(original key, value)` under the canonical key `ck k`, plus the list `keys` of keys in insertion
order. Here it is proved — for **every** value type `W`, every canonical-key function `ck`, every
key equality `weq` that is equality of canonical keys, every capacity, every operation sequence and
every choice of injected allocation failures — to

* refine an insertion-ordered association list (`tbl_step_refines`, `tbl_refines`; outputs are
  compared exactly, iteration as an *ordered* list), keeping its representation invariant `TInv`
  (part of the refinement relation `TR`),
* never panic (`tbl_never_panics`); an operation that reports `allocErr` leaves the table untouched
  (`tbl_alloc_fail`),
* and the sentences of the property are restated as corollaries (`get_after_insert`,
  `get_missing`, `len_counts_keys`, `append_key_min`, `pop_spec`, `nth_iter_order`).

Helper lemmas are in `CaoProofs/Lemmas/TableLemmas.lean`; the facts about the hash part are the
public theorems of `CaoProofs/Props/C12.lean`, except in two places that open `C12.HInv` down to
the open-addressing layer: `withCapacity_rel` below (`OA.get_spec`) and `TL.hm_count_eq` (`OA.Abs`).
-/
namespace Cao.C07
open Cao Cao.TL

variable {W : Type}

/-! ## Specification: an insertion-ordered list of `(key, value)` entries

At most one entry per canonical key; the position of an entry is the time its key was first
inserted. This is what a user of tables relies on. -/

section Spec
variable (ck : W → OVal) (nilW : W) (ofInt : Int64 → W)

def specFind (l : List (W × W)) (k : W) : Option (W × W) :=
  l.find? (fun e => decide (ck e.1 = ck k))

def specGet (l : List (W × W)) (k : W) : Option W := (specFind ck l k).map (·.2)

def specContains (l : List (W × W)) (k : W) : Bool := (specFind ck l k).isSome

def specLen (l : List (W × W)) : Nat := l.length

/-- overwrite in place: the stored key object and the position are kept -/
def specSet (l : List (W × W)) (k v : W) : List (W × W) :=
  l.map (fun e => if ck e.1 = ck k then (e.1, v) else e)

/-- `t[k] = v`: overwrite in place, or append a new entry at the end -/
def specInsert (l : List (W × W)) (k v : W) : List (W × W) :=
  if specContains ck l k then specSet ck l k v else l ++ [(k, v)]

def specRemove (l : List (W × W)) (k : W) : List (W × W) :=
  l.filter (fun e => !decide (ck e.1 = ck k))

/-- try the integer keys `i, i+1, …` (at most `fuel` of them): the first one that is unused -/
def firstFree (l : List (W × W)) : Nat → Int64 → Int64
  | 0, i => i
  | f+1, i => if specContains ck l (ofInt i) then firstFree l f (i + 1) else i

/-- the key `append` uses: the first of `len, len+1, …, len+len` that is not a key of the table.
    One of these `len+1` candidates is free because the table has only `len` keys, so this is the
    least unused integer key `≥ len` (`specAppendKey_least`). -/
def specAppendKey (l : List (W × W)) : Int64 :=
  firstFree ck ofInt l (l.length + 1) (Int64.ofNat l.length)

def specAppend (l : List (W × W)) (v : W) : List (W × W) :=
  specInsert ck l (ofInt (specAppendKey ck ofInt l)) v

/-- remove the most recently inserted entry and return its value (`nil` when empty) -/
def specPop (l : List (W × W)) : List (W × W) × W :=
  match l.getLast? with
  | none => (l, nilW)
  | some e => (l.dropLast, e.2)

/-- key of the `i`-th row (`nil` when out of range) -/
def specNth (l : List (W × W)) (i : Nat) : W := (l.map Prod.fst).getD i nilW

def specIter (l : List (W × W)) : List (W × W) := l

/-! ### operations, outputs, and the specification's step function

The specification state carries the capacity of the hash part (exactly as `C12.Spec` does):
the capacity decides *when* inserting a new key allocates, and therefore when an injected
allocation failure is observable. Allocating operations carry `failAt`: their `failAt`-th
allocation fails (`C12.oracle`). An operation whose allocation fails outputs `allocErr` and
leaves the state unchanged. -/

structure Spec (W : Type) where
  cap : Nat
  l : List (W × W)

inductive Op (W : Type) where
  | insert (k v : W) (failAt : Option Nat)
  | get (k : W)
  | contains (k : W)
  | remove (k : W)
  | append (v : W) (failAt : Option Nat)
  | pop
  | nth (i : Nat)
  | len
  | iter

inductive Out (W : Type) where
  | unit
  | value (o : Option W)
  | bool (b : Bool)
  | popped (v : W)
  | key (k : W)
  | num (n : Nat)
  | items (l : List (W × W))
  | allocErr
  | panic

/-- insert with the allocation behaviour: a *new* key needs room in the hash part
    (`TL.roomCap`: growth by one allocation when the load factor 0.7 would be exceeded) -/
def specPut (st : Spec W) (k v : W) (failAt : Option Nat) : Spec W × Out W :=
  if specContains ck st.l k then ({ st with l := specSet ck st.l k v }, .unit)
  else
    match roomCap st.cap st.l.length failAt with
    | some cap' => ({ cap := cap', l := st.l ++ [(k, v)] }, .unit)
    | none => (st, .allocErr)

def specStep (st : Spec W) : Op W → Spec W × Out W
  | .insert k v fa => specPut ck st k v fa
  | .get k => (st, .value (specGet ck st.l k))
  | .contains k => (st, .bool (specContains ck st.l k))
  | .remove k => ({ st with l := specRemove ck st.l k }, .unit)
  | .append v fa => specPut ck st (ofInt (specAppendKey ck ofInt st.l)) v fa
  | .pop => ({ st with l := (specPop nilW st.l).1 }, .popped (specPop nilW st.l).2)
  | .nth i => (st, .key (specNth nilW st.l i))
  | .len => (st, .num (specLen st.l))
  | .iter => (st, .items (specIter st.l))

theorem specPut_list (st : Spec W) (k v : W) (fa : Option Nat) :
    ((specPut ck st k v fa).2 = .unit ∧ (specPut ck st k v fa).1.l = specInsert ck st.l k v) ∨
    ((specPut ck st k v fa).2 = .allocErr ∧ (specPut ck st k v fa).1 = st) := by
  unfold specPut specInsert
  cases hc : specContains ck st.l k with
  | true => left; simp
  | false =>
    cases hr : roomCap st.cap st.l.length fa with
    | some cap' => left; simp
    | none => right; simp

end Spec

/-! ## The model's step function -/

section Model
variable (ck : W → OVal) (weq : W → W → Bool) (nilW : W) (ofInt : Int64 → W)

def unitOut : Res Unit → Out W
  | .ok _ => .unit
  | .allocErr => .allocErr
  | .panic _ => .panic

def poppedOut : Res W → Out W
  | .ok v => .popped v
  | .allocErr => .allocErr
  | .panic _ => .panic

def modelStep (t : TableM W) : Op W → TableM W × Out W
  | .insert k v fa =>
    ((t.insert ck k v (C12.oracle fa)).1, unitOut (t.insert ck k v (C12.oracle fa)).2.2)
  | .get k => (t, .value (t.get ck k))
  | .contains k => (t, .bool (t.contains ck k))
  | .remove k => ((t.remove ck weq k).1, unitOut (t.remove ck weq k).2)
  | .append v fa =>
    ((t.append ck ofInt v (C12.oracle fa)).1, unitOut (t.append ck ofInt v (C12.oracle fa)).2.2)
  | .pop => ((t.pop ck nilW).1, poppedOut (t.pop ck nilW).2)
  | .nth i => (t, .key (t.nthKey nilW i))
  | .len => (t, .num t.len)
  | .iter => (t, .items (t.iter ck))

end Model

/-! ## Representation invariant and abstraction -/

section Inv
variable (ck : W → OVal)

/-- the hash part is a well-formed `HMap`; the canonical keys of `keys` are pairwise distinct;
    `keys` and the hash part describe the same key set and the key object stored in the hash part
    is the one in `keys`; the hash part's entry count is the number of keys -/
def TInv (t : TableM W) : Prop :=
  C12.HInv TableM.hashOf t.map ∧ (t.keys.map ck).Nodup ∧
  (∀ c k0, (∃ v, t.map.get TableM.hashOf c = some (k0, v)) ↔ (k0 ∈ t.keys ∧ ck k0 = c)) ∧
  t.map.count = t.keys.length

def abs (t : TableM W) : List (W × W) := t.iter ck

/-- working form of the invariant, relative to an explicit entry list `l` (`TInv_iff_Rel`): the hash
    part maps a canonical key to the entry of `l` stored under it -/
def Rel (t : TableM W) (l : List (W × W)) : Prop :=
  C12.HInv TableM.hashOf t.map ∧ t.keys = l.map Prod.fst ∧ (ckeys ck l).Nodup ∧
  ∀ c, t.map.get TableM.hashOf c = findC ck l c

variable {ck}

theorem ckeys_eq (l : List (W × W)) : ckeys ck l = (l.map Prod.fst).map ck := by
  unfold ckeys; rw [List.map_map]; rfl

theorem rel_get {t : TableM W} {l : List (W × W)} (h : Rel ck t l) (k : W) :
    t.get ck k = specGet ck l k := by
  unfold TableM.get specGet
  rw [h.2.2.2]; rfl

theorem rel_contains {t : TableM W} {l : List (W × W)} (h : Rel ck t l) (k : W) :
    t.contains ck k = specContains ck l k := by
  unfold TableM.contains HMap.contains specContains
  rw [h.2.2.2]; rfl

theorem rel_len {t : TableM W} {l : List (W × W)} (h : Rel ck t l) : t.len = l.length := by
  unfold TableM.len; rw [h.2.1, List.length_map]

theorem rel_nth {t : TableM W} {l : List (W × W)} (h : Rel ck t l) (nilW : W) (i : Nat) :
    t.nthKey nilW i = specNth nilW l i := by
  unfold TableM.nthKey specNth; rw [h.2.1]

theorem rel_iter {t : TableM W} {l : List (W × W)} (h : Rel ck t l) : t.iter ck = l := by
  obtain ⟨_, hk, nd, hg⟩ := h
  unfold TableM.iter
  rw [hk, List.filterMap_map]
  have : ∀ e ∈ l, ((fun k => (t.get ck k).map (fun v => (k, v))) ∘ Prod.fst) e = some e := by
    intro e he
    simp only [Function.comp, TableM.get]
    rw [hg, findC_of_mem nd he]
    rfl
  exact filterMap_eq_self _ l this

theorem rel_count {t : TableM W} {l : List (W × W)} (h : Rel ck t l) :
    t.map.count = l.length := by
  obtain ⟨hI, _, nd, hg⟩ := h
  have := hm_count_eq hI (l.map (fun e => (ck e.1, e)))
    (canon_wf nd)
    (fun c => by rw [lookup_canon, hg])
  rw [this, List.length_map]

theorem Rel_TInv {t : TableM W} {l : List (W × W)} (h : Rel ck t l) : TInv ck t := by
  have hcnt := rel_count h
  obtain ⟨hI, hk, nd, hg⟩ := h
  refine ⟨hI, by rw [hk, ← ckeys_eq]; exact nd, ?_, by rw [hcnt, hk, List.length_map]⟩
  intro c k0
  rw [hk]
  constructor
  · rintro ⟨v, hv⟩
    rw [hg] at hv
    obtain ⟨hm, hc⟩ := findC_some hv
    exact ⟨List.mem_map.mpr ⟨_, hm, rfl⟩, hc⟩
  · rintro ⟨hm, hc⟩
    obtain ⟨e, he, rfl⟩ := List.mem_map.mp hm
    refine ⟨e.2, ?_⟩
    rw [hg, ← hc]
    exact findC_of_mem nd he

theorem TInv_Rel {t : TableM W} (h : TInv ck t) : Rel ck t (abs ck t) := by
  obtain ⟨hI, nd, hiff, _⟩ := h
  have hf : ∀ k ∈ t.keys, ∃ v, (fun k => (t.get ck k).map (fun v => (k, v))) k = some (k, v) := by
    intro k hk
    obtain ⟨v, hv⟩ := (hiff (ck k) k).mpr ⟨hk, rfl⟩
    exact ⟨v, by simp only [TableM.get, hv]; rfl⟩
  have hfst : (abs ck t).map Prod.fst = t.keys := filterMap_fst _ t.keys hf
  have hnd : (ckeys ck (abs ck t)).Nodup := by rw [ckeys_eq, hfst]; exact nd
  refine ⟨hI, hfst.symm, hnd, ?_⟩
  intro c
  cases hg : t.map.get TableM.hashOf c with
  | none =>
    symm
    rw [findC_none]
    intro e he hc
    have hk : e.1 ∈ t.keys := by rw [← hfst]; exact List.mem_map.mpr ⟨e, he, rfl⟩
    obtain ⟨v, hv⟩ := (hiff c e.1).mpr ⟨hk, hc⟩
    rw [hg] at hv; cases hv
  | some e0 =>
    obtain ⟨k0, v0⟩ := e0
    obtain ⟨hk0, hc⟩ := (hiff c k0).mp ⟨v0, hg⟩
    have hmem : (k0, v0) ∈ abs ck t := by
      unfold abs TableM.iter
      rw [List.mem_filterMap]
      refine ⟨k0, hk0, ?_⟩
      simp only [TableM.get, hc, hg]; rfl
    have := findC_of_mem hnd hmem
    simp only at this
    rw [hc] at this
    exact this.symm

theorem TInv_iff_Rel {t : TableM W} : TInv ck t ↔ Rel ck t (abs ck t) := ⟨TInv_Rel, Rel_TInv⟩

end Inv

/-! ## What each operation does, on `Rel` -/

section Ops
variable {ck : W → OVal}

theorem rel_insert {t : TableM W} {l : List (W × W)} (h : Rel ck t l) (k v : W) (al : Alloc) :
    ∃ t', t.insert ck k v al =
        (if specContains ck l k then (t', al, .ok ())
        else if HMap.needsGrow (l.length + 1) t.map.cap then
          if al.next.1 then (t', al.next.2, .ok ()) else (t, al.next.2, .allocErr)
        else (t', al, .ok ())) ∧
      t'.map.cap = (if specContains ck l k = false ∧ HMap.needsGrow (l.length + 1) t.map.cap
        then HMap.growCap t.map.cap else t.map.cap) ∧
      Rel ck t' (specInsert ck l k v) := by
  have hcnt := rel_count h
  obtain ⟨hI, hk, nd, hg⟩ := h
  have hgk := hg (ck k)
  have hcf : specContains ck l k = (findC ck l (ck k)).isSome := rfl
  unfold specInsert
  rw [hcf]
  cases hf : findC ck l (ck k) with
  | some e0 =>
    obtain ⟨k0, v0⟩ := e0
    rw [hf] at hgk
    obtain ⟨m', hins, hcap', hI', hget⟩ := C12.hm_insert_eq hI (ck k) (k0, v) al
    rw [hgk] at hins hcap'
    refine ⟨{ t with map := m' }, by simp [TableM.insert, hgk, hins], by simpa using hcap',
      hI', hk.trans (setVal_fst (ck := ck) (ck k) v l).symm,
      (setVal_ckeys (ck := ck) (ck k) v l).symm ▸ nd, fun c => ?_⟩
    rw [hget, hg c]
    exact (findC_setVal_present hf v c).symm
  | none =>
    rw [hf] at hgk
    obtain ⟨m', hins, hcap', hI', hget⟩ := C12.hm_insert_eq hI (ck k) (k, v) al
    rw [hgk, hcnt] at hins hcap'
    simp only [Option.isSome_none, Bool.false_eq_true, if_false]
    refine ⟨{ map := m', keys := t.keys ++ [k] }, ?_, by simpa using hcap', hI', by simp [hk],
      ?_, fun c => ?_⟩
    · simp only [TableM.insert, hgk, hins]
      cases HMap.needsGrow (l.length + 1) t.map.cap <;> cases al.next.1 <;> rfl
    · unfold ckeys at nd ⊢
      rw [List.map_append, List.nodup_append]
      refine ⟨nd, by simp, ?_⟩
      intro a ha b hb hab
      simp only [List.map_cons, List.map_nil, List.mem_singleton] at hb
      subst hab hb
      exact (findC_none_iff_ckeys.mp hf) ha
    · rw [hget, hg c]
      exact (findC_concat_new (e := (k, v)) hf c).symm

theorem rel_insert_cases {t : TableM W} {l : List (W × W)} (h : Rel ck t l) (k v : W)
    (al : Alloc) :
    ((t.insert ck k v al).2.2 = .ok () ∧ Rel ck (t.insert ck k v al).1 (specInsert ck l k v)) ∨
    ((t.insert ck k v al).2.2 = .allocErr ∧ (t.insert ck k v al).1 = t) := by
  obtain ⟨t', hins, _, hR⟩ := rel_insert h k v al
  rw [hins]
  cases specContains ck l k <;> cases HMap.needsGrow (l.length + 1) t.map.cap <;>
    cases al.next.1 <;> simp [hR]

theorem rel_appendKey {t : TableM W} {l : List (W × W)} (h : Rel ck t l) (ofInt : Int64 → W) :
    t.appendKey ck ofInt = specAppendKey ck ofInt l := by
  have hgo : ∀ fuel i, TableM.appendKey.go ck ofInt t fuel i = firstFree ck ofInt l fuel i := by
    intro fuel
    induction fuel with
    | zero => intro i; rfl
    | succ f ih =>
      intro i
      simp only [TableM.appendKey.go, firstFree]
      rw [show t.map.contains TableM.hashOf (ck (ofInt i)) = t.contains ck (ofInt i) from rfl,
        rel_contains h, ih]
  unfold TableM.appendKey specAppendKey
  rw [hgo, h.2.1, List.length_map]

theorem rel_pop {t : TableM W} {l : List (W × W)} (h : Rel ck t l) (nilW : W) :
    ∃ t', t.pop ck nilW = (t', .ok (specPop nilW l).2) ∧ Rel ck t' (specPop nilW l).1 ∧
      t'.map.cap = t.map.cap := by
  have h0 := h
  obtain ⟨hI, hk, nd, hg⟩ := h
  cases hl : l.getLast? with
  | none =>
    have hnil : l = [] := List.getLast?_eq_none_iff.mp hl
    subst hnil
    have hkn : t.keys.getLast? = none := by rw [hk]; rfl
    refine ⟨t, ?_, ?_, rfl⟩
    · simp only [TableM.pop, hkn, specPop, List.getLast?_nil]
    · simp only [specPop, List.getLast?_nil]; exact h0
  | some e =>
    obtain ⟨l0, rfl⟩ := List.getLast?_eq_some_iff.mp hl
    have hkl : t.keys.getLast? = some e.1 := by rw [hk, List.getLast?_map, hl]; rfl
    have hge : t.map.get TableM.hashOf (ck e.1) = some e := by
      rw [hg]; exact findC_of_mem nd (by simp)
    obtain ⟨m', hrem, hcap, hI', hget⟩ := C12.hm_remove_eq hI (ck e.1)
    have hspec : specPop nilW (l0 ++ [e]) = (l0, e.2) := by
      simp only [specPop, hl, List.dropLast_concat]
    refine ⟨{ map := m', keys := t.keys.dropLast }, ?_, ?_, hcap⟩
    · simp only [TableM.pop, hkl, hrem, TableM.get, hge, hspec, Option.map_some, Option.getD_some]
    · rw [hspec]
      refine ⟨hI', ?_, ?_, ?_⟩
      · simp only [hk, List.map_append, List.map_cons, List.map_nil, List.dropLast_concat]
      · unfold ckeys at nd ⊢
        rw [List.map_append, List.nodup_append] at nd
        exact nd.1
      · intro c
        rw [hget, hg, findC_dropLast nd]

end Ops

/-! ### `remove` -/

section Remove
variable {ck : W → OVal}

private def rmStep (ck : W → OVal) (acc : HMap OVal (W × W) × Option String) (k' : W) :
    HMap OVal (W × W) × Option String :=
  match acc with
  | (m, some w) => (m, some w)
  | (m, none) => match m.remove TableM.hashOf (ck k') with
    | (m', .ok _) => (m', none)
    | (m', .allocErr) => (m', some "alloc")
    | (m', .panic w) => (m', some w)

private theorem remove_unfold (weq : W → W → Bool) (t : TableM W) (k : W) :
    t.remove ck weq k =
      match (t.keys.filter (fun k' => weq k' k)).foldl (rmStep ck) (t.map, none) with
      | (m, none) => ({ map := m, keys := t.keys.filter (fun k' => !weq k' k) }, .ok ())
      | (_, some w) => (t, .panic w) := by
  unfold TableM.remove
  rw [List.partition_eq_filter_filter]
  rfl

private theorem rm_fold : ∀ (gone : List W) (m : HMap OVal (W × W)), C12.HInv TableM.hashOf m →
    ∃ m', gone.foldl (rmStep ck) (m, none) = (m', none) ∧ C12.HInv TableM.hashOf m' ∧
      m'.cap = m.cap ∧
      ∀ c, m'.get TableM.hashOf c = if c ∈ gone.map ck then none else m.get TableM.hashOf c := by
  intro gone
  induction gone with
  | nil => intro m hI; exact ⟨m, rfl, hI, rfl, by simp⟩
  | cons k' gone ih =>
    intro m hI
    obtain ⟨m1, hrem, hcap1, hI1, hget1⟩ := C12.hm_remove_eq hI (ck k')
    have hstep : rmStep ck (m, none) k' = (m1, none) := by simp only [rmStep, hrem]
    obtain ⟨m', hf, hI', hcap', hget'⟩ := ih m1 hI1
    refine ⟨m', by rw [List.foldl_cons, hstep, hf], hI', by rw [hcap', hcap1], ?_⟩
    intro c
    rw [hget', hget1]
    by_cases h1 : c = ck k'
    · simp [h1]
    · by_cases h2 : c ∈ gone.map ck
      · simp [h2]
      · have : c ∉ (k' :: gone).map ck := by
          simp only [List.map_cons, List.mem_cons, not_or]; exact ⟨h1, h2⟩
        rw [if_neg h2, if_neg h1, if_neg this]

theorem rel_remove {weq : W → W → Bool} (hweq : ∀ a b, weq a b = true ↔ ck a = ck b)
    {t : TableM W} {l : List (W × W)} (h : Rel ck t l) (k : W) :
    ∃ t', t.remove ck weq k = (t', .ok ()) ∧ Rel ck t' (specRemove ck l k) ∧
      t'.map.cap = t.map.cap := by
  obtain ⟨hI, hk, nd, hg⟩ := h
  obtain ⟨m', hf, hI', hcap, hget⟩ := rm_fold (ck := ck) (t.keys.filter (fun k' => weq k' k)) t.map hI
  refine ⟨{ map := m', keys := t.keys.filter (fun k' => !weq k' k) }, ?_, ?_, hcap⟩
  · rw [remove_unfold, hf]
  · refine ⟨hI', ?_, ckeys_filter_nodup nd _, ?_⟩
    · simp only [hk, specRemove, List.filter_map]
      congr 1
      apply List.filter_congr
      intro e _
      simp only [Function.comp]
      cases hw : weq e.1 k with
      | true => have := (hweq e.1 k).mp hw; simp [this]
      | false =>
        have : ¬ ck e.1 = ck k := fun hc => by rw [(hweq e.1 k).mpr hc] at hw; cases hw
        simp [this]
    · intro c
      rw [hget, hg]
      unfold specRemove
      rw [findC_filter]
      by_cases hc : c = ck k
      · subst hc
        rw [if_pos rfl]
        split
        · rfl
        · rename_i hnot
          -- no key equal to `k` was in `keys`, so the key was absent anyway
          rw [findC_none]
          intro e he hce
          apply hnot
          rw [List.mem_map]
          refine ⟨e.1, ?_, hce⟩
          rw [List.mem_filter]
          exact ⟨by rw [hk]; exact List.mem_map.mpr ⟨e, he, rfl⟩, (hweq e.1 k).mpr hce⟩
      · rw [if_neg hc]
        split
        · rename_i hin
          exfalso
          obtain ⟨k', hk', hck'⟩ := List.mem_map.mp hin
          rw [List.mem_filter] at hk'
          exact hc (by rw [← hck']; exact (hweq k' k).mp hk'.2)
        · rfl

end Remove

/-! ## C07 (invariant): `TInv` is established by `with_capacity` -/

section Preserved
variable {ck : W → OVal}

private theorem withCapacity_rel (c : Nat) (al al' : Alloc) (t : TableM W)
    (h : TableM.withCapacity c al = (al', .ok t)) :
    Rel ck t [] ∧ t.map.cap = max c 1 := by
  unfold TableM.withCapacity HMap.withCapacity at h
  cases hn : al.next.1 with
  | false => simp [hn] at h
  | true =>
    simp only [hn, if_true, Prod.mk.injEq, Res.ok.injEq] at h
    obtain ⟨_, rfl⟩ := h
    have hinv := C12.hm_withCapacity_inv (V := W × W) TableM.hashOf c al
    unfold HMap.withCapacity at hinv
    simp only [hn, if_true] at hinv
    refine ⟨⟨hinv, rfl, by simp [ckeys], ?_⟩, rfl⟩
    intro k
    exact OA.get_spec hinv.2.1 (OA.empty_abs _) k

theorem tbl_withCapacity_inv (c : Nat) (al : Alloc) :
    match (TableM.withCapacity c al : Alloc × Res (TableM W)).2 with
    | .ok t => TInv ck t ∧ abs ck t = []
    | .allocErr => True
    | .panic _ => False := by
  rcases hw : (TableM.withCapacity c al : Alloc × Res (TableM W)) with ⟨al', r⟩
  cases r with
  | ok t =>
    obtain ⟨hR, _⟩ := withCapacity_rel (ck := ck) c al al' t hw
    exact ⟨Rel_TInv hR, rel_iter hR⟩
  | allocErr => trivial
  | panic w =>
    exfalso
    unfold TableM.withCapacity HMap.withCapacity at hw
    cases hn : al.next.1 <;> simp [hn] at hw

end Preserved

/-! ## C07 (refinement) -/

section Refines
variable {ck : W → OVal} {weq : W → W → Bool} (nilW : W) (ofInt : Int64 → W)

def TR (ck : W → OVal) (t : TableM W) (st : Spec W) : Prop :=
  TInv ck t ∧ abs ck t = st.l ∧ st.cap = t.map.cap

theorem TR_rel {t : TableM W} {st : Spec W} (h : TR ck t st) : Rel ck t st.l := by
  obtain ⟨h1, h2, _⟩ := h
  rw [← h2]; exact TInv_Rel h1

theorem rel_TR {t : TableM W} {st : Spec W} (h : Rel ck t st.l) (hc : st.cap = t.map.cap) :
    TR ck t st := ⟨Rel_TInv h, rel_iter h, hc⟩

private theorem put_refines {t : TableM W} {st : Spec W} (h : TR ck t st) (k v : W)
    (fa : Option Nat) :
    TR ck (t.insert ck k v (C12.oracle fa)).1 (specPut ck st k v fa).1 ∧
      (unitOut (t.insert ck k v (C12.oracle fa)).2.2 : Out W) = (specPut ck st k v fa).2 := by
  obtain ⟨t', hins, hcap', hR'⟩ := rel_insert (TR_rel h) k v (C12.oracle fa)
  unfold specPut roomCap
  unfold specInsert at hR'
  rw [hins, h.2.2]
  cases hc : specContains ck st.l k <;> cases hg : HMap.needsGrow (st.l.length + 1) t.map.cap <;>
    cases (C12.oracle fa).next.1 <;> simp only [hc, hg] at hcap' hR' <;>
    first
    | exact ⟨h, rfl⟩
    | exact ⟨rel_TR hR' (by simpa [h.2.2] using hcap'.symm), rfl⟩

/-- **C07 (one step)**: from related states, every operation produces the same output in the
    model and in the specification (iteration as an ordered list) and leads to related states. -/
theorem tbl_step_refines (hweq : ∀ a b, weq a b = true ↔ ck a = ck b)
    {t : TableM W} {st : Spec W} (h : TR ck t st) (op : Op W) :
    TR ck (modelStep ck weq nilW ofInt t op).1 (specStep ck nilW ofInt st op).1 ∧
      (modelStep ck weq nilW ofInt t op).2 = (specStep ck nilW ofInt st op).2 := by
  have hR := TR_rel h
  have hcap := h.2.2
  cases op with
  | insert k v fa => exact put_refines h k v fa
  | get k => exact ⟨h, by simp only [modelStep, specStep, rel_get hR]⟩
  | contains k => exact ⟨h, by simp only [modelStep, specStep, rel_contains hR]⟩
  | remove k =>
    obtain ⟨t', hrem, hR', hcap'⟩ := rel_remove hweq hR k
    simp only [modelStep, specStep, hrem]
    exact ⟨rel_TR hR' (by simp only; rw [hcap', hcap]), rfl⟩
  | append v fa =>
    have e := rel_appendKey hR ofInt
    simp only [modelStep, specStep, TableM.append, ← e]
    exact put_refines h (ofInt (t.appendKey ck ofInt)) v fa
  | pop =>
    obtain ⟨t', hpop, hR', hcap'⟩ := rel_pop hR nilW
    simp only [modelStep, specStep, hpop]
    exact ⟨rel_TR hR' (by simp only; rw [hcap', hcap]), rfl⟩
  | nth i => exact ⟨h, by simp only [modelStep, specStep, rel_nth hR]⟩
  | len => exact ⟨h, by simp only [modelStep, specStep, rel_len hR, specLen]⟩
  | iter => exact ⟨h, by simp only [modelStep, specStep, rel_iter hR, specIter]⟩

def runModel (ck : W → OVal) (weq : W → W → Bool) (t : TableM W) : List (Op W) → List (Out W)
  | [] => []
  | op :: ops => (modelStep ck weq nilW ofInt t op).2 ::
      runModel ck weq (modelStep ck weq nilW ofInt t op).1 ops

def runSpec (ck : W → OVal) (st : Spec W) : List (Op W) → List (Out W)
  | [] => []
  | op :: ops => (specStep ck nilW ofInt st op).2 :: runSpec ck (specStep ck nilW ofInt st op).1 ops

theorem run_refines (hweq : ∀ a b, weq a b = true ↔ ck a = ck b) (ops : List (Op W)) :
    ∀ {t : TableM W} {st : Spec W}, TR ck t st →
      runModel nilW ofInt ck weq t ops = runSpec nilW ofInt ck st ops := by
  induction ops with
  | nil => intro t st _; rfl
  | cons op ops ih =>
    intro t st h
    obtain ⟨h1, h2⟩ := tbl_step_refines nilW ofInt hweq h op
    simp only [runModel, runSpec, h2, ih h1]

/-- **C07 (refinement)**: for every requested capacity, every operation sequence and every choice
    of injected allocation failures, the outputs of the code-shaped model (started from a
    successful `with_capacity(c)`) are *equal* to those of the insertion-ordered association-list
    specification started from the empty list. In particular no output is `panic`, and `iter`
    lists the entries in insertion order. -/
theorem tbl_refines (hweq : ∀ a b, weq a b = true ↔ ck a = ck b) (c : Nat) (al al' : Alloc)
    (t : TableM W) (h0 : TableM.withCapacity c al = (al', .ok t)) (ops : List (Op W)) :
    runModel nilW ofInt ck weq t ops = runSpec nilW ofInt ck { cap := max c 1, l := [] } ops := by
  obtain ⟨hR, hcap⟩ := withCapacity_rel (ck := ck) c al al' t h0
  exact run_refines nilW ofInt hweq ops (rel_TR (st := { cap := max c 1, l := [] }) hR hcap.symm)

theorem spec_no_panic (st : Spec W) (op : Op W) : (specStep ck nilW ofInt st op).2 ≠ .panic := by
  cases op <;> simp only [specStep, ne_eq] <;> try (intro h; cases h)
  all_goals
    rcases specPut_list ck st _ _ _ with ⟨h, _⟩ | ⟨h, _⟩ <;> rw [h] <;> intro h' <;> cases h'

theorem spec_alloc_fail (st : Spec W) (op : Op W)
    (h : (specStep ck nilW ofInt st op).2 = .allocErr) : (specStep ck nilW ofInt st op).1 = st := by
  cases op <;> simp only [specStep] at h ⊢ <;> try (cases h)
  all_goals
    rcases specPut_list ck st _ _ _ with ⟨h1, _⟩ | ⟨_, h2⟩
    · rw [h1] at h; cases h
    · exact h2

theorem TR_canon {t : TableM W} (h : TInv ck t) : TR ck t { cap := t.map.cap, l := abs ck t } :=
  ⟨h, rfl, rfl⟩

/-- **no operation panics**, whatever the allocation oracle does -/
theorem tbl_never_panics (hweq : ∀ a b, weq a b = true ↔ ck a = ck b) {t : TableM W}
    (h : TInv ck t) (op : Op W) : (modelStep ck weq nilW ofInt t op).2 ≠ .panic := by
  rw [(tbl_step_refines nilW ofInt hweq (TR_canon h) op).2]
  exact spec_no_panic nilW ofInt _ op

/-- **allocation failure**: an operation that outputs `allocErr` leaves the table untouched (the
    very same state); the specification says exactly when that happens (`specPut`): inserting or
    appending a *new* key above the load factor when the growth allocation is the failing one. -/
theorem tbl_alloc_fail (hweq : ∀ a b, weq a b = true ↔ ck a = ck b) {t : TableM W}
    (h : TInv ck t) (op : Op W) (he : (modelStep ck weq nilW ofInt t op).2 = .allocErr) :
    (modelStep ck weq nilW ofInt t op).1 = t := by
  have hR := TInv_Rel h
  have hput : ∀ k v al, (unitOut (t.insert ck k v al).2.2 : Out W) = .allocErr → (t.insert ck k v al).1 = t := by
    intro k v al hu
    rcases rel_insert_cases hR k v al with ⟨h1, _⟩ | ⟨_, h2⟩
    · rw [h1] at hu; cases hu
    · exact h2
  cases op with
  | insert k v fa => exact hput k v _ he
  | append v fa => exact hput _ v _ he
  | remove k =>
    obtain ⟨t', hrem, _, _⟩ := rel_remove hweq hR k
    simp only [modelStep, hrem] at he
    cases he
  | pop =>
    obtain ⟨t', hpop, _, _⟩ := rel_pop hR nilW
    simp only [modelStep, hpop] at he
    cases he
  | get k => rfl
  | contains k => rfl
  | nth i => rfl
  | len => rfl
  | iter => rfl

end Refines

/-! ## The key used by `append` -/

section AppendKey
variable {ck : W → OVal} {ofInt : Int64 → W}

private theorem ofNat_succ (a : Nat) : Int64.ofNat a + 1 = Int64.ofNat (a + 1) := by
  rw [Int64.ofNat_add]; rfl

private theorem ofNat_inj_small {a b : Nat} (ha : a < 2 ^ 63) (hb : b < 2 ^ 63)
    (h : Int64.ofNat a = Int64.ofNat b) : a = b := by
  have := congrArg Int64.toInt h
  rw [Int64.toInt_ofNat_of_lt ha, Int64.toInt_ofNat_of_lt hb] at this
  exact Int.ofNat.inj this

theorem specContains_iff (l : List (W × W)) (k : W) :
    specContains ck l k = true ↔ ck k ∈ ckeys ck l := by
  show (findC ck l (ck k)).isSome = true ↔ _
  rw [Option.isSome_iff_ne_none, Ne, findC_none_iff_ckeys, Classical.not_not]

theorem firstFree_spec (l : List (W × W)) : ∀ (fuel a : Nat),
    (∃ j, j < fuel ∧ specContains ck l (ofInt (Int64.ofNat (a + j))) = false) →
    ∃ j, j < fuel ∧ firstFree ck ofInt l fuel (Int64.ofNat a) = Int64.ofNat (a + j) ∧
      specContains ck l (ofInt (Int64.ofNat (a + j))) = false ∧
      ∀ j', j' < j → specContains ck l (ofInt (Int64.ofNat (a + j'))) = true := by
  intro fuel
  induction fuel with
  | zero => rintro a ⟨j, hj, _⟩; omega
  | succ f ih =>
    rintro a ⟨j, hj, hfree⟩
    cases hc : specContains ck l (ofInt (Int64.ofNat a)) with
    | false =>
      refine ⟨0, by omega, ?_, by simpa using hc, by intro j' hj'; omega⟩
      simp only [firstFree, hc, Bool.false_eq_true, if_false, Nat.add_zero]
    | true =>
      have hj0 : j ≠ 0 := by
        intro e; subst e
        rw [Nat.add_zero, hc] at hfree; cases hfree
      obtain ⟨j1, hj1, hff, hfr, hall⟩ := ih (a + 1) ⟨j - 1, by omega, by
        rw [show a + 1 + (j - 1) = a + j by omega]; exact hfree⟩
      refine ⟨j1 + 1, by omega, ?_, ?_, ?_⟩
      · simp only [firstFree, hc, if_true]
        rw [ofNat_succ, hff, show a + 1 + j1 = a + (j1 + 1) by omega]
      · rw [show a + (j1 + 1) = a + 1 + j1 by omega]; exact hfr
      · intro j' hj'
        cases j' with
        | zero => exact hc
        | succ j'' =>
          rw [show a + (j'' + 1) = a + 1 + j'' by omega]
          exact hall j'' (by omega)

/-- pigeonhole: a table with `len` keys cannot contain all of the `len + 1` integer keys
    `len, …, len + len` -/
theorem exists_free_candidate (hofInt : ∀ i, ck (ofInt i) = OVal.int i) (l : List (W × W))
    (hb : 2 * l.length + 1 < 2 ^ 63) :
    ∃ j, j < l.length + 1 ∧ specContains ck l (ofInt (Int64.ofNat (l.length + j))) = false := by
  apply Classical.byContradiction
  intro hno
  have hall : ∀ j, j < l.length + 1 →
      specContains ck l (ofInt (Int64.ofNat (l.length + j))) = true := by
    intro j hj
    cases hc : specContains ck l (ofInt (Int64.ofNat (l.length + j))) with
    | true => rfl
    | false => exact absurd ⟨j, hj, hc⟩ hno
  let cand : List OVal :=
    (List.range (l.length + 1)).map (fun j => OVal.int (Int64.ofNat (l.length + j)))
  have hnd : cand.Nodup := by
    show ((List.range (l.length + 1)).map _).Nodup
    rw [List.nodup_iff_pairwise_ne, List.pairwise_map]
    refine List.Pairwise.imp_of_mem ?_ (List.pairwise_lt_range (n := l.length + 1))
    intro a b ha hb' hab heq
    rw [List.mem_range] at ha hb'
    have := ofNat_inj_small (by omega) (by omega) (OVal.int.inj heq)
    omega
  have hsub : cand ⊆ ckeys ck l := by
    intro c hc
    obtain ⟨j, hj, rfl⟩ := List.mem_map.mp hc
    rw [List.mem_range] at hj
    have := (specContains_iff l _).mp (hall j hj)
    rw [hofInt] at this
    exact this
  have hlen := hnd.length_le_of_subset hsub
  have h1 : cand.length = l.length + 1 := by
    show ((List.range (l.length + 1)).map _).length = _
    rw [List.length_map, List.length_range]
  have h2 : (ckeys ck l).length = l.length := by unfold ckeys; rw [List.length_map]
  omega

/-- **the key of `append`** (specification level): it is `n` for the least natural number
    `n ≥ len` such that the integer key `n` is unused; `n ≤ 2·len`, so the bounded search of
    `len + 1` probes always suffices. -/
theorem specAppendKey_least (hofInt : ∀ i, ck (ofInt i) = OVal.int i) (l : List (W × W))
    (hb : 2 * l.length + 1 < 2 ^ 63) :
    ∃ n, specAppendKey ck ofInt l = Int64.ofNat n ∧ l.length ≤ n ∧ n ≤ 2 * l.length ∧
      specContains ck l (ofInt (Int64.ofNat n)) = false ∧
      ∀ j, l.length ≤ j → j < n → specContains ck l (ofInt (Int64.ofNat j)) = true := by
  obtain ⟨j, hj, hff, hfr, hall⟩ :=
    firstFree_spec (ck := ck) (ofInt := ofInt) l (l.length + 1) l.length
      (exists_free_candidate hofInt l hb)
  refine ⟨l.length + j, hff, by omega, by omega, hfr, ?_⟩
  intro j' h1 h2
  have := hall (j' - l.length) (by omega)
  rw [show l.length + (j' - l.length) = j' by omega] at this
  exact this

/-- the same, in terms of the (signed) order of `Int64`: the key of `append` is the least
    `i ≥ len` such that the integer key `i` is unused -/
theorem specAppendKey_least_int (hofInt : ∀ i, ck (ofInt i) = OVal.int i) (l : List (W × W))
    (hb : 2 * l.length + 1 < 2 ^ 63) :
    Int64.ofNat l.length ≤ specAppendKey ck ofInt l ∧
    specContains ck l (ofInt (specAppendKey ck ofInt l)) = false ∧
    ∀ i : Int64, Int64.ofNat l.length ≤ i → i < specAppendKey ck ofInt l →
      specContains ck l (ofInt i) = true := by
  obtain ⟨n, hn, h1, h2, hfree, hall⟩ := specAppendKey_least hofInt l hb
  rw [hn]
  have hln : (Int64.ofNat l.length).toInt = l.length := Int64.toInt_ofNat_of_lt (by omega)
  have hnn : (Int64.ofNat n).toInt = n := Int64.toInt_ofNat_of_lt (by omega)
  refine ⟨?_, hfree, ?_⟩
  · rw [Int64.le_iff_toInt_le, hln, hnn]; omega
  · intro i hi1 hi2
    rw [Int64.le_iff_toInt_le, hln] at hi1
    rw [Int64.lt_iff_toInt_lt, hnn] at hi2
    have hi : i = Int64.ofNat i.toInt.toNat := by
      rw [← Int64.ofInt_eq_ofNat, Int.toNat_of_nonneg (by omega), Int64.ofInt_toInt]
    rw [hi]
    exact hall _ (by omega) (by omega)

end AppendKey

/-! ## The sentences of the property -/

section Corollaries
variable {ck : W → OVal} {weq : W → W → Bool}

theorem specGet_insert (l : List (W × W)) (k v k' : W) :
    specGet ck (specInsert ck l k v) k' = if ck k' = ck k then some v else specGet ck l k' := by
  have hg : ∀ (x : List (W × W)), specGet ck x k' = (findC ck x (ck k')).map (·.2) := fun _ => rfl
  have hcf : specContains ck l k = (findC ck l (ck k)).isSome := rfl
  unfold specInsert
  rw [hcf, hg, hg]
  cases hf : findC ck l (ck k) with
  | some e0 =>
    simp only [Option.isSome_some, if_true]
    rw [show specSet ck l k v = setVal (ck := ck) (ck k) v l from rfl,
      findC_setVal_present hf v (ck k')]
    by_cases hc : ck k' = ck k <;> simp [hc]
  | none =>
    simp only [Option.isSome_none, Bool.false_eq_true, if_false]
    rw [findC_concat_new (e := (k, v)) hf (ck k')]
    by_cases hc : ck k' = ck k <;> simp [hc]

/-- **set then get**: after a successful `t[k] = v`, reading through *any* key equal to `k`
    returns `v`, and every other key reads as before. -/
theorem get_after_insert (hweq : ∀ a b, weq a b = true ↔ ck a = ck b) {t : TableM W}
    (h : TInv ck t) (k v : W) (al : Alloc) (hok : (t.insert ck k v al).2.2 ≠ .allocErr) :
    (∀ k', weq k' k = true → (t.insert ck k v al).1.get ck k' = some v) ∧
    (∀ k', weq k' k = false → (t.insert ck k v al).1.get ck k' = t.get ck k') := by
  have hR := TInv_Rel h
  rcases rel_insert_cases hR k v al with ⟨_, hR'⟩ | ⟨he, _⟩
  · constructor
    · intro k' hk'
      rw [rel_get hR', specGet_insert, if_pos ((hweq k' k).mp hk')]
    · intro k' hk'
      have : ¬ ck k' = ck k := fun hc => by rw [(hweq k' k).mpr hc] at hk'; cases hk'
      rw [rel_get hR', specGet_insert, if_neg this, rel_get hR]
  · exact absurd he hok

/-- **a missing key reads as nil**: `get` returns `none` (and `contains` is false) exactly when no
    key of the table equals `k` -/
theorem get_missing {t : TableM W} (h : TInv ck t) (k : W) :
    (t.get ck k = none ↔ ∀ k0 ∈ t.keys, ck k0 ≠ ck k) ∧
    (t.contains ck k = false ↔ ∀ k0 ∈ t.keys, ck k0 ≠ ck k) := by
  have hR := TInv_Rel h
  have hiff : findC ck (abs ck t) (ck k) = none ↔ ∀ k0 ∈ t.keys, ck k0 ≠ ck k := by
    rw [findC_none, hR.2.1]
    constructor
    · intro hh k0 hk0
      obtain ⟨e, he, rfl⟩ := List.mem_map.mp hk0
      exact hh e he
    · intro hh e he
      exact hh e.1 (List.mem_map.mpr ⟨e, he, rfl⟩)
  rw [← hiff]
  constructor
  · rw [rel_get hR]
    show (findC ck (abs ck t) (ck k)).map (·.2) = none ↔ _
    cases findC ck (abs ck t) (ck k) <;> simp
  · rw [rel_contains hR]
    show (findC ck (abs ck t) (ck k)).isSome = false ↔ _
    cases findC ck (abs ck t) (ck k) <;> simp

theorem get_after_remove (hweq : ∀ a b, weq a b = true ↔ ck a = ck b) {t : TableM W}
    (h : TInv ck t) (k k' : W) :
    (t.remove ck weq k).1.get ck k' = if weq k' k then none else t.get ck k' := by
  have hR := TInv_Rel h
  obtain ⟨t', hrem, hR', _⟩ := rel_remove hweq hR k
  rw [hrem]
  simp only
  rw [rel_get hR', rel_get hR]
  show (findC ck (specRemove ck (abs ck t) k) (ck k')).map (·.2) =
    if weq k' k = true then none else (findC ck (abs ck t) (ck k')).map (·.2)
  unfold specRemove
  rw [findC_filter]
  cases hw : weq k' k with
  | true => rw [if_pos ((hweq k' k).mp hw)]; rfl
  | false =>
    have : ¬ ck k' = ck k := fun hc => by rw [(hweq k' k).mpr hc] at hw; cases hw
    rw [if_neg this]; rfl

/-- **length counts distinct keys**: the canonical keys of `keys` enumerate, without repetition,
    exactly the keys the table contains, and `len` is their number (which is also the entry count
    of the hash part and the length of the iteration). -/
theorem len_counts_keys {t : TableM W} (h : TInv ck t) :
    (t.keys.map ck).Nodup ∧ (∀ k, t.contains ck k = true ↔ ck k ∈ t.keys.map ck) ∧
    t.len = (t.keys.map ck).length ∧ t.len = t.map.count ∧ t.len = (t.iter ck).length := by
  have hR := TInv_Rel h
  refine ⟨h.2.1, ?_, by rw [List.length_map]; rfl, h.2.2.2.symm, rel_len hR⟩
  intro k
  rw [rel_contains hR, specContains_iff, ckeys_eq, ← hR.2.1]

theorem len_after_insert {t : TableM W} (h : TInv ck t) (k v : W) (al : Alloc)
    (hok : (t.insert ck k v al).2.2 ≠ .allocErr) :
    (t.insert ck k v al).1.len = if t.contains ck k then t.len else t.len + 1 := by
  have hR := TInv_Rel h
  rcases rel_insert_cases hR k v al with ⟨_, hR'⟩ | ⟨he, _⟩
  · rw [rel_len hR', rel_len hR, rel_contains hR]
    unfold specInsert
    cases specContains ck (abs ck t) k with
    | true =>
      simp only [if_true]
      show (List.map _ _).length = _
      rw [List.length_map]
    | false => simp
  · exact absurd he hok

/-- **append**: `append v` is `t[i] = v` for the key `i = appendKey`, which is the least integer
    `≥ len` (in the order of `Int64`) that is not a key of the table. The bounded search loop of
    `len + 1` probes suffices by pigeonhole (`exists_free_candidate`); the side condition
    excludes `Int64` wrap-around of the candidates `len … 2·len`. -/
theorem append_key_min {ofInt : Int64 → W} (hofInt : ∀ i, ck (ofInt i) = OVal.int i)
    {t : TableM W} (h : TInv ck t) (hb : 2 * t.keys.length + 1 < 2 ^ 63) :
    (∀ v al, t.append ck ofInt v al = t.insert ck (ofInt (t.appendKey ck ofInt)) v al) ∧
    Int64.ofNat t.len ≤ t.appendKey ck ofInt ∧
    t.contains ck (ofInt (t.appendKey ck ofInt)) = false ∧
    (∀ i : Int64, Int64.ofNat t.len ≤ i → i < t.appendKey ck ofInt →
      t.contains ck (ofInt i) = true) ∧
    (∃ n, t.appendKey ck ofInt = Int64.ofNat n ∧ t.len ≤ n ∧ n ≤ 2 * t.len) := by
  have hR := TInv_Rel h
  have hlen := rel_len hR
  have hb' : 2 * (abs ck t).length + 1 < 2 ^ 63 := by
    rw [← hlen]; exact hb
  obtain ⟨h1, h2, h3⟩ := specAppendKey_least_int (ofInt := ofInt) hofInt (abs ck t) hb'
  obtain ⟨n, hn, hn1, hn2, _⟩ := specAppendKey_least (ofInt := ofInt) hofInt (abs ck t) hb'
  refine ⟨fun _ _ => rfl, ?_⟩
  rw [rel_appendKey hR, hlen]
  refine ⟨h1, by rw [rel_contains hR]; exact h2, ?_, n, hn, hn1, hn2⟩
  intro i hi1 hi2
  rw [rel_contains hR]; exact h3 i hi1 hi2

theorem append_stores {ofInt : Int64 → W} (hofInt : ∀ i, ck (ofInt i) = OVal.int i)
    (hweq : ∀ a b, weq a b = true ↔ ck a = ck b)
    {t : TableM W} (h : TInv ck t) (hb : 2 * t.keys.length + 1 < 2 ^ 63) (v : W) (al : Alloc)
    (hok : (t.append ck ofInt v al).2.2 ≠ .allocErr) :
    (t.append ck ofInt v al).1.get ck (ofInt (t.appendKey ck ofInt)) = some v ∧
    (t.append ck ofInt v al).1.len = t.len + 1 ∧
    (t.append ck ofInt v al).1.iter ck = t.iter ck ++ [(ofInt (t.appendKey ck ofInt), v)] := by
  obtain ⟨_, _, hfree, _⟩ := append_key_min hofInt h hb
  have hR := TInv_Rel h
  refine ⟨?_, ?_, ?_⟩
  · exact (get_after_insert hweq h _ v al hok).1 _ ((hweq _ _).mpr rfl)
  · have := len_after_insert h (ofInt (t.appendKey ck ofInt)) v al hok
    rw [hfree] at this
    exact this
  · rcases rel_insert_cases hR (ofInt (t.appendKey ck ofInt)) v al with ⟨_, hR'⟩ | ⟨he, _⟩
    · have := rel_iter hR'
      rw [rel_contains hR] at hfree
      simp only [specInsert, hfree, Bool.false_eq_true, if_false] at this
      exact this
    · exact absurd he hok

/-- **pop** removes and returns the most recently inserted entry's value (`nil` when the table is
    empty); afterwards that key is absent, and the remaining entries, their values and their order
    are unchanged. -/
theorem pop_spec (nilW : W) {t : TableM W} (h : TInv ck t) :
    (t.iter ck = [] → t.pop ck nilW = (t, .ok nilW)) ∧
    (∀ l0 k v, t.iter ck = l0 ++ [(k, v)] →
      ∃ t', t.pop ck nilW = (t', .ok v) ∧ TInv ck t' ∧ t'.iter ck = l0 ∧
        t'.get ck k = none ∧ t'.contains ck k = false ∧ t'.len + 1 = t.len ∧
        ∀ k', ck k' ≠ ck k → t'.get ck k' = t.get ck k') := by
  have hR := TInv_Rel h
  constructor
  · intro hnil
    have hk : t.keys = [] := by rw [hR.2.1]; show (t.iter ck).map _ = _; rw [hnil]; rfl
    simp only [TableM.pop, hk, List.getLast?_nil]
  · intro l0 k v hl
    obtain ⟨t', hpop, hR', _⟩ := rel_pop hR nilW
    have habs : abs ck t = l0 ++ [(k, v)] := hl
    have hsp : specPop nilW (abs ck t) = (l0, v) := by
      rw [habs]; simp only [specPop, List.getLast?_concat, List.dropLast_concat]
    rw [hsp] at hpop hR'
    have hnd := hR.2.2.1
    rw [habs] at hnd
    have hfd := fun c => findC_dropLast (ck := ck) (l := l0) (e := (k, v)) hnd c
    have hgk : findC ck l0 (ck k) = none := by rw [hfd]; simp
    refine ⟨t', hpop, Rel_TInv hR', rel_iter hR', ?_, ?_, ?_, ?_⟩
    · rw [rel_get hR']; show (findC ck l0 (ck k)).map (·.2) = none; rw [hgk]; rfl
    · rw [rel_contains hR']; show (findC ck l0 (ck k)).isSome = false; rw [hgk]; rfl
    · rw [rel_len hR', rel_len hR, habs]; simp
    · intro k' hk'
      rw [rel_get hR', rel_get hR, habs]
      show (findC ck l0 (ck k')).map (·.2) = (findC ck (l0 ++ [(k, v)]) (ck k')).map (·.2)
      rw [hfd, if_neg hk']

/-- **row-by-index and for-each visit every entry exactly once in insertion order**: the keys of
    `iter` are `keys` (insertion order), `nthKey i` is the key of the `i`-th element of `iter`,
    `iter` has no duplicate canonical keys and lists exactly the present entries. -/
theorem nth_iter_order (nilW : W) {t : TableM W} (h : TInv ck t) :
    (t.iter ck).map Prod.fst = t.keys ∧
    (∀ i, t.nthKey nilW i = ((t.iter ck).map Prod.fst).getD i nilW) ∧
    ((t.iter ck).map (fun e => ck e.1)).Nodup ∧
    (∀ k v, t.get ck k = some v ↔ ∃ k0, (k0, v) ∈ t.iter ck ∧ ck k0 = ck k) ∧
    (t.iter ck).length = t.len := by
  have hR := TInv_Rel h
  refine ⟨hR.2.1.symm, fun i => rel_nth hR nilW i, hR.2.2.1, ?_, (rel_len hR).symm⟩
  intro k v
  rw [rel_get hR]
  show (findC ck (abs ck t) (ck k)).map (·.2) = some v ↔ _
  constructor
  · intro hg
    cases hf : findC ck (abs ck t) (ck k) with
    | none => rw [hf] at hg; cases hg
    | some e =>
      rw [hf] at hg
      simp only [Option.map_some, Option.some.injEq] at hg
      obtain ⟨he, hc⟩ := findC_some hf
      exact ⟨e.1, by rw [← hg]; exact he, hc⟩
  · rintro ⟨k0, hm, hc⟩
    have := findC_of_mem hR.2.2.1 hm
    simp only at this
    rw [← hc, this]; rfl

theorem nth_in_range (nilW : W) {t : TableM W} (h : TInv ck t) (i : Nat)
    (hi : i < (t.iter ck).length) : t.nthKey nilW i = ((t.iter ck)[i]).1 := by
  rw [(nth_iter_order nilW h).2.1 i, List.getD_eq_getElem?_getD, List.getElem?_map,
    List.getElem?_eq_getElem hi]
  rfl

end Corollaries

/-! ## Non-vacuity -/

section Example

/-- an instantiation that satisfies `hweq`: keys are their own canonical form (the driver's `weq := OVal.veq F` does not) -/
example :
    (∀ a b : OVal, (fun a b => decide (a = b)) a b = true ↔ id a = id b) ∧
    (∀ i : Int64, id (OVal.int i) = OVal.int i) ∧
    (∃ t : TableM OVal, TInv id t ∧ abs id t = [] ∧ t.len = 0) := by
  refine ⟨by intro a b; simp, fun _ => rfl, ?_⟩
  have hw : (TableM.withCapacity 4 {} : Alloc × Res (TableM OVal)) =
      ({ n := 1 }, .ok { map := { cap := 4, slots := OA.empty, count := 0 }, keys := [] }) := rfl
  have := tbl_withCapacity_inv (W := OVal) (ck := id) 4 {}
  rw [hw] at this
  exact ⟨_, this.1, this.2, rfl⟩

/-- a concrete run: a failed allocation, inserts, appends (the third `append`, at length 1, skips
    the used key `1`), overwrites that keep the position, ordered iteration, `pop`, `nth`,
    `remove`. The expected outputs are computed from the specification (`rfl`); `tbl_refines`
    transfers them to the code-shaped model (whose growth step `OA.compact` does not reduce in the
    kernel). -/
private def exOps : List (Op OVal) :=
  [.insert (.str [97]) (.int 1) (some 0), .len,
   .insert (.str [97]) (.int 1) none, .append (.int 10) none, .insert (.int 1) (.int 11) none,
   .append (.int 12) none, .insert (.str [97]) (.int 2) none, .get (.str [97]), .len, .iter,
   .pop, .nth 0, .remove (.str [97]), .iter, .append (.int 13) none, .iter, .get (.nil),
   .pop, .pop, .pop, .len]

private def exOuts : List (Out OVal) :=
  [.allocErr, .num 0,
   .unit, .unit, .unit, .unit, .unit, .value (some (.int 2)), .num 3,
   .items [(.str [97], .int 2), (.int 1, .int 11), (.int 2, .int 12)],
   .popped (.int 12), .key (.str [97]), .unit, .items [(.int 1, .int 11)], .unit,
   .items [(.int 1, .int 11), (.int 2, .int 13)], .value none,
   .popped (.int 13), .popped (.int 11), .popped .nil, .num 0]

example : ∃ (t : TableM OVal) (al' : Alloc), TableM.withCapacity 0 {} = (al', .ok t) ∧
    runModel OVal.nil OVal.int id (fun a b => decide (a = b)) t exOps = exOuts := by
  refine ⟨{ map := { cap := 1, slots := OA.empty, count := 0 }, keys := [] }, { n := 1 }, rfl, ?_⟩
  exact (tbl_refines (ck := id) (weq := fun a b => decide (a = b)) OVal.nil OVal.int
    (by intro a b; simp) 0 {} { n := 1 } _ rfl exOps).trans rfl

end Example

end Cao.C07
