import CaoProofs.Lemmas.SchedRel
/-!
# Schedule independence, all instructions: the allocation layer and the primitives

* `schedCore_allocPure`: an allocation leaves the machine as it was, up to garbage and the allocator's
  own fields; `allocPure_core`: one allocation under two schedules — same outcome (it is decided by
  the live size), and afterwards the two heaps agree on what is reachable *then* (`Core.congr`);
* `w2_initTable`, `w2_initString`, `w2_initSimple`, `w2_tableInsert`: the allocating operations;
  their post-condition hands out the run equations, so that the unary frame lemmas of
  `Lemmas/NativeLemmas.lean` (`Grown`) apply;
* the two-run rules for the stack, frame, table and guard primitives;
* `Priv`: a table that the code has made and not yet handed over, with the rules for the steps of its construction.
-/
namespace Cao.SchedFull
open Cao Cao.Vm Cao.Gc Cao.C02 Cao.C05 Cao.RunInv Cao.Native

section alloc
variable {c : Cfg} {K : Nat → Prop} {s t : VmState}

theorem Core.liveCharge_eq (h : Core c K s t) : liveCharge t = liveCharge s := by
  obtain ⟨e1, m1⟩ := C05.liveCharge_eq s
  obtain ⟨e2, m2⟩ := C05.liveCharge_eq t
  rw [e1, e2]
  apply List.Perm.sum_nat
  apply List.Perm.map
  have nodup : ∀ {hp : Heap}, UniqueAddrs hp → hp.objs.Nodup :=
    fun hu => List.Pairwise.of_map _ (fun _ _ hne e => hne (congrArg _ e)) hu
  rw [List.perm_ext_iff_of_nodup (List.Nodup.sublist List.filter_sublist (nodup h.uniqR))
    (List.Nodup.sublist List.filter_sublist (nodup h.uniqL))]
  intro p
  rw [m2, m1]
  constructor
  · rintro ⟨hp, hr⟩
    obtain ⟨hr', hk⟩ := h.reachL hr
    have := get_of_mem h.uniqR hp
    rw [h.agree p.1 hk] at this
    exact ⟨mem_of_get this, hr'⟩
  · rintro ⟨hp, hr⟩
    have := get_of_mem h.uniqL hp
    rw [← h.agree p.1 (h.reachK hr)] at this
    exact ⟨mem_of_get this, h.reachR hr⟩

theorem schedCore_allocPure (ch : Nat) (s : VmState) (hu : UniqueAddrs s.heap) (hf : FreshNext s.heap) :
    SchedSim.SchedCore s (allocPure ch s).2 := by
  obtain ⟨l, r, d, g, f⟩ := allocPure_counters ch s
  have u := allocBytes_unique ch s hu hf
  rw [allocBytes_run] at u
  exact ⟨allocPure_obs ch s, l, r, d, g, f, hu, u.1, hf, u.2⟩

theorem allocPure_core (ch p : Nat) (h : Core c K s t) (l₁ : LedgerP s p) (l₂ : LedgerP t p) :
    (allocPure ch t).1 = (allocPure ch s).1 ∧
    Core c (R (allocPure ch s).2) (allocPure ch s).2 (allocPure ch t).2 :=
  ⟨by rw [allocPure_fst ch s p l₁, allocPure_fst ch t p l₂, h.liveCharge_eq, h.limit],
   h.congr (schedCore_allocPure ch s h.uniqL h.freshL) (schedCore_allocPure ch t h.uniqR h.freshR)⟩

theorem refund_core (ch : Nat) (h : Core c K s t) : Core c K (refund ch s) (refund ch t) :=
  { h with limit := h.limit }

theorem withObject_core (o : Obj) (hk : Heap.children o = []) (h : Core c K s t) :
    Core c (fun a => a = s.heap.next ∨ K a) (withObject o s) (withObject o t) :=
  { stack := h.stack, globals := h.globals, frames := h.frames, openUpvalues := h.openUpvalues
    guards := by show t.heap.next :: t.guards = s.heap.next :: s.guards; rw [h.next, h.guards]
    next := by show t.heap.next + 1 = s.heap.next + 1; rw [h.next]
    limit := h.limit, remaining := h.remaining, dispatches := h.dispatches, hostLog := h.hostLog
    frameCap := h.frameCap
    uniqL := (withObject_unique o s h.uniqL h.freshL).1
    uniqR := (withObject_unique o t h.uniqR h.freshR).1
    freshL := (withObject_unique o s h.uniqL h.freshL).2
    freshR := (withObject_unique o t h.uniqR h.freshR).2
    rootsK := by
      intro a ha
      rcases (mem_rootAddrs _ a).mp ha with h1 | h1 | h1 | h1 | h1
      · exact Or.inr (h.vk_stack h1 a rfl)
      · exact Or.inr (h.vk_global h1 a rfl)
      · obtain ⟨f, hf, hfa⟩ := List.mem_filterMap.mp h1
        exact Or.inr (h.k_frame hf hfa)
      · exact Or.inr (h.k_upv h1)
      · exact (List.mem_cons.mp h1).imp id h.k_guard
    closed := by
      intro a o' b ha ho hc
      by_cases hn : a = s.heap.next
      · subst hn
        rw [get_withObject_new o s h.freshL] at ho
        cases ho
        rw [hk] at hc; cases hc
      · rw [get_withObject_old o s a hn] at ho
        rcases ha with ha | ha
        · exact absurd ha hn
        · exact Or.inr (h.closed a o' b ha ho hc)
    agree := by
      intro a ha
      by_cases hn : a = s.heap.next
      · subst hn
        rw [get_withObject_new o s h.freshL, ← h.next, get_withObject_new o t h.freshR]
      · rw [get_withObject_old o s a hn, get_withObject_old o t a (by rw [h.next]; exact hn)]
        rcases ha with ha | ha
        · exact absurd ha hn
        · exact h.agree a ha }

theorem alloc2Pure_core (c1 c2 : Nat) (o : Obj) (hk : Heap.children o = []) (h : Agree c K s t) :
    (alloc2Pure c1 c2 o t).1 = (alloc2Pure c1 c2 o s).1 ∧
    ∃ K', Core c K' (alloc2Pure c1 c2 o s).2 (alloc2Pure c1 c2 o t).2 := by
  unfold alloc2Pure
  obtain ⟨e1, k1⟩ := allocPure_core c1 0 h.toCore h.invL.ledger h.invR.ledger
  rcases h1 : allocPure c1 s with ⟨r1, s1⟩
  rcases h1' : allocPure c1 t with ⟨r1', t1⟩
  simp only [h1, h1'] at e1 k1
  subst e1
  cases r1' with
  | error e => exact ⟨rfl, _, k1⟩
  | ok u =>
    have l1 := allocBytes_ok_ledgerP c1 s s1 0 u ((allocBytes_run c1 s).trans h1) h.invL.ledger
    have l1' := allocBytes_ok_ledgerP c1 t t1 0 u ((allocBytes_run c1 t).trans h1') h.invR.ledger
    dsimp only
    obtain ⟨e2, k2⟩ := allocPure_core c2 (0 + c1) k1 l1 l1'
    rcases h2 : allocPure c2 s1 with ⟨r2, s2⟩
    rcases h2' : allocPure c2 t1 with ⟨r2', t2⟩
    simp only [h2, h2'] at e2 k2
    subst e2
    cases r2' with
    | error e => exact ⟨rfl, _, refund_core c1 k2⟩
    | ok u =>
      refine ⟨?_, _, withObject_core o hk k2⟩
      show Except.ok t2.heap.next = Except.ok s2.heap.next
      rw [k2.next]

theorem alloc1Pure_core (c1 : Nat) (o : Obj) (hk : Heap.children o = []) (h : Agree c K s t) :
    (alloc1Pure c1 o t).1 = (alloc1Pure c1 o s).1 ∧
    ∃ K', Core c K' (alloc1Pure c1 o s).2 (alloc1Pure c1 o t).2 := by
  unfold alloc1Pure
  obtain ⟨e1, k1⟩ := allocPure_core c1 0 h.toCore h.invL.ledger h.invR.ledger
  rcases h1 : allocPure c1 s with ⟨r1, s1⟩
  rcases h1' : allocPure c1 t with ⟨r1', t1⟩
  simp only [h1, h1'] at e1 k1
  subst e1
  cases r1' with
  | error e => exact ⟨rfl, _, k1⟩
  | ok u =>
    refine ⟨?_, _, withObject_core o hk k1⟩
    show Except.ok t1.heap.next = Except.ok s1.heap.next
    rw [k1.next]

/-- from `Core` back to `W2`, for a computation that suspends the accounting invariant on its way (an
    allocation); the post-condition gets the run equations, so that unary facts about the
    computation apply -/
theorem w2_of_core {α : Type} {Q : α → α → VmState → VmState → Prop} (m : M α)
    (hcore : (m.go t).1 = (m.go s).1 ∧ ∃ K', Core c K' (m.go s).2 (m.go t).2)
    (i1 : C05.Inv (m.go s).2) (i2 : C05.Inv (m.go t).2)
    (hq : ∀ a s' t', m.go s = (.ok a, s') → m.go t = (.ok a, t') → Agree c (R s') s' t' → Q a a s' t') :
    W2 c m m Q s t := by
  obtain ⟨e, K', hc⟩ := hcore
  rcases h1 : m.go s with ⟨r1, s'⟩
  rcases h2 : m.go t with ⟨r2, t'⟩
  rw [h1, h2] at e hc
  rw [h1] at i1
  rw [h2] at i2
  dsimp only at e hc i1 i2
  subst e
  have hA : Agree c (R s') s' t' := Agree.toR { hc with invL := i1, invR := i2 }
  cases r2 with
  | error e => exact w2_of_go_err h1 h2 hA.rel
  | ok a => exact w2_of_go h1 h2 (hq a s' t' h1 h2 hA)

theorem w2_initTable {Q : Nat → Nat → VmState → VmState → Prop} (h : Agree c K s t)
    (hq : ∀ a s' t', initTable.go s = (.ok a, s') → initTable.go t = (.ok a, t') → Agree c (R s') s' t' →
      Q a a s' t') :
    W2 c initTable initTable Q s t := by
  refine w2_of_core initTable ?_ (initTable_inv s h.invL) (initTable_inv t h.invR) hq
  rw [show initTable.go s = _ from initTable_run s, show initTable.go t = _ from initTable_run t]
  exact alloc2Pure_core _ _ _ rfl h

theorem w2_initString {Q : Nat → Nat → VmState → VmState → Prop} (b : List UInt8) (h : Agree c K s t)
    (hq : ∀ a s' t', (initString b).go s = (.ok a, s') → (initString b).go t = (.ok a, t') →
      Agree c (R s') s' t' → Q a a s' t') :
    W2 c (initString b) (initString b) Q s t := by
  refine w2_of_core (initString b) ?_ (initString_inv b s h.invL) (initString_inv b t h.invR) hq
  rw [show (initString b).go s = _ from initString_run b s,
    show (initString b).go t = _ from initString_run b t]
  exact alloc2Pure_core _ _ _ rfl h

theorem w2_initSimple {Q : Nat → Nat → VmState → VmState → Prop} (o : Obj) (hk : Heap.children o = [])
    (ho : Heap.chargeOf o = Heap.objCharge) (h : Agree c K s t)
    (hq : ∀ a s' t', (initSimple o).go s = (.ok a, s') → (initSimple o).go t = (.ok a, t') →
      Agree c (R s') s' t' → Q a a s' t') :
    W2 c (initSimple o) (initSimple o) Q s t := by
  refine w2_of_core (initSimple o) ?_ (initSimple_inv o s ho h.invL) (initSimple_inv o t ho h.invR) hq
  rw [show (initSimple o).go s = _ from initSimple_run o s,
    show (initSimple o).go t = _ from initSimple_run o t]
  exact alloc1Pure_core _ _ hk h

theorem initSimple_reach {o : Obj} {s s' : VmState} {a : Nat} (h : (initSimple o).go s = (.ok a, s')) :
    R s' a := reach_of_guard (initSimple_guards h ▸ List.mem_cons_self)
theorem initTable_reach {s s' : VmState} {a : Nat} (h : initTable.go s = (.ok a, s')) : R s' a :=
  reach_of_guard (initTable_guards h ▸ List.mem_cons_self)
theorem initString_reach {b : List UInt8} {s s' : VmState} {a : Nat}
    (h : (initString b).go s = (.ok a, s')) : R s' a :=
  reach_of_guard (initString_guards h ▸ List.mem_cons_self)

/-! ## `tableInsert` -/

theorem map_overwrite_kids {h : Heap} {es : List (Val × Val)} {ck : OVal} {v : Val} {b : Nat}
    (hb : Val.obj b ∈ Heap.children (.table 0 (es.map (fun e => if decide (ownD h e.1 = ck) then (e.1, v) else e)))) :
    Val.obj b = v ∨ Val.obj b ∈ Heap.children (.table 0 es) := by
  simp only [Heap.children, List.mem_flatMap, List.mem_map] at hb ⊢
  obtain ⟨e', ⟨e, he, rfl⟩, hbe⟩ := hb
  split at hbe
  · simp only [List.mem_cons, List.not_mem_nil, or_false] at hbe
    rcases hbe with hbe | hbe
    · exact Or.inr ⟨e, he, by simp [hbe]⟩
    · exact Or.inl hbe
  · exact Or.inr ⟨e, he, hbe⟩

theorem append_kids {es : List (Val × Val)} {k v : Val} {b : Nat}
    (hb : Val.obj b ∈ Heap.children (.table 0 (es ++ [(k, v)]))) :
    Val.obj b = k ∨ Val.obj b = v ∨ Val.obj b ∈ Heap.children (.table 0 es) := by
  simp only [Heap.children, List.flatMap_append, List.mem_append, List.mem_flatMap] at hb ⊢
  rcases hb with hb | ⟨e, he, hbe⟩
  · exact Or.inr (Or.inr hb)
  · simp only [List.mem_cons, List.not_mem_nil, or_false] at he
    subst he
    simp only [List.mem_cons, List.not_mem_nil, or_false] at hbe
    rcases hbe with hbe | hbe
    · exact Or.inl hbe
    · exact Or.inr (Or.inl hbe)

/-- **`tableInsert` into a reachable table, of a reachable key and value** (the insertion may
    allocate, and the allocation may collect): same outcome, and afterwards the heaps agree on
    what is reachable then -/
theorem tableInsertPure_core (a : Nat) (k v : Val) (h : Agree c K s t) (ha : R s a)
    (hk : VK (R s) k) (hv : VK (R s) v) :
    (tableInsertPure a k v t).1 = (tableInsertPure a k v s).1 ∧
    ∃ K', Core c K' (tableInsertPure a k v s).2 (tableInsertPure a k v t).2 := by
  have hR := h.toCore.toR
  unfold tableInsertPure
  rw [hR.agree a ha]
  cases hg : s.heap.get a with
  | none => exact ⟨rfl, _, h.toCore⟩
  | some o =>
    cases o with
    | table cap es =>
      dsimp only
      have hes : ∀ e ∈ es, VK (R s) e.1 ∧ VK (R s) e.2 := fun e he => hR.vk_entry ha hg he
      rw [hR.ownD_eq hk, hR.findEntry_eq (fun e he => (hes e he).1)]
      have hkids : ∀ b, Val.obj b ∈ Heap.children (.table 0 es) → R s b :=
        fun b hb => hR.closed a _ b ha hg hb
      split
      · refine ⟨rfl, R s, ?_⟩
        have e : (es.map (fun e => if decide (ownD t.heap e.1 = ownD s.heap k) then (e.1, v) else e)) =
            (es.map (fun e => if decide (ownD s.heap e.1 = ownD s.heap k) then (e.1, v) else e)) := by
          apply List.map_congr_left
          intro e he
          rw [hR.ownD_eq (hes e he).1]
        rw [e]
        exact hR.set a _ (fun _ _ _ b hb => by
          rcases map_overwrite_kids hb with h1 | h1
          · exact hv b h1.symm
          · exact hkids b h1)
      · split
        · obtain ⟨e1, k1⟩ := allocPure_core (Heap.tableCharge (HMap.growCap cap)) 0 hR h.invL.ledger h.invR.ledger
          have o1 := allocPure_obs (Heap.tableCharge (HMap.growCap cap)) s
          rcases h1 : allocPure (Heap.tableCharge (HMap.growCap cap)) s with ⟨r1, s1⟩
          rcases h1' : allocPure (Heap.tableCharge (HMap.growCap cap)) t with ⟨r1', t1⟩
          simp only [h1, h1'] at e1 k1 o1
          subst e1
          cases r1' with
          | error e => exact ⟨rfl, _, k1⟩
          | ok u =>
            refine ⟨rfl, R s1, ?_⟩
            have mono : ∀ b, R s b → R s1 b := fun b hb => (o1.reach_iff b).mpr hb
            exact (refund_core (Heap.tableCharge cap) k1).set a _ (fun _ _ _ b hb => by
              rcases append_kids hb with h1 | h1 | h1
              · exact mono b (hk b h1.symm)
              · exact mono b (hv b h1.symm)
              · exact mono b (hkids b h1))
        · refine ⟨rfl, R s, ?_⟩
          exact hR.set a _ (fun _ _ _ b hb => by
            rcases append_kids hb with h1 | h1 | h1
            · exact hk b h1.symm
            · exact hv b h1.symm
            · exact hkids b h1)
    | _ => exact ⟨rfl, _, h.toCore⟩

theorem w2_tableInsert {Q : Unit → Unit → VmState → VmState → Prop} (a : Nat) (k v : Val)
    (h : Agree c K s t) (ha : R s a) (hk : VK (R s) k) (hv : VK (R s) v)
    (hq : ∀ s' t', (tableInsert a k v).go s = (.ok (), s') → Agree c (R s') s' t' → Q () () s' t') :
    W2 c (tableInsert a k v) (tableInsert a k v) Q s t := by
  refine w2_of_core (tableInsert a k v) ?_ (tableInsert_inv a k v s h.invL ha)
    (tableInsert_inv a k v t h.invR (h.toCore.reachR ha)) (fun _ s' t' h1 _ hA => hq s' t' h1 hA)
  rw [show (tableInsert a k v).go s = _ from tableInsert_run a k v s,
    show (tableInsert a k v).go t = _ from tableInsert_run a k v t]
  exact tableInsertPure_core a k v h ha hk hv

end alloc

/-! ## the stack and frame primitives -/

section prims
variable {c : Cfg} {K : Nat → Prop} {s t : VmState}

theorem w2_peek {Q : Val → Val → VmState → VmState → Prop} (n : Nat) (h : Agree c K s t)
    (hq : ∀ v, v = s.stack.peekLast n → VK K v → Q v v s t) : W2 c (peek n) (peek n) Q s t := by
  refine w2_of_go (a := s.stack.peekLast n) (b := t.stack.peekLast n) rfl rfl ?_
  rw [h.stack.peekLast]
  exact hq _ rfl (h.vk_peek n)

/-- The rules for operations that change the state hand out the new states as variables (with the
    equation of the left one): the goal stays small however many operations follow. -/
theorem w2_pop {Q : Val → Val → VmState → VmState → Prop} (h : Agree c K s t)
    (hq : ∀ v s' t', s' = { s with stack := s.stack.pop.1 } → v = s.stack.pop.2 → VK K v →
      Agree c K s' t' → Q v v s' t') : W2 c pop pop Q s t := by
  refine w2_of_go (go_pop s) (go_pop t) ?_
  rw [h.stack.1.pop.2]
  exact hq _ _ _ rfl rfl h.vk_pop (h.stack_change (h.stack.map (fun x => x.pop.1) h.stack.1.pop.1)
    (fun v hv => h.vk_stack (mem_pop_contents hv)))

theorem w2_push {Q : Unit → Unit → VmState → VmState → Prop} (v : Val) (h : Agree c K s t) (hv : VK K v)
    (hq : ∀ s' t', s' = { s with stack := (s.stack.push v).1 } → Agree c K s' t' → Q () () s' t') :
    W2 c (push v) (push v) Q s t := by
  have e1 := go_push v s
  have e2 := go_push v t
  have hp : ∀ st : VStack Val, st.count + 1 < st.data.length →
      (⟨st.count + 1, st.data.set st.count v⟩ : VStack Val) = (st.push v).1 :=
    fun st hc => by unfold VStack.push; rw [if_pos hc]
  have hct : t.stack.count + 1 < t.stack.data.length ↔ s.stack.count + 1 < s.stack.data.length := by
    rw [h.stack.count, h.stack.cap]
  split at e1
  · next hc =>
    rw [if_pos (hct.2 hc), hp _ (hct.2 hc)] at e2
    rw [hp _ hc] at e1
    refine w2_of_go e1 e2 (hq _ _ rfl (h.stack_change (h.stack.map (fun x => (x.push v).1) (h.stack.1.push v).1)
      (fun w hw => ?_)))
    rcases mem_push_contents hw with rfl | hw
    · exact hv
    · exact h.vk_stack hw
  · next hc =>
    rw [if_neg (fun h' => hc (hct.1 h'))] at e2
    exact w2_of_go_err e1 e2 h.rel

theorem w2_popN {Q : PUnit → PUnit → VmState → VmState → Prop} (n : Nat) (h : Agree c K s t)
    (hq : ∀ s' t', s' = { s with stack := (s.stack.popN n).1 } → Agree c K s' t' → Q ⟨⟩ ⟨⟩ s' t') :
    W2 c (popN n) (popN n) Q s t :=
  w2_modify (hq _ _ rfl (h.stack_change (h.stack.map (fun x => (x.popN n).1) (h.stack.1.popN n))
    (fun _ hv => h.vk_stack (mem_popN_contents hv))))

theorem w2_dropGuard {Q : PUnit → PUnit → VmState → VmState → Prop} (a : Nat) (h : Agree c K s t)
    (hq : ∀ s' t', s' = { s with guards := s.guards.erase a } → Agree c K s' t' → Q ⟨⟩ ⟨⟩ s' t') :
    W2 c (dropGuard a) (dropGuard a) Q s t := by
  have e2 : (dropGuard a).go t = (.ok ⟨⟩, { t with guards := s.guards.erase a }) := by
    rw [← h.guards]; rfl
  exact w2_of_go (a := ⟨⟩) (s' := { s with guards := s.guards.erase a }) rfl e2
    (hq _ _ rfl (h.guards_change _ (fun x hx => h.k_guard (List.mem_of_mem_erase hx))))

theorem w2_guardVal {Q : PUnit → PUnit → VmState → VmState → Prop} (v : Val) (h : Agree c K s t)
    (hv : VK K v)
    (hq : Agree c K { s with guards := guardOf v ++ s.guards } { t with guards := guardOf v ++ s.guards } →
      Q ⟨⟩ ⟨⟩ { s with guards := guardOf v ++ s.guards } { t with guards := guardOf v ++ s.guards }) :
    W2 c (guardVal v) (guardVal v) Q s t := by
  have e2 : (guardVal v).go t = (.ok ⟨⟩, { t with guards := guardOf v ++ s.guards }) := by
    rw [go_guardVal, h.guards]
  refine w2_of_go (go_guardVal v s) e2 (hq (h.guards_change _ (fun x hx => ?_)))
  rcases List.mem_append.mp hx with hx | hx
  · cases v <;> simp [guardOf] at hx
    subst hx; exact hv _ rfl
  · exact h.k_guard hx

theorem w2_unguardVal {Q : PUnit → PUnit → VmState → VmState → Prop} (v : Val) (h : Agree c K s t)
    (hq : Agree c K { s with guards := unguard v s.guards } { t with guards := unguard v s.guards } →
      Q ⟨⟩ ⟨⟩ { s with guards := unguard v s.guards } { t with guards := unguard v s.guards }) :
    W2 c (unguardVal v) (unguardVal v) Q s t := by
  have e2 : (unguardVal v).go t = (.ok ⟨⟩, { t with guards := unguard v s.guards }) := by
    rw [go_unguardVal, h.guards]
  refine w2_of_go (go_unguardVal v s) e2 (hq (h.guards_change _ (fun x hx => ?_)))
  cases v with
  | obj a => exact h.k_guard (List.mem_of_mem_erase hx)
  | _ => exact h.k_guard hx

theorem w2_guardRows {Q : PUnit → PUnit → VmState → VmState → Prop} (es : List (Val × Val))
    (h : Agree c K s t) (hv : ∀ e ∈ es, VK K e.1 ∧ VK K e.2)
    (hq : Agree c K { s with guards := rowGuards es ++ s.guards } { t with guards := rowGuards es ++ s.guards } →
      Q ⟨⟩ ⟨⟩ { s with guards := rowGuards es ++ s.guards } { t with guards := rowGuards es ++ s.guards }) :
    W2 c (guardRows es) (guardRows es) Q s t := by
  have e2 : (guardRows es).go t = (.ok ⟨⟩, { t with guards := rowGuards es ++ s.guards }) := by
    rw [go_guardRows, h.guards]
  refine w2_of_go (go_guardRows es s) e2 (hq (h.guards_change _ (fun x hx => ?_)))
  rcases List.mem_append.mp hx with hx | hx
  · obtain ⟨e, he, h1 | h1⟩ := mem_rowGuards hx
    · exact (hv e he).1 _ h1
    · exact (hv e he).2 _ h1
  · exact h.k_guard hx

theorem w2_unguardRows {Q : PUnit → PUnit → VmState → VmState → Prop} (es : List (Val × Val))
    (h : Agree c K s t)
    (hq : Agree c K { s with guards := unrow es s.guards } { t with guards := unrow es s.guards } →
      Q ⟨⟩ ⟨⟩ { s with guards := unrow es s.guards } { t with guards := unrow es s.guards }) :
    W2 c (unguardRows es) (unguardRows es) Q s t := by
  have e2 : (unguardRows es).go t = (.ok ⟨⟩, { t with guards := unrow es s.guards }) := by
    rw [go_unguardRows, h.guards]
  exact w2_of_go (go_unguardRows es s) e2
    (hq (h.guards_change _ (fun x hx => h.k_guard (mem_of_mem_unrow es hx))))

theorem w2_getTable {Q : (Nat × Nat × List (Val × Val)) → (Nat × Nat × List (Val × Val)) →
      VmState → VmState → Prop} (v : Val) (h : Agree c K s t) (hv : VK K v)
    (hq : ∀ a cap es, v = .obj a → K a → s.heap.get a = some (.table cap es) →
      (∀ e ∈ es, VK K e.1 ∧ VK K e.2) → Q (a, cap, es) (a, cap, es) s t) :
    W2 c (getTable v) (getTable v) Q s t := by
  cases v with
  | obj a =>
    have ha : K a := hv a rfl
    have e1 : (getTable (.obj a)).go s = _ := getTable_run a s
    have e2 : (getTable (.obj a)).go t = _ := getTable_run a t
    rw [h.agree a ha] at e2
    cases hg : s.heap.get a with
    | none =>
      rw [hg] at e1 e2
      exact w2_of_go_err e1 e2 h.rel
    | some o =>
      rw [hg] at e1 e2
      cases o with
      | table cap es => exact w2_of_go e1 e2 (hq a cap es rfl ha hg (fun e he => h.vk_entry ha hg he))
      | _ => exact w2_of_go_err e1 e2 h.rel
  | _ => exact w2_of_go_err rfl rfl h.rel

theorem w2_curFrame {Q : Frame → Frame → VmState → VmState → Prop} (h : Agree c K s t)
    (hq : ∀ f, s.frames.getLast? = some f → f ∈ s.frames → Q f f s t) : W2 c curFrame curFrame Q s t := by
  have e1 := go_curFrame s
  have e2 := go_curFrame t
  rw [h.frames] at e2
  cases hf : s.frames.getLast? with
  | none => rw [hf] at e1 e2; exact w2_of_go_err e1 e2 h.rel
  | some f => rw [hf] at e1 e2; exact w2_of_go e1 e2 (hq f hf (List.mem_of_getLast? hf))

theorem w2_writeLocal {Q : PUnit → PUnit → VmState → VmState → Prop} (off hd : Nat) (v : Val)
    (h : Agree c K s t) (hv : VK K v)
    (hq : ∀ s' t', s' = { s with stack := (s.stack.set (off + hd) v).1 } → Agree c K s' t' → Q ⟨⟩ ⟨⟩ s' t') :
    W2 c (writeLocal off hd v) (writeLocal off hd v) Q s t := by
  have e1 := go_writeLocal off hd v s
  have e2 := go_writeLocal off hd v t
  rw [(h.stack.1.set (off + hd) v).2] at e2
  cases hr : (s.stack.set (off + hd) v).2 with
  | error e => rw [hr] at e1 e2; exact w2_of_go_err e1 e2 h.rel
  | ok x =>
    rw [hr] at e1 e2
    refine w2_of_go e1 e2 (hq _ _ rfl (h.stack_change (h.stack.map (fun x => (x.set (off + hd) v).1)
      (h.stack.1.set (off + hd) v).1) (fun w hw => ?_)))
    rcases mem_set_contents hw with rfl | hw
    · exact hv
    · exact h.vk_stack hw

theorem w2_readLocal {Q : Val → Val → VmState → VmState → Prop} (off hd : Nat) (h : Agree c K s t)
    (hq : ∀ v, VK K v → Q v v s t) : W2 c (readLocal off hd) (readLocal off hd) Q s t := by
  refine w2_of_go (a := s.stack.get (off + hd)) (b := t.stack.get (off + hd)) rfl rfl ?_
  rw [h.stack.1.get]
  exact hq _ (h.vk_get _)

theorem w2_tableGet {Q : Val → Val → VmState → VmState → Prop} (es : List (Val × Val)) (k : Val)
    (h : Agree c K s t) (hes : ∀ e ∈ es, VK K e.1 ∧ VK K e.2) (hk : VK K k)
    (hq : ∀ v, VK K v → Q v v s t) : W2 c (tableGet es k) (tableGet es k) Q s t := by
  refine w2_of_go (a := ((findEntry s.heap es (ownD s.heap k)).map (·.2)).getD .nil)
    (b := ((findEntry t.heap es (ownD t.heap k)).map (·.2)).getD .nil) rfl rfl ?_
  rw [h.ownD_eq hk, h.findEntry_eq (fun e he => (hes e he).1)]
  refine hq _ ?_
  unfold findEntry
  cases hf : es.find? (fun e => decide (ownD s.heap e.1 = ownD s.heap k)) with
  | none => exact VK.nil
  | some e => exact (hes e (List.mem_of_find?_eq_some hf)).2

theorem Agree.log (h : Agree c K s t) (x : String) :
    Agree c K { s with hostLog := s.hostLog ++ [x] } { t with hostLog := t.hostLog ++ [x] } :=
  h.reroot rfl rfl rfl rfl h.stack h.globals h.frames h.openUpvalues h.guards h.remaining
    h.dispatches (by show s.hostLog ++ [x] = c.pre ++ (t.hostLog ++ [x]); rw [h.hostLog, List.append_assoc])
    h.frameCap h.rootsK

end prims

/-! ## a table under construction

A host function or an instruction that returns a new table creates it, fills it and only then lets go of its guard.
In between the table belongs to the code: the guard alone keeps it alive, and every allocation on the way may
collect. `Priv s₀ G row s`: since `s₀` the machine has only grown (`Native.Grown`), the guards made since then are
`G`, in the order in which they were made, and `row`, one of them, is a table allocated after `s₀`. -/

structure Priv (s₀ : VmState) (G : List Nat) (row : Nat) (s : VmState) : Prop where
  grown : Grown s₀ s
  guards : s.guards = G ++ s₀.guards
  new : s₀.heap.next ≤ row
  mem : row ∈ G
  table : ∃ cap es, s.heap.get row = some (.table cap es)

section priv
variable {c : Cfg} {K : Nat → Prop} {s₀ s t : VmState} {G : List Nat} {row : Nat}

theorem Priv.reach (p : Priv s₀ G row s) {a : Nat} (ha : a ∈ G) : R s a :=
  reach_of_guard (by rw [p.guards]; exact List.mem_append_left _ ha)

theorem Priv.vk (p : Priv s₀ G row s) {v : Val} (hv : VK (R s₀) v) : VK (R s) v :=
  fun a e => p.grown.reach (hv a e)

theorem w2_newRow {Q : Nat → Nat → VmState → VmState → Prop} (h : Agree c K s t)
    (hq : ∀ row s' t', Agree c (R s') s' t' → Priv s [row] row s' → Q row row s' t') :
    W2 c initTable initTable Q s t := by
  refine w2_initTable h fun row s' t' go _ hA => hq row s' t' hA ?_
  obtain ⟨g, hrow, hgd, hnew, _⟩ := (Grown.refl s h.invL.fresh).alloc2 (initTable_ok go)
  exact ⟨g, hgd, hnew, List.mem_cons_self, _, _, hrow⟩

theorem Priv.w2_initString {Q : Nat → Nat → VmState → VmState → Prop} (p : Priv s₀ G row s) (b : List UInt8)
    (h : Agree c K s t)
    (hq : ∀ a s' t', Agree c (R s') s' t' → Priv s₀ (a :: G) row s' → Q a a s' t') :
    W2 c (initString b) (initString b) Q s t := by
  refine SchedFull.w2_initString b h fun a s' t' go _ hA => hq a s' t' hA ?_
  obtain ⟨g, _, hgd, _, _, keep, _⟩ := p.grown.alloc2 (initString_ok go)
  obtain ⟨cap, es, hrow⟩ := p.table
  exact ⟨g, by rw [hgd, p.guards]; rfl, p.new, List.mem_cons_of_mem _ p.mem, cap, es,
    keep row _ (p.reach p.mem) hrow⟩

theorem Priv.w2_insert {Q : Unit → Unit → VmState → VmState → Prop} (p : Priv s₀ G row s) {k v : Val}
    (h : Agree c K s t) (hk : VK (R s) k) (hv : VK (R s) v)
    (hq : ∀ s' t', Agree c (R s') s' t' → Priv s₀ G row s' → Q () () s' t') :
    W2 c (tableInsert row k v) (tableInsert row k v) Q s t := by
  obtain ⟨cap, es, hrow⟩ := p.table
  have hr := p.reach p.mem
  refine w2_tableInsert row k v h hr hk hv fun s' t' go hA => hq s' t' hA ?_
  obtain ⟨g, ⟨cap', hrow'⟩, hgd, _, _⟩ := p.grown.tableInsert p.new hrow hr go
  exact ⟨g, by rw [hgd, p.guards], p.new, p.mem, cap', _, hrow'⟩

theorem Priv.w2_dropGuard {Q : PUnit → PUnit → VmState → VmState → Prop} {a : Nat} (p : Priv s₀ (a :: G) row s)
    (hrow : row ∈ G) (h : Agree c K s t)
    (hq : ∀ s' t', Agree c K s' t' → Priv s₀ G row s' → Q ⟨⟩ ⟨⟩ s' t') :
    W2 c (dropGuard a) (dropGuard a) Q s t := by
  refine SchedFull.w2_dropGuard a h fun s' t' e hA => hq s' t' hA ?_
  subst e
  have hg : s.guards.erase a = G ++ s₀.guards := by rw [p.guards]; exact List.erase_cons_head ..
  exact ⟨p.grown.dropGuard a fun g hg' => by rw [hg]; exact List.mem_append_right _ hg', hg, p.new, hrow, p.table⟩

end priv

end Cao.SchedFull
