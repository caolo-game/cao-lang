import CaoModel.Vm
import CaoProofs.Lemmas.CompilerLemmas
import CaoProofs.Lemmas.VmPrims
import CaoProofs.Lemmas.Dispatch
import CaoProofs.Lemmas.Flatten
/-!
# Both sides of the compile-correctness proofs (C01)

VM side: one lemma per instruction of the fragment (`step_*`: its equation of `Lemmas/Instr.lean`, run from
a state in which the primitives succeed), `Reach` (counted execution of the dispatch loop, linked to
`Vm.exec`), `StackIs` (the live part of the value stack as a list, top first).

Compiler side: `Emits`, what a step of the compiler emits, read off the final program, with one rule per
way of putting steps together, so that the code of a card follows from the code of its parts; its
instance for the fragment without locals, and the layout of a compiled unit around the cards of `main`.

Between the two, what both speak of: the value of a two-operand instruction (`isValOp`, `binVal`) and the fragment
without locals (`simpleName`, `isExpr`, `isStmt`) with its code (`ECode`, `SCode`). The fragments with locals
(`isStmtL`; `Feat`, `isStmtS`, `isBlock`) are in `SimLocals.lean` and `SimScopes.lean`. The files on the reference
semantics (`Props/C01Sem.lean`, `Props/C01Fuel.lean`) import these files for the predicates only.
-/
namespace Cao.Sim
open Cao Cao.Vm

/-! ## running `M` -/

def runM {α : Type} (m : M α) (s : VmState) : Except ErrKind α × VmState := m.run.run s

theorem runM_def {α : Type} (m : M α) (s : VmState) : StateT.run (ExceptT.run m) s = runM m s := rfl

theorem runM_eq_go {α : Type} (m : M α) (s : VmState) : runM m s = m.go s := rfl

@[simp] theorem runM_pure {α : Type} (a : α) (s : VmState) : runM (pure a : M α) s = (.ok a, s) := rfl

@[simp] theorem runM_throwE {α : Type} (e : ErrKind) (s : VmState) :
    runM (throwE e : M α) s = (.error e, s) := rfl

/-! ## one lemma per instruction -/

section steps
variable {P : Prog} {re : Reenter} {ip : Nat} {s : VmState}

macro "step_unfold" h:ident : tactic => `(tactic|
  (unfold step
   simp only [$h:ident]
   simp (config := {decide := true}) only [if_false, if_true]
   simp only [runM_def]))

theorem go_scalar {v : Val} {st' : VStack Val} (n : Nat) (hp : s.stack.push v = (st', .ok ())) :
    (Instr.scalar v n).go s = (.ok { ip := n }, { s with stack := st' }) := by
  unfold Instr.scalar
  rw [go_bind_ok (go_push_ok hp)]
  rfl

theorem step_scalarNil {st' : VStack Val}
    (h : P.bytecode.getD ip 0 = Compiler.op.scalarNil) (hp : s.stack.push .nil = (st', .ok ())) :
    runM (step P re ip) s = (.ok { ip := ip + 1 }, { s with stack := st' }) := by
  rw [runM_eq_go, Vm.step_scalarNil P re ip h, go_scalar _ hp]

theorem step_scalarInt {st' : VStack Val}
    (h : P.bytecode.getD ip 0 = Compiler.op.scalarInt)
    (hp : s.stack.push (.int (rdU64 P.bytecode (ip + 1)).toInt64) = (st', .ok ())) :
    runM (step P re ip) s = (.ok { ip := ip + 1 + 8 }, { s with stack := st' }) := by
  rw [runM_eq_go, Vm.step_scalarInt P re ip h, go_scalar _ hp]

theorem step_scalarFloat {st' : VStack Val}
    (h : P.bytecode.getD ip 0 = Compiler.op.scalarFloat)
    (hp : s.stack.push (.real (rdU64 P.bytecode (ip + 1))) = (st', .ok ())) :
    runM (step P re ip) s = (.ok { ip := ip + 1 + 8 }, { s with stack := st' }) := by
  rw [runM_eq_go, Vm.step_scalarFloat P re ip h, go_scalar _ hp]

theorem step_exit (h : P.bytecode.getD ip 0 = Compiler.op.exit) :
    runM (step P re ip) s = (.ok { ip := ip + 1, exit := true }, s) := by
  rw [Vm.step_exit P re ip h]; rfl

theorem step_not {st' : VStack Val}
    (h : P.bytecode.getD ip 0 = Compiler.op.not)
    (hp : s.stack.pop.1.push (boolVal (!(OVal.asBool hostF64 (ownD s.heap s.stack.pop.2)))) = (st', .ok ())) :
    runM (step P re ip) s = (.ok { ip := ip + 1 }, { s with stack := st' }) := by
  rw [runM_eq_go, Vm.step_not P re ip h]
  unfold Instr.not
  simp only [go_bind, go_pop, go_get, go_push_ok (s := { s with stack := s.stack.pop.1 }) hp, go_pure]

theorem step_pop (h : P.bytecode.getD ip 0 = Compiler.op.pop) :
    runM (step P re ip) s = (.ok { ip := ip + 1 }, { s with stack := s.stack.pop.1 }) := by
  rw [runM_eq_go, Upv.step_pop P re ip h, go_instrPop]

theorem step_goto (h : P.bytecode.getD ip 0 = Compiler.op.goto) :
    runM (step P re ip) s = (.ok { ip := rdU32 P.bytecode (ip + 1) }, s) := by
  rw [Vm.step_goto P re ip h]; rfl

theorem step_gotoIfFalse (h : P.bytecode.getD ip 0 = Compiler.op.gotoIfFalse) :
    runM (step P re ip) s =
      (.ok { ip := if OVal.asBool hostF64 (ownD s.heap s.stack.pop.2) then ip + 1 + 4
                   else rdU32 P.bytecode (ip + 1) },
       { s with stack := s.stack.pop.1 }) := by
  rw [Vm.step_gotoIfFalse P re ip h]; rfl

theorem step_gotoIfTrue (h : P.bytecode.getD ip 0 = Compiler.op.gotoIfTrue) :
    runM (step P re ip) s =
      (.ok { ip := if OVal.asBool hostF64 (ownD s.heap s.stack.pop.2) then rdU32 P.bytecode (ip + 1)
                   else ip + 1 + 4 },
       { s with stack := s.stack.pop.1 }) := by
  rw [Vm.step_gotoIfTrue P re ip h]; rfl

theorem step_setGlobalVar (h : P.bytecode.getD ip 0 = Compiler.op.setGlobalVar) :
    runM (step P re ip) s =
      (.ok { ip := ip + 1 + 4 },
       { s with stack := s.stack.pop.1,
                globals :=
                  (if s.globals.length ≤ rdU32 P.bytecode (ip + 1) then
                    s.globals ++ List.replicate (rdU32 P.bytecode (ip + 1) + 1 - s.globals.length) .nil
                   else s.globals).set (rdU32 P.bytecode (ip + 1)) s.stack.pop.2 }) := by
  rw [Vm.step_setGlobalVar P re ip h]; rfl

theorem step_readGlobalVar {st' : VStack Val} {v : Val}
    (h : P.bytecode.getD ip 0 = Compiler.op.readGlobalVar)
    (hv : s.globals[rdU32 P.bytecode (ip + 1)]? = some v)
    (hp : s.stack.push v = (st', .ok ())) :
    runM (step P re ip) s = (.ok { ip := ip + 1 + 4 }, { s with stack := st' }) := by
  rw [runM_eq_go, Vm.step_readGlobalVar P re ip h]
  unfold Instr.readGlobalVar
  simp only [go_bind, go_get, hv, go_push_ok hp, go_pure]

/-- the operator cards that compile to a single two-operand instruction computing on values -/
def isValOp : BinKind → Bool
  | .add | .sub | .mul | .div | .less | .lessOrEq | .equals | .notEquals | .and | .or | .xor => true
  | _ => false

def numVal (x : OVal) : Val := match x with
  | .int i => .int i | .real r => .real r | _ => .nil

/-- the value computed by the two-operand instruction of `k` from the deep operand values -/
def binVal (k : BinKind) (oa ob : OVal) : Val :=
  match k with
  | .add => numVal (OVal.arith hostF64 .add oa ob)
  | .sub => numVal (OVal.arith hostF64 .sub oa ob)
  | .mul => numVal (OVal.arith hostF64 .mul oa ob)
  | .div => numVal (OVal.arith hostF64 .div oa ob)
  | .less => boolVal (OVal.vlt hostF64 oa ob)
  | .lessOrEq => boolVal (OVal.vle hostF64 oa ob)
  | .equals => boolVal (OVal.veq hostF64 oa ob)
  | .notEquals => boolVal (!(OVal.veq hostF64 oa ob))
  | .and => boolVal (OVal.asBool hostF64 oa && OVal.asBool hostF64 ob)
  | .or => boolVal (OVal.asBool hostF64 oa || OVal.asBool hostF64 ob)
  | .xor => boolVal (OVal.asBool hostF64 oa != OVal.asBool hostF64 ob)
  | _ => .nil

theorem isArith_binOp (k : BinKind) (hk : isValOp k = true) : isArith (Compiler.binOp k) = true := by
  revert hk; cases k <;> decide

theorem arithVal_binOp (k : BinKind) (hk : isValOp k = true) (oa ob : OVal) :
    Instr.arithVal (Compiler.binOp k) oa ob = binVal k oa ob := by
  cases k <;> first | exact absurd hk (by decide) | rfl

theorem step_bin {st' : VStack Val} (k : BinKind) (hk : isValOp k = true)
    (h : P.bytecode.getD ip 0 = Compiler.binOp k)
    (hp : s.stack.pop.1.pop.1.push
            (binVal k (ownD s.heap s.stack.pop.1.pop.2) (ownD s.heap s.stack.pop.2)) = (st', .ok ())) :
    runM (step P re ip) s = (.ok { ip := ip + 1 }, { s with stack := st' }) := by
  rw [runM_eq_go, Vm.step_arith P re ip (h ▸ isArith_binOp k hk), h]
  unfold Instr.arith
  rw [← arithVal_binOp k hk] at hp
  simp only [go_bind, go_pop, go_get, go_push_ok (s := { s with stack := s.stack.pop.1.pop.1 }) hp, go_pure]

end steps

/-! ## decoding the operands the compiler emitted -/

theorem le64_byte (x : UInt64) {i : Nat} (hi : i < 8) :
    ((Hash.le64 x).getD i 0).toNat = x.toNat / 256 ^ i % 256 := by
  have e : (8 * i) % 18446744073709551616 % 64 = 8 * i := by omega
  simp [Hash.le64, List.getD_eq_getElem?_getD, hi, UInt64.toNat_shiftRight, Nat.shiftRight_eq_div_pow, e,
    Nat.pow_mul]

theorem rdU32_eq (b : Array UInt8) (p : Nat) (x : UInt32)
    (h : ∀ i, i < 4 → b.getD (p + i) 0 = (Hash.le32 x).getD i 0) : rdU32 b p = x.toNat :=
  Compiler.le32_word x (fun i => b.getD (p + i) 0) h

theorem rdU64_eq (b : Array UInt8) (p : Nat) (x : UInt64)
    (h : ∀ i, i < 8 → b.getD (p + i) 0 = (Hash.le64 x).getD i 0) : rdU64 b p = x := by
  unfold rdU64
  rw [Compiler.digits_sum x.toNat _ 8 fun i hi => by rw [h i hi, le64_byte x hi], Nat.mod_eq_of_lt x.toNat_lt]
  exact UInt64.ofNat_toNat

/-! ## counted execution of the dispatch loop -/

def tick (s : VmState) : VmState :=
  { s with remaining := s.remaining - 1, dispatches := s.dispatches + 1 }

theorem tick_eq (s : VmState) : tick s = s.tick := rfl

/-- one dispatched instruction that neither fails nor exits -/
structure StepOk (P : Prog) (ip : Nat) (s : VmState) (ip' : Nat) (s' : VmState) : Prop where
  inb : ip < P.bytecode.size
  rem : s'.remaining = s.remaining - 1
  run : ∀ re, runM (step P re ip) (tick s) = (.ok { ip := ip', exit := false }, s')

inductive Reach (P : Prog) : Nat → Nat → VmState → Nat → VmState → Prop
  | refl (ip : Nat) (s : VmState) : Reach P 0 ip s ip s
  | step {n ip ip1 ip2 : Nat} {s s1 s2 : VmState} :
      StepOk P ip s ip1 s1 → Reach P n ip1 s1 ip2 s2 → Reach P (n + 1) ip s ip2 s2

theorem Reach.one {P : Prog} {ip ip' : Nat} {s s' : VmState} (h : StepOk P ip s ip' s') :
    Reach P 1 ip s ip' s' := Reach.step h (Reach.refl _ _)

theorem Reach.trans {P : Prog} {n m k : Nat} {a b c : Nat} {s t u : VmState}
    (h1 : Reach P n a s b t) (h2 : Reach P m b t c u) (hk : k = n + m) : Reach P k a s c u := by
  subst hk
  induction h1 with
  | refl => simpa using h2
  | step hs _ ih =>
    have := Reach.step hs (ih h2)
    rw [Nat.add_right_comm]
    exact this

theorem Reach.remaining {P : Prog} {n a b : Nat} {s t : VmState} (h : Reach P n a s b t) :
    t.remaining = s.remaining - n := by
  induction h with
  | refl => simp
  | step hs _ ih => rw [ih, hs.rem]; omega

theorem exec_step {P : Prog} {gas ip ip' : Nat} {s s' : VmState} (h : StepOk P ip s ip' s')
    (hr : 2 ≤ s.remaining) : exec P (gas + 1) (.loop ip) s = exec P gas (.loop ip') s' := by
  rw [exec_loop, if_neg (Nat.not_le.2 h.inb), if_neg (by omega),
    show (step P (reenterOf P gas) ip).go s.tick = _ from h.run _]
  rfl

theorem exec_reach {P : Prog} {n a b : Nat} {s t : VmState} (h : Reach P n a s b t) :
    n < s.remaining → ∀ gas, exec P (gas + n) (.loop a) s = exec P gas (.loop b) t := by
  induction h with
  | refl => intros; rfl
  | step hs _ ih =>
    intro hr gas
    rw [← Nat.add_assoc, exec_step hs (by omega)]
    exact ih (by rw [hs.rem]; omega) gas

theorem exec_exit {P : Prog} {gas ip : Nat} {s : VmState} (hin : ip < P.bytecode.size)
    (h : P.bytecode.getD ip 0 = Compiler.op.exit) (hr : 2 ≤ s.remaining) :
    exec P (gas + 1) (.loop ip) s = (tick s, .ok none) := by
  rw [exec_loop, if_neg (Nat.not_le.2 hin), if_neg (by omega), Vm.step_exit P _ ip h]
  rfl

/-! ## the value stack as a list -/

theorem take_set_succ {α : Type} (l : List α) (n : Nat) (v : α) (h : n < l.length) :
    (l.set n v).take (n + 1) = l.take n ++ [v] := by
  induction l generalizing n with
  | nil => simp at h
  | cons a l ih =>
    cases n with
    | zero => simp
    | succ n => simp at h ⊢; exact ih n (by omega)

theorem take_set_self {α : Type} (l : List α) (n : Nat) (v : α) :
    (l.set n v).take n = l.take n := by
  induction l generalizing n with
  | nil => simp
  | cons a l ih =>
    cases n with
    | zero => simp
    | succ n => simp [ih]

/-- the live part of the value stack is `l` (top first) and the stack has `cap` slots -/
structure StackIs (st : VStack Val) (cap : Nat) (l : List Val) : Prop where
  count : st.count = l.length
  cap : st.data.length = cap
  live : st.data.take st.count = l.reverse

theorem StackIs.push {st : VStack Val} {cap : Nat} {l : List Val} (h : StackIs st cap l) (v : Val)
    (hroom : l.length + 1 < cap) :
    ∃ st', st.push v = (st', .ok ()) ∧ StackIs st' cap (v :: l) := by
  obtain ⟨hc, hcap, hl⟩ := h
  refine ⟨{ count := st.count + 1, data := st.data.set st.count v }, ?_, ?_, ?_, ?_⟩
  · unfold VStack.push
    rw [if_pos (by omega)]
  · simp [hc]
  · simpa using hcap
  · show (st.data.set st.count v).take (st.count + 1) = (v :: l).reverse
    rw [List.reverse_cons, ← hl, take_set_succ _ _ _ (by omega)]

theorem StackIs.pop {st : VStack Val} {cap : Nat} {l : List Val} {v : Val} (h : StackIs st cap (v :: l)) :
    st.pop.2 = v ∧ StackIs st.pop.1 cap l := by
  obtain ⟨hc, hcap, hl⟩ := h
  rw [List.length_cons] at hc
  have hpos : st.count ≠ 0 := by omega
  have hlt : st.count - 1 < st.data.length := by
    have := congrArg List.length hl
    rw [List.length_take, List.length_reverse, List.length_cons] at this
    omega
  unfold VStack.pop
  rw [if_neg hpos]
  refine ⟨?_, ?_, ?_, ?_⟩
  · show st.data.getD (st.count - 1) default = v
    have h1 : (st.data.take st.count)[st.count - 1]? = some v := by
      rw [hl]; simp [hc]
    rw [List.getElem?_take] at h1
    simp only [show st.count - 1 < st.count by omega, if_true] at h1
    simp [List.getD, h1]
  · show st.count - 1 = l.length
    simp [hc]
  · show (st.data.set (st.count - 1) default).length = cap
    simpa using hcap
  · show (st.data.set (st.count - 1) default).take (st.count - 1) = l.reverse
    rw [take_set_self]
    have : st.data.take (st.count - 1) = (st.data.take st.count).take (st.count - 1) := by
      rw [List.take_take]; congr 1; omega
    rw [this, hl]
    simp [hc]

end Cao.Sim

namespace Cao.Compiler
open Cao

/-! ## the global-variable table and the data segment only grow -/

/-- ids handed out so far are below `nextVar`, and no id was handed out twice -/
structure VInv (s : CState) : Prop where
  len : s.nextVar = s.varIds.length
  lt : ∀ p ∈ s.varIds, p.2 < s.nextVar
  inj : s.varIds.Pairwise (fun p q => p.2 ≠ q.2)

structure VExt (s s' : CState) : Prop where
  ids : ∃ t, s'.varIds = s.varIds ++ t
  data : ∃ d : Array UInt8, s'.data = s.data ++ d
  inv : VInv s → VInv s'

theorem VExt.refl (s : CState) : VExt s s := ⟨⟨[], by simp⟩, ⟨#[], by simp⟩, id⟩

theorem VExt.trans {s s1 s2 : CState} (h1 : VExt s s1) (h2 : VExt s1 s2) : VExt s s2 := by
  obtain ⟨⟨t1, a1⟩, ⟨d1, b1⟩, c1⟩ := h1
  obtain ⟨⟨t2, a2⟩, ⟨d2, b2⟩, c2⟩ := h2
  exact ⟨⟨t1 ++ t2, by rw [a2, a1, List.append_assoc]⟩, ⟨d1 ++ d2, by rw [b2, b1, Array.append_assoc]⟩,
    fun h => c2 (c1 h)⟩

theorem VExt.of_eq {s s' : CState} (h1 : s'.varIds = s.varIds) (h2 : s'.nextVar = s.nextVar)
    (h3 : s'.data = s.data) : VExt s s' :=
  ⟨⟨[], by simp [h1]⟩, ⟨#[], by simp [h3]⟩, fun h => ⟨by rw [h1, h2]; exact h.len, by rw [h1, h2]; exact h.lt, by rw [h1]; exact h.inj⟩⟩

structure VR {α : Type} (m : CM α) : Prop where
  run : ∀ s a s', m s = .ok (a, s') → VExt s s'

/-- a new id is `nextVar`, above all ids handed out before: that keeps `VInv` -/
instance : UnitPrims (fun _ => VExt) where
  refl _ := VExt.refl
  trans := VExt.trans
  weaken _ h := h
  emit _ _ := .of_eq rfl rfl rfl
  instr _ _ _ := .of_eq rfl rfl rfl
  patch _ _ _ _ := .of_eq rfl rfl rfl
  label _ := .of_eq rfl rfl rfl
  data bs := ⟨⟨[], by simp⟩, ⟨bs, rfl⟩, fun h => ⟨h.len, h.lt, h.inj⟩⟩
  varId _ := ⟨⟨_, rfl⟩, ⟨#[], by simp⟩, fun h => ⟨by simp [h.len],
    fun p hp => by
      rcases List.mem_append.1 hp with hp | hp
      · exact Nat.lt_succ_of_lt (h.lt p hp)
      · simp only [List.mem_singleton] at hp; subst hp; exact Nat.lt_succ_self _,
    by
      rw [List.pairwise_append]
      exact ⟨h.inj, List.pairwise_singleton _ _, fun q hq y hy => by
        simp only [List.mem_singleton] at hy; subst hy; exact Nat.ne_of_lt (h.lt q hq)⟩⟩⟩
  varName _ := .of_eq rfl rfl rfl
  book _ _ _ _ _ := .of_eq rfl rfl rfl
  enter _ _ _ := .of_eq rfl rfl rfl
  pos _ _ := .of_eq rfl rfl rfl
  jump _ := .of_eq rfl rfl rfl

theorem VR.of_runs {α : Type} {m : CM α}
    (h : Runs (fun _ => VExt) (fun _ => True) 0 (fun _ => True) m) : VR m :=
  ⟨fun s a s' hr => (h.ok s a s' hr (Nat.zero_le _)).1.2⟩

theorem vr_throw {α : Type} {e : CErr} : VR (throw e : CM α) := .of_runs (runs_throw trivial)

theorem pushInstr_vr (o : UInt8) : VR (pushInstr o) := .of_runs (pushInstr_runs o)
theorem processArrayItems_vr (tv i : Nat) (cs : List Card) :
    VR (processArrayItems tv i cs) := .of_runs (processArrayItems_runs tv i cs)
theorem compileSubexprFrom_vr (i : Nat) (cs : List Card) :
    VR (compileSubexprFrom i cs) := .of_runs (compileSubexprFrom_runs i cs)
theorem compileSubexpr_vr (cs : List Card) : VR (compileSubexpr cs) :=
  compileSubexprFrom_vr 0 cs
theorem compileFunctions_vr (fs : List FunctionIr) : VR (compileFunctions fs) := .of_runs (compileFunctions_runs fs)
theorem compileUnit_vr (unit : Array FunctionIr) : VR (compileUnit unit) := .of_runs (compileUnit_runs unit)

theorem compileUnit_vinv {unit : Array FunctionIr} {s : CState} (h : compileUnit unit {} = .ok ((), s)) : VInv s :=
  ((compileUnit_vr unit).run _ _ _ h).inv ⟨rfl, fun p hp => (by cases hp), List.Pairwise.nil⟩

/-- `m` keeps the bytes below any given address that its start state already has (`Ext`), and only extends
    the global-variable table and the data segment (`VExt`) -/
abbrev Tame {α : Type} (m : CM α) : Prop :=
  ∀ k, Runs (fun k s s' => Ext k s s' ∧ VExt s s') (fun _ => True) k (fun _ => True) m

theorem Tame.mono {α : Type} {m : CM α} (h : Tame m) (k : Nat) : Mono k m :=
  ⟨fun s a s' r hk => ⟨((h k).ok s a s' r hk).1.2.1, trivial⟩⟩

theorem Tame.vr {α : Type} {m : CM α} (h : Tame m) : VR m :=
  ⟨fun s a s' r => ((h 0).ok s a s' r (Nat.zero_le _)).1.2.2⟩

/-! ## running the emission primitives -/

theorem cardLabel_ok {a : Unit} {s s0 : CState} (h : cardLabel s = .ok (a, s0)) :
    s0 = { s with labels := s.labels ++ [(indexHandle s.curFunction s.curIndices, s.bytecode.size)] } := by
  unfold cardLabel at h
  rw [get_bind_run, insertLabel_run] at h
  split at h
  · cases h
  · exact (Prod.mk.inj (Except.ok.inj h)).2.symm

/-! ## which bytes of the final program were written by which part of the compilation -/

structure Keep (lo hi : Nat) (s s' : CState) : Prop where
  size_le : s.bytecode.size ≤ s'.bytecode.size
  same : ∀ i, lo ≤ i → i < hi → s'.bytecode[i]? = s.bytecode[i]?

theorem Keep.refl (lo hi : Nat) (s : CState) : Keep lo hi s s := ⟨Nat.le_refl _, fun _ _ _ => rfl⟩

theorem Keep.of_bytecode_eq {lo hi : Nat} {s s' : CState} (h : s'.bytecode = s.bytecode) : Keep lo hi s s' :=
  ⟨by rw [h]; exact Nat.le_refl _, fun _ _ _ => by rw [h]⟩

theorem Ext.keep {k lo : Nat} {s s' : CState} (h : Ext k s s') : Keep lo k s s' :=
  ⟨h.size_le, fun i _ hi => h.pref i hi⟩

theorem MonoV.keep {α : Type} {k lo : Nat} {Q : α → Prop} {m : CM α} (hm : MonoV k Q m) {s s' : CState} {a : α}
    (h : m s = .ok (a, s')) (hk : k ≤ s.bytecode.size) : Keep lo k s s' :=
  (hm.run s a s' h hk).1.keep

structure AgreeFrom (B : Array UInt8) (s : CState) (lo : Nat) : Prop where
  size_le : s.bytecode.size ≤ B.size
  same : ∀ i, lo ≤ i → i < s.bytecode.size → B[i]? = s.bytecode[i]?

theorem AgreeFrom.getD {B : Array UInt8} {s : CState} {lo : Nat} (h : AgreeFrom B s lo) {i : Nat}
    (h1 : lo ≤ i) (h2 : i < s.bytecode.size) : B.getD i 0 = s.bytecode.getD i 0 := by
  have := h.same i h1 h2
  simp only [Array.getD_eq_getD_getElem?, this]

theorem getD_push_append_left (a : Array UInt8) (o : UInt8) (bs : Array UInt8) :
    (a.push o ++ bs).getD a.size 0 = o := by
  simp [Array.getD_eq_getD_getElem?, Array.getElem?_append]

theorem getD_push_append_right (a : Array UInt8) (o : UInt8) (bs : List UInt8) (j : Nat) (hj : j < bs.length) :
    (a.push o ++ bs.toArray).getD (a.size + 1 + j) 0 = bs.getD j 0 := by
  simp [Array.getD_eq_getD_getElem?, Array.getElem?_append, hj, List.getD_eq_getElem?_getD]
  rw [if_neg (by omega), show a.size + 1 + j - a.size = j + 1 by omega]
  simp [hj]

end Cao.Compiler

namespace Cao.Sim
open Cao Cao.Vm

/-- a variable name without property path -/
def simpleName (n : String) : Bool := decide (n.splitOn "." = [n]) && !n.isEmpty

theorem simpleName_iff {n : String} : simpleName n = true ↔ n.splitOn "." = [n] ∧ n.isEmpty = false := by
  simp only [simpleName, Bool.and_eq_true, decide_eq_true_eq, Bool.not_eq_true']

/-- value-producing cards of the fragment: literals, operators, reads of (global) variables -/
def isExpr : Card → Bool
  | .scalarInt _ | .scalarFloat _ | .scalarNil => true
  | .un .not c => isExpr c
  | .bin k a b => isValOp k && isExpr a && isExpr b
  | .readVar n => simpleName n
  | _ => false

mutual
  /-- statement cards of the fragment -/
  def isStmt : Card → Bool
    | .setGlobalVar n e => !n.isEmpty && isExpr e
    | .bin .ifTrue c b => isExpr c && isStmt b
    | .bin .ifFalse c b => isExpr c && isStmt b
    | .bin .while c b => isExpr c && isStmt b
    | .tri .ifElse c t e => isExpr c && isStmt t && isStmt e
    | .composite _ cs => isStmts cs
    | .comment _ => true
    | _ => false
  def isStmts : List Card → Bool
    | [] => true
    | c :: cs => isStmt c && isStmts cs
end

/-- id of the global `n` in the variable table `F` of the compiled program -/
def gidOf (F : List (UInt32 × Nat)) (n : String) : Option Nat :=
  (F.find? (fun p => p.1 == Vm.hName n)).map (·.2)

section code
variable (B : Array UInt8) (F : List (UInt32 × Nat))

/-- `B` contains, between `pc` and `pc'`, the code of the expression card -/
def ECode : Card → Nat → Nat → Prop
  | .scalarInt i, pc, pc' => B.getD pc 0 = Compiler.op.scalarInt ∧ rdU64 B (pc + 1) = i.toUInt64 ∧ pc' = pc + 9
  | .scalarFloat b, pc, pc' => B.getD pc 0 = Compiler.op.scalarFloat ∧ rdU64 B (pc + 1) = b ∧ pc' = pc + 9
  | .scalarNil, pc, pc' => B.getD pc 0 = Compiler.op.scalarNil ∧ pc' = pc + 1
  | .un .not c, pc, pc' => ∃ m, ECode c pc m ∧ B.getD m 0 = Compiler.op.not ∧ pc' = m + 1
  | .bin k a b, pc, pc' => ∃ m1 m2, ECode a pc m1 ∧ ECode b m1 m2 ∧ B.getD m2 0 = Compiler.binOp k ∧ pc' = m2 + 1
  | .readVar n, pc, pc' => ∃ id, gidOf F n = some id ∧ B.getD pc 0 = Compiler.op.readGlobalVar ∧
      rdU32 B (pc + 1) = id ∧ pc' = pc + 5
  | _, _, _ => False

mutual
  /-- `B` contains, between `pc` and `pc'`, the code of the statement card (jump operands are
      absolute addresses) -/
  def SCode : Card → Nat → Nat → Prop
    | .setGlobalVar n e, pc, pc' => ∃ m id, ECode B F e pc m ∧ B.getD m 0 = Compiler.op.setGlobalVar ∧
        gidOf F n = some id ∧ rdU32 B (m + 1) = id ∧ pc' = m + 5
    | .bin .ifTrue c b, pc, pc' => ∃ m, ECode B F c pc m ∧ B.getD m 0 = Compiler.op.gotoIfFalse ∧
        rdU32 B (m + 1) = pc' ∧ SCode b (m + 5) pc'
    | .bin .ifFalse c b, pc, pc' => ∃ m, ECode B F c pc m ∧ B.getD m 0 = Compiler.op.gotoIfTrue ∧
        rdU32 B (m + 1) = pc' ∧ SCode b (m + 5) pc'
    | .bin .while c b, pc, pc' => ∃ m1 m2, ECode B F c pc m1 ∧ B.getD m1 0 = Compiler.op.gotoIfFalse ∧
        rdU32 B (m1 + 1) = pc' ∧ SCode b (m1 + 5) m2 ∧ B.getD m2 0 = Compiler.op.goto ∧
        rdU32 B (m2 + 1) = pc ∧ pc' = m2 + 5
    | .tri .ifElse c t e, pc, pc' => ∃ m1 m2, ECode B F c pc m1 ∧ B.getD m1 0 = Compiler.op.gotoIfFalse ∧
        rdU32 B (m1 + 1) = m2 + 5 ∧ SCode t (m1 + 5) m2 ∧ B.getD m2 0 = Compiler.op.goto ∧
        rdU32 B (m2 + 1) = pc' ∧ SCode e (m2 + 5) pc'
    | .composite _ cs, pc, pc' => SCodes cs pc pc'
    | .comment _, pc, pc' => pc' = pc
    | _, _, _ => False
  def SCodes : List Card → Nat → Nat → Prop
    | [], pc, pc' => pc' = pc
    | c :: cs, pc, pc' => ∃ m, SCode c pc m ∧ SCodes cs m pc'
end
end code
end Cao.Sim

namespace Cao.Compiler
open Cao Cao.Sim

/-- compiling the top level of `main`: no enclosing function, no locals -/
structure NoLoc (s : CState) : Prop where
  fid : s.functionId = 0
  none : s.locals.getD 0 [] = []

theorem resolveVar_global {n : String} {s : CState} (hn : n.isEmpty = false) (hl : NoLoc s) :
    resolveVar n s = .ok (.global, s) := by
  rw [resolveVar_run, hl.fid, hl.none, if_neg (by simp [hn])]
  simp [resolveUpvalue]

theorem globalId_ok {n : String} {s s1 : CState} {id : Nat} (h : globalId n s = .ok (id, s1)) :
    s1 = { s with varIds := s1.varIds, nextVar := s1.nextVar, varNames := s1.varNames } ∧
    ∃ h', s1.varIds.find? (fun p => p.1 == Vm.hName n) = some (h', id) := by
  rcases globalId_cases n s with ⟨_, e⟩ | ⟨_, id', s0, s2, e, h1, h2⟩ <;> rw [e] at h <;> cases h
  have hs : s1.varIds = s0.varIds ∧ s1 = { s0 with varNames := s1.varNames } := by
    rcases h2 with ⟨_, rfl⟩ | ⟨_, rfl⟩ <;> exact ⟨rfl, rfl⟩
  rw [hs.1]
  rcases h1 with ⟨x, hx, rfl, rfl⟩ | ⟨hnone, rfl, rfl⟩
  · exact ⟨by rw [hs.2], x.1, hx⟩
  · refine ⟨by rw [hs.2], Hash.handleFromBytes n.toUTF8.toList, ?_⟩
    show List.find? _ (s.varIds ++ [_]) = _
    rw [List.find?_append]
    unfold Vm.hName
    rw [hnone]
    simp

theorem agree_instr {B : Array UInt8} {s' : CState} {a : Array UInt8} {o : UInt8} {bs : List UInt8}
    (hb : s'.bytecode = a.push o ++ bs.toArray) (hag : AgreeFrom B s' a.size) :
    B.getD a.size 0 = o ∧ (∀ j, j < bs.length → B.getD (a.size + 1 + j) 0 = bs.getD j 0) ∧
    s'.bytecode.size = a.size + 1 + bs.length := by
  have hsz : s'.bytecode.size = a.size + 1 + bs.length := by rw [hb]; simp; omega
  refine ⟨?_, ?_, hsz⟩
  · rw [hag.getD (Nat.le_refl _) (by omega), hb, getD_push_append_left]
  · intro j hj
    rw [hag.getD (by omega) (by omega), hb, getD_push_append_right _ _ _ _ hj]

structure QL (s s' : CState) : Prop where
  locals : s'.locals = s.locals
  fid : s'.functionId = s.functionId
  depth : s'.scopeDepth = s.scopeDepth
  jt : s'.jumpTable = s.jumpTable

structure QV (s s' : CState) : Prop where
  ids : s'.varIds = s.varIds
  next : s'.nextVar = s.nextVar
  data : s'.data = s.data

theorem QV.refl (s : CState) : QV s s := ⟨rfl, rfl, rfl⟩
theorem QL.trans {a b c : CState} (h1 : QL a b) (h2 : QL b c) : QL a c :=
  ⟨h2.locals.trans h1.locals, h2.fid.trans h1.fid, h2.depth.trans h1.depth, h2.jt.trans h1.jt⟩
theorem QV.trans {a b c : CState} (h1 : QV a b) (h2 : QV b c) : QV a c :=
  ⟨h2.ids.trans h1.ids, h2.next.trans h1.next, h2.data.trans h1.data⟩

theorem NoLoc.of_ql {s s' : CState} (h : NoLoc s) (q : QL s s') : NoLoc s' :=
  ⟨q.fid.trans h.fid, by rw [q.locals]; exact h.none⟩

theorem pushInstr_ok {o : UInt8} {s s' : CState} {a : Unit} (h : pushInstr o s = .ok (a, s')) :
    s'.bytecode = s.bytecode.push o ∧ QL s s' ∧ QV s s' := by
  rw [pushInstr_run] at h
  simp only [Except.ok.injEq, Prod.mk.injEq, true_and] at h
  subst h
  exact ⟨rfl, ⟨rfl, rfl, rfl, rfl⟩, ⟨rfl, rfl, rfl⟩⟩

theorem emitBytes_ok {bs : List UInt8} {s s' : CState} {a : Unit} (h : emitBytes bs s = .ok (a, s')) :
    s'.bytecode = s.bytecode ++ bs.toArray ∧ QL s s' ∧ QV s s' := by
  rw [emitBytes_run] at h
  simp only [Except.ok.injEq, Prod.mk.injEq, true_and] at h
  subst h
  exact ⟨rfl, ⟨rfl, rfl, rfl, rfl⟩, ⟨rfl, rfl, rfl⟩⟩

theorem globalId_ql {n : String} {s s1 : CState} {id : Nat} (h : globalId n s = .ok (id, s1)) :
    s1.bytecode = s.bytecode ∧ QL s s1 ∧ s1.data = s.data ∧
    ∃ h', s1.varIds.find? (fun p => p.1 == Vm.hName n) = some (h', id) := by
  obtain ⟨h1, h2⟩ := globalId_ok h
  refine ⟨by rw [h1], ⟨by rw [h1], by rw [h1], by rw [h1], by rw [h1]⟩, by rw [h1], h2⟩

theorem AgreeFrom.weaken {B : Array UInt8} {s : CState} {lo lo' : Nat} (h : AgreeFrom B s lo) (hl : lo ≤ lo') :
    AgreeFrom B s lo' :=
  ⟨h.size_le, fun i a b => h.same i (by omega) b⟩

theorem vpre_back {F : List (UInt32 × Nat)} {s1 s' : CState} (h : ∃ t, F = s'.varIds ++ t) (hv : VExt s1 s') :
    ∃ t, F = s1.varIds ++ t := by
  obtain ⟨t, ht⟩ := h
  obtain ⟨t', ht'⟩ := hv.ids
  exact ⟨t' ++ t, by rw [ht, ht', List.append_assoc]⟩

theorem binCode_valop (k : BinKind) (hk : isValOp k = true) (a b : CM Unit) :
    binCode k a b = (do withSub 0 a; withSub 1 b; pushInstr (binOp k)) := by
  cases k <;> simp only [isValOp, Bool.false_eq_true] at hk <;> rfl

theorem agree_op {B : Array UInt8} {s' : CState} {a : Array UInt8} {o : UInt8} {lo : Nat}
    (hb : s'.bytecode = a.push o) (hag : AgreeFrom B s' lo) (hlo : lo ≤ a.size) :
    B.getD a.size 0 = o ∧ s'.bytecode.size = a.size + 1 := by
  obtain ⟨h1, _, h3⟩ := agree_instr (o := o) (bs := []) (by rw [hb]; simp) (hag.weaken hlo)
  exact ⟨h1, by simpa using h3⟩

theorem patchI32_bytes {at_ v : Nat} {s s' : CState} {a : Unit} (h : patchI32 at_ v s = .ok (a, s'))
    (hat : at_ + 4 ≤ s.bytecode.size) :
    s'.bytecode.size = s.bytecode.size ∧
    (∀ i, (i < at_ ∨ at_ + 4 ≤ i) → s'.bytecode[i]? = s.bytecode[i]?) ∧
    (∀ j, j < 4 → s'.bytecode.getD (at_ + j) 0 = (le32 (UInt32.ofNat v)).getD j 0) ∧ QL s s' ∧ QV s s' := by
  rw [patchI32_eq] at h
  obtain ⟨_, rfl⟩ := Prod.mk.inj (Except.ok.inj h)
  refine ⟨patched_size .., fun i hi => patched_getElem? _ _ _ hi, fun j hj => ?_, ⟨rfl, rfl, rfl, rfl⟩, ⟨rfl, rfl, rfl⟩⟩
  show (patched s.bytecode at_ _).getD (at_ + j) 0 = _
  rw [patched_getD _ _ _ hat, if_pos (by omega), Nat.add_sub_cancel_left]

theorem getD_congr {a b : Array UInt8} {i : Nat} (h : a[i]? = b[i]?) : a.getD i 0 = b.getD i 0 := by
  simp only [Array.getD_eq_getD_getElem?, h]

theorem rdU32_congr {a b : Array UInt8} {p : Nat} (h : ∀ j, j < 4 → a[p + j]? = b[p + j]?) :
    Vm.rdU32 a p = Vm.rdU32 b p :=
  word4_congr fun j hj => getD_congr (h j hj)

theorem AgreeFrom.rdU32 {B : Array UInt8} {s : CState} {lo p : Nat} (h : AgreeFrom B s lo) (h1 : lo ≤ p)
    (h2 : p + 4 ≤ s.bytecode.size) : Vm.rdU32 B p = Vm.rdU32 s.bytecode p :=
  rdU32_congr fun j hj => h.same (p + j) (by omega) (by omega)

theorem rdU32_patched {b : Array UInt8} {p v : Nat} (hv : v < 4294967296)
    (h : ∀ j, j < 4 → b.getD (p + j) 0 = (le32 (UInt32.ofNat v)).getD j 0) : Vm.rdU32 b p = v := by
  rw [Sim.rdU32_eq b p (UInt32.ofNat v) h]
  simp only [UInt32.toNat_ofNat']
  omega

/-- the bytecode around a forward jump over a block: `skip` with a placeholder operand is emitted in
    `s`, the block runs from `s3` to `s4`, and the operand is patched to the address after the block,
    which gives `s'` -/
structure JumpOver (skip : UInt8) (s s3 s4 s' : CState) : Prop where
  start : s3.bytecode.size = s.bytecode.size + 5
  ql3 : QL s s3
  qv3 : QV s s3
  size : s'.bytecode.size = s4.bytecode.size
  ql : QL s4 s'
  qv : QV s4 s'
  ge : s.bytecode.size + 5 ≤ s4.bytecode.size
  op : s'.bytecode.getD s.bytecode.size 0 = skip
  target : ∀ j, j < 4 → s'.bytecode.getD (s.bytecode.size + 1 + j) 0 =
    (le32 (UInt32.ofNat s4.bytecode.size)).getD j 0
  block : ∀ i, s.bytecode.size + 5 ≤ i → s'.bytecode[i]? = s4.bytecode[i]?
  below : ∀ i, i < s.bytecode.size → s'.bytecode[i]? = s.bytecode[i]?

theorem JumpOver.of_run {skip : UInt8} {s s1 s3 s4 s' : CState} (h1 : pushInstr skip s = .ok ((), s1))
    (h3 : emitU32 0 s1 = .ok ((), s3)) (hext : Ext s3.bytecode.size s3 s4)
    (h5 : patchI32 s1.bytecode.size s4.bytecode.size s4 = .ok ((), s')) : JumpOver skip s s3 s4 s' := by
  obtain ⟨b1, l1, v1⟩ := pushInstr_ok h1
  obtain ⟨b3, l3, v3⟩ := emitBytes_ok h3
  have e1 : s1.bytecode.size = s.bytecode.size + 1 := by rw [b1]; simp
  have e3 : s3.bytecode.size = s.bytecode.size + 5 := by rw [b3, b1]; simp [Bytecode.le32_length]
  have := hext.size_le
  obtain ⟨p1, p2, p3, p4, p5⟩ := patchI32_bytes h5 (by omega)
  refine ⟨e3, l1.trans l3, v1.trans v3, p1, p4, p5, by omega, ?_, fun j hj => ?_, fun i hi => p2 i (Or.inr (by omega)),
    fun i hi => ?_⟩
  · rw [getD_congr (p2 _ (Or.inl (by omega))), getD_congr (hext.pref _ (by omega)), b3, b1]
    exact getD_push_append_left _ _ _
  · have := p3 j hj
    rw [e1] at this
    exact this
  · rw [p2 i (Or.inl (by omega)), hext.pref i (by omega), b3, b1,
      Array.getElem?_append_left (by simp; omega), Array.getElem?_push_lt hi]
    simp

theorem encodeIfThenRet_ok {skip : UInt8} {block : CM Nat} {s s' : CState} {r : Nat}
    (hm : ∀ k, Mono k block) (h : encodeIfThenRet skip block s = .ok (r, s')) :
    ∃ s3 s4, block s3 = .ok (r, s4) ∧ JumpOver skip s s3 s4 s' := by
  unfold encodeIfThenRet at h
  obtain ⟨_, s1, h1, h⟩ := bind_ok.1 h
  obtain ⟨_, _, hg, h⟩ := bind_ok.1 h
  simp only [get_run, Except.ok.injEq, Prod.mk.injEq] at hg
  obtain ⟨rfl, rfl⟩ := hg
  obtain ⟨_, s3, h3, h⟩ := bind_ok.1 h
  obtain ⟨r', s4, h4, h⟩ := bind_ok.1 h
  obtain ⟨_, _, hg, h⟩ := bind_ok.1 h
  simp only [get_run, Except.ok.injEq, Prod.mk.injEq] at hg
  obtain ⟨rfl, rfl⟩ := hg
  obtain ⟨_, s5, h5, h⟩ := bind_ok.1 h
  simp only [pure_run, Except.ok.injEq, Prod.mk.injEq] at h
  obtain ⟨rfl, rfl⟩ := h
  exact ⟨s3, s4, h4, .of_run h1 h3 ((hm _).run _ _ _ h4 (Nat.le_refl _)).1 h5⟩

theorem encodeIfThen_ok {skip : UInt8} {block : CM Unit} {s s' : CState}
    (hm : ∀ k, Mono k block) (h : encodeIfThen skip block s = .ok ((), s')) :
    ∃ s3 s4, block s3 = .ok ((), s4) ∧ JumpOver skip s s3 s4 s' := by
  unfold encodeIfThen at h
  obtain ⟨_, s1, h1, h⟩ := bind_ok.1 h
  obtain ⟨_, _, hg, h⟩ := bind_ok.1 h
  simp only [get_run, Except.ok.injEq, Prod.mk.injEq] at hg
  obtain ⟨rfl, rfl⟩ := hg
  obtain ⟨_, s3, h3, h⟩ := bind_ok.1 h
  obtain ⟨_, s4, h4, h⟩ := bind_ok.1 h
  obtain ⟨_, _, hg, h5⟩ := bind_ok.1 h
  simp only [get_run, Except.ok.injEq, Prod.mk.injEq] at hg
  obtain ⟨rfl, rfl⟩ := hg
  exact ⟨s3, s4, h4, .of_run h1 h3 ((hm _).run _ _ _ h4 (Nat.le_refl _)).1 h5⟩

theorem pushSub_ok {i : Nat} {s s' : CState} {a : Unit} (h : pushSub i s = .ok (a, s')) :
    s'.bytecode = s.bytecode ∧ QL s s' ∧ QV s s' := by
  unfold pushSub at h
  simp only [modify_run, Except.ok.injEq, Prod.mk.injEq, true_and] at h
  subst h
  exact ⟨rfl, ⟨rfl, rfl, rfl, rfl⟩, ⟨rfl, rfl, rfl⟩⟩

theorem popSub_ok {s s' : CState} {a : Unit} (h : popSub s = .ok (a, s')) :
    s'.bytecode = s.bytecode ∧ QL s s' ∧ QV s s' := by
  unfold popSub at h
  simp only [modify_run, Except.ok.injEq, Prod.mk.injEq, true_and] at h
  subst h
  exact ⟨rfl, ⟨rfl, rfl, rfl, rfl⟩, ⟨rfl, rfl, rfl⟩⟩

theorem AgreeFrom.sub {B : Array UInt8} {s1 s' : CState} {lo lo1 : Nat} (h : AgreeFrom B s' lo) (hlo : lo ≤ lo1)
    (hsz : s1.bytecode.size ≤ s'.bytecode.size)
    (hs : ∀ i, lo1 ≤ i → i < s1.bytecode.size → s'.bytecode[i]? = s1.bytecode[i]?) : AgreeFrom B s1 lo1 :=
  ⟨Nat.le_trans hsz h.size_le, fun i a b => by
    rw [h.same i (Nat.le_trans hlo a) (Nat.lt_of_lt_of_le b hsz), hs i a b]⟩

theorem vpre_eq {F : List (UInt32 × Nat)} {s1 s' : CState} (h : ∃ t, F = s'.varIds ++ t) (e : s'.varIds = s1.varIds) :
    ∃ t, F = s1.varIds ++ t := by rw [← e]; exact h

theorem scopeBegin_ok {s s' : CState} {a : Unit} (h : scopeBegin s = .ok (a, s')) :
    s'.bytecode = s.bytecode ∧ s'.locals = s.locals ∧ s'.functionId = s.functionId ∧ QV s s' ∧
    s'.scopeDepth = depthUp s.scopeDepth := by
  unfold scopeBegin at h
  simp only [modify_run, Except.ok.injEq, Prod.mk.injEq, true_and] at h
  subst h
  exact ⟨rfl, rfl, rfl, ⟨rfl, rfl, rfl⟩, rfl⟩

/-! ## what a compilation step emits, read off the final program

The final bytecode `B` is only known when the compilation is over, and jump operands are patched
after the code they skip has been emitted. So the code of a card is described on `B`: a run of a step
`m` from `s` to `s'` is looked at under the hypothesis that `B` still has the bytes of `s'` from the
start address `s.bytecode.size` on (`AgreeFrom`), and that the final table `F` of global variables
extends the one of `s'`. -/

section emits
variable (B : Array UInt8) (F : List (UInt32 × Nat))

/-- `m` is a well-behaved emitter: it keeps the bytes below its start address, only extends the
    global-variable table, and a run of it from a state satisfying `I`, whose output is still there
    in the final program, ends in a state satisfying `I'`, with `P start end` -/
structure Emits (I : CState → Prop) (m : CM Unit) (I' : CState → Prop) (P : Nat → Nat → Prop) : Prop where
  tame : Tame m
  spec : ∀ s s', m s = .ok ((), s') → I s → AgreeFrom B s' s.bytecode.size → (∃ t, F = s'.varIds ++ t) →
    I' s' ∧ P s.bytecode.size s'.bytecode.size

structure Quiet (n : CM Unit) : Prop where
  tame : Tame n
  run : ∀ s s', n s = .ok ((), s') → s'.bytecode = s.bytecode ∧ QL s s' ∧ QV s s'

theorem quiet_cardLabel : Quiet cardLabel where
  tame _ := cardLabel_runs
  run s s' h := by
    have := cardLabel_ok h
    subst this
    exact ⟨rfl, ⟨rfl, rfl, rfl, rfl⟩, ⟨rfl, rfl, rfl⟩⟩
theorem quiet_pushSub (i : Nat) : Quiet (pushSub i) := ⟨fun _ => pushSub_runs i, fun _ _ h => pushSub_ok h⟩
theorem quiet_popSub : Quiet popSub := ⟨fun _ => popSub_runs, fun _ _ h => popSub_ok h⟩

def QLStable (I : CState → Prop) : Prop := ∀ s s', I s → QL s s' → I s'

variable {B F}
variable {I I' I1 I2 Ib Ib' : CState → Prop} {P P' P1 P2 PC PB PE PT : Nat → Nat → Prop}
  {m m1 m2 n c b t e : CM Unit}

theorem Emits.mono (h : Emits B F I m I' P) (k : Nat) : Mono k m := h.tame.mono k
theorem Emits.vr (h : Emits B F I m I' P) : VR m := h.tame.vr

theorem Emits.imp (h : Emits B F I m I' P) (hp : ∀ p q, P p q → P' p q) : Emits B F I m I' P' :=
  ⟨h.tame, fun s s' r hi hag hv => ⟨(h.spec s s' r hi hag hv).1, hp _ _ (h.spec s s' r hi hag hv).2⟩⟩

theorem Emits.pre {I0 : CState → Prop} (h : Emits B F I m I' P) (hi : ∀ s, I0 s → I s) : Emits B F I0 m I' P :=
  ⟨h.tame, fun s s' r h0 => h.spec s s' r (hi s h0)⟩

theorem Emits.post {I'' : CState → Prop} (h : Emits B F I m I' P) (hi : ∀ s, I' s → I'' s) : Emits B F I m I'' P :=
  ⟨h.tame, fun s s' r h0 hag hv => ⟨hi _ (h.spec s s' r h0 hag hv).1, (h.spec s s' r h0 hag hv).2⟩⟩

theorem Emits.frame (h : Emits B F I m I' P) (C : Prop) :
    Emits B F (fun s => I s ∧ C) m (fun s => I' s ∧ C) P :=
  ⟨h.tame, fun s s' r hi hag hv => ⟨⟨(h.spec s s' r hi.1 hag hv).1, hi.2⟩, (h.spec s s' r hi.1 hag hv).2⟩⟩

theorem Emits.pure (I : CState → Prop) : Emits B F I (pure ()) I (fun p q => q = p) where
  tame _ := runs_ret
  spec s s' r hi _ _ := by
    simp only [pure_run, Except.ok.injEq, Prod.mk.injEq, true_and] at r
    subst r
    exact ⟨hi, rfl⟩

/-- the second step keeps what the first one emitted, so both are seen in the final program -/
theorem Emits.seq (h1 : Emits B F I m1 I1 P1) (h2 : Emits B F I1 m2 I2 P2) :
    Emits B F I (m1 >>= fun _ => m2) I2 (fun p r => ∃ q, P1 p q ∧ P2 q r) where
  tame k := runs_seq (h1.tame k) (h2.tame k)
  spec s s'' r hi hag hv := by
    obtain ⟨_, s', r1, r2⟩ := bind_ok.1 r
    have x1 := ((h1.mono s.bytecode.size).run _ _ _ r1 (Nat.le_refl _)).1
    have x2 := ((h2.mono s'.bytecode.size).run _ _ _ r2 (Nat.le_refl _)).1
    obtain ⟨i1, p1⟩ := h1.spec s s' r1 hi (hag.sub (Nat.le_refl _) x2.size_le fun i _ hi => x2.pref i hi)
      (vpre_back hv (h2.vr.run _ _ _ r2))
    obtain ⟨i2, p2⟩ := h2.spec s' s'' r2 i1 (hag.weaken x1.size_le) hv
    exact ⟨i2, _, p1, p2⟩

theorem Emits.after (hq : Quiet n) (hI : QLStable I) (h : Emits B F I m I' P) :
    Emits B F I (n >>= fun _ => m) I' P where
  tame k := runs_seq (hq.tame k) (h.tame k)
  spec s s'' r hi hag hv := by
    obtain ⟨_, s', r1, r2⟩ := bind_ok.1 r
    obtain ⟨b, l, _⟩ := hq.run s s' r1
    rw [← b]
    exact h.spec s' s'' r2 (hI _ _ hi l) (by rw [b]; exact hag) hv

theorem Emits.before (h : Emits B F I m I' P) (hq : Quiet n) (hI' : QLStable I') :
    Emits B F I (m >>= fun _ => n) I' P where
  tame k := runs_seq (h.tame k) (hq.tame k)
  spec s s'' r hi hag hv := by
    obtain ⟨_, s', r1, r2⟩ := bind_ok.1 r
    obtain ⟨b, l, v⟩ := hq.run s' s'' r2
    rw [b]
    obtain ⟨i1, p1⟩ := h.spec s s' r1 hi
      ⟨by rw [← b]; exact hag.size_le, fun i a c => by rw [hag.same i a (by rw [b]; exact c), b]⟩
      (by rw [← v.ids]; exact hv)
    exact ⟨hI' _ _ i1 l, p1⟩

theorem Emits.withSub (i : Nat) (hI : QLStable I) (hI' : QLStable I') (h : Emits B F I m I' P) :
    Emits B F I (withSub i m) I' P :=
  (h.before quiet_popSub hI').after (quiet_pushSub i) hI

theorem Emits.instr (o : UInt8) (hI : QLStable I) :
    Emits B F I (pushInstr o) I (fun p q => B.getD p 0 = o ∧ q = p + 1) where
  tame _ := pushInstr_runs o
  spec s s' r hi hag _ := by
    obtain ⟨b, l, _⟩ := pushInstr_ok r
    exact ⟨hI _ _ hi l, agree_op b hag (Nat.le_refl _)⟩

theorem Emits.instr64 (o : UInt8) (x : UInt64) (hI : QLStable I) :
    Emits B F I (pushInstr o >>= fun _ => emitBytes (le64 x)) I
      (fun p q => B.getD p 0 = o ∧ Vm.rdU64 B (p + 1) = x ∧ q = p + 9) where
  tame _ := runs_seq (pushInstr_runs o) (emitBytes_runs _)
  spec s s' r hi hag _ := by
    obtain ⟨_, s1, r1, r2⟩ := bind_ok.1 r
    obtain ⟨b1, l1, _⟩ := pushInstr_ok r1
    obtain ⟨b2, l2, _⟩ := emitBytes_ok r2
    obtain ⟨a1, a2, a3⟩ := agree_instr (by rw [b2, b1]) hag
    exact ⟨hI _ _ hi (l1.trans l2), a1, Sim.rdU64_eq _ _ _ fun j hj => a2 j (by rw [Bytecode.le64_length]; exact hj),
      by rw [a3, Bytecode.le64_length]⟩

theorem Emits.imp_le (h : Emits B F I m I' P) (hp : ∀ p q, p ≤ q → q ≤ B.size → P p q → P' p q) :
    Emits B F I m I' P' :=
  ⟨h.tame, fun s s' r hi hag hv =>
    ⟨(h.spec s s' r hi hag hv).1, hp _ _ ((h.mono 0).run _ _ _ r (Nat.zero_le _)).1.size_le hag.size_le
      (h.spec s s' r hi hag hv).2⟩⟩

theorem Emits.instr32_mod (o : UInt8) (x : Nat) (hI : QLStable I) :
    Emits B F I (pushInstr o >>= fun _ => emitU32 x) I
      (fun p q => B.getD p 0 = o ∧ Vm.rdU32 B (p + 1) = x % 4294967296 ∧ q = p + 5) where
  tame _ := runs_seq (pushInstr_runs o) (emitU32_runs x)
  spec s s' r hi hag _ := by
    obtain ⟨_, s1, r1, r2⟩ := bind_ok.1 r
    obtain ⟨b1, l1, _⟩ := pushInstr_ok r1
    obtain ⟨b2, l2, _⟩ := emitBytes_ok r2
    obtain ⟨a1, a2, a3⟩ := agree_instr (by rw [b2, b1]) hag
    refine ⟨hI _ _ hi (l1.trans l2), a1, ?_, by rw [a3, Bytecode.le32_length]⟩
    rw [Sim.rdU32_eq _ _ (UInt32.ofNat x) fun j hj => a2 j (by rw [Bytecode.le32_length]; exact hj)]
    exact UInt32.toNat_ofNat'

theorem Emits.instr32 (o : UInt8) {x : Nat} (hx : ∀ s, I s → x < 4294967296) (hI : QLStable I) :
    Emits B F I (pushInstr o >>= fun _ => emitU32 x) I
      (fun p q => B.getD p 0 = o ∧ Vm.rdU32 B (p + 1) = x ∧ q = p + 5) where
  tame := (Emits.instr32_mod (B := B) (F := F) o x hI).tame
  spec s s' r hi hag hv := by
    obtain ⟨i', a1, a2, a3⟩ := (Emits.instr32_mod (B := B) (F := F) o x hI).spec s s' r hi hag hv
    exact ⟨i', a1, by rw [a2, Nat.mod_eq_of_lt (hx s hi)], a3⟩

/-- a step that returns a value and emits nothing: from `I` it leads to `Q a`, and `R a p` holds of the
    value `a` and the current address `p` -/
structure Silent {α : Type} (I : CState → Prop) (mv : CM α) (Q : α → CState → Prop) (R : α → Nat → Prop) : Prop where
  tame : Tame mv
  run : ∀ s a s', mv s = .ok (a, s') → I s → s'.bytecode = s.bytecode ∧ Q a s' ∧ R a s.bytecode.size

theorem Emits.bind {α : Type} {mv : CM α} {f : α → CM Unit} {Q : α → CState → Prop} {R : α → Nat → Prop}
    {P : α → Nat → Nat → Prop} (hv : Silent I mv Q R) (hf : ∀ a, Emits B F (Q a) (f a) I' (P a)) :
    Emits B F I (mv >>= f) I' (fun p r => ∃ a, R a p ∧ p ≤ B.size ∧ P a p r) where
  tame k := runs_bind (hv.tame k) fun a _ => (hf a).tame k
  spec s s'' r hi hag hvp := by
    obtain ⟨a, s', r1, r2⟩ := bind_ok.1 r
    obtain ⟨b, q, ra⟩ := hv.run s a s' r1 hi
    obtain ⟨i', p'⟩ := (hf a).spec s' s'' r2 q (by rw [b]; exact hag) hvp
    have := (((hf a).mono 0).run _ _ _ r2 (Nat.zero_le _)).1.size_le
    rw [b] at p' this
    exact ⟨i', a, ra, Nat.le_trans this hag.size_le, p'⟩

theorem silent_get : Silent I (get : CM CState) (fun _ => I) (fun st p => st.bytecode.size = p) where
  tame _ := runs_weaken runs_get fun _ _ => trivial
  run s a s' r hi := by
    simp only [get_run, Except.ok.injEq, Prod.mk.injEq] at r
    obtain ⟨rfl, rfl⟩ := r
    exact ⟨rfl, hi, rfl⟩

/-! ### the arms of `processCard` -/

theorem Emits.unCode (k : UnKind) (hI : QLStable I) (hI' : QLStable I') (hc : Emits B F I c I' PC) :
    Emits B F I (unCode k c) I' (fun p q => ∃ m, PC p m ∧ B.getD m 0 = unOp k ∧ q = m + 1) :=
  (hc.withSub 0 hI hI').seq (Emits.instr (unOp k) hI')

theorem Emits.binCode {k : BinKind} (hk : isValOp k = true) (hI : QLStable I) (ha : Emits B F I c I PC)
    (hb : Emits B F I b I PB) :
    Emits B F I (binCode k c b) I
      (fun p q => ∃ m1 m2, PC p m1 ∧ PB m1 m2 ∧ B.getD m2 0 = binOp k ∧ q = m2 + 1) := by
  rw [binCode_valop k hk]
  exact ((ha.withSub 0 hI hI).seq ((hb.withSub 1 hI hI).seq (Emits.instr (binOp k) hI))).imp
    fun _ _ ⟨m1, h1, m2, h2, h3⟩ => ⟨m1, m2, h1, h2, h3⟩

theorem Emits.encodeIfThen (hB : B.size < 4294967296) (skip : UInt8) (hI : QLStable I) (hI' : QLStable I')
    (hb : Emits B F I b I' PB) :
    Emits B F I (encodeIfThen skip b) I'
      (fun p r => B.getD p 0 = skip ∧ Vm.rdU32 B (p + 1) = r ∧ PB (p + 5) r) where
  tame k := encodeIfThen_runs (hb.tame k)
  spec s s' r hi hag hv := by
    obtain ⟨s3, s4, r4, e3, l3, v3, e5, l5, v5, hge, g1, g2, g3, g4⟩ := encodeIfThen_ok hb.mono r
    obtain ⟨i4, p4⟩ := hb.spec s3 s4 r4 (hI _ _ hi l3)
      (by rw [e3]; exact hag.sub (by omega) (by omega) fun i hi _ => g3 i hi) (vpre_eq hv v5.ids)
    have hlt : s4.bytecode.size < 4294967296 := by have := hag.size_le; omega
    refine ⟨hI' _ _ i4 l5, ?_, ?_, by rw [e3] at p4; rw [e5]; exact p4⟩
    · rw [hag.getD (Nat.le_refl _) (by omega)]; exact g1
    · rw [hag.rdU32 (by omega) (by omega), e5]; exact rdU32_patched hlt g2

theorem Emits.ifCode (hB : B.size < 4294967296) (skip : UInt8) (hI : QLStable I) (hc : Emits B F I c I PC)
    (hb : Emits B F I b I PB) :
    Emits B F I (ifCode skip c b) I
      (fun p r => ∃ m, PC p m ∧ B.getD m 0 = skip ∧ Vm.rdU32 B (m + 1) = r ∧ PB (m + 5) r) :=
  (hc.withSub 0 hI hI).seq (((Emits.encodeIfThen hB skip hI hI hb).before quiet_popSub hI).after (quiet_pushSub 1) hI)

/-- `cond; GotoIfFalse end; <scope: body>; Goto start` -/
theorem Emits.whileCode (hB : B.size < 4294967296) (hI : QLStable I) (hc : Emits B F I c I PC)
    (hbeg : Emits B F I scopeBegin Ib (fun p q => q = p)) (hb : Emits B F Ib b Ib' PB)
    (hend : Emits B F Ib' scopeEnd I PE) :
    Emits B F I (whileCode c b) I
      (fun p r => ∃ m1 m2 m3, PC p m1 ∧ B.getD m1 0 = op.gotoIfFalse ∧ Vm.rdU32 B (m1 + 1) = r ∧
        PB (m1 + 5) m2 ∧ PE m2 m3 ∧ B.getD m3 0 = op.goto ∧ Vm.rdU32 B (m3 + 1) = p ∧ r = m3 + 5) := by
  unfold Compiler.whileCode
  refine (Emits.bind silent_get fun st => (hc.withSub 0 hI hI).seq (((Emits.encodeIfThen hB op.gotoIfFalse hI hI
    (hbeg.seq (hb.seq (hend.seq (Emits.instr32_mod op.goto st.bytecode.size hI))))).before quiet_popSub hI).after
      (quiet_pushSub 1) hI)).imp_le ?_
  rintro p r _ _ ⟨st, hst, hle, m1, h1, h2, h3, _, rfl, m2, h4, m3, h5, h6, h7, h8⟩
  exact ⟨m1, m2, m3, h1, h2, h3, h4, h5, h6, by rw [h7, hst]; exact Nat.mod_eq_of_lt (by omega), h8⟩

/-- `cond; GotoIfFalse else; then; Goto end; else`: the operand of the `Goto` is a placeholder until
    the else branch has been emitted, so the bytes of the then branch are compared with the final
    program around that placeholder -/
theorem Emits.ifElseCode (hB : B.size < 4294967296) (hI : QLStable I) (hc : Emits B F I c I PC)
    (ht : Emits B F I t I PT) (he : Emits B F I e I PE) :
    Emits B F I (ifElseCode c t e) I
      (fun p r => ∃ m1 m2, PC p m1 ∧ B.getD m1 0 = op.gotoIfFalse ∧ Vm.rdU32 B (m1 + 1) = m2 + 5 ∧
        PT (m1 + 5) m2 ∧ B.getD m2 0 = op.goto ∧ Vm.rdU32 B (m2 + 1) = r ∧ PE (m2 + 5) r) where
  tame k := ifElseCode_runs (hc.tame k) (ht.tame k) (he.tame k)
  spec s0 s' h hi hag hv := by
    have hcw := hc.withSub 0 hI hI
    have hew := he.withSub 2 hI hI
    unfold Compiler.ifElseCode at h
    obtain ⟨_, s1, h2, h⟩ := bind_ok.1 h
    obtain ⟨_, s1', h5, h⟩ := bind_ok.1 h
    obtain ⟨b2, l2, v2⟩ := pushSub_ok h5
    obtain ⟨idxRef, s5, h6, h⟩ := bind_ok.1 h
    obtain ⟨_, s5', h7, h⟩ := bind_ok.1 h
    obtain ⟨b7, l7, v7⟩ := popSub_ok h7
    obtain ⟨_, s8, h12, h⟩ := bind_ok.1 h
    obtain ⟨s9, s9', hg, h14⟩ := bind_ok.1 h
    simp only [get_run, Except.ok.injEq, Prod.mk.injEq] at hg
    obtain ⟨rfl, rfl⟩ := hg
    obtain ⟨s3, s4, h8, e3, l3, v3, e5, l5, v5, hge, g1, g2, g3, g4⟩ :=
      encodeIfThenRet_ok (Tame.mono fun k => runs_seq (ht.tame k) <| runs_seq (pushInstr_runs _) <|
        runs_bind runs_get fun _ _ => runs_seq (emitU32_runs _) runs_ret) h6
    obtain ⟨_, s6, h9, h⟩ := bind_ok.1 h8
    obtain ⟨_, s7, h10, h⟩ := bind_ok.1 h
    obtain ⟨b10, l10, v10⟩ := pushInstr_ok h10
    obtain ⟨s7', s7'', hg, h⟩ := bind_ok.1 h
    simp only [get_run, Except.ok.injEq, Prod.mk.injEq] at hg
    obtain ⟨rfl, rfl⟩ := hg
    obtain ⟨_, s4', h11, h⟩ := bind_ok.1 h
    simp only [pure_run, Except.ok.injEq, Prod.mk.injEq] at h
    obtain ⟨rfl, rfl⟩ := h
    obtain ⟨b11, l11, v11⟩ := emitBytes_ok h11
    have em : s1'.bytecode.size = s1.bytecode.size := by rw [b2]
    rw [em] at e3 hge g1 g2 g3 g4
    have hsz1 := ((hcw.mono 0).run _ _ _ h2 (Nat.zero_le _)).1.size_le
    have hsz6 := ((ht.mono 0).run _ _ _ h9 (Nat.zero_le _)).1.size_le
    have hext8 := ((hew.mono s5'.bytecode.size).run _ _ _ h12 (Nat.le_refl _)).1
    have e7 : s7.bytecode.size = s6.bytecode.size + 1 := by rw [b10]; simp
    have hb4 : s4'.bytecode = s6.bytecode.push op.goto ++ (le32 (UInt32.ofNat 0xEEF)).toArray := by
      rw [b11, b10]
    have e4 : s4'.bytecode.size = s6.bytecode.size + 5 := by rw [hb4]; simp [Bytecode.le32_length]
    have esc : s5'.bytecode.size = s6.bytecode.size + 5 := by rw [b7, e5, e4]
    have hsz8 := hext8.size_le
    obtain ⟨p1, p2, p3, p4, p5⟩ := patchI32_bytes h14 (by omega)
    -- up to the `Goto` the final bytes are those of `s5`, from the else branch on those of `s8`
    have k5 : ∀ i, i < s6.bytecode.size + 1 → s'.bytecode[i]? = s5.bytecode[i]? := fun i hi => by
      rw [p2 i (Or.inl (by omega)), hext8.pref i (by omega), b7]
    have k8 : ∀ i, s6.bytecode.size + 5 ≤ i → s'.bytecode[i]? = s8.bytecode[i]? :=
      fun i hi => p2 i (Or.inr (by omega))
    have h46 : ∀ i, i < s6.bytecode.size → s4'.bytecode[i]? = s6.bytecode[i]? := fun i hi => by
      rw [hb4, Array.getElem?_append_left (by simp; omega), Array.getElem?_push_lt hi]; simp
    have hv8 : ∃ t, F = s8.varIds ++ t := vpre_eq hv p5.ids
    have hv6 : ∃ t, F = s6.varIds ++ t := by
      obtain ⟨t, ht⟩ := vpre_back hv8 (hew.vr.run _ _ _ h12)
      exact ⟨t, by rw [ht, v7.ids, v5.ids, v11.ids, v10.ids]⟩
    obtain ⟨i1, hcc⟩ := hcw.spec s0 s1 h2 hi
      (hag.sub (Nat.le_refl _) (by omega) fun i _ hi => by rw [k5 i (by omega), g4 i hi, b2])
      (by
        obtain ⟨t, ht⟩ := vpre_back hv6 (ht.vr.run _ _ _ h9)
        exact ⟨t, by rw [ht, v3.ids, v2.ids]⟩)
    obtain ⟨i6, hct⟩ := ht.spec s3 s6 h9 (hI _ _ (hI _ _ i1 l2) l3)
      (by
        rw [e3]
        exact hag.sub (by omega) (by omega) fun i hi hi' => by rw [k5 i (by omega), g3 i hi, h46 i hi'])
      hv6
    obtain ⟨i8, hce⟩ := hew.spec s5' s8 h12 (hI _ _ i6 (((l10.trans l11).trans l5).trans l7))
      (by rw [esc]; exact hag.sub (by omega) (by omega) fun i hi _ => k8 i hi)
      hv8
    have hsB := hag.size_le
    have hag5 : ∀ i, s0.bytecode.size ≤ i → i < s6.bytecode.size + 1 → B.getD i 0 = s5.bytecode.getD i 0 :=
      fun i h1 h2 => by rw [hag.getD h1 (by omega)]; exact getD_congr (k5 i h2)
    refine ⟨hI _ _ i8 p4, s1.bytecode.size, s6.bytecode.size, hcc, ?_, ?_, by rw [e3] at hct; exact hct, ?_, ?_, ?_⟩
    · rw [hag5 _ (by omega) (by omega)]; exact g1
    · rw [hag.rdU32 (by omega) (by omega), rdU32_congr fun j hj => k5 _ (by omega),
        rdU32_patched (by omega) g2, e4]
    · rw [hag5 _ (by omega) (by omega), getD_congr (g3 _ (by omega)), hb4]
      exact getD_push_append_left _ _ _
    · rw [hag.rdU32 (by omega) (by omega), p1]
      exact rdU32_patched (by omega) (by rw [e7] at p3; exact p3)
    · rw [esc] at hce; rw [p1]; exact hce

theorem gidOf_lt (hF : ∀ p ∈ F, p.2 < 4294967296) {n : String} {id : Nat} (h : gidOf F n = some id) :
    id < 4294967296 := by
  unfold gidOf at h
  rcases hf : List.find? (fun p => p.fst == Vm.hName n) F with _ | x
  · rw [hf] at h; cases h
  · rw [hf] at h
    simp only [Option.map_some, Option.some.injEq] at h
    exact h ▸ hF x (List.mem_of_find?_eq_some hf)

theorem gidOf_of_globalId {n : String} {s s1 s' : CState} {id : Nat} (h : globalId n s = .ok (id, s1))
    (hv : ∃ t, F = s'.varIds ++ t) (he : s'.varIds = s1.varIds) : gidOf F n = some id := by
  obtain ⟨_, _, _, _, hfind⟩ := globalId_ql h
  obtain ⟨t, ht⟩ := hv
  unfold gidOf
  rw [ht, he, List.find?_append, hfind]
  rfl

theorem Emits.setGlobalVarCode (hF : ∀ p ∈ F, p.2 < 4294967296) {x : String} (hx : x.isEmpty = false)
    (hI : QLStable I) (hI' : QLStable I') (hc : Emits B F I c I' PC) :
    Emits B F I (setGlobalVarCode x c) I'
      (fun p q => ∃ m id, PC p m ∧ B.getD m 0 = op.setGlobalVar ∧ gidOf F x = some id ∧
        Vm.rdU32 B (m + 1) = id ∧ q = m + 5) where
  tame k := setGlobalVarCode_runs (hc.tame k)
  spec s s' r hi hag hv := by
    have hcw := hc.withSub 0 hI hI'
    unfold Compiler.setGlobalVarCode at r
    obtain ⟨_, s1, r1, r⟩ := bind_ok.1 r
    obtain ⟨_, s2, r2, r⟩ := bind_ok.1 r
    obtain ⟨b2, l2, v2⟩ := pushInstr_ok r2
    rw [if_neg (by simp [hx])] at r
    obtain ⟨id, s3, r3, r4⟩ := bind_ok.1 r
    obtain ⟨b3, l3, _, _, _⟩ := globalId_ql r3
    obtain ⟨b4, l4, v4⟩ := emitBytes_ok r4
    have hb' : s'.bytecode = s1.bytecode.push op.setGlobalVar ++ (le32 (UInt32.ofNat id)).toArray := by
      rw [b4, b3, b2]
    have hsz1 := ((hcw.mono 0).run _ _ _ r1 (Nat.zero_le _)).1.size_le
    obtain ⟨i1, p1⟩ := hcw.spec s s1 r1 hi
      (hag.sub (Nat.le_refl _) (by rw [hb']; simp) fun i _ hi => by
        rw [hb', Array.getElem?_append_left (by simp; omega), Array.getElem?_push_lt hi]; simp)
      (by
        obtain ⟨t, ht⟩ := vpre_back (vpre_eq hv v4.ids) ((Tame.vr fun _ => globalId_runs x).run _ _ _ r3)
        exact ⟨t, by rw [ht, v2.ids]⟩)
    obtain ⟨a1, a2, a3⟩ := agree_instr hb' (hag.weaken hsz1)
    have hgid := gidOf_of_globalId r3 hv v4.ids
    exact ⟨hI' _ _ i1 ((l2.trans l3).trans l4), _, id, p1, a1, hgid,
      rdU32_patched (gidOf_lt hF hgid) fun j hj => a2 j (by rw [Bytecode.le32_length]; exact hj), by rw [a3, Bytecode.le32_length]⟩

theorem Emits.readGlobal (hF : ∀ p ∈ F, p.2 < 4294967296) {x : String} (hx : simpleName x = true)
    (hI : QLStable I) (hres : ∀ s, I s → resolveVar x s = .ok (.global, s)) :
    Emits B F I (readVarCard x) I
      (fun p q => ∃ id, gidOf F x = some id ∧ B.getD p 0 = op.readGlobalVar ∧ Vm.rdU32 B (p + 1) = id ∧
        q = p + 5) where
  tame _ := readVarCard_runs x
  spec s s' r hi hag hv := by
    replace hx := simpleName_iff.1 hx
    unfold readVarCard at r
    simp only [hx.1] at r
    obtain ⟨var, s0, r0, r⟩ := bind_ok.1 r
    rw [hres s hi] at r0
    simp only [Except.ok.injEq, Prod.mk.injEq] at r0
    obtain ⟨rfl, rfl⟩ := r0
    simp only [readProps] at r
    obtain ⟨id, s1, r1, r⟩ := bind_ok.1 r
    obtain ⟨b1, l1, _, _, _⟩ := globalId_ql r1
    obtain ⟨_, s2, r2, r⟩ := bind_ok.1 r
    obtain ⟨b2, l2, v2⟩ := pushInstr_ok r2
    obtain ⟨_, s3, r3, r⟩ := bind_ok.1 r
    obtain ⟨b3, l3, v3⟩ := emitBytes_ok r3
    simp only [pure_run, Except.ok.injEq, Prod.mk.injEq, true_and] at r
    subst r
    obtain ⟨a1, a2, a3⟩ := agree_instr (a := s.bytecode) (by rw [b3, b2, b1]) hag
    have hgid := gidOf_of_globalId r1 hv (v3.ids.trans v2.ids)
    exact ⟨hI _ _ hi ((l1.trans l2).trans l3), id, hgid, a1,
      rdU32_patched (gidOf_lt hF hgid) fun j hj => a2 j (by rw [Bytecode.le32_length]; exact hj), by rw [a3, Bytecode.le32_length]⟩

theorem Emits.readLocal {x : String} (hx : simpleName x = true) (hI : QLStable I) {i : Nat}
    (hi : ∀ s, I s → i < 4294967296)
    (hres : ∀ s, I s → resolveVar x s = .ok (.local_ i, s)) :
    Emits B F I (readVarCard x) I
      (fun p q => B.getD p 0 = op.readLocalVar ∧ Vm.rdU32 B (p + 1) = i ∧ q = p + 5) where
  tame _ := readVarCard_runs x
  spec s s' r hs hag hv := by
    replace hx := simpleName_iff.1 hx
    unfold readVarCard at r
    simp only [hx.1] at r
    obtain ⟨var, s0, r0, r⟩ := bind_ok.1 r
    rw [hres s hs] at r0
    simp only [Except.ok.injEq, Prod.mk.injEq] at r0
    obtain ⟨rfl, rfl⟩ := r0
    simp only [readProps] at r
    obtain ⟨_, s1, r1, r⟩ := bind_ok.1 r
    simp only [pure_run, Except.ok.injEq, Prod.mk.injEq, true_and] at r
    subst r
    exact (Emits.instr32 op.readLocalVar hi hI).spec s s1 r1 hs hag hv

end emits

/-- a traversal of a list of cards that compiles them one after the other, wrapped in steps that
    emit nothing (`compileSubexprFrom`, `processFunctionCards`) -/
structure Walk (trav : Nat → List Card → CM Unit) : Prop where
  nil : ∀ i, trav i [] = pure ()
  cons : ∀ {B : Array UInt8} {F : List (UInt32 × Nat)} {I I1 I2 : CState → Prop} {P1 P2 : Nat → Nat → Prop}
    (i : Nat) (c : Card) (cs : List Card), QLStable I → QLStable I1 → Emits B F I (processCard c) I1 P1 →
    Emits B F I1 (trav (i + 1) cs) I2 P2 → Emits B F I (trav i (c :: cs)) I2 (fun p r => ∃ q, P1 p q ∧ P2 q r)

theorem walk_compileSubexprFrom : Walk compileSubexprFrom where
  nil i := by simp only [compileSubexprFrom]
  cons i c cs hI hI1 hc hcs := by
    simp only [compileSubexprFrom]
    exact (hc.withSub i hI hI1).seq hcs

theorem walk_processFunctionCards : Walk processFunctionCards where
  nil i := by simp only [processFunctionCards]
  cons i c cs hI _ hc hcs := by
    simp only [processFunctionCards]
    exact ((hc.seq hcs).after (quiet_pushSub i) hI).after quiet_popSub hI

/-! ## the fragment without locals -/

theorem NoLoc.qlStable : QLStable NoLoc := fun _ _ h q => h.of_ql q

section
variable (B : Array UInt8) (F : List (UInt32 × Nat)) (hB : B.size < 4294967296)
  (hF : ∀ p ∈ F, p.2 < 4294967296)

theorem scopeBegin_noLoc : Emits B F NoLoc scopeBegin NoLoc (fun p q => q = p) where
  tame _ := scopeBegin_runs
  spec s s' r hl _ _ := by
    obtain ⟨b, ll, f, _, _⟩ := scopeBegin_ok r
    exact ⟨⟨f.trans hl.fid, by rw [ll]; exact hl.none⟩, by rw [b]⟩

theorem scopeEnd_noLoc : Emits B F NoLoc scopeEnd NoLoc (fun p q => q = p) where
  tame _ := scopeEnd_runs
  spec s s' r hl _ _ := by
    have hk : keptLocals s = [] := by
      unfold keptLocals; rw [hl.fid, hl.none]; rfl
    rw [scopeEnd_run, hk, hl.fid, hl.none] at r
    obtain ⟨_, rfl⟩ := Prod.mk.inj (Except.ok.inj r)
    refine ⟨⟨rfl, ?_⟩, by simp⟩
    show (s.locals.set 0 []).getD 0 [] = []
    simp only [List.getD_eq_getElem?_getD]
    by_cases hpos : 0 < s.locals.length
    · rw [List.getElem?_set_self hpos]; rfl
    · rw [List.getElem?_eq_none (by rw [List.length_set]; omega)]; rfl

include hF in
theorem ecode_emits : ∀ (e : Card), isExpr e = true → Emits B F NoLoc (processCard e) NoLoc (ECode B F e)
  | .scalarInt i, _ => by
    simp only [processCard]
    exact (Emits.instr64 op.scalarInt _ NoLoc.qlStable).after quiet_cardLabel NoLoc.qlStable
  | .scalarFloat b, _ => by
    simp only [processCard]
    exact (Emits.instr64 op.scalarFloat _ NoLoc.qlStable).after quiet_cardLabel NoLoc.qlStable
  | .scalarNil, _ => by
    simp only [processCard]
    exact (Emits.instr op.scalarNil NoLoc.qlStable).after quiet_cardLabel NoLoc.qlStable
  | .un .not c, he => by
    simp only [isExpr] at he
    simp only [processCard]
    exact (Emits.unCode .not NoLoc.qlStable NoLoc.qlStable (ecode_emits c he)).after quiet_cardLabel NoLoc.qlStable
  | .bin k a b, he => by
    simp only [isExpr, Bool.and_eq_true] at he
    simp only [processCard]
    exact (Emits.binCode he.1.1 NoLoc.qlStable (ecode_emits a he.1.2) (ecode_emits b he.2)).after
      quiet_cardLabel NoLoc.qlStable
  | .readVar x, he => by
    simp only [isExpr] at he
    simp only [processCard]
    have hne := (simpleName_iff.1 he).2
    exact (Emits.readGlobal hF he NoLoc.qlStable fun s hl => resolveVar_global hne hl).after
      quiet_cardLabel NoLoc.qlStable
  | .un .ret _, he | .un .len _, he | .un .popTable _, he | .tri _ _ _ _, he | .createTable, he | .abort, he
  | .stringLiteral _, he | .comment _, he | .function _, he | .nativeFunction _, he | .setVar _ _, he
  | .setGlobalVar _ _, he | .callNative _ _, he | .call _ _, he | .repeat _ _ _, he | .forEach _ _ _ _ _, he
  | .composite _ _, he | .dynamicCall _ _, he | .array _, he | .closure _ _, he => by
    simp [isExpr] at he

include hB hF in
set_option linter.unusedSectionVars false in
mutual
theorem scode_emits : ∀ (c : Card), isStmt c = true → Emits B F NoLoc (processCard c) NoLoc (SCode B F c)
  | .comment _, _ => by
    simp only [processCard]
    exact (Emits.pure NoLoc).after quiet_cardLabel NoLoc.qlStable
  | .composite _ cs, hc => by
    simp only [isStmt] at hc
    simp only [processCard]
    exact (scodes_emits walk_compileSubexprFrom cs hc 0).after quiet_cardLabel NoLoc.qlStable
  | .setGlobalVar x e, hc => by
    simp only [isStmt, Bool.and_eq_true, Bool.not_eq_true'] at hc
    simp only [processCard]
    exact (Emits.setGlobalVarCode hF hc.1 NoLoc.qlStable NoLoc.qlStable (ecode_emits B F hF e hc.2)).after
      quiet_cardLabel NoLoc.qlStable
  | .bin .ifTrue c b, hc => by
    simp only [isStmt, Bool.and_eq_true] at hc
    simp only [processCard]
    exact (Emits.ifCode hB op.gotoIfFalse NoLoc.qlStable (ecode_emits B F hF c hc.1) (scode_emits b hc.2)).after
      quiet_cardLabel NoLoc.qlStable
  | .bin .ifFalse c b, hc => by
    simp only [isStmt, Bool.and_eq_true] at hc
    simp only [processCard]
    exact (Emits.ifCode hB op.gotoIfTrue NoLoc.qlStable (ecode_emits B F hF c hc.1) (scode_emits b hc.2)).after
      quiet_cardLabel NoLoc.qlStable
  | .bin .while c b, hc => by
    simp only [isStmt, Bool.and_eq_true] at hc
    simp only [processCard]
    refine ((Emits.whileCode hB NoLoc.qlStable (ecode_emits B F hF c hc.1) (scopeBegin_noLoc B F)
      (scode_emits b hc.2) (scopeEnd_noLoc B F)).after quiet_cardLabel NoLoc.qlStable).imp ?_
    rintro p r ⟨m1, _, m2, h1, h2, h3, h4, rfl, h5⟩
    simp only [SCode]
    exact ⟨m1, m2, h1, h2, h3, h4, h5⟩
  | .tri .ifElse c t e, hc => by
    simp only [isStmt, Bool.and_eq_true] at hc
    simp only [processCard]
    exact (Emits.ifElseCode hB NoLoc.qlStable (ecode_emits B F hF c hc.1.1) (scode_emits t hc.1.2)
      (scode_emits e hc.2)).after quiet_cardLabel NoLoc.qlStable
  | .bin .add _ _, hc | .bin .sub _ _, hc | .bin .mul _ _, hc | .bin .div _ _, hc | .bin .less _ _, hc
  | .bin .lessOrEq _ _, hc | .bin .equals _ _, hc | .bin .notEquals _ _, hc | .bin .and _ _, hc
  | .bin .or _ _, hc | .bin .xor _ _, hc | .bin .getProperty _ _, hc | .bin .get _ _, hc
  | .bin .appendTable _ _, hc | .un _ _, hc | .tri .setProperty _ _ _, hc | .scalarNil, hc | .createTable, hc
  | .abort, hc | .scalarInt _, hc | .scalarFloat _, hc | .stringLiteral _, hc | .function _, hc
  | .nativeFunction _, hc | .readVar _, hc | .setVar _ _, hc | .callNative _ _, hc | .call _ _, hc
  | .repeat _ _ _, hc | .forEach _ _ _ _ _, hc | .dynamicCall _ _, hc | .array _, hc | .closure _ _, hc => by
    simp [isStmt] at hc

theorem scodes_emits {trav : Nat → List Card → CM Unit} (hw : Walk trav) :
    ∀ (cs : List Card), isStmts cs = true → ∀ (i : Nat), Emits B F NoLoc (trav i cs) NoLoc (SCodes B F cs)
  | [], _, i => by
    rw [hw.nil]
    exact Emits.pure NoLoc
  | c :: cs, hc, i => by
    simp only [isStmts, Bool.and_eq_true] at hc
    exact hw.cons i c cs NoLoc.qlStable NoLoc.qlStable (scode_emits c hc.1) (scodes_emits hw cs hc.2 (i + 1))
end

include hB hF in
theorem scodes_of_compileSubexprFrom :
    ∀ (cs : List Card), isStmts cs = true → ∀ (i : Nat) (s s' : CState),
      compileSubexprFrom i cs s = .ok ((), s') → NoLoc s →
      AgreeFrom B s' s.bytecode.size → (∃ t, F = s'.varIds ++ t) →
      NoLoc s' ∧ SCodes B F cs s.bytecode.size s'.bytecode.size :=
  fun cs hc i => (scodes_emits B F hB hF walk_compileSubexprFrom cs hc i).spec

end

theorem addFunctions_okS : ∀ (fs : List FunctionIr) {s s' : CState} {a : Unit},
    addFunctions fs s = .ok (a, s') → s' = { s with jumpTable := s'.jumpTable }
  | [], s, s', a, h => by
    simp only [addFunctions, pure_run, Except.ok.injEq, Prod.mk.injEq] at h
    rw [← h.2]
  | f :: fs, s, s', a, h => by
    simp only [addFunctions] at h
    obtain ⟨_, s1, h1, h2⟩ := bind_ok.1 h
    have e2 := addFunctions_okS fs h2
    rw [addFunction_run] at h1
    split at h1
    · cases h1
    · rw [e2, ← (Prod.mk.inj (Except.ok.inj h1)).2]

theorem pairwise_inj {α : Type} {l : List α} {f : α → Nat} (h : l.Pairwise (fun p q => f p ≠ f q)) :
    ∀ a b, a ∈ l → b ∈ l → f a = f b → a = b := by
  induction l with
  | nil => intro a b ha; cases ha
  | cons x l ih =>
    rw [List.pairwise_cons] at h
    intro a b ha hb hab
    rcases List.mem_cons.1 ha with ha | ha <;> rcases List.mem_cons.1 hb with hb | hb
    · rw [ha, hb]
    · rw [ha] at hab; exact absurd hab (h.1 b hb)
    · rw [hb] at hab; exact absurd hab.symm (h.1 a ha)
    · exact ih h.2 a b ha hb hab

theorem Quiet.modify {f : CState → CState}
    (h : ∀ s, (f s).bytecode = s.bytecode ∧ (f s).trace = s.trace ∧ QL s (f s) ∧ QV s (f s)) :
    Quiet (modify f) where
  tame _ := runs_modify fun s hk => ⟨by rw [(h s).1]; exact hk, Ext.of_eq (h s).1 (h s).2.1,
    VExt.of_eq (h s).2.2.2.ids (h s).2.2.2.next (h s).2.2.2.data⟩
  run s s' r := by
    simp only [modify_run, Except.ok.injEq, Prod.mk.injEq, true_and] at r
    subst r
    exact ⟨(h s).1, (h s).2.2⟩

/-- the layout of a compiled unit whose `main` has no parameters, given what the cards of `main` emit
    (`P`, from a state `s4` with an empty bytecode, one empty list of locals and scope depth 1) and what
    the `scopeEnd` after them emits (`PE`): then comes `Exit`. The run is cut after that `Exit` (`s8`)
    and after the other functions (`s9`); what follows `s9` appends the final `Exit` only. -/
theorem compileUnit_mainCode {unit : Array FunctionIr} {sf : CState} (h : compileUnit unit {} = .ok ((), sf))
    (hargs : unit[0]!.arguments = []) {I I' I'' : CState → Prop} {P PE : Nat → Nat → Prop}
    (hI' : QLStable I') (hI'' : QLStable I'')
    (hcards : Emits sf.bytecode sf.varIds I (processFunctionCards 0 unit[0]!.cards) I' P)
    (hend : Emits sf.bytecode sf.varIds I' scopeEnd I'' PE)
    (h4 : ∀ s1 s4 : CState, addFunctions unit.toList {} = .ok ((), s1) → s4.jumpTable = s1.jumpTable →
      s4.bytecode = #[] → s4.locals = [[]] → s4.functionId = 0 → s4.scopeDepth = [1] → I s4) :
    ∃ (s8 s9 : CState) (mainEnd q : Nat), I'' s8 ∧ P 0 mainEnd ∧ PE mainEnd q ∧ sf.bytecode.getD q 0 = op.exit ∧
      s8.bytecode.size = q + 1 ∧ compileFunctions (unit.toList.drop 1) s8 = .ok ((), s9) ∧
      Ext s9.bytecode.size s9 sf ∧ VExt s9 sf ∧ (∀ p ∈ s9.labels, p ∈ sf.labels) ∧
      sf.jumpTable = s9.jumpTable ∧ VInv sf := by
  have hinv : VInv sf :=
    compileUnit_vinv h
  obtain ⟨_, s1, s3, s5, s7, s8, s9, h1, h3, h5, h7, h8, h9, h11⟩ := compileUnit_ok h
  have e1 := addFunctions_okS _ h1
  rw [scopeBegin_run] at h3
  have h3 := (Prod.mk.inj (Except.ok.inj h3)).2
  unfold processFunction at h5
  obtain ⟨_, s4, h4', h5⟩ := bind_ok.1 h5
  simp only [modify_run, Except.ok.injEq, Prod.mk.injEq, true_and] at h4'
  rw [hargs] at h5
  simp only [List.reverse_nil, addLocals, pure_bind] at h5
  have x9 := ((compileFunctions_mono (k := s8.bytecode.size) _).run _ _ _ h9 (Nat.le_refl _)).1
  have x10 : Ext s9.bytecode.size s9 { s9 with imports := [] } := Ext.of_eq rfl rfl
  have x9f : Ext s9.bytecode.size s9 sf :=
    x10.trans ((pushInstr_mono (k := s9.bytecode.size) op.exit).run _ _ _ h11 x10.size_le).1
  have x8f : Ext s8.bytecode.size s8 sf := x9.trans (x9f.weaken x9.size_le)
  have v9f : VExt s9 sf :=
    (VExt.of_eq rfl rfl rfl : VExt s9 { s9 with imports := [] }).trans ((pushInstr_vr _).run _ _ _ h11)
  have hb4 : s4.bytecode = #[] := by rw [← h4', ← h3, e1]
  -- the cards of `main`, the end of its scope and the `Exit` after it, as one emitter
  have hex : Emits sf.bytecode sf.varIds I'' (processCard .abort) I''
      (fun p q => sf.bytecode.getD p 0 = op.exit ∧ q = p + 1) := by
    simp only [processCard]
    exact (Emits.instr op.exit hI'').after quiet_cardLabel hI''
  obtain ⟨i8, mainEnd, c1, q, c2, c3, c4⟩ :=
    (hcards.seq ((hend.seq hex).after (Quiet.modify
      (f := fun s => { s with curFunction := unit[0]!.functionIndex, curIndices := [unit[0]!.cards.length] })
      fun _ => ⟨rfl, rfl, ⟨rfl, rfl, rfl, rfl⟩, ⟨rfl, rfl, rfl⟩⟩)
      hI')).spec s4 s8 (bind_ok.2 ⟨_, s5, h5, bind_ok.2 ⟨(),
        { s5 with curFunction := unit[0]!.functionIndex, curIndices := [unit[0]!.cards.length] }, rfl,
        bind_ok.2 ⟨_, s7, h7, h8⟩⟩⟩)
      (h4 s1 s4 h1 (by rw [← h4', ← h3]) hb4 (by rw [← h4', ← h3, e1])
        (by rw [← h4', ← h3, e1]) (by rw [← h4', ← h3, e1]; rfl))
      ⟨x8f.size_le, fun i _ hi => x8f.pref i hi⟩
      (((compileFunctions_vr _).run _ _ _ h9).trans v9f).ids
  rw [hb4] at c1
  obtain ⟨_, l11, _⟩ := pushInstr_ok h11
  refine ⟨s8, s9, mainEnd, q, i8, c1, c2, c3, c4, h9, x9f, v9f, fun p hp => ?_, by rw [l11.jt], hinv⟩
  have hl : sf.labels = s9.labels := by
    rw [pushInstr_run] at h11
    simp only [Except.ok.injEq, Prod.mk.injEq, true_and] at h11
    rw [← h11]
  rw [hl]; exact hp

/-- the stream starts with the functions of the root module, `main` swapped to the front -/
theorem intoIrStream_fns {m std : Module} {limit : Nat} {unit : Array FunctionIr}
    (h : intoIrStream m std limit = .ok unit) {mi : Nat}
    (hi : m.functions.findIdx? (fun p => p.1 == "main") = some mi) :
    m.functions.length ≤ unit.size ∧ mi < m.functions.length ∧
    ∀ k, k < m.functions.length → ∃ nf, m.functions[if k = 0 then mi else if k = mi then 0 else k]? = some nf ∧
      unit[k]!.name = nf.1 ∧ unit[k]!.ns = [] ∧ unit[k]!.arguments = nf.2.arguments ∧ unit[k]!.cards = nf.2.cards := by
  obtain ⟨_, _, mi', hmi', rfl⟩ := (intoIrStream_ok_iff m std limit unit).1 h
  obtain rfl : mi = mi' := Option.some.inj (hi.symm.trans hmi')
  have hmi : mi < m.functions.length := (List.findIdx?_eq_some_iff_getElem.1 hi).1
  have hlen := mainIdx_lt (std := std) hi
  -- the walk starts with the functions of the root
  generalize hout : (⟨withHandles 0 (entries (withStd m std) [])⟩ : Array FunctionIr) = out
  have hsz : m.functions.length ≤ out.size := by
    rw [← hout]
    cases m with
    | mk subs fns imps =>
      simp only [withStd, entries, Module.functions, List.size_toArray, withHandles_length, List.length_append,
        fnEntries_length]
      omega
  have hout_k : ∀ j, j < m.functions.length → ∃ ir nf, out[j]? = some ir ∧ m.functions[j]? = some nf ∧
      ir.arguments = nf.2.arguments ∧ ir.cards = nf.2.cards ∧ ir.name = nf.1 ∧ ir.ns = [] := by
    intro j hj
    rw [← hout]
    cases m with
    | mk subs fns imps =>
      simp only [Module.functions] at hj ⊢
      refine ⟨FunctionIr.mk (0 + j) fns[j].1 fns[j].2.arguments fns[j].2.cards [] (importsOf imps)
          (Hash.handleFromU64 (UInt64.ofNat (0 + j))), fns[j], ?_, List.getElem?_eq_getElem hj, rfl, rfl, rfl, rfl⟩
      simp only [withStd, entries, List.getElem?_toArray, withHandles_getElem?]
      rw [List.getElem?_append_left (by rw [fnEntries_length]; exact hj), fnEntries_getElem?]
      simp only [Module.functions, Module.imports, List.getElem?_eq_getElem hj, Option.map_some]
  have husz : (irStream m std mi).size = out.size := by
    unfold irStream; rw [hout]; simp
  refine ⟨by omega, hmi, fun k hk => ?_⟩
  -- `unit[k]` is `out[σ k]`
  have hunit : (irStream m std mi)[k]? = out[if k = 0 then mi else if k = mi then 0 else k]? := by
    unfold irStream
    rw [hout]
    simp only [Array.set!_eq_setIfInBounds, getElem!_def]
    by_cases hk0 : k = 0
    · subst hk0
      simp only [if_true]
      by_cases hm0 : mi = 0
      · subst hm0
        rw [Array.getElem?_setIfInBounds_self_of_lt (by simp; omega)]
        rcases ho : out[0]? with _ | x
        · have : 0 < out.size := by omega
          rw [Array.getElem?_eq_none_iff] at ho; omega
        · rfl
      · rw [Array.getElem?_setIfInBounds_ne (by omega), Array.getElem?_setIfInBounds_self_of_lt (by omega)]
        rcases ho : out[mi]? with _ | x
        · rw [Array.getElem?_eq_none_iff] at ho; omega
        · rfl
    · simp only [hk0, if_false]
      by_cases hkm : k = mi
      · subst hkm
        simp only [if_true]
        rw [Array.getElem?_setIfInBounds_self_of_lt (by simp; omega)]
        rcases ho : out[0]? with _ | x
        · rw [Array.getElem?_eq_none_iff] at ho; omega
        · rfl
      · simp only [hkm, if_false]
        rw [Array.getElem?_setIfInBounds_ne (by omega), Array.getElem?_setIfInBounds_ne (by omega)]
  have hσ : (if k = 0 then mi else if k = mi then 0 else k) < m.functions.length := by
    split
    · exact hmi
    · split <;> omega
  obtain ⟨ir, nf, e1, e2, e3, e4, e5, e6⟩ := hout_k _ hσ
  have hget : (irStream m std mi)[k]! = ir := by
    rw [getElem!_def, hunit, e1]
  rw [hget]
  exact ⟨nf, e2, e5, e6, e3, e4⟩

theorem intoIrStream_main {m std : Module} {limit : Nat} {unit : Array FunctionIr}
    (h : intoIrStream m std limit = .ok unit) {i : Nat} {nf : String × Func}
    (hi : m.functions.findIdx? (fun p => p.1 == "main") = some i) (hf : m.functions[i]? = some nf) :
    unit[0]!.arguments = nf.2.arguments ∧ unit[0]!.cards = nf.2.cards := by
  obtain ⟨_, hmi, hk⟩ := intoIrStream_fns h hi
  obtain ⟨nf', e, _, _, ea, ec⟩ := hk 0 (by omega)
  rw [if_pos rfl, hf] at e
  cases e
  exact ⟨ea, ec⟩

theorem VInv.id_lt {s : CState} (h : VInv s) (hV : s.varIds.length < 4294967296) :
    ∀ p ∈ s.varIds, p.2 < 4294967296 := fun p hp => by
  have := h.lt p hp; rw [h.len] at this; omega

/-- the layout of a compiled program whose `main` is in the fragment: the code of the cards of
    `main` from address 0, then `Exit` -/
theorem compile_main {m std : Module} {limit : Nat} {p : Program} (h : compile m std limit = .ok p)
    {i : Nat} {nf : String × Func}
    (hi : m.functions.findIdx? (fun p => p.1 == "main") = some i) (hf : m.functions[i]? = some nf)
    (hargs : nf.2.arguments = []) (hst : isStmts nf.2.cards = true)
    (hB : p.bytecode.size < 4294967296) (hV : p.varIds.length < 4294967296) :
    ∃ mainEnd, SCodes p.bytecode p.varIds nf.2.cards 0 mainEnd ∧
      p.bytecode.getD mainEnd 0 = op.exit ∧ mainEnd < p.bytecode.size ∧
      (∀ a b, a ∈ p.varIds → b ∈ p.varIds → a.2 = b.2 → a = b) := by
  obtain ⟨unit, s, ⟨hunit, hs⟩, rfl⟩ := compile_run h
  obtain ⟨e1, e2⟩ := intoIrStream_main hunit hi hf
  have hinv := compileUnit_vinv hs
  obtain ⟨s8, s9, _, mainEnd, _, c1, rfl, c3, c4, h9, x9, _⟩ := compileUnit_mainCode hs (by rw [e1, hargs])
    NoLoc.qlStable NoLoc.qlStable (scodes_emits s.bytecode s.varIds hB (hinv.id_lt hV) walk_processFunctionCards _ (by rw [e2, hst]) 0)
    (scopeEnd_noLoc _ _) fun _ s4 _ _ _ hl hf _ => ⟨hf, by rw [hl]; rfl⟩
  rw [e2] at c1
  have := ((compileFunctions_mono (k := 0) _).run _ _ _ h9 (Nat.zero_le _)).1.size_le
  have := x9.size_le
  exact ⟨mainEnd, c1, c3, show mainEnd < s.bytecode.size by omega,
    pairwise_inj (f := fun (p : UInt32 × Nat) => p.2) hinv.inj⟩

end Cao.Compiler
