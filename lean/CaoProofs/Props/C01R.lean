import CaoProofs.Props.C01S
/-!
# C01: `Repeat` (with and without a loop variable)

The compiler keeps the evaluated count and the counter in two hidden locals; the loop variable is a
fresh local of the body's scope that receives a *copy* of the counter before every iteration (the
reference semantics allocates a fresh cell), so an assignment to it in the body does not change the
number of iterations.

`RepLoop` (`Lemmas/SimScopes.lean`) is the layout of the loop and `repSlots` the slots while it runs. `simU_repeat` is the
case of `Repeat` that `stmtSimU_succ` of `C01S.lean` takes as a hypothesis: `repeat_init`, then `repeat_loop`
by induction on the gas of `Sem.repeatLoop`.
-/
namespace Cao.C01
open Cao Cao.Vm Cao.Sim Cao.Compiler

theorem asBool_boolVal (h : Heap) (b : Bool) : OVal.asBool hostF64 (ownD h (Vm.boolVal b)) = b := by
  cases b <;> rfl

theorem less_val (h : Heap) (σ : Sem.St) (k : Int64) {nv : Val} (hnv : Scalar nv) :
    binVal .less (ownD h (.int k)) (ownD h nv) = Vm.boolVal (OVal.vlt Sem.F (.int k) (Sem.deepV σ nv)) := by
  rw [ownD_scalar hnv h σ]; rfl

theorem add_val (h : Heap) (k : Int64) : binVal .add (ownD h (.int 1)) (ownD h (.int k)) = .int (k + 1) := by
  show Val.int (1 + k) = .int (k + 1)
  rw [Int64.add_comm]

/-! ## lists read and written through `ReadLocalVar`/`SetLocalVar` -/

theorem rev_getD (pre : List Val) (x : Val) (l rest : List Val) :
    (pre ++ x :: (l ++ rest)).reverse.getD (rest.length + l.length) .nil = x := by
  have e : pre ++ x :: (l ++ rest) = (pre ++ x :: l) ++ rest := by simp
  rw [e, getD_above]
  simp [List.getD_eq_getElem?_getD]

theorem rev_set (pre : List Val) (x y : Val) (l rest : List Val) :
    ((pre ++ x :: (l ++ rest)).reverse.set (rest.length + l.length) y).reverse = pre ++ y :: (l ++ rest) := by
  have e : pre ++ x :: (l ++ rest) = (pre ++ x :: l) ++ rest := by simp
  rw [e, set_above]
  simp [List.set_append_right]

/-! ## hidden slots -/

theorem ctxOf_append (S T : List Slot) : ctxOf (S ++ T) = ctxOf S ++ ctxOf T := by simp [ctxOf]

theorem baseOf_hid (S : List Slot) (σ : Sem.St) (d : Int) (v : Val) :
    baseOf (S ++ [.hidden d v]) σ = v :: baseOf S σ := by
  simp [baseOf, Slot.val]

theorem SRel.hid {S : List Slot} {σ : Sem.St} (h : SRel S σ) (d : Int) {v : Val} (hv : Scalar v) :
    SRel (S ++ [.hidden d v]) σ := by
  refine ⟨fun s hs c hc => ?_, ?_, h.scalar, h.gscalar, fun d' v' hm => ?_⟩
  · rcases List.mem_append.1 hs with hs | hs
    · exact h.lt s hs c hc
    · simp only [List.mem_singleton] at hs; subst hs; cases hc
  · rw [List.filterMap_append]
    have : List.filterMap Slot.cell [Slot.hidden d v] = [] := rfl
    rw [this, List.append_nil]; exact h.inj
  · rcases List.mem_append.1 hm with hm | hm
    · exact h.hscalar d' v' hm
    · simp only [List.mem_singleton, Slot.hidden.injEq] at hm
      rw [hm.2]; exact hv

theorem lookRel_hid {env : Sem.Env} {S : List Slot} (h : LookRel env S) (d : Int) (v : Val) :
    LookRel env (S ++ [.hidden d v]) := by
  intro n hn
  have hctx : ctxOf (S ++ [.hidden d v]) = ctxOf S ++ [("", d)] := by simp [ctxOf, Slot.ctx]
  have hne : ¬ n = "" := fun e => by rw [e] at hn; exact absurd hn (by decide)
  rw [hctx, lidx_append, if_neg hne, h n hn]
  rcases hli : lidx (ctxOf S) n with _ | j
  · rfl
  · have hj : j < S.length := by have := lidx_lt hli; simpa [ctxOf] using this
    simp only [Option.bind_some, List.getElem?_append_left hj]

/-! ## the instructions of the loop -/

section repVm
variable {P : Prog}

/-- `ReadLocalVar counter; ReadLocalVar count; Less; GotoIfFalse`: the test at the head of the loop (the
    count `nv` is in slot `len`, the counter `k` in slot `len + 1`) -/
theorem rep_head {vs : VmState} {cap : Nat} {base rest : List Val} {nv : Val} {k : Int64} (σ : Sem.St) (hnv : Scalar nv)
    {q len : Nat} (hlen : base.length = len) (hq : q + 12 ≤ P.bytecode.size)
    (h1 : IsRead P.bytecode q (len + 1)) (h2 : IsRead P.bytecode (q + 5) len)
    (h3 : P.bytecode.getD (q + 10) 0 = Compiler.op.less) (h4 : P.bytecode.getD (q + 11) 0 = Compiler.op.gotoIfFalse)
    (hfr : FrameAt vs rest.length) (hst : StackIs vs.stack cap (.int k :: nv :: (base ++ rest)))
    (hroom : base.length + rest.length + 4 < cap) :
    ∃ vs', Reach P 4 q vs (if OVal.vlt Sem.F (.int k) (Sem.deepV σ nv) then q + 16 else rdU32 P.bytecode (q + 12)) vs' ∧
      StackIs vs'.stack cap (.int k :: nv :: (base ++ rest)) ∧ SameRest vs vs' ∧ vs'.globals = vs.globals := by
  subst hlen
  obtain ⟨vs1, hr1, hst1, hsame1, hg1⟩ := reach_readLocalAt (P := P) (ip := q) (by omega) h1.1 h1.2 hfr hst
    (by simp only [List.length_cons, List.length_append]; omega) (by simp only [List.length_cons, List.length_append]; omega)
  have e1 : (Val.int k :: nv :: (base ++ rest)).reverse.getD (rest.length + (base.length + 1)) .nil = .int k :=
    rev_getD [] (.int k) (nv :: base) rest
  rw [e1] at hst1
  obtain ⟨vs2, hr2, hst2, hsame2, hg2⟩ := reach_readLocalAt (P := P) (ip := q + 5) (by omega) h2.1 h2.2
    (hsame1.frameAt hfr) hst1 (by simp only [List.length_cons, List.length_append]; omega)
    (by simp only [List.length_cons, List.length_append]; omega)
  have e2 : (Val.int k :: Val.int k :: nv :: (base ++ rest)).reverse.getD (rest.length + base.length) .nil = nv :=
    rev_getD [.int k, .int k] nv base rest
  rw [e2] at hst2
  obtain ⟨vs3, hr3, hst3, hsame3, hg3⟩ := reach_bin (P := P) (ip := q + 10) .less rfl (by omega) h3 hst2
    (by simp only [List.length_cons, List.length_append]; omega)
  rw [less_val vs2.heap σ k hnv] at hst3
  obtain ⟨vs4, hr4, hst4, hsame4, hg4⟩ := reach_gotoIf (P := P) false (ip := q + 11) (by omega) h4 hst3
  rw [asBool_boolVal] at hr4
  replace hr4 : Reach P 1 (q + 11) vs3 (if OVal.vlt Sem.F (.int k) (Sem.deepV σ nv) then q + 16 else rdU32 P.bytecode (q + 12)) vs4 := by
    cases hb : OVal.vlt Sem.F (.int k) (Sem.deepV σ nv) <;> simp only [hb, Bool.false_eq_true, reduceIte] at hr4 ⊢ <;> exact hr4
  refine ⟨vs4, ((hr1.trans hr2 rfl).trans hr3 rfl).trans hr4 rfl, hst4,
    ((hsame1.trans hsame2).trans hsame3).trans hsame4, by rw [hg4, hg3, hg2, hg1]⟩

theorem rep_exit {vs : VmState} {cap : Nat} {base : List Val} {a b : Val} {q : Nat} (hq : q + 2 ≤ P.bytecode.size)
    (h1 : P.bytecode.getD q 0 = Compiler.op.pop) (h2 : P.bytecode.getD (q + 1) 0 = Compiler.op.pop)
    (hst : StackIs vs.stack cap (a :: b :: base)) :
    ∃ vs', Reach P 2 q vs (q + 2) vs' ∧ StackIs vs'.stack cap base ∧ SameRest vs vs' ∧ vs'.globals = vs.globals := by
  obtain ⟨vs1, hr1, hst1, hsame1, hg1⟩ := reach_pop (P := P) (ip := q) (by omega) h1 hst
  obtain ⟨vs2, hr2, hst2, hsame2, hg2⟩ := reach_pop (P := P) (ip := q + 1) (by omega) h2 hst1
  exact ⟨vs2, hr1.trans hr2 rfl, hst2, hsame1.trans hsame2, by rw [hg2, hg1]⟩

/-- `ScalarInt 1; ReadLocalVar counter; Add; SetLocalVar counter; Goto head`: the counter is incremented -/
theorem rep_incr {F : List (UInt32 × Nat)} {L : LCtx} {vs : VmState} {cap : Nat} {base rest : List Val} {nv : Val}
    {k : Int64} {q head len : Nat} (hlen : base.length = len) (hq : q + 25 ≤ P.bytecode.size)
    (h1 : ECodeL P.bytecode F L (.scalarInt 1) q (q + 9)) (h2 : IsRead P.bytecode (q + 9) (len + 1))
    (h3 : P.bytecode.getD (q + 14) 0 = Compiler.op.add) (h4 : IsSet P.bytecode (q + 15) (len + 1))
    (h5 : P.bytecode.getD (q + 20) 0 = Compiler.op.goto) (h6 : rdU32 P.bytecode (q + 21) = head)
    (hfr : FrameAt vs rest.length) (hst : StackIs vs.stack cap (.int k :: nv :: (base ++ rest)))
    (hroom : base.length + rest.length + 4 < cap) :
    ∃ vs', Reach P 5 q vs head vs' ∧ StackIs vs'.stack cap (.int (k + 1) :: nv :: (base ++ rest)) ∧ SameRest vs vs' ∧
      vs'.globals = vs.globals := by
  subst hlen
  obtain ⟨vs1, hr1, hst1, hsame1, hg1⟩ := reach_lit (P := P) rfl h1 (by omega) hst
    (by simp only [List.length_cons, List.length_append]; omega)
  obtain ⟨vs2, hr2, hst2, hsame2, hg2⟩ := reach_readLocalAt (P := P) (ip := q + 9) (by omega) h2.1 h2.2
    (hsame1.frameAt hfr) hst1 (by simp only [List.length_cons, List.length_append]; omega)
    (by simp only [List.length_cons, List.length_append]; omega)
  have e2 : (Val.int 1 :: Val.int k :: nv :: (base ++ rest)).reverse.getD (rest.length + (base.length + 1)) .nil = .int k :=
    rev_getD [.int 1] (.int k) (nv :: base) rest
  rw [e2] at hst2
  obtain ⟨vs3, hr3, hst3, hsame3, hg3⟩ := reach_bin (P := P) (ip := q + 14) .add rfl (by omega) h3 hst2
    (by simp only [List.length_cons, List.length_append]; omega)
  rw [add_val] at hst3
  obtain ⟨vs4, hr4, hst4, hsame4, hg4⟩ := reach_setLocalAt_old (P := P) (ip := q + 15) (by omega) h4.1 h4.2
    (((hsame1.trans hsame2).trans hsame3).frameAt hfr) hst3 (by simp only [List.length_cons, List.length_append]; omega)
  have e4 : ((Val.int k :: nv :: (base ++ rest)).reverse.set (rest.length + (base.length + 1)) (.int (k + 1))).reverse =
      .int (k + 1) :: nv :: (base ++ rest) := rev_set [] (.int k) (.int (k + 1)) (nv :: base) rest
  rw [e4] at hst4
  obtain ⟨vs5, hr5, hst5, hsame5, hg5⟩ := reach_goto (P := P) (ip := q + 20) (vs := vs4) (by omega) h5
  rw [h6] at hr5
  refine ⟨vs5, (((hr1.trans hr2 rfl).trans hr3 rfl).trans hr4 rfl).trans hr5 rfl, by rw [hst5]; exact hst4,
    (((hsame1.trans hsame2).trans hsame3).trans hsame4).trans hsame5, by rw [hg5, hg4, hg3, hg2, hg1]⟩

end repVm

/-! ## the simulation of `Repeat` -/

section repeatS
variable {P : Prog} {F : List (UInt32 × Nat)} {J : Compiler.JumpTable} {N : String → Prop} {cx : Sem.Ctx} {ft : Feat} {C W : Nat}

/-- the slots while the loop runs: the count, the counter -/
def repSlots (S : List Slot) (d : Int) (nv : Val) (k : Int64) : List Slot :=
  (S ++ [.hidden (d + 1) nv]) ++ [.hidden (d + 1) (.int k)]

theorem baseOf_repSlots (S : List Slot) (d : Int) (nv : Val) (k : Int64) (σ : Sem.St) :
    baseOf (repSlots S d nv k) σ = .int k :: nv :: baseOf S σ := by
  unfold repSlots; rw [baseOf_hid, baseOf_hid]

theorem repSlots_length (S : List Slot) (d : Int) (nv : Val) (k : Int64) : (repSlots S d nv k).length = S.length + 2 := by
  simp [repSlots]

theorem SRel.rep {S : List Slot} {σ : Sem.St} (h : SRel S σ) (d : Int) {nv : Val} (hnv : Scalar nv) (k : Int64) :
    SRel (repSlots S d nv k) σ := (h.hid (d + 1) hnv).hid (d + 1) trivial

theorem SRel.of_rep {S X : List Slot} {d : Int} {nv : Val} {k : Int64} {σ : Sem.St} (h : SRel (repSlots S d nv k ++ X) σ) :
    SRel S σ := by
  have := h.pre
  unfold repSlots at this
  exact this.pre.pre

theorem SFrame.of_rep {S X : List Slot} {d : Int} {nv : Val} {k : Int64} {σ σ1 σ2 : Sem.St} (h1 : SFrame S σ σ1)
    (h2 : SFrame (repSlots S d nv k ++ X) σ1 σ2) (hX : ∀ s ∈ X, ∀ x, s.cell = some x → σ.cells.size ≤ x) :
    SFrame S σ σ2 := by
  have h2' : SFrame (S ++ ([Slot.hidden (d + 1) nv, Slot.hidden (d + 1) (.int k)] ++ X)) σ1 σ2 := by
    simpa [repSlots] using h2
  refine h1.trans_ext h2' fun s hs c hc => ?_
  rcases List.mem_append.1 hs with hs | hs
  · simp only [List.mem_cons, List.mem_nil_iff, or_false] at hs
    rcases hs with rfl | rfl <;> cases hc
  · exact hX s hs c hc

theorem loopVar_none (S : List Slot) (d : Int) (nv : Val) (k : Int64) (σ : Sem.St) (env : Sem.Env) (hnv : Scalar nv)
    (hlr : SRel S σ) (henv : LookRel env S) :
    ctxOf (repSlots S d nv k ++ []) = repCtx d (ctxOf S) none ∧ SRel (repSlots S d nv k ++ []) σ ∧
      LookRel ([] :: env) (repSlots S d nv k ++ []) := by
  rw [List.append_nil]
  refine ⟨by simp [ctxOf, repSlots, repCtx, Slot.ctx], hlr.rep d hnv k, ?_⟩
  exact lookRel_cons_nil (lookRel_hid (lookRel_hid henv _ _) _ _)

theorem loopVar_some (v : String) (S : List Slot) (d : Int) (nv : Val) (k : Int64) (σ : Sem.St) (env : Sem.Env)
    (hnv : Scalar nv) (hlr : SRel S σ) (henv : LookRel env S) :
    ctxOf (repSlots S d nv k ++ [.named v (d + 2) σ.cells.size]) = repCtx d (ctxOf S) (some v) ∧
      SRel (repSlots S d nv k ++ [.named v (d + 2) σ.cells.size]) (Sem.newCell σ (.int k)).1 ∧
      LookRel ([(v, σ.cells.size)] :: env) (repSlots S d nv k ++ [.named v (d + 2) σ.cells.size]) ∧
      baseOf (repSlots S d nv k ++ [.named v (d + 2) σ.cells.size]) (Sem.newCell σ (.int k)).1 =
        .int k :: .int k :: nv :: baseOf S σ := by
  obtain ⟨h3, h4⟩ := (hlr.rep d hnv k).decl v (d + 2) (x := .int k) trivial
  refine ⟨by simp [ctxOf, repSlots, repCtx, Slot.ctx], h3, ?_, by rw [h4, baseOf_repSlots]⟩
  exact lookRel_decl (lookRel_cons_nil (lookRel_hid (lookRel_hid henv _ _) _ _)) v (d + 2) σ.cells.size

/-- `ReadLocalVar counter; SetLocalVar var`: the loop variable receives a copy of the counter, in a new slot -/
theorem loopVar_vm {vs : VmState} {cap : Nat} {base rest : List Val} {nv : Val} {k : Int64} {q len : Nat}
    (hlen : base.length = len) (hq : q + 10 ≤ P.bytecode.size)
    (h1 : IsRead P.bytecode q (len + 1)) (h2 : IsSet P.bytecode (q + 5) (len + 2))
    (hfr : FrameAt vs rest.length) (hst : StackIs vs.stack cap (.int k :: nv :: (base ++ rest)))
    (hroom : base.length + rest.length + 4 < cap) :
    ∃ vs', Reach P 2 q vs (q + 10) vs' ∧ StackIs vs'.stack cap (.int k :: .int k :: nv :: (base ++ rest)) ∧
      SameRest vs vs' ∧ vs'.globals = vs.globals := by
  subst hlen
  obtain ⟨vs1, hr1, hst1, hsame1, hg1⟩ := reach_readLocalAt (P := P) (ip := q) (by omega) h1.1 h1.2 hfr hst
    (by simp only [List.length_cons, List.length_append]; omega) (by simp only [List.length_cons, List.length_append]; omega)
  have e1 : (Val.int k :: nv :: (base ++ rest)).reverse.getD (rest.length + (base.length + 1)) .nil = .int k :=
    rev_getD [] (.int k) (nv :: base) rest
  rw [e1] at hst1
  obtain ⟨vs2, hr2, hst2, hsame2, hg2⟩ := reach_setLocalAt_new (P := P) (ip := q + 5) (by omega) h2.1 h2.2
    (by simp only [List.length_cons, List.length_append]; omega) (hsame1.frameAt hfr) hst1
    (by simp only [List.length_cons, List.length_append]; omega)
  exact ⟨vs2, hr1.trans hr2 rfl, hst2, hsame1.trans hsame2, by rw [hg2, hg1]⟩

theorem hidden_simS {S : List Slot} {σ σ1 : Sem.St} {x : Val} {pc m d : Nat} {lf : Bool}
    (hv : ValSim P F N C W S σ σ1 x pc m d lf) (dd : Int) (hd1 : 1 ≤ d)
    (hop : IsSet P.bytecode m S.length) (hm : m < P.bytecode.size) (hle : pc ≤ m) :
    VmSimS P F N C W S σ σ1 (S ++ [.hidden dd x]) pc (m + 5) d lf :=
  newSlot_simS hv _ (baseOf_hid S σ1 dd x) rfl rfl hd1 hop.1 hop.2 hm hle

section loop
variable {d : Int} {S : List Slot} {i : Option String} {nv : Val} {pc' m0 mb m2 kk : Nat}
  (hrc : RepLoop P.bytecode F (ctxOf S) i pc' m0 mb m2 kk) (hsz : pc' ≤ P.bytecode.size) (hle2 : mb ≤ m2)
  (hnv : Scalar nv)
include hrc hsz hle2 hnv

/-- the test at the head of the loop fails: the two hidden locals are dropped -/
theorem repeat_exit (k : Int64) (σ : Sem.St) (hlt : ¬ OVal.vlt Sem.F (.int k) (Sem.deepV σ nv) = true) :
    VmSimS P F N C W (repSlots S d nv k) σ σ S (m0 + 19) pc' 2 false := by
  have hmb := hrc.mb_ge
  have hpc' := hrc.endAt
  refine VmSimS.of_stack rfl rfl (n := 4 + 2) (fun h => by cases h) fun vs cap rest hst hroom hfr _ => ?_
  rw [repSlots_length] at hroom
  rw [baseOf_repSlots] at hst
  obtain ⟨vs1, hr1, hst1, hsame1, hgl1⟩ := rep_head (P := P) σ hnv (q := m0 + 19) (baseOf_length S σ) (by omega)
    (ctxOf_length S ▸ hrc.readC) (ctxOf_length S ▸ hrc.readN) hrc.less hrc.test hfr hst (by rw [baseOf_length]; omega)
  rw [if_neg hlt, show m0 + 19 + 12 = m0 + 31 from rfl, hrc.exit] at hr1
  obtain ⟨vs2, hr2, hst2, hsame2, hgl2⟩ := rep_exit (P := P) (q := pc' - 2) (by omega) hrc.pop1
    (by rw [show pc' - 2 + 1 = pc' - 1 by omega]; exact hrc.pop2) hst1
  rw [show pc' - 2 + 2 = pc' by omega] at hr2
  exact ⟨vs2, hr1.trans hr2 rfl, hst2, hsame1.trans hsame2, by rw [hgl2, hgl1]⟩

/-- the test succeeds and the loop variable, if there is one, is bound (`hbind`) -/
theorem repeat_enter (k : Int64) (σ σ1 : Sem.St) (X : List Slot) (hg1 : σ1.globals = σ.globals) (hc1 : σ1.calls = σ.calls)
    (hbind : ∃ n, ∀ (vs : VmState) (cap : Nat) (rest : List Val),
      StackIs vs.stack cap (.int k :: nv :: (baseOf S σ ++ rest)) →
      S.length + rest.length + 4 < cap → FrameAt vs rest.length →
      ∃ vs', Reach P n (m0 + 35) vs mb vs' ∧ StackIs vs'.stack cap (baseOf (repSlots S d nv k ++ X) σ1 ++ rest) ∧
        SameRest vs vs' ∧ vs'.globals = vs.globals)
    (hlt : OVal.vlt Sem.F (.int k) (Sem.deepV σ nv) = true) :
    VmSimS P F N C W (repSlots S d nv k) σ σ1 (repSlots S d nv k ++ X) (m0 + 19) mb 2 false := by
  have hmb := hrc.mb_ge
  have hpc' := hrc.endAt
  obtain ⟨nb, hsimb⟩ := hbind
  refine VmSimS.of_stack hg1 hc1 (n := 4 + nb) (fun h => by cases h) fun vs cap rest hst hroom hfr _ => ?_
  rw [repSlots_length] at hroom
  rw [baseOf_repSlots] at hst
  obtain ⟨vs1, hr1, hst1, hsame1, hgl1⟩ := rep_head (P := P) σ hnv (q := m0 + 19) (baseOf_length S σ) (by omega)
    (ctxOf_length S ▸ hrc.readC) (ctxOf_length S ▸ hrc.readN) hrc.less hrc.test hfr hst (by rw [baseOf_length]; omega)
  rw [if_pos hlt] at hr1
  obtain ⟨vs2, hr2, hst2, hsame2, hgl2⟩ := hsimb vs1 cap rest hst1 (by omega) (hsame1.frameAt hfr)
  exact ⟨vs2, hr1.trans hr2 rfl, hst2, hsame1.trans hsame2, by rw [hgl2, hgl1]⟩

omit hle2 hnv in
/-- after the body: the counter is incremented and the loop starts over -/
theorem repeat_incr (k : Int64) (σ : Sem.St) :
    VmSimS P F N C W (repSlots S d nv k) σ σ (repSlots S d nv (k + 1)) (m2 + kk) (m0 + 19) 2 false := by
  have hpc' := hrc.endAt
  refine VmSimS.of_stack rfl rfl (n := 5) (fun h => by cases h) fun vs cap rest hst hroom hfr _ => ?_
  rw [repSlots_length] at hroom
  rw [baseOf_repSlots] at hst ⊢
  exact rep_incr (P := P) (q := m2 + kk) (head := m0 + 19) (baseOf_length S σ) (by omega) hrc.incOne
    (ctxOf_length S ▸ hrc.incRead) hrc.incAdd (ctxOf_length S ▸ hrc.incSet) hrc.goto hrc.back hfr hst
    (by rw [baseOf_length]; omega)

end loop

variable (hout : cx.outer = [])
include hout

/-- the count of `Repeat` is evaluated, count and counter become hidden locals -/
theorem repeat_init {S : List Slot} {env : Sem.Env} (henv : LookRel env S) {n : Card} (hen : isExpr n = true)
    {f : Nat} {σ σ1 : Sem.St} {env1 : Sem.Env} {nv : Val} {d : Int} {i : Option String}
    {pc pc' m0 mb m2 kk : Nat}
    (hev : Sem.eval cx f env σ n = (σ1, env1, .ok nv)) (hc1 : ECodeL P.bytecode F (ctxOf S) n pc m0)
    (hrc : RepLoop P.bytecode F (ctxOf S) i pc' m0 mb m2 kk) (hle2 : mb ≤ m2) (hsz : pc' ≤ P.bytecode.size)
    (hlr : SRel S σ) :
    σ1 = σ ∧ env = env1 ∧ Scalar nv ∧
      VmSimS P F N C W S σ σ (repSlots S d nv 0) pc (m0 + 19) (max (edepth n) 4) false := by
  have hmb := hrc.mb_ge
  have hpc' := hrc.endAt
  have hsetN := hrc.setN
  have hsetC := hrc.setC
  rw [ctxOf_length] at hsetN hsetC
  have hlt := ecodeL_lt hc1
  obtain ⟨rfl, rfl, hnv, hv⟩ := expr_valSim (P := P) (F := F) (N := N) (C := C) (W := W) hout henv hen hev hc1 (by omega) hlr
  have h1 := hidden_simS hv (d + 1) (edepth_pos n) hsetN (by omega) (by omega)
  -- `ScalarInt 0` with the count in its slot
  have hc2 : ECodeL P.bytecode F (ctxOf (S ++ [.hidden (d + 1) nv])) (.scalarInt 0) (m0 + 5) (m0 + 14) := hrc.zero
  obtain ⟨_, _, _, hv0⟩ := expr_valSim (P := P) (F := F) (N := N) (C := C) (W := W) (cx := cx) hout
    (lookRel_hid henv (d + 1) nv) (e := .scalarInt 0) rfl (eval_lit cx 0 env σ1 rfl) hc2 (by omega) (hlr.hid (d + 1) hnv)
  have h2 := hidden_simS hv0 (d + 1) (Nat.le_refl _) (by simpa using hsetC) (by omega) (by omega)
  exact ⟨rfl, rfl, hnv, (h1.seq h2 (Nat.le_refl _) (Nat.le_max_left _ _)
    (by simp only [List.length_append, List.length_singleton, edepth]; omega) fun _ _ => ⟨by omega, by omega⟩).mono
    (Nat.le_refl _) (fun h => by cases h)⟩

/-- the loop, by induction on the gas of `Sem.repeatLoop`: it ends when the test fails, or when the body
    executes a `Return` -/
theorem repeat_loop {g : Nat} (ihb : StmtSimU P F J N cx ft C W g)
    (hcall : ∀ g', g' < g → CallSimS P F J N cx ft C W g') (d : Int) (S : List Slot) (env : Sem.Env)
    (i : Option String) (ty : String) (cs : List Card) (nv : Val) (hnv : Scalar nv) (henv : LookRel env S)
    {L' : LCtx} {pc' m0 mb m2 kk D : Nat} (hrc : RepLoop P.bytecode F (ctxOf S) i pc' m0 mb m2 kk)
    (hkk : kk = L'.length - (S.length + 2))
    (hblk : Block P.bytecode F J ft (d + 2) (repCtx d (ctxOf S) i) cs L' mb m2 D)
    (hsz : pc' ≤ P.bytecode.size) (hN : ∀ n ∈ snamess cs, N n) :
    ∀ (gas : Nat) (k : Int64) (σ σ' : Sem.St) (r : Sem.Res Unit),
      Sem.repeatLoop (fun scope s => Sem.exec cx (g + 1) (scope :: env) s (.composite ty cs)) i nv gas k σ = (σ', r) →
      okRet r → SRel S σ → SFrame S σ σ' ∧ SRel S σ' ∧
        VmEnd P F N C W r (repSlots S d nv k) σ σ' S (m0 + 19) pc' (2 + D) false := by
  have hmb := hrc.mb_ge
  have hpops := hrc.pops
  have hpc' := hrc.endAt
  have hbind := hrc.bind
  have hle2 := hblk.le
  rw [ctxOf_length] at hbind
  intro gas
  induction gas with
  | zero =>
    intro k σ σ' r h hr
    cases h
    exact hr.elim
  | succ gas ih =>
    intro k σ σ' r h hr hlr
    rw [repeatLoop_succ] at h
    by_cases hlt : OVal.vlt Sem.F (.int k) (Sem.deepV σ nv) = true
    · rw [if_pos hlt] at h
      -- once the loop variable is bound: the body, then the rest of the loop or the `Return`
      have key : ∀ (σ1 : Sem.St) (scope : List (String × Nat)) (X : List Slot), X.length ≤ 1 →
          ctxOf (repSlots S d nv k ++ X) = repCtx d (ctxOf S) i → SRel (repSlots S d nv k ++ X) σ1 →
          LookRel (scope :: env) (repSlots S d nv k ++ X) → SFrame S σ σ1 →
          (∀ s ∈ X, ∀ x, s.cell = some x → σ.cells.size ≤ x) →
          VmSimS P F N C W (repSlots S d nv k) σ σ1 (repSlots S d nv k ++ X) (m0 + 19) mb 2 false →
          (repScope i k σ).1 = σ1 → (repScope i k σ).2 = scope →
          SFrame S σ σ' ∧ SRel S σ' ∧ VmEnd P F N C W r (repSlots S d nv k) σ σ' S (m0 + 19) pc' (2 + D) false := by
        intro σ1 scope X hX hctx hlr1 hlook hfr1 hXc henter e1 e2
        rw [e1, e2] at h
        rcases hb : Sem.exec cx (g + 1) (scope :: env) σ1 (.composite ty cs) with ⟨σ2, env2, rb⟩
        rw [hb] at h
        have hrb : okRet rb := by cases rb <;> first | trivial | (cases h; exact hr.elim)
        rw [exec_composite] at hb
        obtain ⟨new, hcl, e2, _, hlr2, hbody⟩ := block_simU hout ihb hcall (d + 2) cs (repSlots S d nv k ++ X) (scope :: env)
          _ L' mb m2 D hctx.symm hblk hlook σ1 σ2 env2 rb hb hrb (by omega) hN hlr1
        have e12 := hfr1.of_rep e2 hXc
        have hin := henter.andThen hbody e2.calls (D := 2 + D) (by omega)
          (by simp only [List.length_append, repSlots_length]; omega) fun h => by cases h
        cases rb with
        | ok u =>
          obtain ⟨hctxn, _⟩ := hcl rfl
          have hkk' : kk = new.length + X.length := by
            rw [hkk, ← hctxn]; simp [ctxOf, repSlots]; omega
          have hnew : new.length ≤ D := by
            have := hblk.len
            rw [← hctxn, ← hctx] at this
            simp only [ctxOf, List.length_map, List.length_append] at this
            omega
          obtain ⟨e5, hlr5, hloop⟩ := ih (k + 1) σ2 σ' r h hr hlr2.pre.of_rep
          have hpop := pops_simS (P := P) (F := F) (N := N) (C := C) (W := W) (repSlots S d nv k) (X ++ new) σ2 (m := m2)
            (fun j hj => hpops j (by simp only [List.length_append] at hj; omega))
            (by simp only [List.length_append]; omega) 0
          rw [← List.append_assoc] at hpop
          have hinc := repeat_incr (P := P) (F := F) (N := N) (C := C) (W := W) (d := d) (nv := nv) hrc hsz k σ2
          rw [show (X ++ new).length = kk by simp only [List.length_append]; omega] at hpop
          have h3 := (hin.seq hpop (Nat.le_refl _) (Nat.le_refl _)
            (by simp only [List.length_append, repSlots_length]; omega) fun h => by cases h).seq hinc (Nat.le_refl _)
              (Nat.le_refl _) (by omega) fun h => by cases h
          exact ⟨e12.trans e5, hlr5, (h3.andThen hloop e5.calls (Nat.le_refl _) (by simp only [repSlots_length]; omega)
            fun h => by cases h).mono (Nat.le_refl _) (fun h => by cases h)⟩
        | ret w =>
          cases h
          exact ⟨e12, hlr2.pre.of_rep, hin.ret_slots⟩
        | _ => exact hrb.elim
      cases i with
      | none =>
        simp only at hbind
        obtain ⟨b1, b2, b3⟩ := loopVar_none S d nv k σ env hnv hlr henv
        refine key σ [] [] (by simp) b1 b2 b3 (SFrame.refl _ _) (fun s hs => by cases hs) ?_ rfl rfl
        refine repeat_enter hrc hsz hle2 hnv k σ σ [] rfl rfl ⟨0, fun vs cap rest hst _ _ => ?_⟩ hlt
        rw [hbind, List.append_nil, baseOf_repSlots]
        exact ⟨vs, Reach.refl _ _, hst, SameRest.refl _, rfl⟩
      | some x =>
        simp only at hbind
        obtain ⟨hread, hset, hmb'⟩ := hbind
        obtain ⟨b1, b2, b3, b4⟩ := loopVar_some x S d nv k σ env hnv hlr henv
        refine key (Sem.newCell σ (.int k)).1 [(x, σ.cells.size)] [.named x (d + 2) σ.cells.size] (by simp) b1 b2 b3
          (SFrame.of_new _ _ _)
          (fun s hs c hc => by
            simp only [List.mem_singleton] at hs; subst hs
            simp only [Slot.cell, Option.some.injEq] at hc; rw [← hc]; exact Nat.le_refl _) ?_ rfl rfl
        refine repeat_enter hrc hsz hle2 hnv k σ (Sem.newCell σ (.int k)).1
          [.named x (d + 2) σ.cells.size] rfl rfl ⟨2, fun vs cap rest hst hd hfr => ?_⟩ hlt
        rw [b4, hmb']
        exact loopVar_vm (P := P) (q := m0 + 35) (baseOf_length S σ) (by omega) hread hset hfr hst
          (by rw [baseOf_length]; omega)
    · rw [if_neg hlt] at h
      cases h
      exact ⟨SFrame.refl _ _, hlr,
        (repeat_exit (N := N) (C := C) (W := W) hrc hsz hle2 hnv k σ hlt).mono (by omega) id⟩

theorem simU_repeat (f : Nat) (ihb : ∀ g, g + 1 = f → StmtSimU P F J N cx ft C W g)
    (hcall : ∀ g, g ≤ f → CallSimS P F J N cx ft C W g) (d : Int) (S : List Slot) (env : Sem.Env) (i : Option String)
    (n b : Card) (pc pc' D : Nat) (hcode : Code P.bytecode F J ft d (ctxOf S) (.repeat i n b) pc pc' D) :
    SimGoal P F N cx C W (f + 1) (.repeat i n b) S env pc pc' D := by
  generalize hctx : ctxOf S = L at hcode
  cases hcode with
  | @rep _ _ _ _ ty cs L' _ m0 mb m2 _ D0 _ hen _ hc1 hrc hblk hD =>
  subst hctx
  intro henv σ σ' env' r hex hr hsz hN hlr
  rw [exec_repeat] at hex
  obtain ⟨σ1, env1, nv, hc, hex⟩ := andThen_ok_of_benign (eval_benign cx n hen f env σ) hex hr
  have hle2 : mb ≤ m2 := hblk.le
  obtain ⟨rfl, rfl, hnv, hinit⟩ := repeat_init (P := P) (F := F) (N := N) (C := C) (W := W) (d := d) hout henv hen hc hc1 hrc hle2 hsz hlr
  rcases hl : Sem.repeatLoop (fun scope s => Sem.exec cx f (scope :: env) s (.composite ty cs)) i nv f 0 σ1 with ⟨σ2, r2⟩
  rw [hl] at hex
  obtain ⟨rfl, rfl, rfl⟩ := res_inj hex
  cases f with
  | zero => cases hl; exact hr.elim
  | succ g =>
  obtain ⟨e5, hlr5, hloop⟩ := repeat_loop hout (ihb g rfl) (fun g' hg' => hcall g' (by omega)) d S env i ty cs nv hnv henv hrc
    (by rw [ctxOf_length]) hblk hsz (fun n hn => hN n (by simpa [snames] using hn)) (g + 1) 0 σ1 σ2 r2 hl hr hlr
  exact ⟨fun _ => rfl, e5, hlr5, (hinit.andThen hloop e5.calls (D := D0 + 4) (by omega)
    (by simp only [repSlots_length]; omega) fun h => by cases h).mono (Nat.le_refl _) (fun h => by cases h)⟩

end repeatS

end Cao.C01
