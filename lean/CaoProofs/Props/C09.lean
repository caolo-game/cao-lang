import CaoProofs.Lemmas.NativeLemmas
import CaoProofs.Props.C19
import CaoModel.Generated.Stdlib
/-!
# C09 — standard library contracts

The native-backed part of the library (`__to_array`, `__min`, `__max`, `__sort` in
`callNativeBody`) is specified for an ABSTRACT well-behaved callback: `PureCallback re f φ`
(`Lemmas/NativeLemmas.lean`) says that `re f`, when it returns, has popped the key and the value the
native pushed, returns `φ key value` and has changed neither the heap nor the roots (budget
counters, host log, allocator counters are free). All statements are partial-correctness
statements about a *successful* run `(callNativeBody re name).go s = (.ok r, s')`; allocation may
collect at any point (any schedule) — the proofs carry the invariant `Grown s t` ("`t` is `s` plus
private, rooted objects; everything reachable in `s` is untouched").

* (b) the entry `__min` / `__max` choose is that of the pure scan `argBest` (`scan_later`;
  `scan_first` under a strict weak order `SWO`, which integer keys have)
* (c) the output of `__sort` is `sortedEntries`: a permutation; sorted and stable under
  `TotalPreorderOn`, which integer keys have
* (b′), (c′) the same contracts for a callback that allocates (`GcCallback`, keys `StableKey`)
* the three contracts a key function may satisfy (`PureCallback`, `GcCallback`, and `PureCallbackAt`
  of `Lemmas/RowValue.lean`) are instances of `KeyFn`, for which `minmaxBody_keyFn` and
  `sort_keyFn` are proved once
* the rows a native copied are guarded while the key function runs (`guardRows es` …
  `unguardRows es` in `callNativeBody`); the guard list after the native is EQUAL to the one before
  (`unrow_rowGuards`)
* (d) the card code of the generated library, fixed by `rfl` / `decide`.

Not proved (no `_Full` constant: the statement needs the compiler and the reference semantics
`CaoModel/Sem.lean` together): the card-level functions `std.filter`, `std.map`, `std.any` (loops in
card code). Their card code is fixed in section (d) so that a change of the generated library
breaks this file. The key function the wrappers `std.min`, `std.max`, `std.sorted` pass —
`row_to_value` run by the real `run_function` (`reenterOf p gas`) — is a `KeyFn` too:
`Props/C09b.lean`.
-/
namespace Cao.C09
open Cao Cao.Vm Cao.Gc Cao.C02 Cao.C05 Cao.Native

/-! ## (a) `__to_array` -/

def arrayOf (vs : List Val) : List (Val × Val) :=
  vs.zipIdx.map (fun p => (Val.int (Int64.ofNat p.2), p.1))

theorem arrayOf_snoc (vs : List Val) (v : Val) :
    arrayOf (vs ++ [v]) = arrayOf vs ++ [(.int (Int64.ofNat vs.length), v)] := by
  simp [arrayOf, List.zipIdx_append]

theorem mem_arrayOf {vs : List Val} {e : Val × Val} (he : e ∈ arrayOf vs) :
    ∃ j, j < vs.length ∧ e.1 = .int (Int64.ofNat j) := by
  unfold arrayOf at he
  obtain ⟨p, hp, rfl⟩ := List.mem_map.mp he
  have := List.mem_zipIdx hp
  exact ⟨p.2, by omega, rfl⟩

def toArrayStep (out : Nat) (x : Val × Val) (i : Nat) : M (ForInStep Nat) := do
  tableInsert out (.int (Int64.ofNat i)) x.2
  pure (ForInStep.yield (i + 1))

/-- the body of `__to_array`, loop body named -/
def toArrayBody : M Val := do
  let h := (← get).heap
  let iterable ← peek 0
  match isTable h iterable with
  | none => return iterable
  | some es => do
    let out ← initTable
    let _ ← forIn es 0 (toArrayStep out)
    dropGuard out
    return .obj out

theorem callNativeBody_to_array (re : Reenter) : callNativeBody re "__to_array" = toArrayBody := by
  unfold callNativeBody
  simp (config := { decide := true }) only []
  rfl


/-- a non-table argument is returned unchanged, and nothing happens -/
theorem to_array_non_table (re : Reenter) (s : VmState)
    (h : isTable s.heap (s.stack.peekLast 0) = none) :
    (callNativeBody re "__to_array").go s = (.ok (s.stack.peekLast 0), s) := by
  rw [callNativeBody_to_array]
  unfold toArrayBody
  rw [go_bind_ok (go_get s), go_bind_ok (go_peek 0 s)]
  simp only [h]
  rfl

/-- **`__to_array`**: on a table with entries `es` the result is a NEW table (`out`, the fresh
    address) whose entries are `[(0, v₀), …, (n-1, v_{n-1})]` in order; the machine is otherwise
    as before (`Grown`: live stack, frames, globals, upvalues and every object reachable before —
    in particular the input table and everything below it — are unchanged; no guard is leaked).
    `hlen` keeps the new keys `Int64.ofNat i` pairwise different. -/
theorem to_array_spec (re : Reenter) {s s' : VmState} {r : Val} {a cap : Nat}
    {es : List (Val × Val)} (hf : FreshNext s.heap) (htop : s.stack.peekLast 0 = .obj a)
    (ha : s.heap.get a = some (.table cap es)) (hlen : es.length ≤ 2 ^ 64)
    (hok : (callNativeBody re "__to_array").go s = (.ok r, s')) :
    r = .obj s.heap.next ∧ s.heap.get s.heap.next = none ∧
    (∃ cap', s'.heap.get s.heap.next = some (.table cap' (arrayOf (es.map (·.2))))) ∧
    s'.heap.get a = some (.table cap es) ∧ Grown s s' ∧ s'.guards = s.guards := by
  rw [callNativeBody_to_array] at hok
  unfold toArrayBody at hok
  rw [go_bind_ok (go_get s), go_bind_ok (go_peek 0 s), htop] at hok
  simp only [isTable_of_get ha] at hok
  obtain ⟨out, s₁, hinit, hok⟩ := ok_bind hok
  obtain ⟨_, s₂, hloop, hok⟩ := ok_bind hok
  rw [go_bind_ok (go_dropGuard out s₂), go_pure] at hok
  simp only [Prod.mk.injEq, Except.ok.injEq] at hok
  obtain ⟨hr, hs'⟩ := hok
  obtain ⟨hG1, hget1, hgu1, hle1, hnone, -⟩ := (Grown.refl s hf).alloc2 (initTable_ok hinit)
  have hout : out = s.heap.next := (initTable_ok hinit).elim fun _ h => h.2.1
  subst hout
  have hI := forIn_inv' es
    (fun i b t => b = i ∧ Grown s t ∧ t.guards = s.heap.next :: s.guards ∧
      ∃ cap', t.heap.get s.heap.next = some (.table cap' (arrayOf ((es.take i).map (·.2)))))
    (toArrayStep s.heap.next) (b := 0) (s := s₁) ?_ ⟨rfl, hG1, hgu1, Gen.tableInitCap, hget1⟩ hloop
  · obtain ⟨-, hG2, hgu2, cap', hget2⟩ := hI
    rw [List.take_length] at hget2
    subst hs'
    refine ⟨hr.symm, hnone, ⟨cap', hget2⟩, ?_, ?_, ?_⟩
    · exact hG2.keep a _ (reach_peek htop) ha
    · exact hG2.dropGuard _ (fun g hg => by
        show g ∈ s₂.guards.erase s.heap.next
        rw [hgu2, List.erase_cons_head]; exact hg)
    · show s₂.guards.erase s.heap.next = s.guards
      rw [hgu2, List.erase_cons_head]
  · intro i x b t r' t' hx ⟨hb, hG, hgu, cap', hget⟩ hstep
    subst hb
    unfold toArrayStep at hstep
    obtain ⟨u, t₁, hins, hstep⟩ := ok_bind hstep
    simp only [go_pure, Prod.mk.injEq, Except.ok.injEq] at hstep
    obtain ⟨hr', ht'⟩ := hstep
    subst ht'
    obtain ⟨hG', ⟨cap'', hget'⟩, hgu', -⟩ := hG.tableInsert (Nat.le_refl _) hget
      (reach_of_guard (by rw [hgu]; exact List.mem_cons_self)) hins
    refine ⟨b + 1, hr'.symm, rfl, hG', by rw [hgu', hgu], cap'', ?_⟩
    have hlt : b < es.length := (List.getElem?_eq_some_iff.1 hx).1
    have hlen' : ((es.take b).map (·.2)).length = b := by
      rw [List.length_map, List.length_take]; omega
    rw [hget', tinsert_new, List.take_add_one, hx]
    · simp only [Option.toList_some, List.map_append, List.map_cons, List.map_nil]
      rw [arrayOf_snoc, hlen']
    · intro e he
      obtain ⟨j, hj, hje⟩ := mem_arrayOf he
      rw [hje, ownD_int, ownD_int]
      intro hc
      rw [hlen'] at hj
      have := int64_ofNat_inj (i := j) (j := b) (by omega) (by omega) (OVal.int.inj hc)
      omega


/-! ## (b) `__min` / `__max` -/

section scan
variable {α : Type}

/-- the scan of `native_minmax`: state `(best key, index of the best, next index)`; an entry
    replaces the best only when it is *strictly* better -/
def scan (lt : α → α → Bool) : List α → α × Nat × Nat → α × Nat × Nat
  | [], st => st
  | x :: xs, st =>
    if lt x st.1 then scan lt xs (x, st.2.2, st.2.2 + 1) else scan lt xs (st.1, st.2.1, st.2.2 + 1)

/-- the index chosen by the scan (`lt x y`: "`x` is strictly better than `y`") -/
def argBest (lt : α → α → Bool) : List α → Nat
  | [] => 0
  | k₀ :: ks => (scan lt ks (k₀, 0, 1)).2.1

/-- no later entry is strictly better than the chosen one (no hypothesis on `lt`) -/
theorem scan_later (lt : α → α → Bool) (K : List α) :
    ∀ (ks pre : List α) (best : α) (idx : Nat), pre ++ ks = K → pre[idx]? = some best →
      (∀ m x, idx < m → pre[m]? = some x → lt x best = false) →
      K[(scan lt ks (best, idx, pre.length)).2.1]? = some (scan lt ks (best, idx, pre.length)).1 ∧
      ∀ m x, (scan lt ks (best, idx, pre.length)).2.1 < m → K[m]? = some x →
        lt x (scan lt ks (best, idx, pre.length)).1 = false := by
  intro ks
  induction ks with
  | nil =>
    intro pre best idx hK hb hl
    rw [List.append_nil] at hK; subst hK
    exact ⟨hb, hl⟩
  | cons x xs ih =>
    intro pre best idx hK hb hl
    have hidx : idx < pre.length := (List.getElem?_eq_some_iff.1 hb).1
    have hK' : (pre ++ [x]) ++ xs = K := by rw [List.append_assoc]; exact hK
    have hlen : (pre ++ [x]).length = pre.length + 1 := by simp
    unfold scan
    dsimp only
    split
    · rw [← hlen]
      refine ih (pre ++ [x]) x pre.length hK' (by simp) ?_
      intro m y hm hy
      rw [List.getElem?_eq_none (by rw [hlen]; omega)] at hy; cases hy
    · rename_i hlt
      rw [← hlen]
      refine ih (pre ++ [x]) best idx hK' (by rw [List.getElem?_append_left hidx]; exact hb) ?_
      intro m y hm hy
      rcases Nat.lt_trichotomy m pre.length with h | h | h
      · rw [List.getElem?_append_left h] at hy; exact hl m y hm hy
      · subst h
        simp only [List.getElem?_concat_length, Option.some.injEq] at hy
        subst hy; simpa using hlt
      · rw [List.getElem?_eq_none (by rw [hlen]; omega)] at hy; cases hy

/-- "strictly better" is a strict weak order on the keys of the table -/
structure SWO (lt : α → α → Bool) (K : List α) : Prop where
  asymm : ∀ a ∈ K, ∀ b ∈ K, lt a b = true → lt b a = false
  negtrans : ∀ a ∈ K, ∀ b ∈ K, ∀ c ∈ K, lt a b = false → lt b c = false → lt a c = false

theorem SWO.irrefl {lt : α → α → Bool} {K : List α} (h : SWO lt K) (a : α) (ha : a ∈ K) :
    lt a a = false := by
  cases hl : lt a a with
  | false => rfl
  | true => have := h.asymm a ha a ha hl; rw [hl] at this; exact this

/-- under a strict weak order: nothing is strictly better than the chosen entry, and every
    earlier entry is strictly worse — the chosen entry is the FIRST optimal one -/
theorem scan_first (lt : α → α → Bool) (K : List α) (hswo : SWO lt K) :
    ∀ (ks pre : List α) (best : α) (idx : Nat), pre ++ ks = K → pre[idx]? = some best →
      (∀ (m : Nat) x, pre[m]? = some x → lt x best = false) →
      (∀ m x, m < idx → pre[m]? = some x → lt best x = true) →
      (∀ (m : Nat) x, K[m]? = some x → lt x (scan lt ks (best, idx, pre.length)).1 = false) ∧
      ∀ m x, m < (scan lt ks (best, idx, pre.length)).2.1 → K[m]? = some x →
        lt (scan lt ks (best, idx, pre.length)).1 x = true := by
  intro ks
  induction ks with
  | nil =>
    intro pre best idx hK hb h1 h2
    rw [List.append_nil] at hK; subst hK
    exact ⟨h1, h2⟩
  | cons x xs ih =>
    intro pre best idx hK hb h1 h2
    have hidx : idx < pre.length := (List.getElem?_eq_some_iff.1 hb).1
    have hK' : (pre ++ [x]) ++ xs = K := by rw [List.append_assoc]; exact hK
    have hlen : (pre ++ [x]).length = pre.length + 1 := by simp
    have hxK : x ∈ K := by rw [← hK]; simp
    have hbK : best ∈ K := by
      rw [← hK]; exact List.mem_append_left _ (List.mem_of_getElem? hb)
    have hpK : ∀ (m : Nat) y, pre[m]? = some y → y ∈ K := fun m y hy => by
      rw [← hK]; exact List.mem_append_left _ (List.mem_of_getElem? hy)
    unfold scan
    dsimp only
    split
    · rename_i hlt
      -- `x` is strictly better than the best so far, hence than everything before
      have hall : ∀ (m : Nat) y, pre[m]? = some y → lt x y = true := by
        intro m y hy
        cases hxy : lt x y with
        | true => rfl
        | false =>
          have := hswo.negtrans x hxK y (hpK m y hy) best hbK hxy (h1 m y hy)
          rw [hlt] at this; cases this
      rw [← hlen]
      refine ih (pre ++ [x]) x pre.length hK' (by simp) ?_ ?_
      · intro m y hy
        rcases Nat.lt_trichotomy m pre.length with h | h | h
        · rw [List.getElem?_append_left h] at hy
          exact hswo.asymm x hxK y (hpK m y hy) (hall m y hy)
        · subst h
          simp only [List.getElem?_concat_length, Option.some.injEq] at hy
          subst hy; exact hswo.irrefl _ hxK
        · rw [List.getElem?_eq_none (by rw [hlen]; omega)] at hy; cases hy
      · intro m y hm hy
        rw [List.getElem?_append_left hm] at hy
        exact hall m y hy
    · rename_i hlt
      rw [← hlen]
      refine ih (pre ++ [x]) best idx hK' (by rw [List.getElem?_append_left hidx]; exact hb) ?_ ?_
      · intro m y hy
        rcases Nat.lt_trichotomy m pre.length with h | h | h
        · rw [List.getElem?_append_left h] at hy; exact h1 m y hy
        · subst h
          simp only [List.getElem?_concat_length, Option.some.injEq] at hy
          subst hy; simpa using hlt
        · rw [List.getElem?_eq_none (by rw [hlen]; omega)] at hy; cases hy
      · intro m y hm hy
        rw [List.getElem?_append_left (Nat.lt_trans hm hidx)] at hy
        exact h2 m y hm hy

theorem argBest_spec (lt : α → α → Bool) (k₀ : α) (ks : List α) :
    ∃ best, (k₀ :: ks)[argBest lt (k₀ :: ks)]? = some best ∧
      (∀ m x, argBest lt (k₀ :: ks) < m → (k₀ :: ks)[m]? = some x → lt x best = false) ∧
      (SWO lt (k₀ :: ks) →
        (∀ (m : Nat) x, (k₀ :: ks)[m]? = some x → lt x best = false) ∧
        (∀ m x, m < argBest lt (k₀ :: ks) → (k₀ :: ks)[m]? = some x → lt best x = true)) := by
  have h1 := scan_later lt (k₀ :: ks) ks [k₀] k₀ 0 rfl rfl (fun m x hm hx => by
    rw [List.getElem?_eq_none (by simp only [List.length_singleton]; omega)] at hx; cases hx)
  refine ⟨(scan lt ks (k₀, 0, 1)).1, h1.1, h1.2, fun hswo => ?_⟩
  exact scan_first lt (k₀ :: ks) hswo ks [k₀] k₀ 0 rfl rfl
    (fun m x hx => by
      cases m with
      | zero => simp at hx; subst hx; exact hswo.irrefl _ (by simp)
      | succ m => simp at hx)
    (fun m x hm _ => by omega)

end scan


theorem callKV_bind_eq {β : Type} (re : Reenter) (f k v : Val) (g : Val → M β) :
    (push v >>= fun _ => push k >>= fun _ => re f >>= g) = (callKV re f k v >>= g) := by
  simp [callKV, bind_assoc]

theorem mkRowG_ok {es : List (Val × Val)} {k v best r : Val} {t t' : VmState}
    (hok : (mkRowG es k v best).go t = (.ok r, t')) :
    ∃ t₁, (mkRow k v best).go t = (.ok r, t₁) ∧ t' = { t₁ with guards := unrow es t₁.guards } := by
  have e : mkRowG es k v best = (mkRow k v best >>= fun r => unguardRows es >>= fun _ => pure r) := by
    unfold mkRowG mkRow
    simp only [bind_assoc, pure_bind]
  rw [e] at hok
  obtain ⟨r', t₁, h1, hok⟩ := ok_bind hok
  rw [go_bind_ok (go_unguardRows es t₁), go_pure] at hok
  simp only [Prod.mk.injEq, Except.ok.injEq] at hok
  obtain ⟨rfl, rfl⟩ := hok
  exact ⟨t₁, h1, rfl⟩

theorem key_ne_value : "key".toUTF8.toList ≠ "value".toUTF8.toList := by decide +kernel

theorem mkRow_ok {s₀ t t' : VmState} {r k v best : Val} (hG : Grown s₀ t)
    (hbg : ∀ g ∈ s₀.guards, g ∈ unguard best t.guards)
    (hok : (mkRow k v best).go t = (.ok r, t')) :
    r = .obj t.heap.next ∧ t.heap.get t.heap.next = none ∧ s₀.heap.next ≤ t.heap.next ∧
    Grown s₀ t' ∧ t'.guards = unguard best t.guards ∧
    (∃ cap', t'.heap.get t.heap.next =
      some (.table cap' [(.obj (t.heap.next + 1), k), (.obj (t.heap.next + 2), v)])) ∧
    t'.heap.get (t.heap.next + 1) = some (.str "key".toUTF8.toList) ∧
    t'.heap.get (t.heap.next + 2) = some (.str "value".toUTF8.toList) := by
  unfold mkRow at hok
  obtain ⟨row, t1, h1, hok⟩ := ok_bind hok
  obtain ⟨ks, t2, h2, hok⟩ := ok_bind hok
  obtain ⟨_, t3, h3, hok⟩ := ok_bind hok
  rw [go_bind_ok (go_dropGuard ks t3)] at hok
  obtain ⟨vs, t5, h5, hok⟩ := ok_bind hok
  obtain ⟨_, t6, h6, hok⟩ := ok_bind hok
  rw [go_bind_ok (go_dropGuard vs t6), go_bind_ok (go_dropGuard row _),
    go_bind_ok (go_unguardVal best _), go_pure] at hok
  simp only [Prod.mk.injEq, Except.ok.injEq] at hok
  obtain ⟨hr, ht'⟩ := hok
  -- 1. the row table
  have e1 := initTable_ok h1
  obtain ⟨G1, get1, gu1, le1, none1, keep1, next1⟩ := hG.alloc2 e1
  have hrow : row = t.heap.next := e1.elim fun _ h => h.2.1
  -- 2. the string "key"
  have e2 := initString_ok h2
  obtain ⟨G2, get2, gu2, -, -, keep2, next2⟩ := G1.alloc2 e2
  have hks : ks = row + 1 := by rw [← next1]; exact e2.elim fun _ h => h.2.1
  have hksrow : ks ≠ row := by omega
  have getrow2 : t2.heap.get row = some (.table Gen.tableInitCap []) :=
    keep2 row _ (reach_of_guard (by rw [gu1]; exact List.mem_cons_self)) get1
  -- 3. row["key"] := k
  obtain ⟨G3, ⟨c3, get3⟩, gu3, keep3, next3⟩ := G2.tableInsert le1 getrow2
    (reach_of_guard (by rw [gu2, gu1]; simp)) h3
  rw [tinsert_new (by intro e he; cases he), List.nil_append] at get3
  have getks3 : t3.heap.get ks = some (.str "key".toUTF8.toList) := by
    rw [keep3 ks hksrow (reach_of_guard (by rw [gu2]; exact List.mem_cons_self))]; exact get2
  have gu3' : t3.guards = ks :: row :: t.guards := by rw [gu3, gu2, gu1]
  -- 4. drop the guard of "key": it stays reachable through the row
  have G4 : Grown s₀ { t3 with guards := t3.guards.erase ks } :=
    G3.dropGuard ks (fun g hg => by
      rw [gu3', List.erase_cons_head]; exact List.mem_cons_of_mem _ (hG.guards g hg))
  have gu4 : ({ t3 with guards := t3.guards.erase ks } : VmState).guards = row :: t.guards := by
    show t3.guards.erase ks = _
    rw [gu3', List.erase_cons_head]
  have rrow4 : Reach ({ t3 with guards := t3.guards.erase ks } : VmState).heap
      (rootAddrs { t3 with guards := t3.guards.erase ks }) row :=
    reach_of_guard (by rw [gu4]; exact List.mem_cons_self)
  have rks4 : Reach ({ t3 with guards := t3.guards.erase ks } : VmState).heap
      (rootAddrs { t3 with guards := t3.guards.erase ks }) ks :=
    Reach.step rrow4 get3 (by simp [Heap.children])
  -- 5. the string "value"
  have e5 := initString_ok h5
  obtain ⟨G5, get5, gu5, -, -, keep5, next5⟩ := G4.alloc2 e5
  have hvs : vs = row + 2 := by
    have : vs = t3.heap.next := e5.elim fun _ h => h.2.1
    rw [this, next3, next2, hks]
  have getrow5 : t5.heap.get row = some (.table c3 [(.obj ks, k)]) := keep5 row _ rrow4 get3
  have getks5 : t5.heap.get ks = some (.str "key".toUTF8.toList) := keep5 ks _ rks4 getks3
  have gu5' : t5.guards = vs :: row :: t.guards := by rw [gu5, gu4]
  have rrow5 : Reach t5.heap (rootAddrs t5) row := reach_of_guard (by rw [gu5']; simp)
  -- 6. row["value"] := v
  obtain ⟨G6, ⟨c6, get6⟩, gu6, keep6, next6⟩ := G5.tableInsert le1 getrow5 rrow5 h6
  rw [tinsert_new (by
    intro e he
    simp only [List.mem_singleton] at he
    subst he
    rw [ownD_str getks5, ownD_str get5]
    intro hc
    exact key_ne_value (OVal.str.inj hc))] at get6
  have getks6 : t6.heap.get ks = some (.str "key".toUTF8.toList) := by
    rw [keep6 ks hksrow (Reach.step rrow5 getrow5 (by simp [Heap.children]))]; exact getks5
  have getvs6 : t6.heap.get vs = some (.str "value".toUTF8.toList) := by
    rw [keep6 vs (by omega) (reach_of_guard (by rw [gu5']; exact List.mem_cons_self))]; exact get5
  have gu6' : t6.guards = vs :: row :: t.guards := by rw [gu6, gu5']
  -- 7. drop the remaining guards
  subst ht'
  subst hrow
  refine ⟨hr.symm, none1, le1, ?_, ?_, ⟨c6, ?_⟩, ?_, ?_⟩
  · have hfin : (t6.guards.erase vs).erase t.heap.next = t.guards := by
      rw [gu6', List.erase_cons_head, List.erase_cons_head]
    show Grown s₀ { t6 with guards := unguard best ((t6.guards.erase vs).erase t.heap.next) }
    exact G6.setGuards _ (fun g hg => by rw [hfin]; exact hbg g hg)
  · show unguard best ((t6.guards.erase vs).erase t.heap.next) = unguard best t.guards
    rw [gu6', List.erase_cons_head, List.erase_cons_head]
  · show t6.heap.get t.heap.next = _
    rw [get6, hks, hvs]; rfl
  · show t6.heap.get (t.heap.next + 1) = _
    rw [← hks]; exact getks6
  · show t6.heap.get (t.heap.next + 2) = _
    rw [← hvs]; exact getvs6


theorem scan_snoc {α : Type} (lt : α → α → Bool) (ks : List α) (x : α) (st : α × Nat × Nat) :
    scan lt (ks ++ [x]) st =
      if lt x (scan lt ks st).1 then (x, (scan lt ks st).2.2, (scan lt ks st).2.2 + 1)
      else ((scan lt ks st).1, (scan lt ks st).2.1, (scan lt ks st).2.2 + 1) := by
  induction ks generalizing st with
  | nil => by_cases h : lt x st.1 = true <;> simp [scan, h]
  | cons y ys ih =>
    simp only [List.cons_append, scan]
    split <;> exact ih _

def keysOf (φ : Val → Val → Val) (es : List (Val × Val)) : List Val := es.map (fun e => φ e.1 e.2)

/-! ### the key function, as the natives see it -/

/-- a scalar, or an allocated non-table object that is reachable from the roots of `s` -/
def StableKey (s : VmState) (v : Val) : Prop :=
  ∀ b, v = .obj b → Reach s.heap (rootAddrs s) b ∧
    ∃ o, s.heap.get b = some o ∧ ∀ cap es, o ≠ .table cap es

theorem ownD_stable {s t : VmState} (hG : Grown s t) {v : Val} (h : StableKey s v) :
    ownD t.heap v = ownD s.heap v := by
  apply ownD_congr_flat
  · intro b hb cap' es' hc
    obtain ⟨-, o, ho, hno⟩ := h b hb
    rw [ho] at hc
    exact hno cap' es' (Option.some.inj hc)
  · intro b hb
    obtain ⟨hr, o, ho, -⟩ := h b hb
    rw [hG.keep b o hr ho, ho]

theorem StableKey.grown {s t : VmState} (hG : Grown s t) {v : Val} (h : StableKey s v) :
    StableKey t v := fun b hb => by
  obtain ⟨hr, o, ho, hno⟩ := h b hb
  exact ⟨hG.reach hr, o, hG.keep b o hr ho, hno⟩

theorem get_none_of_ge {h : Heap} (hf : FreshNext h) {a : Nat} (ha : h.next ≤ a) : h.get a = none := by
  cases hg : h.get a with
  | none => rfl
  | some o => exact absurd (get_lt_next hf hg) (by omega)

/-- what `__min`, `__max`, `__sort` need of their key function on a table with entries `es`, seen
    from the state `s` in which the native was entered. The native calls back from states `t` that
    are `s` plus private objects (`Grown s t`) and whose heap satisfies `J`: from such a state the
    call returns `φ k v`, keeps the guards and ends in such a state again; and in all these states
    the keys `φ k v` of the table have the deep values they have in `s`.
    `J := (· = s.heap)` for a callback that leaves the heap alone (the result is then built at
    `s.heap.next`), `J := fun _ => True` for one that allocates. -/
structure KeyFn (re : Reenter) (f : Val) (φ : Val → Val → Val) (s : VmState) (es : List (Val × Val))
    (J : Heap → Prop) : Prop where
  init : J s.heap
  call : ∀ {t t' : VmState} {k v r : Val}, Grown s t → J t.heap →
    (callKV re f k v).go t = (.ok r, t') → r = φ k v ∧ Grown s t' ∧ t'.guards = t.guards ∧ J t'.heap
  own : ∀ {t : VmState}, Grown s t → J t.heap → ∀ e ∈ es,
    ownD t.heap (φ e.1 e.2) = ownD s.heap (φ e.1 e.2)

theorem _root_.Cao.Native.PureCallback.keyFn {re : Reenter} {f : Val} {φ : Val → Val → Val} (hcb : PureCallback re f φ)
    (s : VmState) (es : List (Val × Val)) : KeyFn re f φ s es (· = s.heap) :=
  ⟨rfl, fun hG hh hok => by
    obtain ⟨st, hre, hc, hl, hk, hv, hsame⟩ := callKV_inv hok
    obtain ⟨hr, hpre, hcnt, hheap, hgu, hfr, hgl, hup⟩ := hcb.ok _ _ _ (by dsimp only; omega) hl hre
    exact ⟨by rw [hr]; dsimp only; rw [hk, hv], hG.same_heap (hsame _ hpre hcnt) hheap hgu hfr hgl hup,
      hgu, hheap.trans hh⟩,
   fun _ hh _ _ => by rw [hh]⟩

/-- an allocating callback needs keys whose deep value cannot change under the native's feet -/
theorem _root_.Cao.Native.GcCallback.keyFn {re : Reenter} {f : Val} {φ : Val → Val → Val} (hcb : GcCallback re f φ)
    {s : VmState} {es : List (Val × Val)} (hkeys : ∀ e ∈ es, StableKey s (φ e.1 e.2)) :
    KeyFn re f φ s es (fun _ => True) :=
  ⟨trivial, fun hG _ hok => have ⟨hr, hG', hgu, _, _⟩ := hG.callKV hcb hok; ⟨hr, hG', hgu, trivial⟩,
   fun hG _ e he => ownD_stable hG (hkeys e he)⟩

/-- `r` is a NEW row table `{"key": e.1, "value": e.2}` (three new objects: the table and the two
    key strings) and the machine is otherwise unchanged (`Grown`: live stack, frames, globals,
    open upvalues and every object reachable before; no guard leaked) -/
structure RowResult (s s' : VmState) (r : Val) (e : Val × Val) : Prop where
  val : r = .obj s.heap.next
  new : s.heap.get s.heap.next = none
  row : ∃ cap', s'.heap.get s.heap.next =
    some (.table cap' [(.obj (s.heap.next + 1), e.1), (.obj (s.heap.next + 2), e.2)])
  key : s'.heap.get (s.heap.next + 1) = some (.str "key".toUTF8.toList)
  value : s'.heap.get (s.heap.next + 2) = some (.str "value".toUTF8.toList)
  grown : Grown s s'
  guards : s'.guards = s.guards

/-- `RowResult` with the new row at an address `row ≥ s.heap.next` -/
structure RowResultAt (s s' : VmState) (r : Val) (e : Val × Val) (row : Nat) : Prop where
  ge : s.heap.next ≤ row
  val : r = .obj row
  new : s.heap.get row = none
  table : ∃ cap', s'.heap.get row = some (.table cap' [(.obj (row + 1), e.1), (.obj (row + 2), e.2)])
  key : s'.heap.get (row + 1) = some (.str "key".toUTF8.toList)
  value : s'.heap.get (row + 2) = some (.str "value".toUTF8.toList)
  grown : Grown s s'
  guards : s'.guards = s.guards


theorem minmax_non_table (isMin : Bool) (re : Reenter) (s : VmState)
    (h : isTable s.heap (s.stack.peekLast 1) = none) :
    (minmaxBody isMin re).go s = (.ok (s.stack.peekLast 1), s) := by
  unfold minmaxBody
  rw [go_bind_ok (go_get s), go_bind_ok (go_peek 0 s), go_bind_ok (go_peek 1 s)]
  simp only [h]
  rfl

theorem minmax_empty (isMin : Bool) (re : Reenter) (s : VmState) {a cap : Nat}
    (hit : s.stack.peekLast 1 = .obj a) (ha : s.heap.get a = some (.table cap [])) :
    (minmaxBody isMin re).go s = (.ok .nil, s) := by
  unfold minmaxBody
  rw [go_bind_ok (go_get s), go_bind_ok (go_peek 0 s), go_bind_ok (go_peek 1 s), hit]
  simp only [isTable_of_get ha]
  rfl

/-- **`__min` / `__max` on a non-empty table**, for a key function that behaves like the pure
    function `φ` (`KeyFn`, seen from the state in which the rows are guarded): the result is a new row
    `{"key": kᵢ, "value": vᵢ}` where `i` is the index the scan `argBest` selects among the keys `φ k v`
    (compared by `vlt` on their deep values); the input table and everything else reachable before is
    unchanged, the guard list is as before. The row is built on the heap `h` the last callback left. -/
theorem minmaxBody_keyFn (isMin : Bool) {re : Reenter} {φ : Val → Val → Val} {s s' : VmState}
    {r keyFn : Val} {a cap : Nat} {e₀ : Val × Val} {rest : List (Val × Val)} {J : Heap → Prop}
    (hf : FreshNext s.heap) (hkf : s.stack.peekLast 0 = keyFn) (hit : s.stack.peekLast 1 = .obj a)
    (ha : s.heap.get a = some (.table cap (e₀ :: rest)))
    (K : KeyFn re keyFn φ { s with guards := rowGuards (e₀ :: rest) ++ s.guards } (e₀ :: rest) J)
    (hok : (minmaxBody isMin re).go s = (.ok r, s')) :
    let i := argBest (better isMin s.heap) (keysOf φ (e₀ :: rest))
    ∃ h, J h ∧ i < (e₀ :: rest).length ∧
      RowResultAt s s' r ((e₀ :: rest).getD i (.nil, .nil)) h.next ∧
      s'.heap.get a = some (.table cap (e₀ :: rest)) := by
  intro i
  obtain ⟨k0, v0⟩ := e₀
  unfold minmaxBody at hok
  rw [go_bind_ok (go_get s), go_bind_ok (go_peek 0 s), go_bind_ok (go_peek 1 s), hit, hkf] at hok
  simp only [isTable_of_get ha] at hok
  rw [go_bind_ok (go_guardRows _ s)] at hok
  -- from here on the machine is `g`: `s` with the rows guarded
  generalize hg : ({ s with guards := rowGuards ((k0, v0) :: rest) ++ s.guards } : VmState) = g at hok K
  have hgG : Grown g g := by subst hg; exact Grown.refl _ hf
  have hgh : g.heap = s.heap := by subst hg; rfl
  have hgg : g.guards = rowGuards ((k0, v0) :: rest) ++ s.guards := by subst hg; rfl
  rw [callKV_bind_eq] at hok
  obtain ⟨best, t0, hcall, hok⟩ := ok_bind hok
  rw [go_bind_ok (go_guardVal best t0)] at hok
  obtain ⟨st, t1, hloop, hok⟩ := ok_bind hok
  obtain ⟨hbest, G0, hgu0, hJ0⟩ := K.call hgG K.init hcall
  have hI := forIn_inv' rest
    (fun i st t => st = scan (better isMin s.heap) ((keysOf φ rest).take i) (φ k0 v0, 0, 1) ∧
      Grown g t ∧ t.guards = guardOf st.1 ++ g.guards ∧ J t.heap ∧
      ∃ e ∈ (k0, v0) :: rest, st.1 = φ e.1 e.2)
    (scanStep isMin re keyFn) (b := (best, 0, 1)) (s := { t0 with guards := guardOf best ++ t0.guards }) ?_
    ⟨by rw [hbest]; rfl, G0.setGuards _ (fun g hg => List.mem_append_right _ (G0.guards g hg)),
      by show guardOf best ++ t0.guards = _; rw [hgu0], hJ0, _, List.mem_cons_self, hbest⟩ hloop
  · obtain ⟨hst, G1, hgu1, hJ1, -⟩ := hI
    have hlen : (keysOf φ rest).length = rest.length := by simp [keysOf]
    rw [← hlen, List.take_length] at hst
    have hi : st.2.1 = i := by rw [hst]; rfl
    obtain ⟨bk, hbk, -⟩ := argBest_spec (better isMin s.heap) (φ k0 v0) (keysOf φ rest)
    have hilt : i < ((k0, v0) :: rest).length := by
      have : i < (keysOf φ ((k0, v0) :: rest)).length := (List.getElem?_eq_some_iff.1 hbk).1
      simpa [keysOf] using this
    rw [hi] at hok
    obtain ⟨t2, hrow, rfl⟩ := mkRowG_ok hok
    obtain ⟨hr, -, hle, G2, hgu2, hrowt, hks, hvs⟩ := mkRow_ok G1
      (fun g hg => by rw [hgu1, unguard_guardOf]; exact hg) hrow
    have hgu2' : t2.guards = rowGuards ((k0, v0) :: rest) ++ s.guards := by rw [hgu2, hgu1, unguard_guardOf, hgg]
    subst hg
    obtain ⟨hG', hgu'⟩ := Grown.unrow hf G2 hgu2'
    exact ⟨t1.heap, hJ1, hilt, ⟨hle, hr, get_none_of_ge hf hle, hrowt, hks, hvs, hG', hgu'⟩,
      G2.keep a _ (reach_peek hit) ha⟩
  · intro j x st t r' t' hx ⟨hst, G, hgu, hJ, e, he, hste⟩ hstep
    unfold scanStep at hstep
    rw [callKV_bind_eq] at hstep
    obtain ⟨key, t₁, hcall', hstep⟩ := ok_bind hstep
    obtain ⟨hkey, hG', hgu', hJ'⟩ := K.call G hJ hcall'
    rw [go_bind_ok (go_get t₁)] at hstep
    have hxm : x ∈ (k0, v0) :: rest := List.mem_cons_of_mem _ (List.mem_of_getElem? hx)
    have hk : (keysOf φ rest)[j]? = some key := by
      rw [hkey]; simp [keysOf, hx]
    have htake : (keysOf φ rest).take (j + 1) = (keysOf φ rest).take j ++ [key] := by
      rw [List.take_add_one, hk]; rfl
    dsimp only at hstep
    have hb' : better isMin t₁.heap key st.1 = better isMin s.heap key st.1 := by
      unfold better; rw [hkey, hste, K.own hG' hJ' x hxm, K.own hG' hJ' e he, hgh]
    rw [hb'] at hstep
    by_cases hb : better isMin s.heap key st.1 = true
    · rw [if_pos hb, go_bind_ok (go_unguardVal st.1 t₁), go_bind_ok (go_guardVal key _)] at hstep
      simp only [go_pure, Prod.mk.injEq, Except.ok.injEq] at hstep
      have hgu1 : unguard st.1 t₁.guards = g.guards := by rw [hgu', hgu, unguard_guardOf]
      refine ⟨_, hstep.1.symm, ?_, ?_, ?_, hstep.2 ▸ hJ', x, hxm, hkey⟩
      · rw [htake, scan_snoc, ← hst, if_pos hb]
      · rw [← hstep.2]
        exact (hG'.setGuards _ (fun g hg => by
          show g ∈ guardOf key ++ unguard st.1 t₁.guards
          rw [hgu1]; exact List.mem_append_right _ hg))
      · rw [← hstep.2]
        show guardOf key ++ unguard st.1 t₁.guards = guardOf key ++ g.guards
        rw [hgu1]
    · rw [if_neg hb] at hstep
      simp only [go_pure, Prod.mk.injEq, Except.ok.injEq] at hstep
      refine ⟨_, hstep.1.symm, ?_, hstep.2 ▸ hG', hstep.2 ▸ (hgu'.trans hgu), hstep.2 ▸ hJ', e, he, hste⟩
      rw [htake, scan_snoc, ← hst, if_neg hb]

/-- `minmaxBody_keyFn` for a `PureCallback`: the callback leaves the heap alone, so the new row is at
    `s.heap.next` -/
theorem minmaxBody_spec (isMin : Bool) {re : Reenter} {φ : Val → Val → Val} {s s' : VmState}
    {r keyFn : Val} {a cap : Nat} {e₀ : Val × Val} {rest : List (Val × Val)}
    (hf : FreshNext s.heap) (hkf : s.stack.peekLast 0 = keyFn) (hit : s.stack.peekLast 1 = .obj a)
    (ha : s.heap.get a = some (.table cap (e₀ :: rest))) (hcb : PureCallback re keyFn φ)
    (hok : (minmaxBody isMin re).go s = (.ok r, s')) :
    let i := argBest (better isMin s.heap) (keysOf φ (e₀ :: rest))
    let e := (e₀ :: rest).getD i (.nil, .nil)
    i < (e₀ :: rest).length ∧ r = .obj s.heap.next ∧ s.heap.get s.heap.next = none ∧
    (∃ cap', s'.heap.get s.heap.next =
      some (.table cap' [(.obj (s.heap.next + 1), e.1), (.obj (s.heap.next + 2), e.2)])) ∧
    s'.heap.get (s.heap.next + 1) = some (.str "key".toUTF8.toList) ∧
    s'.heap.get (s.heap.next + 2) = some (.str "value".toUTF8.toList) ∧
    s'.heap.get a = some (.table cap (e₀ :: rest)) ∧ Grown s s' ∧ s'.guards = s.guards := by
  obtain ⟨_, rfl, hi, R, hin⟩ := minmaxBody_keyFn isMin hf hkf hit ha (hcb.keyFn _ _) hok
  exact ⟨hi, R.val, R.new, R.table, R.key, R.value, hin, R.grown, R.guards⟩

/-- the order `__min` / `__max` compare keys with: `<` of the deep values (`__sort` uses `keyLe`) -/
def keyLt (h : Heap) (x y : Val) : Bool := OVal.vlt hostF64 (ownD h x) (ownD h y)

theorem better_true (h : Heap) : better true h = keyLt h := rfl
theorem better_false (h : Heap) : better false h = fun x y => keyLt h y x := rfl

theorem SWO.flip {α : Type} {lt : α → α → Bool} {K : List α} (h : SWO lt K) :
    SWO (fun x y => lt y x) K :=
  ⟨fun a ha b hb hab => h.asymm b hb a ha hab,
   fun a ha b hb c hc hab hbc => h.negtrans c hc b hb a ha hbc hab⟩

/-- `<` on integer keys is a strict weak order (no hypothesis on the floating point unit) -/
theorem swo_int_keys (h : Heap) (K : List Val) (hK : ∀ k ∈ K, ∃ i, k = Val.int i) :
    SWO (keyLt h) K := by
  constructor
  · intro a ha b hb hab
    obtain ⟨i, rfl⟩ := hK a ha
    obtain ⟨j, rfl⟩ := hK b hb
    simp only [keyLt, ownD_int, C19.vlt_int_int, decide_eq_true_eq, decide_eq_false_iff_not] at hab ⊢
    omega
  · intro a ha b hb c hc hab hbc
    obtain ⟨i, rfl⟩ := hK a ha
    obtain ⟨j, rfl⟩ := hK b hb
    obtain ⟨k, rfl⟩ := hK c hc
    simp only [keyLt, ownD_int, C19.vlt_int_int, decide_eq_false_iff_not] at hab hbc ⊢
    omega

/-- in general `<` is asymmetric (C19, under the IEEE laws); negative transitivity is what mixed
    key types can break and has to be assumed -/
theorem swo_of_negtrans (hF : LawfulF64 hostF64) (h : Heap) (K : List Val)
    (hnt : ∀ a ∈ K, ∀ b ∈ K, ∀ c ∈ K, keyLt h a b = false → keyLt h b c = false → keyLt h a c = false) :
    SWO (keyLt h) K :=
  ⟨fun _ _ _ _ hab => C19.vlt_asymm hF _ _ hab, hnt⟩

theorem getElem?_keysOf {φ : Val → Val → Val} {es : List (Val × Val)} {m : Nat} {e : Val × Val}
    (h : es[m]? = some e) : (keysOf φ es)[m]? = some (φ e.1 e.2) := by
  simp [keysOf, h]

theorem argBest_entries (lt : Val → Val → Bool) (φ : Val → Val → Val) (e₀ : Val × Val)
    (rest : List (Val × Val)) :
    let es := e₀ :: rest
    let i := argBest lt (keysOf φ es)
    ∃ e, es[i]? = some e ∧ es.getD i (.nil, .nil) = e ∧
      (∀ m e', i < m → es[m]? = some e' → lt (φ e'.1 e'.2) (φ e.1 e.2) = false) ∧
      (SWO lt (keysOf φ es) →
        (∀ (m : Nat) e', es[m]? = some e' → lt (φ e'.1 e'.2) (φ e.1 e.2) = false) ∧
        (∀ m e', m < i → es[m]? = some e' → lt (φ e.1 e.2) (φ e'.1 e'.2) = true)) := by
  intro es i
  obtain ⟨bk, hbk, hlater, hswo⟩ := argBest_spec lt (φ e₀.1 e₀.2) (keysOf φ rest)
  have hbk' : (keysOf φ es)[i]? = some bk := hbk
  have hi : i < es.length := by simpa [keysOf] using (List.getElem?_eq_some_iff.1 hbk').1
  have he : es[i]? = some es[i] := List.getElem?_eq_getElem hi
  have hbke : bk = φ es[i].1 es[i].2 := by
    rw [getElem?_keysOf he] at hbk'; exact (Option.some.inj hbk').symm
  refine ⟨es[i], he, by rw [List.getD_eq_getElem?_getD, he]; rfl, ?_, ?_⟩
  · intro m e' hm he'
    rw [← hbke]; exact hlater m _ hm (getElem?_keysOf he')
  · intro h
    obtain ⟨h1, h2⟩ := hswo h
    exact ⟨fun m e' he' => by rw [← hbke]; exact h1 m _ (getElem?_keysOf he'),
           fun m e' hm he' => by rw [← hbke]; exact h2 m _ hm (getElem?_keysOf he')⟩

/-- **`__min`** (with `std.min` / `std.min_by_key` on top of it). For a table with entries
    `es = e₀ :: rest` and a callback behaving like `φ`, the result is a new row for the entry
    `e = es[i]` such that
    * (unconditionally) no LATER entry has a strictly smaller key — `i` is the last index at which
      the scan replaced its candidate;
    * if `<` is a strict weak order on the keys involved: NO entry has a strictly smaller key,
      and every EARLIER entry has a strictly larger key — `e` is the first entry with the
      smallest key.
    The input table (and every object reachable before the call) is unchanged. -/
theorem min_spec (re : Reenter) {φ : Val → Val → Val} {s s' : VmState} {r keyFn : Val}
    {a cap : Nat} {e₀ : Val × Val} {rest : List (Val × Val)}
    (hf : FreshNext s.heap) (hkf : s.stack.peekLast 0 = keyFn) (hit : s.stack.peekLast 1 = .obj a)
    (ha : s.heap.get a = some (.table cap (e₀ :: rest))) (hcb : PureCallback re keyFn φ)
    (hok : (callNativeBody re "__min").go s = (.ok r, s')) :
    ∃ (i : Nat) (e : Val × Val), (e₀ :: rest)[i]? = some e ∧ RowResult s s' r e ∧
      s'.heap.get a = some (.table cap (e₀ :: rest)) ∧
      (∀ (m : Nat) (e' : Val × Val), i < m → (e₀ :: rest)[m]? = some e' → keyLt s.heap (φ e'.1 e'.2) (φ e.1 e.2) = false) ∧
      (SWO (keyLt s.heap) (keysOf φ (e₀ :: rest)) →
        (∀ (m : Nat) (e' : Val × Val), (e₀ :: rest)[m]? = some e' → keyLt s.heap (φ e'.1 e'.2) (φ e.1 e.2) = false) ∧
        (∀ (m : Nat) (e' : Val × Val), m < i → (e₀ :: rest)[m]? = some e' → keyLt s.heap (φ e.1 e.2) (φ e'.1 e'.2) = true)) := by
  rw [callNativeBody_min] at hok
  obtain ⟨-, hr, hnew, hrow, hks, hvs, hin, hG, hgu⟩ := minmaxBody_spec true hf hkf hit ha hcb hok
  obtain ⟨e, he, hget, hlater, hswo⟩ := argBest_entries (better true s.heap) φ e₀ rest
  rw [hget] at hrow
  exact ⟨_, e, he, ⟨hr, hnew, hrow, hks, hvs, hG, hgu⟩, hin, hlater, hswo⟩

/-- **`__max`**: as `min_spec` with the order reversed — no later entry has a strictly larger
    key; under a strict weak order no entry at all has, and every earlier entry has a strictly
    smaller one (the FIRST entry with the largest key is chosen) -/
theorem max_spec (re : Reenter) {φ : Val → Val → Val} {s s' : VmState} {r keyFn : Val}
    {a cap : Nat} {e₀ : Val × Val} {rest : List (Val × Val)}
    (hf : FreshNext s.heap) (hkf : s.stack.peekLast 0 = keyFn) (hit : s.stack.peekLast 1 = .obj a)
    (ha : s.heap.get a = some (.table cap (e₀ :: rest))) (hcb : PureCallback re keyFn φ)
    (hok : (callNativeBody re "__max").go s = (.ok r, s')) :
    ∃ (i : Nat) (e : Val × Val), (e₀ :: rest)[i]? = some e ∧ RowResult s s' r e ∧
      s'.heap.get a = some (.table cap (e₀ :: rest)) ∧
      (∀ (m : Nat) (e' : Val × Val), i < m → (e₀ :: rest)[m]? = some e' → keyLt s.heap (φ e.1 e.2) (φ e'.1 e'.2) = false) ∧
      (SWO (keyLt s.heap) (keysOf φ (e₀ :: rest)) →
        (∀ (m : Nat) (e' : Val × Val), (e₀ :: rest)[m]? = some e' → keyLt s.heap (φ e.1 e.2) (φ e'.1 e'.2) = false) ∧
        (∀ (m : Nat) (e' : Val × Val), m < i → (e₀ :: rest)[m]? = some e' → keyLt s.heap (φ e'.1 e'.2) (φ e.1 e.2) = true)) := by
  rw [callNativeBody_max] at hok
  obtain ⟨-, hr, hnew, hrow, hks, hvs, hin, hG, hgu⟩ := minmaxBody_spec false hf hkf hit ha hcb hok
  obtain ⟨e, he, hget, hlater, hswo⟩ := argBest_entries (better false s.heap) φ e₀ rest
  rw [hget] at hrow
  exact ⟨_, e, he, ⟨hr, hnew, hrow, hks, hvs, hG, hgu⟩, hin, hlater, fun h => hswo h.flip⟩

/-- the empty table gives `nil`; a non-table first argument is returned unchanged; in both cases
    the machine state is untouched -/
theorem min_max_degenerate (re : Reenter) (s : VmState) :
    (isTable s.heap (s.stack.peekLast 1) = none →
      (callNativeBody re "__min").go s = (.ok (s.stack.peekLast 1), s) ∧
      (callNativeBody re "__max").go s = (.ok (s.stack.peekLast 1), s)) ∧
    (isTable s.heap (s.stack.peekLast 1) = some [] →
      (callNativeBody re "__min").go s = (.ok .nil, s) ∧
      (callNativeBody re "__max").go s = (.ok .nil, s)) := by
  rw [callNativeBody_min, callNativeBody_max]
  constructor
  · intro h; exact ⟨minmax_non_table true re s h, minmax_non_table false re s h⟩
  · intro h
    obtain ⟨a, cap, hv, hg⟩ := isTable_some h
    exact ⟨minmax_empty true re s hv hg, minmax_empty false re s hv hg⟩


/-! ## (c) `__sort` -/

section sortlemmas
variable {α : Type}

/-- sorting the list of its own members: the comparison is then only ever applied to members -/
theorem mergeSort_attach (le : α → α → Bool) (l : List α) :
    (l.attach.mergeSort fun a b => le a.1 b.1).map Subtype.val = l.mergeSort le := by
  rw [List.map_mergeSort (s := le) (fun a _ b _ => rfl), List.attach_map_subtype_val]

/-- `List.pairwise_mergeSort` when the comparison is only known to be a total preorder on the
    elements of the list -/
theorem pairwise_mergeSort_on (le : α → α → Bool) (l : List α)
    (trans : ∀ a ∈ l, ∀ b ∈ l, ∀ c ∈ l, le a b = true → le b c = true → le a c = true)
    (total : ∀ a ∈ l, ∀ b ∈ l, (le a b || le b a) = true) :
    (l.mergeSort le).Pairwise (fun a b => le a b = true) := by
  rw [← mergeSort_attach, List.pairwise_map]
  exact List.pairwise_mergeSort (le := fun a b : {x // x ∈ l} => le a.1 b.1)
    (fun a b c => trans a.1 a.2 b.1 b.2 c.1 c.2) (fun a b => total a.1 a.2 b.1 b.2) l.attach

theorem sublist_mergeSort_on (le : α → α → Bool) (l : List α)
    (trans : ∀ a ∈ l, ∀ b ∈ l, ∀ c ∈ l, le a b = true → le b c = true → le a c = true)
    (total : ∀ a ∈ l, ∀ b ∈ l, (le a b || le b a) = true)
    {c : List α} (hc : c.Pairwise (fun a b => le a b = true)) (hsub : c.Sublist l) :
    c.Sublist (l.mergeSort le) := by
  rw [← List.attach_map_subtype_val l] at hsub
  obtain ⟨c', hc', rfl⟩ := List.sublist_map_iff.mp hsub
  rw [← mergeSort_attach]
  exact (List.sublist_mergeSort (le := fun a b : {x // x ∈ l} => le a.1 b.1)
    (fun a b c => trans a.1 a.2 b.1 b.2 c.1 c.2) (fun a b => total a.1 a.2 b.1 b.2)
    (List.pairwise_map.mp hc) hc').map _

theorem nodup_getElem_ne {l : List α} (h : l.Nodup) {i j : Nat} (hi : i < l.length)
    (hj : j < l.length) (hij : i < j) : l[i] ≠ l[j] :=
  (List.pairwise_iff_getElem.mp (List.nodup_iff_pairwise_ne.mp h)) i j hi hj hij

end sortlemmas

/-- `≤` on keys as `__sort` uses it: "not greater" on the deep values -/
def keyLe (h : Heap) (x y : Val) : Bool :=
  match OVal.vcmp hostF64 (ownD h x) (ownD h y) with
  | some .gt => false
  | _ => true

def sortLe (h : Heap) (a b : Val × Val × Val) : Bool :=
  match OVal.vcmp hostF64 (ownD h a.1) (ownD h b.1) with
  | some .gt => false
  | _ => true

theorem sortLe_eq (h : Heap) (a b : Val × Val × Val) : sortLe h a b = keyLe h a.1 b.1 := rfl

/-- the entries in the order `__sort` produces: a stable merge sort by `keyLe` on `φ k v` -/
def sortedEntries (φ : Val → Val → Val) (h : Heap) (es : List (Val × Val)) : List (Val × Val) :=
  es.mergeSort (fun e₁ e₂ => keyLe h (φ e₁.1 e₁.2) (φ e₂.1 e₂.2))

def keyed (φ : Val → Val → Val) (es : List (Val × Val)) : List (Val × Val × Val) :=
  es.map (fun e => (φ e.1 e.2, e.1, e.2))

theorem sorted_keyed (φ : Val → Val → Val) (h : Heap) (es : List (Val × Val)) :
    ((keyed φ es).mergeSort (sortLe h)).map (·.2) = sortedEntries φ h es := by
  unfold keyed sortedEntries
  rw [← List.map_mergeSort (r := fun e₁ e₂ => keyLe h (φ e₁.1 e₁.2) (φ e₂.1 e₂.2))
    (fun a _ b _ => rfl), List.map_map]
  have : ((fun x : Val × Val × Val => x.2) ∘ fun e : Val × Val => (φ e.1 e.2, e.1, e.2)) = id := by
    funext e; rfl
  rw [this, List.map_id]

theorem sortedEntries_perm (φ : Val → Val → Val) (h : Heap) (es : List (Val × Val)) :
    (sortedEntries φ h es).Perm es := List.mergeSort_perm _ _

structure TotalPreorderOn (le : Val → Val → Bool) (K : List Val) : Prop where
  trans : ∀ a ∈ K, ∀ b ∈ K, ∀ c ∈ K, le a b = true → le b c = true → le a c = true
  total : ∀ a ∈ K, ∀ b ∈ K, (le a b || le b a) = true

theorem sortedEntries_sorted (φ : Val → Val → Val) (h : Heap) (es : List (Val × Val))
    (hto : TotalPreorderOn (keyLe h) (keysOf φ es)) :
    (sortedEntries φ h es).Pairwise (fun e₁ e₂ => keyLe h (φ e₁.1 e₁.2) (φ e₂.1 e₂.2) = true) := by
  have hm : ∀ e ∈ es, φ e.1 e.2 ∈ keysOf φ es := fun e he => List.mem_map.mpr ⟨e, he, rfl⟩
  exact pairwise_mergeSort_on _ es
    (fun a ha b hb c hc => hto.trans _ (hm a ha) _ (hm b hb) _ (hm c hc))
    (fun a ha b hb => hto.total _ (hm a ha) _ (hm b hb))

/-- stable: entries whose keys are in order (in particular: equal or incomparable keys that
    compare "not greater") keep their relative order; stated for arbitrary sublists -/
theorem sortedEntries_stable (φ : Val → Val → Val) (h : Heap) (es : List (Val × Val))
    (hto : TotalPreorderOn (keyLe h) (keysOf φ es)) {c : List (Val × Val)}
    (hc : c.Pairwise (fun e₁ e₂ => keyLe h (φ e₁.1 e₁.2) (φ e₂.1 e₂.2) = true))
    (hsub : c.Sublist es) : c.Sublist (sortedEntries φ h es) := by
  have hm : ∀ e ∈ es, φ e.1 e.2 ∈ keysOf φ es := fun e he => List.mem_map.mpr ⟨e, he, rfl⟩
  exact sublist_mergeSort_on _ es
    (fun a ha b hb c hc => hto.trans _ (hm a ha) _ (hm b hb) _ (hm c hc))
    (fun a ha b hb => hto.total _ (hm a ha) _ (hm b hb)) hc hsub

theorem keyLe_int (h : Heap) (i j : Int64) : keyLe h (.int i) (.int j) = decide (i.toInt ≤ j.toInt) := by
  unfold keyLe
  rw [ownD_int, ownD_int, C19.vcmp_int_int]
  rcases Int.lt_trichotomy i.toInt j.toInt with hlt | heq | hgt
  · rw [Int.compare_eq_lt.2 hlt]; simp; omega
  · rw [heq]; simp
  · rw [Int.compare_eq_gt.2 hgt]; simp; omega

/-- integer keys: `keyLe` is `≤`, a total preorder (no hypothesis on the floating point unit) -/
theorem totalPreorder_int_keys (h : Heap) (K : List Val) (hK : ∀ k ∈ K, ∃ i, k = Val.int i) :
    TotalPreorderOn (keyLe h) K := by
  constructor
  · intro a ha b hb c hc hab hbc
    obtain ⟨i, rfl⟩ := hK a ha
    obtain ⟨j, rfl⟩ := hK b hb
    obtain ⟨k, rfl⟩ := hK c hc
    rw [keyLe_int] at hab hbc ⊢
    simp only [decide_eq_true_eq] at hab hbc ⊢
    omega
  · intro a ha b hb
    obtain ⟨i, rfl⟩ := hK a ha
    obtain ⟨j, rfl⟩ := hK b hb
    rw [keyLe_int, keyLe_int]
    simp only [Bool.or_eq_true, decide_eq_true_eq]
    omega


def sortKeyStep (re : Reenter) (keyFn : Val) (x : Val × Val) (acc : List (Val × Val × Val)) :
    M (ForInStep (List (Val × Val × Val))) := do
  push x.2; push x.1
  let key ← re keyFn
  modify fun s => { s with guards := (match key with | .obj a => [a] | _ => []) ++ s.guards }
  pure (.yield (acc ++ [(key, x.1, x.2)]))

def sortInsertStep (out : Nat) (x : Val × Val × Val) (_u : PUnit) : M (ForInStep PUnit) := do
  tableInsert out x.2.1 x.2.2
  pure (.yield ⟨⟩)

def sortDropStep (x : Val × Val × Val) (_u : PUnit) : M (ForInStep PUnit) :=
  match x.1 with
  | .obj a => do dropGuard a; pure (.yield ⟨⟩)
  | _ => pure (.yield ⟨⟩)

/-- `__sort` after the keys have been computed, without the guards of the copied rows -/
def sortTail (kd : List (Val × Val × Val)) (h : Heap) : M Val := do
  let out ← initTable
  forIn (kd.mergeSort (sortLe h)) PUnit.unit (sortInsertStep out)
  forIn kd PUnit.unit sortDropStep
  dropGuard out
  return .obj out

/-- `sortTail`, with the guards of the copied rows released after those of the keys -/
def sortTailG (es : List (Val × Val)) (kd : List (Val × Val × Val)) (h : Heap) : M Val := do
  let out ← initTable
  forIn (kd.mergeSort (sortLe h)) PUnit.unit (sortInsertStep out)
  forIn kd PUnit.unit sortDropStep
  unguardRows es
  dropGuard out
  return .obj out

/-- the body of `__sort`, loop bodies named -/
def sortBody (re : Reenter) : M Val := do
  let h := (← get).heap
  let keyFn ← peek 0
  let iterable ← peek 1
  match isTable h iterable with
  | none => return iterable
  | some es => do
    guardRows es
    let kd ← forIn es [] (sortKeyStep re keyFn)
    let h := (← get).heap
    sortTailG es kd h

theorem callNativeBody_sort (re : Reenter) : callNativeBody re "__sort" = sortBody re := by
  unfold callNativeBody
  simp (config := { decide := true }) only []
  rfl


/-- a key that is a scalar, or an allocated object other than a table (string, function value):
    its deep value is read off the object itself -/
def FlatKey (h : Heap) (v : Val) : Prop :=
  ∀ b, v = .obj b → ∃ o, h.get b = some o ∧ ∀ cap es, o ≠ .table cap es

theorem ownD_key_stable {s t : VmState} (hG : Grown s t) {a cap : Nat} {es : List (Val × Val)}
    (hra : Reach s.heap (rootAddrs s) a) (ha : s.heap.get a = some (.table cap es))
    {e : Val × Val} (he : e ∈ es) (hfl : FlatKey s.heap e.1) :
    ownD t.heap e.1 = ownD s.heap e.1 :=
  ownD_stable hG fun b hb =>
    ⟨Reach.step hra ha (by
      simp only [Heap.children, List.mem_flatMap]
      exact ⟨e, he, by rw [hb]; simp⟩), hfl b hb⟩

theorem go_sortDropStep (x : Val × Val × Val) (u : PUnit) (t : VmState) :
    (sortDropStep x u).go t = (.ok (.yield ⟨⟩), { t with guards := unguard x.1 t.guards }) := by
  obtain ⟨k, e⟩ := x
  cases k <;> rfl

theorem guards_perm (ks : List Val) :
    (ks.reverse.flatMap guardOf).Perm (ks.flatMap guardOf) := by
  induction ks with
  | nil => exact List.Perm.refl _
  | cons k ks ih =>
    rw [List.reverse_cons, List.flatMap_append, List.flatMap_cons, List.flatMap_cons,
      List.flatMap_nil, List.append_nil]
    exact List.perm_append_comm.trans (List.Perm.append_left _ ih)

/-- erasures commute: the guards of the rows may be released last -/
theorem sortTailG_ok {es : List (Val × Val)} {kd : List (Val × Val × Val)} {h : Heap} {r : Val}
    {t t' : VmState} (hok : (sortTailG es kd h).go t = (.ok r, t')) :
    ∃ t₁, (sortTail kd h).go t = (.ok r, t₁) ∧ t' = { t₁ with guards := unrow es t₁.guards } := by
  unfold sortTailG at hok
  obtain ⟨out, ta, h1, hok⟩ := ok_bind hok
  obtain ⟨_, tb, h2, hok⟩ := ok_bind hok
  obtain ⟨_, tc, h3, hok⟩ := ok_bind hok
  rw [go_bind_ok (go_unguardRows es tc), go_bind_ok (go_dropGuard out _), go_pure] at hok
  simp only [Prod.mk.injEq, Except.ok.injEq] at hok
  obtain ⟨rfl, rfl⟩ := hok
  refine ⟨{ tc with guards := tc.guards.erase out }, ?_, ?_⟩
  · unfold sortTail
    rw [go_bind_ok h1, go_bind_ok h2, go_bind_ok h3, go_bind_ok (go_dropGuard out tc), go_pure]
  · show ({ tc with guards := (unrow es tc.guards).erase out } : VmState) =
      { tc with guards := unrow es (tc.guards.erase out) }
    rw [unrow_erase_comm]

/-- a non-table argument is returned unchanged, and nothing happens -/
theorem sort_non_table (re : Reenter) (s : VmState)
    (h : isTable s.heap (s.stack.peekLast 1) = none) :
    (callNativeBody re "__sort").go s = (.ok (s.stack.peekLast 1), s) := by
  rw [callNativeBody_sort]
  unfold sortBody
  rw [go_bind_ok (go_get s), go_bind_ok (go_peek 0 s), go_bind_ok (go_peek 1 s)]
  simp only [h]
  rfl

theorem sort_tail {φ : Val → Val → Val} {s t1 s' : VmState} {r : Val} {a cap : Nat}
    {es : List (Val × Val)} {kd : List (Val × Val × Val)}
    (hra : Reach s.heap (rootAddrs s) a) (ha : s.heap.get a = some (.table cap es))
    (hflat : ∀ e ∈ es, FlatKey s.heap e.1) (hdist : (es.map (fun e => ownD s.heap e.1)).Nodup)
    (hkd : kd = keyed φ es) (G1 : Grown s t1)
    (hgu1 : t1.guards = (keysOf φ es).reverse.flatMap guardOf ++ s.guards)
    (hsort : kd.mergeSort (sortLe t1.heap) = kd.mergeSort (sortLe s.heap))
    (hok : (sortTail kd t1.heap).go t1 = (.ok r, s')) :
    r = .obj t1.heap.next ∧ t1.heap.get t1.heap.next = none ∧ s.heap.next ≤ t1.heap.next ∧
    (∃ cap', s'.heap.get t1.heap.next = some (.table cap' (sortedEntries φ s.heap es))) ∧
    s'.heap.get a = some (.table cap es) ∧ Grown s s' ∧ s'.guards = s.guards := by
  unfold sortTail at hok
  obtain ⟨out, t1', hinit, hok⟩ := ok_bind hok
  obtain ⟨_, t2, hloop2, hok⟩ := ok_bind hok
  obtain ⟨_, t3, hloop3, hok⟩ := ok_bind hok
  rw [go_bind_ok (go_dropGuard out t3), go_pure] at hok
  simp only [Prod.mk.injEq, Except.ok.injEq] at hok
  obtain ⟨hr, hs'⟩ := hok
  obtain ⟨G1', get1, gu1, le1, none1, keep1, next1⟩ := G1.alloc2 (initTable_ok hinit)
  have hout : out = t1.heap.next := (initTable_ok hinit).elim fun _ h => h.2.1
  have hSE : (kd.mergeSort (sortLe t1.heap)).map (·.2) = sortedEntries φ s.heap es := by
    rw [hsort, hkd]; exact sorted_keyed φ s.heap es
  have hperm := sortedEntries_perm φ s.heap es
  have hnd : ((sortedEntries φ s.heap es).map (fun e => ownD s.heap e.1)).Nodup :=
    ((hperm.map _).nodup_iff).mpr hdist
  -- phase 2: the insertions
  have h2 := forIn_inv' (kd.mergeSort (sortLe t1.heap))
    (fun i _ t => Grown s t ∧ t.guards = out :: t1.guards ∧
      ∃ cap', t.heap.get out = some (.table cap' ((sortedEntries φ s.heap es).take i)))
    (sortInsertStep out) (b := PUnit.unit) (s := t1') ?_ ⟨G1', gu1, Gen.tableInitCap, get1⟩ hloop2
  rotate_left
  · intro i x u t r' t' hx ⟨hG, hgu, cap', hget⟩ hstep
    unfold sortInsertStep at hstep
    obtain ⟨_, t₁, hins, hstep⟩ := ok_bind hstep
    simp only [go_pure, Prod.mk.injEq, Except.ok.injEq] at hstep
    obtain ⟨hG', ⟨cap'', hget'⟩, hgu', -⟩ := hG.tableInsert le1 hget
      (reach_of_guard (by rw [hgu]; exact List.mem_cons_self)) hins
    have hxi : (sortedEntries φ s.heap es)[i]? = some x.2 := by
      rw [← hSE, List.getElem?_map, hx]; rfl
    obtain ⟨hilt, hxe⟩ := List.getElem?_eq_some_iff.1 hxi
    have hstab : ∀ e ∈ sortedEntries φ s.heap es, ownD t.heap e.1 = ownD s.heap e.1 :=
      fun e he => ownD_key_stable hG hra ha (hperm.subset he) (hflat e (hperm.subset he))
    refine ⟨_, hstep.1.symm, hstep.2 ▸ hG', by rw [← hstep.2, hgu', hgu], cap'', ?_⟩
    rw [← hstep.2, hget', tinsert_new, List.take_add_one, hxi]
    · rfl
    · intro e he
      obtain ⟨j, hj, hje⟩ := List.mem_iff_getElem.mp he
      rw [List.length_take] at hj
      rw [List.getElem_take] at hje
      have hjlt : j < (sortedEntries φ s.heap es).length := by omega
      rw [← hje, ← hxe, hstab _ (List.getElem_mem hjlt), hstab _ (List.getElem_mem hilt)]
      have := nodup_getElem_ne hnd (i := j) (j := i) (by simpa using hjlt) (by simpa using hilt)
        (by omega)
      simpa using this
  obtain ⟨G2, gu2, cap2, get2⟩ := h2
  have hlen2 : (kd.mergeSort (sortLe t1.heap)).length = (sortedEntries φ s.heap es).length := by
    rw [← hSE, List.length_map]
  rw [hlen2, List.take_length] at get2
  -- phase 3: the guards of the keys are dropped
  have h3 := forIn_inv' kd
    (fun i _ t => t.heap = t2.heap ∧ t.stack = t2.stack ∧ t.frames = t2.frames ∧
      t.globals = t2.globals ∧ t.openUpvalues = t2.openUpvalues ∧
      t.guards = ((keysOf φ (es.take i)).flatMap guardOf).foldl List.erase t2.guards)
    sortDropStep (b := PUnit.unit) (s := t2) ?_ ⟨rfl, rfl, rfl, rfl, rfl, rfl⟩ hloop3
  rotate_left
  · intro i x u t r' t' hx ⟨hh, hst, hfr, hgl, hup, hgu⟩ hstep
    rw [go_sortDropStep] at hstep
    simp only [Prod.mk.injEq, Except.ok.injEq] at hstep
    have hxi : ∃ e, es[i]? = some e ∧ x.1 = φ e.1 e.2 := by
      rw [hkd, keyed, List.getElem?_map] at hx
      cases he : es[i]? with
      | none => rw [he] at hx; cases hx
      | some e => rw [he] at hx; exact ⟨e, rfl, by rw [← Option.some.inj hx]⟩
    obtain ⟨e, he, hxe⟩ := hxi
    have htake : es.take (i + 1) = es.take i ++ [e] := by rw [List.take_add_one, he]; rfl
    refine ⟨_, hstep.1.symm, ?_⟩
    rw [← hstep.2]
    refine ⟨hh, hst, hfr, hgl, hup, ?_⟩
    show unguard x.1 t.guards = _
    rw [unguard_eq_foldl, hgu, htake, hxe]
    simp [keysOf, List.flatMap_append, List.foldl_append]
  obtain ⟨hh3, hst3, hfr3, hgl3, hup3, hgu3⟩ := h3
  have hlen3 : kd.length = es.length := by rw [hkd]; simp [keyed]
  rw [hlen3, List.take_length] at hgu3
  -- the final guard list
  have hfinal : t3.guards.erase out = s.guards := by
    rw [hgu3, gu2, hgu1]
    have := foldl_erase_front (keysOf φ es |>.flatMap guardOf |>.append [out])
      (out :: (keysOf φ es).reverse.flatMap guardOf) s.guards
      (List.perm_append_comm.trans (List.Perm.cons _ (guards_perm _).symm))
    simp only [List.append_eq, List.foldl_append, List.foldl_cons, List.foldl_nil,
      List.cons_append] at this
    exact this
  subst hs'
  subst hout
  refine ⟨hr.symm, none1, G1.next, ⟨cap2, by show t3.heap.get _ = _; rw [hh3]; exact get2⟩, ?_, ?_, hfinal⟩
  · show t3.heap.get a = _
    rw [hh3]; exact G2.keep a _ hra ha
  · exact G2.step (StackSame.of_eq hst3) hfr3 hgl3 hup3
      (fun g hg => by show g ∈ t3.guards.erase t1.heap.next; rw [hfinal]; exact hg)
      (fun b o _ ho => by show t3.heap.get b = _; rw [hh3]; exact ho)
      (by show t2.heap.next ≤ t3.heap.next; rw [hh3]; exact Nat.le_refl _)
      (by show FreshNext t3.heap; rw [hh3]; exact G2.fresh)



/-- **`__sort`**: for a key function behaving like `φ` (`KeyFn`, seen from the state in which the rows
    are guarded), the result is a NEW table whose entry list is `sortedEntries φ s.heap es` — the stable
    merge sort of the input entries by "not greater" on the deep values of `φ k v` — provided the keys
    of the input table are flat and pairwise different (the table invariant); the input table and
    everything else reachable before is unchanged and the guard list is as before. The table is built
    on the heap `h` the last callback left. -/
theorem sort_keyFn (re : Reenter) {φ : Val → Val → Val} {s s' : VmState} {r keyFn : Val}
    {a cap : Nat} {es : List (Val × Val)} {J : Heap → Prop}
    (hf : FreshNext s.heap) (hkf : s.stack.peekLast 0 = keyFn) (hit : s.stack.peekLast 1 = .obj a)
    (ha : s.heap.get a = some (.table cap es))
    (K : KeyFn re keyFn φ { s with guards := rowGuards es ++ s.guards } es J)
    (hflat : ∀ e ∈ es, FlatKey s.heap e.1) (hdist : (es.map (fun e => ownD s.heap e.1)).Nodup)
    (hok : (callNativeBody re "__sort").go s = (.ok r, s')) :
    ∃ h, J h ∧ s.heap.next ≤ h.next ∧ r = .obj h.next ∧ s.heap.get h.next = none ∧
    (∃ cap', s'.heap.get h.next = some (.table cap' (sortedEntries φ s.heap es))) ∧
    s'.heap.get a = some (.table cap es) ∧ Grown s s' ∧ s'.guards = s.guards := by
  rw [callNativeBody_sort] at hok
  unfold sortBody at hok
  rw [go_bind_ok (go_get s), go_bind_ok (go_peek 0 s), go_bind_ok (go_peek 1 s), hit, hkf] at hok
  simp only [isTable_of_get ha] at hok
  rw [go_bind_ok (go_guardRows _ s)] at hok
  -- from here on the machine is `g`: `s` with the rows guarded
  generalize hg : ({ s with guards := rowGuards es ++ s.guards } : VmState) = g at hok K
  have hgh : g.heap = s.heap := by subst hg; rfl
  obtain ⟨kd, t1, hloop1, hok⟩ := ok_bind hok
  rw [go_bind_ok (go_get t1)] at hok
  obtain ⟨t2, htail, rfl⟩ := sortTailG_ok hok
  have hit' : g.stack.peekLast 1 = .obj a := by subst hg; exact hit
  have hra : Reach g.heap (rootAddrs g) a := reach_peek hit'
  -- phase 1: the keys
  have h1 := forIn_inv' es
    (fun i kd t => kd = keyed φ (es.take i) ∧ Grown g t ∧ J t.heap ∧
      t.guards = (keysOf φ (es.take i)).reverse.flatMap guardOf ++ g.guards)
    (sortKeyStep re keyFn) (b := []) (s := g) ?_ ⟨rfl, Grown.refl g (hgh ▸ hf), K.init, rfl⟩ hloop1
  rotate_left
  · intro i x kd t r' t' hx ⟨hkd, hG, hJ, hgu⟩ hstep
    unfold sortKeyStep at hstep
    rw [callKV_bind_eq] at hstep
    obtain ⟨key, t₁, hcall, hstep⟩ := ok_bind hstep
    obtain ⟨hkey, hG', hgu', hJ'⟩ := K.call hG hJ hcall
    rw [go_bind_ok (go_modify _ t₁), go_pure] at hstep
    simp only [Prod.mk.injEq, Except.ok.injEq] at hstep
    have htake : es.take (i + 1) = es.take i ++ [x] := by rw [List.take_add_one, hx]; rfl
    refine ⟨_, hstep.1.symm, ?_, ?_, hstep.2 ▸ hJ', ?_⟩
    · rw [hkd, htake, hkey]; simp [keyed]
    · rw [← hstep.2]
      exact hG'.setGuards _ (fun g hg => List.mem_append_right _ (hG'.guards g hg))
    · rw [← hstep.2]
      show guardOf key ++ t₁.guards = _
      rw [hgu', hgu, htake, hkey]
      simp [keysOf]
  rw [List.take_length] at h1
  obtain ⟨hkd, G1, hJ1, hgu1⟩ := h1
  have hsort : kd.mergeSort (sortLe t1.heap) = kd.mergeSort (sortLe g.heap) := by
    apply mergeSort_congr
    have hst : ∀ z ∈ kd, ownD t1.heap z.1 = ownD g.heap z.1 := by
      intro z hz
      rw [hkd] at hz
      obtain ⟨e, he, rfl⟩ := List.mem_map.mp hz
      exact K.own G1 hJ1 e he
    intro x hx y hy
    unfold sortLe
    rw [hst x hx, hst y hy]
  obtain ⟨hr, -, hle, hout, hin, hG, hgu⟩ := sort_tail hra (hgh ▸ ha) (hgh ▸ hflat) (hgh ▸ hdist) hkd G1 hgu1 hsort htail
  subst hg
  obtain ⟨hG', hgu'⟩ := Grown.unrow hf hG hgu
  exact ⟨t1.heap, hJ1, hle, hr, get_none_of_ge hf hle, hout, hin, hG', hgu'⟩

/-- **`__sort`**: `sort_keyFn` for a `PureCallback` (the new table is at `s.heap.next`) -/
theorem sort_spec (re : Reenter) {φ : Val → Val → Val} {s s' : VmState} {r keyFn : Val}
    {a cap : Nat} {es : List (Val × Val)}
    (hf : FreshNext s.heap) (hkf : s.stack.peekLast 0 = keyFn) (hit : s.stack.peekLast 1 = .obj a)
    (ha : s.heap.get a = some (.table cap es)) (hcb : PureCallback re keyFn φ)
    (hflat : ∀ e ∈ es, FlatKey s.heap e.1) (hdist : (es.map (fun e => ownD s.heap e.1)).Nodup)
    (hok : (callNativeBody re "__sort").go s = (.ok r, s')) :
    r = .obj s.heap.next ∧ s.heap.get s.heap.next = none ∧
    (∃ cap', s'.heap.get s.heap.next = some (.table cap' (sortedEntries φ s.heap es))) ∧
    s'.heap.get a = some (.table cap es) ∧ Grown s s' ∧ s'.guards = s.guards := by
  obtain ⟨_, rfl, -, h⟩ := sort_keyFn re hf hkf hit ha (hcb.keyFn _ _) hflat hdist hok
  exact h

/-! ## non-vacuity: a callback satisfying `PureCallback`, and concrete runs -/

def idealCallback (φ : Val → Val → Val) : Reenter := fun _ => do
  let k ← pop
  let v ← pop
  pure (φ k v)

theorem pop_pop_facts (st : VStack Val) (hc : 2 ≤ st.count) :
    st.pop.2 = st.peekLast 0 ∧ st.pop.1.pop.2 = st.peekLast 1 ∧ Prefix st.pop.1.pop.1 st ∧
    st.pop.1.pop.1.count + 2 = st.count := by
  have hc0 : ¬ st.count = 0 := by omega
  have hc1 : ¬ st.count - 1 = 0 := by omega
  have hp1 : st.pop = (⟨st.count - 1, st.data.set (st.count - 1) default⟩,
      st.data.getD (st.count - 1) default) := by
    unfold VStack.pop; rw [if_neg hc0]
  have hp2 : st.pop.1.pop = (⟨st.count - 1 - 1,
      (st.data.set (st.count - 1) default).set (st.count - 1 - 1) default⟩,
      (st.data.set (st.count - 1) default).getD (st.count - 1 - 1) default) := by
    rw [hp1]; unfold VStack.pop; dsimp only; rw [if_neg hc1]
  refine ⟨?_, ?_, ?_, ?_⟩
  · rw [hp1]; unfold VStack.peekLast; rw [if_pos (by omega)]; rfl
  · rw [hp2]
    dsimp only
    unfold VStack.peekLast
    rw [if_pos (by omega)]
    rw [List.getD_eq_getElem?_getD, List.getD_eq_getElem?_getD, List.getElem?_set]
    have : ¬ st.count - 1 = st.count - 1 - 1 := by omega
    simp only [this, if_false]
  · rw [hp2]
    refine ⟨by dsimp only; omega, by simp, fun i hi => ?_⟩
    dsimp only at hi ⊢
    rw [List.getElem?_set, List.getElem?_set]
    have h1 : ¬ st.count - 1 - 1 = i := by omega
    have h2 : ¬ st.count - 1 = i := by omega
    simp only [h1, h2, if_false]
  · rw [hp2]; dsimp only; omega

theorem pureCallback_ideal (φ : Val → Val → Val) (f : Val) : PureCallback (idealCallback φ) f φ := by
  constructor
  intro s r s' hc hl hok
  obtain ⟨hk, hv, hpre, hcnt⟩ := pop_pop_facts s.stack hc
  have hgo : (idealCallback φ f).go s =
      (.ok (φ s.stack.pop.2 s.stack.pop.1.pop.2), { s with stack := s.stack.pop.1.pop.1 }) := rfl
  rw [hgo, hk, hv] at hok
  cases hok
  exact ⟨rfl, hpre, hcnt, rfl, rfl, rfl, rfl, rfl⟩

def demoHeap : Heap :=
  { objs := [(1, .table 8 [(.int 10, .int 30), (.int 11, .int 10), (.int 12, .int 20), (.int 13, .int 10)])],
    next := 2 }

/-- the table below a key function: the argument layout of `__min`, `__max`, `__sort` -/
def demo2 : VmState :=
  { VmState.fresh { stackSize := 16 } with
    stack := ⟨2, [.obj 1, .nil] ++ List.replicate 14 .nil⟩, heap := demoHeap }
/-- the table on top: the argument layout of `__to_array` -/
def demo1 : VmState :=
  { VmState.fresh { stackSize := 16 } with
    stack := ⟨1, [.obj 1] ++ List.replicate 15 .nil⟩, heap := demoHeap }

def rowIs (s : VmState) (row : Nat) (k v : Val) : Bool :=
  match s.heap.get row with
  | some (.table _ [(.obj a, k'), (.obj b, v')]) =>
    k' == k && v' == v &&
    (match s.heap.get a, s.heap.get b with
     | some (.str x), some (.str y) => x == "key".toUTF8.toList && y == "value".toUTF8.toList
     | _, _ => false)
  | _ => false

def entriesAre (s : VmState) (a : Nat) (es : List (Val × Val)) : Bool :=
  match s.heap.get a with
  | some (.table _ es') => es' == es
  | _ => false

/-- the hypotheses of `min_spec`, `max_spec`, `sort_spec` hold on `demo2` -/
example : FreshNext demo2.heap ∧ demo2.stack.peekLast 1 = .obj 1 ∧
    (∃ cap es, demo2.heap.get 1 = some (.table cap es) ∧
      (∀ e ∈ es, FlatKey demo2.heap e.1) ∧ (es.map (fun e => ownD demo2.heap e.1)).Nodup) ∧
    PureCallback (idealCallback fun _ v => v) (demo2.stack.peekLast 0) (fun _ v => v) := by
  refine ⟨by unfold FreshNext; decide, by decide, ⟨8, _, rfl, ?_, ?_⟩, pureCallback_ideal _ _⟩
  · intro e he b hb
    simp only [List.mem_cons, List.not_mem_nil, or_false] at he
    rcases he with rfl | rfl | rfl | rfl <;> cases hb
  · simp only [List.map_cons, List.map_nil, ownD_int]
    decide

/-- `__min` picks the FIRST of the two entries with the smallest value (`11 ↦ 10`, not `13 ↦ 10`),
    and the input is unchanged -/
example : (match (callNativeBody (idealCallback fun _ v => v) "__min").go demo2 with
    | (.ok (.obj 2), s') => rowIs s' 2 (.int 11) (.int 10) &&
        entriesAre s' 1 [(.int 10, .int 30), (.int 11, .int 10), (.int 12, .int 20), (.int 13, .int 10)]
    | _ => false) = true := by decide +kernel
example : (match (callNativeBody (idealCallback fun _ v => v) "__max").go demo2 with
    | (.ok (.obj 2), s') => rowIs s' 2 (.int 10) (.int 30)
    | _ => false) = true := by decide +kernel
example : (match (callNativeBody (idealCallback fun _ v => v) "__to_array").go demo1 with
    | (.ok (.obj 2), s') =>
        entriesAre s' 2 [(.int 0, .int 30), (.int 1, .int 10), (.int 2, .int 20), (.int 3, .int 10)]
    | _ => false) = true := by decide +kernel
/- `List.mergeSort` is defined by well-founded recursion and does not reduce in the kernel, so
   the run of `__sort` is checked by evaluation at build time instead (stable: `11` before `13`) -/
#guard (match (callNativeBody (idealCallback fun _ v => v) "__sort").go demo2 with
    | (.ok (.obj 2), s') =>
        entriesAre s' 2 [(.int 11, .int 10), (.int 13, .int 10), (.int 12, .int 20), (.int 10, .int 30)]
    | _ => false)

/-- a table with STRING keys `{"a": 30, "b": 10}` -/
def demoHeapS : Heap :=
  { objs := [(1, .table 8 [(.obj 2, .int 30), (.obj 3, .int 10)]), (2, .str [97]), (3, .str [98])],
    next := 4 }
/-- a machine that already holds guards on the key strings (one of them twice): `guardRows` /
    `unguardRows` add and release further occurrences of the same addresses -/
def demo3 : VmState :=
  { VmState.fresh { stackSize := 16 } with
    stack := ⟨2, [.obj 1, .nil] ++ List.replicate 14 .nil⟩, heap := demoHeapS, guards := [3, 2, 3] }

/-- the guards of the copied rows: last row first; releasing them gives back EXACTLY the list
    before (not only a permutation), also when the same addresses occur in it -/
example : rowGuards [(.obj 5, .obj 6), (.int 1, .obj 7)] = [7, 6, 5] := by decide
example : unrow [(.obj 5, .obj 5), (.int 1, .obj 7)]
    (rowGuards [(.obj 5, .obj 5), (.int 1, .obj 7)] ++ [7, 5, 9]) = [7, 5, 9] := by decide
example : (match (callNativeBody (idealCallback fun _ v => v) "__min").go demo3 with
    | (.ok (.obj 4), s') => rowIs s' 4 (.obj 3) (.int 10) && s'.guards == [3, 2, 3]
    | _ => false) = true := by decide +kernel
#guard (match (callNativeBody (idealCallback fun _ v => v) "__sort").go demo3 with
    | (.ok (.obj 4), s') =>
        entriesAre s' 4 [(.obj 3, .int 10), (.obj 2, .int 30)] && s'.guards == [3, 2, 3]
    | _ => false)

/-! ## (b′), (c′) callbacks that allocate

`GcCallback` (`Lemmas/NativeLemmas.lean`) lets the callback allocate and collect: everything
reachable from the roots it leaves behind is unchanged, the rest of the heap is arbitrary. The
keys `φ k v` must then be values whose deep value cannot change under the native's feet
(`StableKey`: scalars, or reachable non-table objects — e.g. the table's own values, as with
`row_to_value`); the new objects are then not at `s.heap.next` but at some later address. -/

/-- **`__min` with an allocating callback**: `min_spec` with `GcCallback` instead of
    `PureCallback`, for keys that are scalars or reachable non-table objects -/
theorem min_spec_gc (re : Reenter) {φ : Val → Val → Val} {s s' : VmState} {r keyFn : Val}
    {a cap : Nat} {e₀ : Val × Val} {rest : List (Val × Val)}
    (hf : FreshNext s.heap) (hkf : s.stack.peekLast 0 = keyFn) (hit : s.stack.peekLast 1 = .obj a)
    (ha : s.heap.get a = some (.table cap (e₀ :: rest))) (hcb : GcCallback re keyFn φ)
    (hkeys : ∀ e ∈ e₀ :: rest, StableKey s (φ e.1 e.2))
    (hok : (callNativeBody re "__min").go s = (.ok r, s')) :
    ∃ (i : Nat) (e : Val × Val) (row : Nat), (e₀ :: rest)[i]? = some e ∧ RowResultAt s s' r e row ∧
      s'.heap.get a = some (.table cap (e₀ :: rest)) ∧
      (∀ (m : Nat) (e' : Val × Val), i < m → (e₀ :: rest)[m]? = some e' → keyLt s.heap (φ e'.1 e'.2) (φ e.1 e.2) = false) ∧
      (SWO (keyLt s.heap) (keysOf φ (e₀ :: rest)) →
        (∀ (m : Nat) (e' : Val × Val), (e₀ :: rest)[m]? = some e' → keyLt s.heap (φ e'.1 e'.2) (φ e.1 e.2) = false) ∧
        (∀ (m : Nat) (e' : Val × Val), m < i → (e₀ :: rest)[m]? = some e' → keyLt s.heap (φ e.1 e.2) (φ e'.1 e'.2) = true)) := by
  rw [callNativeBody_min] at hok
  obtain ⟨h, -, -, R, hin⟩ := minmaxBody_keyFn true hf hkf hit ha
    (hcb.keyFn fun e he => (hkeys e he).grown (Grown.rows s hf _)) hok
  obtain ⟨e, he, hget, hlater, hswo⟩ := argBest_entries (better true s.heap) φ e₀ rest
  rw [hget] at R
  exact ⟨_, e, h.next, he, R, hin, hlater, hswo⟩

/-- **`__max` with an allocating callback** -/
theorem max_spec_gc (re : Reenter) {φ : Val → Val → Val} {s s' : VmState} {r keyFn : Val}
    {a cap : Nat} {e₀ : Val × Val} {rest : List (Val × Val)}
    (hf : FreshNext s.heap) (hkf : s.stack.peekLast 0 = keyFn) (hit : s.stack.peekLast 1 = .obj a)
    (ha : s.heap.get a = some (.table cap (e₀ :: rest))) (hcb : GcCallback re keyFn φ)
    (hkeys : ∀ e ∈ e₀ :: rest, StableKey s (φ e.1 e.2))
    (hok : (callNativeBody re "__max").go s = (.ok r, s')) :
    ∃ (i : Nat) (e : Val × Val) (row : Nat), (e₀ :: rest)[i]? = some e ∧ RowResultAt s s' r e row ∧
      s'.heap.get a = some (.table cap (e₀ :: rest)) ∧
      (∀ (m : Nat) (e' : Val × Val), i < m → (e₀ :: rest)[m]? = some e' → keyLt s.heap (φ e.1 e.2) (φ e'.1 e'.2) = false) ∧
      (SWO (keyLt s.heap) (keysOf φ (e₀ :: rest)) →
        (∀ (m : Nat) (e' : Val × Val), (e₀ :: rest)[m]? = some e' → keyLt s.heap (φ e.1 e.2) (φ e'.1 e'.2) = false) ∧
        (∀ (m : Nat) (e' : Val × Val), m < i → (e₀ :: rest)[m]? = some e' → keyLt s.heap (φ e'.1 e'.2) (φ e.1 e.2) = true)) := by
  rw [callNativeBody_max] at hok
  obtain ⟨h, -, -, R, hin⟩ := minmaxBody_keyFn false hf hkf hit ha
    (hcb.keyFn fun e he => (hkeys e he).grown (Grown.rows s hf _)) hok
  obtain ⟨e, he, hget, hlater, hswo⟩ := argBest_entries (better false s.heap) φ e₀ rest
  rw [hget] at R
  exact ⟨_, e, h.next, he, R, hin, hlater, fun h => hswo h.flip⟩

/-- **`__sort` with an allocating callback**: the output table is at some address `out ≥ s.heap.next`; otherwise as `sort_spec` -/
theorem sort_spec_gc (re : Reenter) {φ : Val → Val → Val} {s s' : VmState} {r keyFn : Val}
    {a cap : Nat} {es : List (Val × Val)}
    (hf : FreshNext s.heap) (hkf : s.stack.peekLast 0 = keyFn) (hit : s.stack.peekLast 1 = .obj a)
    (ha : s.heap.get a = some (.table cap es)) (hcb : GcCallback re keyFn φ)
    (hkeys : ∀ e ∈ es, StableKey s (φ e.1 e.2))
    (hflat : ∀ e ∈ es, FlatKey s.heap e.1) (hdist : (es.map (fun e => ownD s.heap e.1)).Nodup)
    (hok : (callNativeBody re "__sort").go s = (.ok r, s')) :
    ∃ out, s.heap.next ≤ out ∧ r = .obj out ∧ s.heap.get out = none ∧
    (∃ cap', s'.heap.get out = some (.table cap' (sortedEntries φ s.heap es))) ∧
    s'.heap.get a = some (.table cap es) ∧ Grown s s' ∧ s'.guards = s.guards := by
  obtain ⟨h, -, hle, hr⟩ := sort_keyFn re hf hkf hit ha
    (hcb.keyFn fun e he => (hkeys e he).grown (Grown.rows s hf _)) hflat hdist hok
  exact ⟨h.next, hle, hr⟩

/-- non-vacuity: a callback that allocates (and immediately abandons) a string on every call -/
def garbageCallback (φ : Val → Val → Val) : Reenter := fun _ => do
  let k ← pop
  let v ← pop
  let a ← initString []
  dropGuard a
  pure (φ k v)

theorem gcCallback_garbage (φ : Val → Val → Val) (f : Val) : GcCallback (garbageCallback φ) f φ := by
  constructor
  intro s r s' hc hl hf hok
  obtain ⟨hk, hv, hpre, hcnt⟩ := pop_pop_facts s.stack hc
  unfold garbageCallback at hok
  rw [go_bind_ok (go_pop s), go_bind_ok (go_pop _)] at hok
  obtain ⟨a, t, hinit, hok⟩ := ok_bind hok
  rw [go_bind_ok (go_dropGuard a t), go_pure] at hok
  simp only [Prod.mk.injEq, Except.ok.injEq] at hok
  obtain ⟨hr, hs'⟩ := hok
  obtain ⟨s₂, q, ha, ht⟩ := initString_ok hinit
  subst ht
  subst hs'
  have hf2 : FreshNext s₂.heap := q.fresh hf
  have hgu : (Gc.withObject (.str []) s₂).guards.erase a = s.guards := by
    show (s₂.heap.next :: s₂.guards).erase a = _
    rw [ha, ← q.obs.next, List.erase_cons_head, q.obs.guards]
  refine ⟨?_, ?_, ?_, hgu, q.obs.frames, q.obs.globals, q.obs.openUpvalues, ?_, ?_,
    withObject_fresh _ _ hf2⟩
  · rw [← hr, hk, hv]
  · show Prefix s₂.stack s.stack
    rw [q.obs.stack]; exact hpre
  · show s₂.stack.count + 2 = s.stack.count
    rw [q.obs.stack]; exact hcnt
  · intro b o hb ho
    have hroots : rootAddrs ({ Gc.withObject (.str []) s₂ with
        guards := (Gc.withObject (.str []) s₂).guards.erase a } : VmState) =
        rootAddrs ({ s with stack := s.stack.pop.1.pop.1 } : VmState) :=
      rootAddrs_congr (by show s₂.stack.contents = _; rw [q.obs.stack]) q.obs.globals q.obs.frames
        q.obs.openUpvalues hgu
    rw [hroots] at hb
    have h2 : s₂.heap.get b = some o := by rw [q.get hb]; exact ho
    show (Gc.withObject (.str []) s₂).heap.get b = some o
    rw [get_withObject_old _ _ _ (Nat.ne_of_lt (get_lt_next hf2 h2))]; exact h2
  · show s.heap.next ≤ s₂.heap.next + 1
    rw [q.obs.next]; exact Nat.le_succ _

/-- a run with a collection forced at EVERY allocation and a callback that allocates garbage:
    the first minimum is still found, the row is built at a later address, the input survives -/
example : (match (callNativeBody (garbageCallback fun _ v => v) "__min").go
      { demo2 with sched := .every } with
    | (.ok (.obj row), s') => decide (2 ≤ row) && rowIs s' row (.int 11) (.int 10) &&
        entriesAre s' 1 [(.int 10, .int 30), (.int 11, .int 10), (.int 12, .int 20), (.int 13, .int 10)]
    | _ => false) = true := by decide +kernel

/-! ## (d) the card code of the generated standard library -/

def stdFn (name : String) : Option Func := (Gen.stdlib.functions.find? (fun p => p.1 == name)).map (·.2)
def fnToks (name : String) : Option (List String × List String) :=
  (stdFn name).map (fun f => (f.arguments, f.cards.map Card.toTok))

/-- which native each wrapper calls, with which arguments in which order -/
example : (stdFn "to_array").map (fun f => (f.arguments, f.cards.length)) = some (["iterable"], 1) := by decide
example : ∃ f, stdFn "to_array" = some f ∧
    f.cards = [.un .ret (.callNative "__to_array" [.readVar "iterable"])] := ⟨_, rfl, rfl⟩
example : ∃ f, stdFn "min_by_key" = some f ∧ f.arguments = ["iterable", "key_function"] ∧
    f.cards = [.un .ret (.callNative "__min" [.readVar "iterable", .readVar "key_function"])] :=
  ⟨_, rfl, rfl, rfl⟩
example : ∃ f, stdFn "max_by_key" = some f ∧ f.arguments = ["iterable", "key_function"] ∧
    f.cards = [.un .ret (.callNative "__max" [.readVar "iterable", .readVar "key_function"])] :=
  ⟨_, rfl, rfl, rfl⟩
example : ∃ f, stdFn "sorted_by_key" = some f ∧ f.arguments = ["iterable", "key_function"] ∧
    f.cards = [.un .ret (.callNative "__sort" [.readVar "iterable", .readVar "key_function"])] :=
  ⟨_, rfl, rfl, rfl⟩
/-- `min`, `max`, `sorted` are the `_by_key` variants with `row_to_value` (call arguments bind in
    reverse declaration order: the first supplied argument is the key function) -/
example : ∃ f, stdFn "min" = some f ∧ f.arguments = ["iterable"] ∧
    f.cards = [.un .ret (.call "min_by_key" [.function "row_to_value", .readVar "iterable"])] :=
  ⟨_, rfl, rfl, rfl⟩
example : ∃ f, stdFn "max" = some f ∧ f.arguments = ["iterable"] ∧
    f.cards = [.un .ret (.call "max_by_key" [.function "row_to_value", .readVar "iterable"])] :=
  ⟨_, rfl, rfl, rfl⟩
example : ∃ f, stdFn "sorted" = some f ∧ f.arguments = ["iterable"] ∧
    f.cards = [.un .ret (.call "sorted_by_key" [.function "row_to_value", .readVar "iterable"])] :=
  ⟨_, rfl, rfl, rfl⟩
/-- `row_to_value(_key, val) = val`: the key function of `min`/`max`/`sorted` is `φ k v = v` -/
example : ∃ f, stdFn "row_to_value" = some f ∧ f.arguments = ["_key", "val"] ∧
    f.cards = [.un .ret (.readVar "val")] := ⟨_, rfl, rfl, rfl⟩
/-- `filter`, `any`, `map` are loops in card code: `for (i, k, v) in iterable` calling
    `callback(k, v, i)` (supplied in the order `i, v, k`) -/
example : ∃ f, stdFn "filter" = some f ∧ f.arguments = ["iterable", "callback"] ∧ f.cards =
    [.setVar "res" .createTable,
     .forEach (some "i") (some "k") (some "v") (.readVar "iterable") (.composite "_"
       [.bin .ifTrue (.dynamicCall [.readVar "i", .readVar "v", .readVar "k"] (.readVar "callback"))
         (.tri .setProperty (.readVar "v") (.readVar "res") (.readVar "k"))]),
     .un .ret (.readVar "res")] := ⟨_, rfl, rfl, rfl⟩
example : ∃ f, stdFn "any" = some f ∧ f.arguments = ["iterable", "callback"] ∧ f.cards =
    [.setVar "res" .createTable,
     .forEach (some "i") (some "k") (some "v") (.readVar "iterable") (.composite "_"
       [.bin .ifTrue (.dynamicCall [.readVar "i", .readVar "v", .readVar "k"] (.readVar "callback"))
         (.un .ret (.readVar "k"))]),
     .un .ret .scalarNil] := ⟨_, rfl, rfl, rfl⟩
example : ∃ f, stdFn "map" = some f ∧ f.arguments = ["iterable", "callback"] ∧ f.cards =
    [.setVar "res" .createTable,
     .forEach (some "i") (some "k") (some "v") (.readVar "iterable") (.composite "_"
       [.tri .setProperty (.composite ""
          [.dynamicCall [.readVar "i", .readVar "v", .readVar "k"] (.readVar "callback")])
          (.readVar "res") (.readVar "k")]),
     .un .ret (.readVar "res")] := ⟨_, rfl, rfl, rfl⟩
/-- nothing else is in the library -/
example : Gen.stdlib.functions.map (·.1) =
    ["to_array", "filter", "any", "map", "min", "max", "min_by_key", "max_by_key", "sorted_by_key",
     "sorted", "row_to_value"] := by decide

end Cao.C09
