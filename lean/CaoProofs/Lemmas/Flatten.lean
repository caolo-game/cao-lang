import CaoModel.Sem
import CaoProofs.Lemmas.ResolveSpec
import CaoProofs.Lemmas.WithStd
/-!
# Flattening the module tree (C08)

`intoIrStream` as a pure function of the module tree: `entries` walks the tree in the order of `flatten`,
`withHandles` numbers the walk, `irStream` swaps `main` to the front; `intoIrStream_ok_iff` says when the
flattening succeeds and that its result is `irStream`, `intoIrStream_error` which error it reports otherwise.
Duplicate names, the handles of the stream, the reference semantics' function table (`semFlatten`) and the import
tables of the stream are read off the same walk.
-/

namespace Cao.Compiler
open Cao

/-! ## the walk of the module tree -/

theorem ebind_ok {ε α β : Type} {x : Except ε α} {f : α → Except ε β} {b : β} :
    (x >>= f) = .ok b ↔ ∃ a, x = .ok a ∧ f a = .ok b := by
  cases x with
  | error e => simp [bind, Except.bind]
  | ok a => simp [bind, Except.bind]

theorem ebind_error {ε α β : Type} {x : Except ε α} {f : α → Except ε β} {e : ε} :
    (x >>= f) = .error e ↔ x = .error e ∨ ∃ a, x = .ok a ∧ f a = .error e := by
  cases x with
  | error e => simp [bind, Except.bind]
  | ok a => simp [bind, Except.bind]

theorem Module.tree_induct {P : Module → Prop} {Q : List (String × Module) → Prop}
    (mk : ∀ subs fns imps, Q subs → P (.mk subs fns imps)) (nil : Q [])
    (cons : ∀ n s rest, P s → Q rest → Q ((n, s) :: rest)) : (∀ m, P m) ∧ ∀ l, Q l :=
  ⟨fun m => Module.rec (motive_1 := P) (motive_2 := Q) (motive_3 := fun p => P p.2) mk nil
      (fun h t hp ht => cons h.1 h.2 t hp ht) (fun _ _ h => h) m,
   fun l => Module.rec_1 (motive_1 := P) (motive_2 := Q) (motive_3 := fun p => P p.2) mk nil
      (fun h t hp ht => cons h.1 h.2 t hp ht) (fun _ _ h => h) l⟩

mutual
  /-- some module of the tree (with its namespace) satisfies `P` -/
  def anyMod (P : List String → Module → Bool) : Module → List String → Bool
    | .mk subs fns imps, ns => P ns (.mk subs fns imps) || anyModSubs P subs ns
  def anyModSubs (P : List String → Module → Bool) : List (String × Module) → List String → Bool
    | [], _ => false
    | (n, s) :: rest, ns => anyMod P s (ns ++ [n]) || anyModSubs P rest ns
end

theorem anyMod_mono_all {P Q : List String → Module → Bool} (h : ∀ ns m, P ns m = true → Q ns m = true) :
    (∀ m ns, anyMod P m ns = true → anyMod Q m ns = true) ∧
    (∀ l ns, anyModSubs P l ns = true → anyModSubs Q l ns = true) := by
  apply Module.tree_induct
  · intro subs fns imps ih ns
    simp only [anyMod, Bool.or_eq_true]
    rintro (h1 | h1)
    · exact Or.inl (h _ _ h1)
    · exact Or.inr (ih ns h1)
  · intro ns; simp [anyModSubs]
  · intro n s rest ih1 ih2 ns
    simp only [anyModSubs, Bool.or_eq_true]
    rintro (h1 | h1)
    · exact Or.inl (ih1 _ h1)
    · exact Or.inr (ih2 _ h1)

theorem anyMod_mono {P Q : List String → Module → Bool} (h : ∀ ns m, P ns m = true → Q ns m = true)
    {m : Module} {ns : List String} : anyMod P m ns = true → anyMod Q m ns = true :=
  (anyMod_mono_all h).1 m ns

def badName (m : Module) : Bool :=
  m.functions.any (fun p => !isNameValid p.1) || m.submodules.any (fun p => !isNameValid p.1)

def importErr (k : CErrKind) (m : Module) : Bool :=
  match executeImports m.imports with
  | .error k' => decide (k' = k)
  | .ok _ => false

def importBad (m : Module) : Bool :=
  match executeImports m.imports with
  | .error _ => true
  | .ok _ => false

def tooDeep (limit : Nat) (ns : List String) : Bool := decide (limit ≤ ns.length)

/-- anything `flatten` rejects in one module -/
def defect (limit : Nat) (ns : List String) (m : Module) : Bool :=
  tooDeep limit ns || importBad m || badName m

/-- the defect of one module that `flatten` reports as error `k` -/
def defectK (limit : Nat) (k : CErrKind) (ns : List String) (m : Module) : Bool :=
  match k with
  | .recursionLimitReached => tooDeep limit ns
  | .badFunctionName => badName m
  | k => importErr k m

def dupMods (m : Module) : Bool := dupNames (m.submodules.map (·.1))

def dupFns (m : Module) : Bool := dupNames (m.functions.map (·.1))

def importsOf (imps : List String) : List (String × String) :=
  match executeImports imps with
  | .ok l => l
  | .error _ => []

/-- the functions of one module, in order, numbered from `i` (handles not yet assigned) -/
def fnEntries (ns : List String) (imports : List (String × String)) : List (String × Func) → Nat → List FunctionIr
  | [], _ => []
  | (name, f) :: rest, i =>
    { functionIndex := i, name := name, arguments := f.arguments, cards := f.cards, ns := ns,
      imports := imports, handle := 0 } :: fnEntries ns imports rest (i + 1)

mutual
  /-- every function of the tree, in the order of the walk: the functions of a module, then its
  submodules in order (handles not yet assigned) -/
  def entries : Module → List String → List FunctionIr
    | .mk subs fns imps, ns => fnEntries ns (importsOf imps) fns 0 ++ entriesSubs subs ns
  def entriesSubs : List (String × Module) → List String → List FunctionIr
    | [], _ => []
    | (n, s) :: rest, ns => entries s (ns ++ [n]) ++ entriesSubs rest ns
end

/-- assign the handles `Handle::from_u64(k)`, `Handle::from_u64(k+1)`, … -/
def withHandles : Nat → List FunctionIr → List FunctionIr
  | _, [] => []
  | k, f :: l => { f with handle := Hash.handleFromU64 (UInt64.ofNat k) } :: withHandles (k + 1) l

@[simp] theorem withHandles_length : ∀ (k : Nat) (l : List FunctionIr), (withHandles k l).length = l.length
  | _, [] => rfl
  | k, f :: l => by simp [withHandles, withHandles_length (k + 1) l]

theorem withHandles_append : ∀ (k : Nat) (a b : List FunctionIr),
    withHandles k (a ++ b) = withHandles k a ++ withHandles (k + a.length) b
  | _, [], b => by simp [withHandles]
  | k, f :: a, b => by
    simp only [List.cons_append, withHandles, List.length_cons, withHandles_append (k + 1) a b]
    congr 3; omega

theorem withHandles_map {β : Type} (g : FunctionIr → β) (hg : ∀ f h, g { f with handle := h } = g f) :
    ∀ (k : Nat) (l : List FunctionIr), (withHandles k l).map g = l.map g
  | _, [] => rfl
  | k, f :: l => by simp only [withHandles, List.map_cons, withHandles_map g hg (k + 1) l, hg]

theorem fnEntries_map {β : Type} (ns : List String) (imports : List (String × String))
    (g : FunctionIr → β) (g' : String × Func → β)
    (hg : ∀ i p, g { functionIndex := i, name := p.1, arguments := p.2.arguments, cards := p.2.cards,
                      ns := ns, imports := imports, handle := 0 } = g' p) :
    ∀ (l : List (String × Func)) (i : Nat), (fnEntries ns imports l i).map g = l.map g'
  | [], _ => rfl
  | (n, f) :: l, i => by
    simp only [fnEntries, List.map_cons, fnEntries_map ns imports g g' hg l (i + 1), hg i (n, f)]

theorem fnEntries_getElem? (ns : List String) (imports : List (String × String)) :
    ∀ (l : List (String × Func)) (i j : Nat),
      (fnEntries ns imports l i)[j]? =
        l[j]?.map (fun p => { functionIndex := i + j, name := p.1, arguments := p.2.arguments,
                              cards := p.2.cards, ns := ns, imports := imports, handle := 0 })
  | [], _, _ => by simp [fnEntries]
  | (n, f) :: l, i, 0 => by simp [fnEntries]
  | (n, f) :: l, i, j + 1 => by
    simp only [fnEntries, List.getElem?_cons_succ, fnEntries_getElem? ns imports l (i + 1) j]
    have : i + 1 + j = i + (j + 1) := by omega
    rw [this]

theorem withHandles_getElem? : ∀ (k : Nat) (l : List FunctionIr) (j : Nat),
    (withHandles k l)[j]? = l[j]?.map fun f => { f with handle := Hash.handleFromU64 (UInt64.ofNat (k + j)) }
  | _, [], _ => by simp [withHandles]
  | k, f :: l, 0 => by simp [withHandles]
  | k, f :: l, j + 1 => by
    simp only [withHandles, List.getElem?_cons_succ, withHandles_getElem? (k + 1) l j]
    have : k + 1 + j = k + (j + 1) := by omega
    rw [this]

theorem flattenFns_eq (ns : List String) (imports : List (String × String)) :
    ∀ (fns : List (String × Func)) (i : Nat) (out : Array FunctionIr),
      flattenFns ns imports fns i out =
        if fns.any (fun p => !isNameValid p.1) then .error .badFunctionName
        else .ok ⟨out.toList ++ withHandles out.size (fnEntries ns imports fns i)⟩
  | [], i, out => by simp [flattenFns, fnEntries, withHandles]; rfl
  | (n, f) :: rest, i, out => by
    simp only [flattenFns, List.any_cons]
    by_cases hv : isNameValid n = true
    · simp only [hv, Bool.not_true, Bool.false_eq_true, if_false, Bool.false_or]
      rw [flattenFns_eq ns imports rest (i + 1)]
      simp [fnEntries, withHandles]
    · simp only [Bool.not_eq_true] at hv
      simp only [hv, Bool.not_false, if_true, Bool.true_or]
      rfl

theorem importsOf_ok {imps : List String} {l : List (String × String)} (h : executeImports imps = .ok l) :
    importsOf imps = l := by
  unfold importsOf; rw [h]

theorem flatten_ok_iff_all (limit : Nat) :
    (∀ m ns out out', flatten m limit ns out = .ok out' ↔
      anyMod (defect limit) m ns = false ∧
      out' = ⟨out.toList ++ withHandles out.size (entries m ns)⟩) ∧
    (∀ subs ns out out', flattenSubs subs limit ns out = .ok out' ↔
      (subs.any (fun p => !isNameValid p.1) = false ∧ anyModSubs (defect limit) subs ns = false) ∧
      out' = ⟨out.toList ++ withHandles out.size (entriesSubs subs ns)⟩) := by
  apply Module.tree_induct
  · intro subs fns imps ih ns out out'
    simp only [flatten, anyMod, entries, defect, tooDeep, importBad, badName, Module.functions,
      Module.submodules, Module.imports]
    by_cases hd : ns.length ≥ limit
    · simp only [hd, if_true]
      constructor
      · intro h; cases h
      · simp
    · simp only [hd, if_false]
      cases hi : executeImports imps with
      | error e =>
        constructor
        · intro h; cases h
        · simp
      | ok imports =>
        simp only [importsOf_ok hi]
        show (flattenFns ns imports fns 0 out >>= fun o => flattenSubs subs limit ns o) = .ok out' ↔ _
        rw [flattenFns_eq]
        by_cases hf : (fns.any fun p => !isNameValid p.1) = true
        · simp only [hf, if_true]
          constructor
          · intro h; cases h
          · simp
        · simp only [hf]
          show flattenSubs subs limit ns _ = .ok out' ↔ _
          rw [ih]
          simp only [Bool.false_or, Bool.or_eq_false_iff, List.size_toArray, List.length_append,
            withHandles_length, Array.length_toList, withHandles_append, List.append_assoc]
          constructor
          · rintro ⟨⟨h1, h2⟩, rfl⟩
            exact ⟨⟨⟨⟨by simp, trivial⟩, h1⟩, h2⟩, rfl⟩
          · rintro ⟨⟨⟨_, h1⟩, h2⟩, rfl⟩
            exact ⟨⟨h1, h2⟩, rfl⟩
  · intro ns out out'
    simp only [flattenSubs, anyModSubs, entriesSubs, withHandles, List.append_nil, List.any_nil, true_and]
    constructor
    · intro h; cases h; rfl
    · intro h; rw [h]; rfl
  · intro n s rest ih1 ih2 ns out out'
    simp only [flattenSubs, anyModSubs, entriesSubs, List.any_cons]
    by_cases hv : isNameValid n = true
    · simp only [hv, Bool.not_true, Bool.false_eq_true, if_false, Bool.false_or, ebind_ok, ih1,
        Bool.or_eq_false_iff]
      constructor
      · rintro ⟨o1, ⟨h1, rfl⟩, h2⟩
        rw [ih2] at h2
        obtain ⟨⟨h2, h3⟩, rfl⟩ := h2
        refine ⟨⟨h2, h1, h3⟩, ?_⟩
        simp [withHandles_append, List.append_assoc]
      · rintro ⟨⟨h2, h1, h3⟩, rfl⟩
        refine ⟨_, ⟨h1, rfl⟩, ?_⟩
        rw [ih2]
        refine ⟨⟨h2, h3⟩, ?_⟩
        simp [withHandles_append, List.append_assoc]
    · simp only [Bool.not_eq_true] at hv
      simp only [hv, Bool.not_false, if_true, Bool.true_or]
      constructor
      · intro h; cases h
      · simp

theorem flatten_ext : ∀ (m : Module) (limit : Nat) (ns : List String) (out out' : Array FunctionIr),
    flatten m limit ns out = .ok out' → out.size ≤ out'.size ∧ ∀ j, j < out.size → out'[j]? = out[j]? := by
  intro m limit ns out out' h
  obtain ⟨_, rfl⟩ := ((flatten_ok_iff_all limit).1 m ns out out').1 h
  refine ⟨by simp, fun j hj => ?_⟩
  rw [List.getElem?_toArray, List.getElem?_append_left (by rw [Array.length_toList]; exact hj),
    Array.getElem?_toList]

/-! ### `executeImports` -/

/-- the key of an import: the last `.`-segment of the path -/
def lastSeg (imp : String) : String := (imp.splitOn ".").getLast!

def dotted (imp : String) : Bool := decide (2 ≤ (imp.splitOn ".").length)

def importStep (acc : List (String × String)) (imp : String) : Except CErrKind (List (String × String)) :=
  match imp.splitOn "." with
  | [] | [_] => .error .badImport
  | parts =>
    let name := parts.getLast!
    if acc.any (fun p => p.1 == name) then .error .ambigousImport
    else .ok (acc ++ [(name, imp)])

theorem executeImports_eq (imps : List String) : executeImports imps = imps.foldlM importStep [] := rfl

theorem importStep_eq (acc : List (String × String)) (imp : String) :
    importStep acc imp =
      if dotted imp = false then .error .badImport
      else if acc.any (fun p => p.1 == lastSeg imp) then .error .ambigousImport
      else .ok (acc ++ [(lastSeg imp, imp)]) := by
  unfold importStep dotted lastSeg
  rcases imp.splitOn "." with _ | ⟨a, _ | ⟨b, l⟩⟩
  · rfl
  · rfl
  · simp

theorem foldlM_importStep_ok : ∀ (imps : List String) (acc l : List (String × String)),
    imps.foldlM importStep acc = .ok l ↔
      (∀ imp ∈ imps, dotted imp = true) ∧
      (imps.map lastSeg).Pairwise (· ≠ ·) ∧
      (∀ imp ∈ imps, ∀ p ∈ acc, p.1 ≠ lastSeg imp) ∧
      l = acc ++ imps.map (fun imp => (lastSeg imp, imp))
  | [], acc, l => by
    simp only [List.foldlM_nil, pure, Except.pure, Except.ok.injEq, List.map_nil, List.append_nil]
    constructor
    · rintro rfl; simp
    · rintro ⟨_, _, _, rfl⟩; rfl
  | imp :: imps, acc, l => by
    rw [List.foldlM_cons, importStep_eq]
    by_cases hd : dotted imp = false
    · simp only [hd, if_true]
      constructor
      · intro h; cases h
      · rintro ⟨h, _⟩; have := h imp (List.mem_cons_self ..); rw [hd] at this; cases this
    · simp only [hd]
      simp only [Bool.not_eq_false] at hd
      by_cases ha : (acc.any fun p => p.1 == lastSeg imp) = true
      · simp only [ha, if_true]
        constructor
        · intro h; cases h
        · rintro ⟨_, _, h, _⟩
          obtain ⟨p, hp, hpe⟩ := List.any_eq_true.1 ha
          exact absurd (by simpa using hpe) (h imp (List.mem_cons_self ..) p hp)
      · simp only [ha]
        show imps.foldlM importStep (acc ++ [(lastSeg imp, imp)]) = .ok l ↔ _
        rw [foldlM_importStep_ok imps]
        have ha' : ∀ p ∈ acc, p.1 ≠ lastSeg imp := by
          intro p hp he
          exact ha (List.any_eq_true.2 ⟨p, hp, by simpa using he⟩)
        simp only [List.mem_cons, forall_eq_or_imp, List.map_cons, List.pairwise_cons, List.mem_map,
          forall_exists_index, and_imp, forall_apply_eq_imp_iff₂, List.mem_append,
          List.append_assoc, List.cons_append, List.nil_append]
        constructor
        · rintro ⟨h1, h2, h3, rfl⟩
          refine ⟨⟨hd, h1⟩, ⟨fun a ha => ?_, h2⟩, ⟨ha', fun a ha p hp => h3 a ha p (Or.inl hp)⟩, rfl⟩
          exact fun he => h3 a ha _ (Or.inr (Or.inl rfl)) he
        · rintro ⟨⟨_, h1⟩, ⟨h2a, h2⟩, ⟨_, h3⟩, rfl⟩
          refine ⟨h1, h2, fun a ha p hp => ?_, rfl⟩
          rcases hp with hp | rfl | hp
          · exact h3 a ha p hp
          · exact h2a a ha
          · cases hp

theorem executeImports_ok_iff (imps : List String) (l : List (String × String)) :
    executeImports imps = .ok l ↔
      (∀ imp ∈ imps, dotted imp = true) ∧ (imps.map lastSeg).Pairwise (· ≠ ·) ∧
      l = imps.map (fun imp => (lastSeg imp, imp)) := by
  rw [executeImports_eq, foldlM_importStep_ok]
  simp

theorem foldlM_importStep_error : ∀ (imps : List String) (acc : List (String × String)) (k : CErrKind),
    imps.foldlM importStep acc = .error k →
      (k = .badImport ∧ ∃ imp ∈ imps, dotted imp = false) ∨
      (k = .ambigousImport ∧ ¬ ((acc.map (·.1) ++ imps.map lastSeg).Pairwise (· ≠ ·)))
  | [], acc, k => by intro h; cases h
  | imp :: imps, acc, k => by
    rw [List.foldlM_cons, importStep_eq]
    by_cases hd : dotted imp = false
    · simp only [hd, if_true]
      intro h; cases h
      exact Or.inl ⟨rfl, imp, List.mem_cons_self .., hd⟩
    · simp only [hd]
      by_cases ha : (acc.any fun p => p.1 == lastSeg imp) = true
      · simp only [ha, if_true]
        intro h; cases h
        refine Or.inr ⟨rfl, fun hp => ?_⟩
        obtain ⟨p, hp', hpe⟩ := List.any_eq_true.1 ha
        rw [List.pairwise_append] at hp
        exact hp.2.2 p.1 (List.mem_map_of_mem hp') (lastSeg imp) (by simp) (by simpa using hpe)
      · simp only [ha]
        intro h
        rcases foldlM_importStep_error imps _ k h with ⟨rfl, i, hi, hid⟩ | ⟨rfl, hp⟩
        · exact Or.inl ⟨rfl, i, List.mem_cons_of_mem _ hi, hid⟩
        · refine Or.inr ⟨rfl, fun hq => hp ?_⟩
          simpa [List.append_assoc] using hq

theorem executeImports_error {imps : List String} {k : CErrKind} (h : executeImports imps = .error k) :
    (k = .badImport ∧ ∃ imp ∈ imps, dotted imp = false) ∨
    (k = .ambigousImport ∧ ¬ (imps.map lastSeg).Pairwise (· ≠ ·)) := by
  have := foldlM_importStep_error imps [] k h
  simpa using this

/-- an import table defined like the one inside `Sem.flattenFns`: malformed imports are skipped -/
def semImports (imps : List String) : List (String × String) :=
  imps.filterMap (fun imp =>
    match imp.splitOn "." with
    | [] | [_] => none
    | parts => some (parts.getLast!, imp))

theorem semImports_of_dotted {imps : List String} (hd : ∀ imp ∈ imps, dotted imp = true) :
    semImports imps = imps.map (fun imp => (lastSeg imp, imp)) := by
  unfold semImports
  induction imps with
  | nil => rfl
  | cons imp imps ih =>
    have h1 := hd imp (List.mem_cons_self ..)
    rw [List.filterMap_cons, List.map_cons, ih (fun i hi => hd i (List.mem_cons_of_mem _ hi))]
    unfold dotted at h1
    unfold lastSeg
    rcases hsp : imp.splitOn "." with _ | ⟨a, _ | ⟨b, l⟩⟩
    · rw [hsp] at h1; simp at h1
    · rw [hsp] at h1; simp at h1
    · rfl

theorem semImports_eq_of_ok {imps : List String} {l : List (String × String)}
    (h : executeImports imps = .ok l) : semImports imps = l := by
  obtain ⟨hd, _, rfl⟩ := (executeImports_ok_iff imps l).1 h
  exact semImports_of_dotted hd

theorem flatten_error_all (limit : Nat) (k : CErrKind) :
    (∀ m ns out, flatten m limit ns out = .error k → anyMod (defectK limit k) m ns = true) ∧
    (∀ subs ns out, flattenSubs subs limit ns out = .error k →
      (k = .badFunctionName ∧ subs.any (fun p => !isNameValid p.1) = true) ∨
      anyModSubs (defectK limit k) subs ns = true) := by
  apply Module.tree_induct
  · intro subs fns imps ih ns out
    simp only [flatten, anyMod, Bool.or_eq_true]
    by_cases hd : ns.length ≥ limit
    · simp only [hd, if_true]
      intro h; cases h
      exact Or.inl (by simpa [defectK, tooDeep] using hd)
    · simp only [hd, if_false]
      cases hi : executeImports imps with
      | error e =>
        intro h; cases h
        left
        have hk : importErr k (.mk subs fns imps) = true := by simp [importErr, Module.imports, hi]
        rcases executeImports_error hi with ⟨rfl, _⟩ | ⟨rfl, _⟩ <;> exact hk
      | ok imports =>
        show (flattenFns ns imports fns 0 out >>= fun o => flattenSubs subs limit ns o) = .error k → _
        rw [flattenFns_eq]
        by_cases hf : (fns.any fun p => !isNameValid p.1) = true
        · simp only [hf, if_true]
          intro h; cases h
          exact Or.inl (by simp [defectK, badName, Module.functions, hf])
        · simp only [hf]
          intro h
          rcases ih ns _ h with ⟨rfl, hs⟩ | hs
          · exact Or.inl (by simp [defectK, badName, Module.submodules, hs])
          · exact Or.inr hs
  · intro ns out h; cases h
  · intro n s rest ih1 ih2 ns out
    simp only [flattenSubs, anyModSubs, List.any_cons, Bool.or_eq_true]
    by_cases hv : isNameValid n = true
    · simp only [hv, Bool.not_true, Bool.false_eq_true, if_false, false_or, ebind_error]
      rintro (h | ⟨o, _, h⟩)
      · exact Or.inr (Or.inl (ih1 _ _ h))
      · rcases ih2 _ _ h with h | h
        · exact Or.inl h
        · exact Or.inr (Or.inr h)
    · simp only [Bool.not_eq_true] at hv
      simp only [hv, Bool.not_false, if_true, true_or, and_true]
      intro h; cases h
      exact Or.inl rfl

/-! ### `ensureInvariants` -/

theorem ensureInvariants_all :
    (∀ m ns, ensureInvariants m =
      if anyMod (fun _ m => dupMods m) m ns then .error .duplicateModule else .ok ()) ∧
    (∀ subs ns, ensureInvariantsSubs subs =
      if anyModSubs (fun _ m => dupMods m) subs ns then .error .duplicateModule else .ok ()) := by
  apply Module.tree_induct
  · intro subs fns imps ih ns
    simp only [ensureInvariants, anyMod, dupMods, Module.submodules]
    by_cases hd : dupNames (subs.map (·.1)) = true
    · simp only [hd, if_true, Bool.true_or]; rfl
    · simp only [hd, Bool.false_or]
      exact ih ns
  · intro ns; rfl
  · intro n s rest ih1 ih2 ns
    simp only [ensureInvariantsSubs, anyModSubs]
    rw [ih1 (ns ++ [n]), ih2 ns]
    by_cases h1 : anyMod (fun _ m => dupMods m) s (ns ++ [n]) = true <;>
    by_cases h2 : anyModSubs (fun _ m => dupMods m) rest ns = true <;> simp [h1, h2] <;> rfl

theorem ensureInvariants_eq (m : Module) (ns : List String) :
    ensureInvariants m = if anyMod (fun _ m => dupMods m) m ns then .error .duplicateModule else .ok () :=
  ensureInvariants_all.1 m ns

/-! ### `intoIrStream` -/

/- `withStd`: the tree `intoIrStream` works on, the standard library injected as submodule `std` -/
example (m std : Module) : withStd m std = Module.mk (m.submodules ++ [("std", std)]) m.functions m.imports := rfl

/-- the stream `intoIrStream` returns for a well-formed tree: all functions of the tree in walk
order, with handles `from_u64(position in the walk)`, then `main` swapped to the front -/
def irStream (m std : Module) (mainIdx : Nat) : Array FunctionIr :=
  let out : Array FunctionIr := ⟨withHandles 0 (entries (withStd m std) [])⟩
  (out.set! 0 out[mainIdx]!).set! mainIdx out[0]!

theorem intoIrStream_eq (m std : Module) (limit : Nat) :
    intoIrStream m std limit =
      if anyMod (fun _ m => dupMods m) (withStd m std) [] then .error .duplicateModule
      else match m.functions.findIdx? (fun p => p.1 == "main") with
        | none => .error .noMain
        | some mainIdx =>
          (flatten (withStd m std) limit [] #[]).map
            (fun out => (out.set! 0 out[mainIdx]!).set! mainIdx out[0]!) := by
  unfold intoIrStream
  show (ensureInvariants (withStd m std) >>= fun _ => _) = _
  rw [ensureInvariants_eq _ []]
  cases hdup : anyMod (fun _ m => dupMods m) (withStd m std) [] with
  | true => rfl
  | false =>
    have hfn : (Module.mk (m.submodules ++ [("std", std)]) m.functions m.imports).functions = m.functions := rfl
    simp only [Bool.false_eq_true, if_false, hfn]
    cases hmain : m.functions.findIdx? (fun p => p.1 == "main") with
    | none => rfl
    | some mainIdx =>
      show (flatten (withStd m std) limit [] #[] >>= fun out => _) = _
      cases flatten (withStd m std) limit [] #[] <;> rfl

theorem intoIrStream_ok_iff (m std : Module) (limit : Nat) (fns : Array FunctionIr) :
    intoIrStream m std limit = .ok fns ↔
      anyMod (fun _ m => dupMods m) (withStd m std) [] = false ∧
      anyMod (defect limit) (withStd m std) [] = false ∧
      ∃ mainIdx, m.functions.findIdx? (fun p => p.1 == "main") = some mainIdx ∧
        fns = irStream m std mainIdx := by
  rw [intoIrStream_eq]
  cases hdup : anyMod (fun _ m => dupMods m) (withStd m std) [] with
  | true => simp
  | false =>
    simp only [Bool.false_eq_true, if_false, true_and]
    cases hmain : m.functions.findIdx? (fun p => p.1 == "main") with
    | none => simp
    | some mainIdx =>
      simp only [Option.some.injEq, exists_eq_left']
      cases hf : flatten (withStd m std) limit [] #[] with
      | error e =>
        refine ⟨fun h => (nomatch h), fun ⟨hd, _⟩ => ?_⟩
        rw [((flatten_ok_iff_all limit).1 _ [] #[] _).2 ⟨hd, rfl⟩] at hf
        cases hf
      | ok out =>
        obtain ⟨hd, rfl⟩ := ((flatten_ok_iff_all limit).1 _ _ _ _).1 hf
        exact ⟨fun h => ⟨hd, (Except.ok.inj h).symm⟩, fun ⟨_, h⟩ => h ▸ rfl⟩

theorem intoIrStream_error {m std : Module} {limit : Nat} {k : CErrKind}
    (h : intoIrStream m std limit = .error k) :
    (k = .duplicateModule ∧ anyMod (fun _ m => dupMods m) (withStd m std) [] = true) ∨
    (k = .noMain ∧ m.functions.findIdx? (fun p => p.1 == "main") = none) ∨
    anyMod (defectK limit k) (withStd m std) [] = true := by
  rw [intoIrStream_eq] at h
  cases hdup : anyMod (fun _ m => dupMods m) (withStd m std) [] with
  | true => rw [hdup] at h; cases h; exact Or.inl ⟨rfl, rfl⟩
  | false =>
    rw [hdup] at h
    simp only [Bool.false_eq_true, if_false] at h
    cases hmain : m.functions.findIdx? (fun p => p.1 == "main") with
    | none => rw [hmain] at h; cases h; exact Or.inr (Or.inl ⟨rfl, rfl⟩)
    | some mainIdx =>
      rw [hmain] at h
      cases hf : flatten (withStd m std) limit [] #[] with
      | ok out => rw [hf] at h; cases h
      | error e =>
        rw [hf] at h; cases h
        exact Or.inr (Or.inr ((flatten_error_all limit k).1 _ _ _ hf))

/-! ## duplicate names -/

theorem dupNames_iff (l : List String) : dupNames l = true ↔ ¬ l.Pairwise (· ≠ ·) := by
  induction l with
  | nil => simp [dupNames]
  | cons a l ih =>
    simp only [dupNames, Bool.or_eq_true, List.contains_iff_mem, List.pairwise_cons, not_and, ih]
    constructor
    · rintro (h | h) h1
      · exact absurd rfl (h1 a h)
      · exact h
    · intro h
      by_cases ha : a ∈ l
      · exact Or.inl ha
      · exact Or.inr (h (fun b hb e => ha (e ▸ hb)))

theorem dupNames_append_singleton {l : List String} {x : String} (h : x ∈ l) : dupNames (l ++ [x]) = true := by
  rw [dupNames_iff, List.pairwise_append]
  intro hp
  exact hp.2.2 x h x (List.mem_singleton.2 rfl) rfl

theorem fnEntries_fullName (ns : List String) (imports : List (String × String)) :
    ∀ (fns : List (String × Func)) (i : Nat),
      (fnEntries ns imports fns i).map FunctionIr.fullName = fns.map (fun p => joinNs ns p.1) :=
  fnEntries_map ns imports _ _ fun _ _ => fullName_eq_joinNs _

theorem withHandles_fullName : ∀ (k : Nat) (l : List FunctionIr),
    (withHandles k l).map FunctionIr.fullName = l.map FunctionIr.fullName :=
  withHandles_map _ fun _ _ => rfl

theorem dupFns_entries_all :
    (∀ m ns, anyMod (fun _ m => dupFns m) m ns = true →
      ¬ ((entries m ns).map FunctionIr.fullName).Pairwise (· ≠ ·)) ∧
    (∀ subs ns, anyModSubs (fun _ m => dupFns m) subs ns = true →
      ¬ ((entriesSubs subs ns).map FunctionIr.fullName).Pairwise (· ≠ ·)) := by
  apply Module.tree_induct
  · intro subs fns imps ih ns
    simp only [anyMod, entries, Bool.or_eq_true, List.map_append, List.pairwise_append]
    rintro (h | h) hp
    · simp only [dupFns, Module.functions] at h
      rw [dupNames_iff] at h
      apply h
      have := hp.1
      rw [fnEntries_fullName] at this
      have h2 : (fns.map (fun p => joinNs ns p.1)) = (fns.map (·.1)).map (joinNs ns) := by simp
      rw [h2, List.pairwise_map] at this
      exact this.imp (fun hne e => hne (by rw [e]))
    · exact ih ns h hp.2.1
  · intro ns h; simp [anyModSubs] at h
  · intro n s rest ih1 ih2 ns
    simp only [anyModSubs, entriesSubs, Bool.or_eq_true, List.map_append, List.pairwise_append]
    rintro (h | h) hp
    · exact ih1 _ h hp.1
    · exact ih2 _ h hp.2.1

theorem fnEntries_length (ns : List String) (imports : List (String × String)) :
    ∀ (l : List (String × Func)) (i : Nat), (fnEntries ns imports l i).length = l.length
  | [], _ => rfl
  | (_, _) :: l, i => by simp [fnEntries, fnEntries_length ns imports l (i + 1)]

theorem mainIdx_lt {m std : Module} {mi : Nat}
    (hmi : m.functions.findIdx? (fun p => p.1 == "main") = some mi) :
    mi < (entries (withStd m std) []).length := by
  cases m with
  | mk subs fns imps =>
    have := (List.findIdx?_eq_some_iff_getElem.1 hmi).1
    simp only [withStd, entries, List.length_append, Module.functions, fnEntries_length] at this ⊢
    omega

theorem irStream_perm {m std : Module} {mainIdx : Nat}
    (h : mainIdx < (entries (withStd m std) []).length) :
    (irStream m std mainIdx).toList.Perm (withHandles 0 (entries (withStd m std) [])) := by
  unfold irStream
  generalize hl : withHandles 0 (entries (withStd m std) []) = l
  have hlen : mainIdx < l.length := by rw [← hl]; simpa using h
  have h0 : 0 < l.length := by omega
  have e : (((⟨l⟩ : Array FunctionIr).set! 0 (⟨l⟩ : Array FunctionIr)[mainIdx]!).set! mainIdx (⟨l⟩ : Array FunctionIr)[0]!)
      = (⟨l⟩ : Array FunctionIr).swap 0 mainIdx (by simpa using h0) (by simpa using hlen) := by
    simp only [Array.swap, Array.set!_eq_setIfInBounds]
    rw [getElem!_pos (⟨l⟩ : Array FunctionIr) mainIdx (by simpa using hlen),
      getElem!_pos (⟨l⟩ : Array FunctionIr) 0 (by simpa using h0)]
    apply Array.ext
    · simp
    · intro i h1 h2
      simp
  simp only [e]
  exact (Array.swap_perm _ _).toList

/-! ## handles -/

/-- `Handle::from_u64` is injective on the first `n` stream positions (an assumption: it is a
64→32 bit mixing hash, see `Hash.hashU64`) -/
def HandleInj (n : Nat) : Prop :=
  ∀ i j, i < n → j < n →
    Hash.handleFromU64 (UInt64.ofNat i) = Hash.handleFromU64 (UInt64.ofNat j) → i = j

theorem withHandles_handles : ∀ (k : Nat) (l : List FunctionIr),
    (withHandles k l).map (·.handle) =
      (List.range' k l.length).map (fun i => Hash.handleFromU64 (UInt64.ofNat i))
  | _, [] => rfl
  | k, f :: l => by
    simp only [withHandles, List.map_cons, List.length_cons, List.range'_succ, withHandles_handles (k + 1) l]

theorem withHandles_handles_nodup {l : List FunctionIr} (h : HandleInj l.length) :
    ((withHandles 0 l).map (·.handle)).Pairwise (· ≠ ·) := by
  rw [withHandles_handles, List.pairwise_map]
  have hlt : (List.range' 0 l.length).Pairwise (· < ·) := List.pairwise_lt_range'
  refine hlt.imp_of_mem ?_
  intro a b ha hb hab he
  have ha' := (List.mem_range'_1.1 ha).2
  have hb' := (List.mem_range'_1.1 hb).2
  have := h a b (by omega) (by omega) he
  omega

/-! ## a function table defined like `Sem.flattenFns`, with `semImports` (no lemma equates the two) -/

mutual
  def semFlatten : Module → List String → List Sem.FnDef
    | .mk subs fns imps, ns =>
      fns.map (fun p => { fullName := joinNs ns p.1, ns := ns, imports := semImports imps,
                          params := p.2.arguments, cards := p.2.cards : Sem.FnDef }) ++
      semFlattenSubs subs ns
  def semFlattenSubs : List (String × Module) → List String → List Sem.FnDef
    | [], _ => []
    | (n, s) :: rest, ns => semFlatten s (ns ++ [n]) ++ semFlattenSubs rest ns
end

theorem fnEntries_toFnDef (ns : List String) (imports : List (String × String)) :
    ∀ (fns : List (String × Func)) (i : Nat),
      (fnEntries ns imports fns i).map toFnDef =
        fns.map (fun p => { fullName := joinNs ns p.1, ns := ns, imports := imports,
                            params := p.2.arguments, cards := p.2.cards : Sem.FnDef }) :=
  fnEntries_map ns imports _ _ fun _ _ => rfl

theorem withHandles_toFnDef : ∀ (k : Nat) (l : List FunctionIr),
    (withHandles k l).map toFnDef = l.map toFnDef :=
  withHandles_map _ fun _ _ => rfl

theorem entries_toFnDef_all :
    (∀ m ns, anyMod (fun _ m => importBad m) m ns = false → (entries m ns).map toFnDef = semFlatten m ns) ∧
    (∀ subs ns, anyModSubs (fun _ m => importBad m) subs ns = false →
      (entriesSubs subs ns).map toFnDef = semFlattenSubs subs ns) := by
  apply Module.tree_induct
  · intro subs fns imps ih ns
    simp only [anyMod, entries, semFlatten, Bool.or_eq_false_iff, List.map_append]
    rintro ⟨h1, h2⟩
    rw [ih ns h2, fnEntries_toFnDef]
    simp only [importBad, Module.imports] at h1
    cases hi : executeImports imps with
    | error e => rw [hi] at h1; cases h1
    | ok l => rw [importsOf_ok hi, semImports_eq_of_ok hi]
  · intro ns _; rfl
  · intro n s rest ih1 ih2 ns
    simp only [anyModSubs, entriesSubs, semFlattenSubs, Bool.or_eq_false_iff, List.map_append]
    rintro ⟨h1, h2⟩
    rw [ih1 _ h1, ih2 _ h2]

/-! ## the import tables of the stream are results of `executeImports` -/

theorem fnEntries_mem_imports (ns : List String) (imports : List (String × String))
    (fns : List (String × Func)) (i : Nat) (f : FunctionIr) (hf : f ∈ fnEntries ns imports fns i) :
    f.imports = imports := by
  have := List.mem_map_of_mem (f := (·.imports)) hf
  rw [fnEntries_map ns imports _ (fun _ => imports) (fun _ _ => rfl)] at this
  obtain ⟨_, _, h⟩ := List.mem_map.1 this
  exact h.symm

theorem withHandles_mem_imports (k : Nat) (l : List FunctionIr) (f : FunctionIr) (hf : f ∈ withHandles k l) :
    ∃ g ∈ l, g.imports = f.imports := by
  have := List.mem_map_of_mem (f := (·.imports)) hf
  rw [withHandles_map _ (fun _ _ => rfl)] at this
  exact List.mem_map.1 this

theorem entries_imports_all :
    (∀ m ns, anyMod (fun _ m => importBad m) m ns = false →
      ∀ f ∈ entries m ns, ∃ imps, executeImports imps = .ok f.imports) ∧
    (∀ subs ns, anyModSubs (fun _ m => importBad m) subs ns = false →
      ∀ f ∈ entriesSubs subs ns, ∃ imps, executeImports imps = .ok f.imports) := by
  apply Module.tree_induct
  · intro subs fns imps ih ns
    simp only [anyMod, entries, Bool.or_eq_false_iff, List.mem_append]
    rintro ⟨h1, h2⟩ f (hf | hf)
    · rw [fnEntries_mem_imports _ _ _ _ f hf]
      simp only [importBad, Module.imports] at h1
      cases hi : executeImports imps with
      | error e => rw [hi] at h1; cases h1
      | ok l => exact ⟨imps, by rw [importsOf_ok hi]; exact hi⟩
    · exact ih ns h2 f hf
  · intro ns _ f hf; cases hf
  · intro n s rest ih1 ih2 ns
    simp only [anyModSubs, entriesSubs, Bool.or_eq_false_iff, List.mem_append]
    rintro ⟨h1, h2⟩ f (hf | hf)
    · exact ih1 _ h1 f hf
    · exact ih2 _ h2 f hf


end Cao.Compiler
