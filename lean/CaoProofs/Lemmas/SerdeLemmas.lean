import CaoProofs.Lemmas.SerdeTables
import CaoProofs.Lemmas.SerdeOwn
import CaoProofs.Lemmas.SerdeValue
import CaoProofs.Lemmas.SerdeProgram
import CaoProofs.Lemmas.SerdeTok
/-!
Lemmas for C11 (serialization round trips), all in namespace `Cao.Serde`: `Serialize` /
`Deserialize` of the two tables and `Safe` (`SerdeTables`), `own` / `ownD` (`SerdeOwn`),
`insertValue`, the model of `Vm::insert_value` (`SerdeValue`), compiled programs (`SerdeProgram`),
the token syntax of source cards and modules used by the differential driver (`SerdeTok`).
-/
