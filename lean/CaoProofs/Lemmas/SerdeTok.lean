import CaoModel.Card
import CaoProofs.Lemmas.ByteArrayLemmas
import Std.Data.String.ToInt
/-!
# Round trip of the token syntax of source cards / functions / modules

Printer and fuel-based recursive-descent parser are those of `CaoModel/Card.lean`; no hypotheses
about core string functions are left open. All reasoning is on `List Char`. The scanner lemmas say
that a parser applied to `printed ++ rest` returns `(value, rest)` when `rest` satisfies `Stop`
(empty, or starts with `,` `)` `]`); `card_spec`, `func_spec`, `module_spec` go by induction on the
fuel. The fuel they ask for is the length of the printed text, which is what `ofTok?` supplies:
whatever is printed inside an item is strictly shorter than the item.
-/
namespace Cao.Serde
open Cao Cao.Parse

/-! ## what may follow a printed item -/

def Stop : List Char → Prop
  | [] => True
  | c :: _ => c = ',' ∨ c = ')' ∨ c = ']'

theorem Stop.nil : Stop [] := trivial
theorem Stop.comma (t : List Char) : Stop (',' :: t) := Or.inl rfl
theorem Stop.paren (t : List Char) : Stop (')' :: t) := Or.inr (Or.inl rfl)
theorem Stop.brack (t : List Char) : Stop (']' :: t) := Or.inr (Or.inr rfl)

theorem Stop.not {rest : List Char} (h : Stop rest) (p : Char → Bool)
    (hp : p ',' = false ∧ p ')' = false ∧ p ']' = false := by decide) :
    ∀ c t, rest = c :: t → p c = false := by
  intro c t e; subst e
  rcases h with h | h | h <;> subst h <;> simp [hp]

/-! ## printed text as character lists -/

/-- keyword as a character list (kept opaque for `simp`) -/
def kw (s : String) : List Char := s.toList

def tokL (c : Card) : List Char := c.toTok.toList

def nameL (s : String) : List Char := (hexStr s).toList

/-! ## scanning a run of characters

`ident`, `hexName` and `intLit` each collect the longest prefix satisfying a predicate with a local
loop of the same shape. -/

theorem scan_go (p : Char → Bool) (go : List Char → List Char → List Char × List Char)
    (hcons : ∀ c r acc, go (c :: r) acc = if p c then go r (c :: acc) else (acc.reverse, c :: r))
    (hnil : ∀ acc, go [] acc = (acc.reverse, []))
    (w rest acc : List Char) (ha : ∀ c ∈ w, p c = true)
    (hr : ∀ c t, rest = c :: t → p c = false) :
    go (w ++ rest) acc = (acc.reverse ++ w, rest) := by
  induction w generalizing acc with
  | nil =>
    cases rest with
    | nil => simp [hnil]
    | cons c t => simp [hcons, hr c t rfl]
  | cons c w ih =>
    simp [hcons, ha c (by simp), ih (c :: acc) (fun d h => ha d (List.mem_cons_of_mem _ h))]

/-! ## `ident` -/

theorem ident_word (w rest : List Char) (hw : w ≠ []) (ha : ∀ c ∈ w, c.isAlpha = true)
    (hr : ∀ c t, rest = c :: t → c.isAlpha = false) :
    ident (w ++ rest) = some (String.ofList w, rest) := by
  simp [ident, scan_go Char.isAlpha ident.go (fun _ _ _ => rfl) (fun _ => rfl) w rest [] ha hr, hw]

def keywords : List String :=
  ["add","sub","mul","div","less","lesseq","eq","neq","and","or","xor","getprop","iftrue","iffalse",
   "while","get","append","not","return","len","pop","ifelse","setprop",
   "nil","table","abort","int","float","str","comment","function","nativefn","readvar","setvar",
   "setglobal","callnative","call","repeat","foreach","composite","dyncall","array","closure",
   "fn","mod"]

theorem keywords_alpha : ∀ s ∈ keywords, s.toList ≠ [] ∧ ∀ c ∈ s.toList, c.isAlpha = true := by
  decide +kernel

theorem ident_kw (s : String) (hs : s ∈ keywords) (rest : List Char)
    (hr : ∀ c t, rest = c :: t → c.isAlpha = false) :
    ident (kw s ++ rest) = some (s, rest) := by
  have h := keywords_alpha s hs
  rw [kw, ident_word _ _ h.1 h.2 hr, String.ofList_toList]

theorem ident_kwp (s : String) (hs : s ∈ keywords) (r : List Char) :
    ident (kw s ++ '(' :: r) = some (s, '(' :: r) :=
  ident_kw s hs _ (by intro c t e; cases e; decide)

theorem ident_kws (s : String) (hs : s ∈ keywords) (r : List Char) (hr : Stop r) :
    ident (kw s ++ r) = some (s, r) := ident_kw s hs r (hr.not _)

/-! ## hex digits, `hexName`, `optName` -/

theorem hexVal_hexDigit : ∀ d, d < 16 → Val.hexVal? (Val.hexDigit d) = some d := by decide

def hexL (bs : List UInt8) : List Char :=
  bs.flatMap (fun x => [Val.hexDigit (x.toNat / 16), Val.hexDigit (x.toNat % 16)])

theorem hexOfNat_two (n : Nat) :
    (Val.hexOfNat n 2).toList = [Val.hexDigit (n / 16 % 16), Val.hexDigit (n % 16)] := by
  have : (List.range 2).reverse = [1, 0] := by decide
  simp [Val.hexOfNat, this]

theorem hexStr_toList (s : String) : (hexStr s).toList = '$' :: hexL s.toByteArray.toList := by
  have : ∀ bs : List UInt8,
      List.flatMap String.toList (bs.map (fun x => Val.hexOfNat x.toNat 2)) = hexL bs := by
    intro bs
    induction bs with
    | nil => rfl
    | cons x bs ih =>
      have hx : x.toNat / 16 % 16 = x.toNat / 16 := by
        have := x.toNat_lt; omega
      simp only [List.map_cons, List.flatMap_cons, ih, hexOfNat_two, hexL, hx]
  simp [hexStr, String.toList_append, this]

theorem hexL_hex (bs : List UInt8) : ∀ c ∈ hexL bs, (Val.hexVal? c).isSome = true := by
  intro c hc
  simp only [hexL, List.mem_flatMap] at hc
  obtain ⟨x, _, hx⟩ := hc
  have h1 : x.toNat / 16 < 16 := by have := x.toNat_lt; omega
  have h2 : x.toNat % 16 < 16 := by omega
  simp only [List.mem_cons, List.not_mem_nil, or_false] at hx
  rcases hx with rfl | rfl
  · simp [hexVal_hexDigit _ h1]
  · simp [hexVal_hexDigit _ h2]

theorem hexName_bytes (bs : List UInt8) : hexName.bytes (hexL bs) = some bs := by
  induction bs with
  | nil => simp [hexL, hexName.bytes]
  | cons x bs ih =>
    have h1 : x.toNat / 16 < 16 := by have := x.toNat_lt; omega
    have h2 : x.toNat % 16 < 16 := by omega
    have e : x.toNat / 16 * 16 + x.toNat % 16 = x.toNat := by omega
    have ih' : hexName.bytes (List.flatMap (fun x => [Val.hexDigit (x.toNat / 16), Val.hexDigit (x.toNat % 16)]) bs) = some bs := ih
    simp [hexL, hexName.bytes, hexVal_hexDigit _ h1, hexVal_hexDigit _ h2, ih', e]

theorem fromUTF8_toUTF8 (s : String) :
    String.fromUTF8? (ByteArray.mk s.toByteArray.toList.toArray) = some s := by
  rw [ByteArray.mk_toList_toArray']
  simp [String.fromUTF8?, s.isValidUTF8, String.fromUTF8]

theorem nameL_spec (s : String) (rest : List Char) (h : Stop rest) :
    hexName (nameL s ++ rest) = some (s, rest) := by
  rw [nameL, hexStr_toList]
  simp only [List.cons_append, hexName]
  rw [scan_go (fun c => (Val.hexVal? c).isSome) hexName.go (fun _ _ _ => rfl) (fun _ => rfl) _ _ _
    (hexL_hex _) (h.not _)]
  simp only [List.reverse_nil, List.nil_append, hexName_bytes, fromUTF8_toUTF8]

theorem optL_spec (o : Option String) (rest : List Char) (h : Stop rest) :
    optName ((optHex o).toList ++ rest) = some (o, rest) := by
  cases o with
  | none => simp [optHex, optName]
  | some s =>
    have h := nameL_spec s rest h
    rw [nameL, hexStr_toList] at h
    simp only [optHex, hexStr_toList, List.cons_append, optName] at h ⊢
    simp [h]

/-! ## `intLit` -/

theorem int_repr_chars (i : Int) : ∀ c ∈ (toString i).toList, (c.isDigit || c == '-') = true := by
  intro c hc
  rw [Int.toString_eq_repr, Int.repr_eq_if] at hc
  have hd : ∀ n : Nat, c ∈ n.repr.toList → c.isDigit = true := fun n h => by
    rw [Nat.toList_repr] at h
    exact Nat.isDigit_of_mem_toDigits (by decide) (by decide) h
  split at hc
  · simp [hd _ hc]
  · rw [String.toList_append] at hc
    rcases List.mem_append.1 hc with h | h
    · have : c = '-' := by simpa using h
      subst this; decide
    · simp [hd _ h]

theorem intLit_spec (i : Int) (rest : List Char) (hr : Stop rest) :
    intLit ('#' :: ((toString i).toList ++ rest)) = some (i, rest) := by
  simp only [intLit]
  rw [scan_go (fun c => c.isDigit || c == '-') intLit.go (fun _ _ _ => rfl) (fun _ => rfl) _ _ _
    (int_repr_chars i) (hr.not _)]
  simp only [List.reverse_nil, List.nil_append, String.ofList_toList]
  rw [Int.toString_eq_repr, Int.toInt?_repr]; rfl

/-! ## 16-digit hex words (`float`) -/

theorem hexOfNat_toList (n w : Nat) :
    (Val.hexOfNat n w).toList = (List.range w).reverse.map (fun i => Val.hexDigit ((n / 16 ^ i) % 16)) := by
  simp [Val.hexOfNat]

theorem hexOfNat_length (n w : Nat) : (Val.hexOfNat n w).toList.length = w := by
  simp [hexOfNat_toList]

theorem hex_foldl (n : Nat) (f : Option Nat → Char → Option Nat)
    (hf : ∀ a c d, Val.hexVal? c = some d → f (some a) c = some (a * 16 + d)) : ∀ (w a : Nat),
    ((List.range w).reverse.map (fun i => Val.hexDigit ((n / 16 ^ i) % 16))).foldl f (some a)
      = some (a * 16 ^ w + n % 16 ^ w) := by
  intro w
  induction w with
  | zero => intro a; simp [Nat.mod_one]
  | succ w ih =>
    intro a
    have hd : n / 16 ^ w % 16 < 16 := Nat.mod_lt _ (by decide)
    rw [List.range_succ, List.reverse_append]
    simp only [List.reverse_cons, List.reverse_nil, List.nil_append, List.singleton_append,
      List.map_cons, List.foldl_cons, hf _ _ _ (hexVal_hexDigit _ hd)]
    rw [ih]
    congr 1
    rw [Nat.mod_pow_succ, Nat.pow_succ]
    generalize 16 ^ w = p
    generalize n % p = m
    generalize n / p % 16 = d
    rw [Nat.add_mul]
    ac_rfl

theorem natOfHex_hexOfNat (n w : Nat) (hw : 0 < w) :
    Val.natOfHex? (Val.hexOfNat n w) = some (n % 16 ^ w) := by
  have hne : (Val.hexOfNat n w).isEmpty = false := by
    have h := hexOfNat_length n w
    cases hb : (Val.hexOfNat n w).isEmpty with
    | false => rfl
    | true =>
      have : Val.hexOfNat n w = "" := by simpa using hb
      rw [this] at h; simp at h; omega
  rw [Val.natOfHex?, hne, hexOfNat_toList]
  simp only [Bool.false_eq_true, if_false]
  rw [hex_foldl n _ (by intro a c d h; simp [h])]; simp

theorem natOfHex_hexOfNat64 (b : UInt64) :
    Val.natOfHex? (Val.hexOfNat b.toNat 16) = some b.toNat := by
  rw [natOfHex_hexOfNat _ _ (by decide), Nat.mod_eq_of_lt]
  exact b.toNat_lt

/-! ## comma separated lists -/

def interc : List (List Char) → List Char
  | [] => []
  | [x] => x
  | x :: y :: r => x ++ ',' :: interc (y :: r)

theorem intercalate_toList (l : List String) :
    (",".intercalate l).toList = interc (l.map String.toList) := by
  induction l with
  | nil => simp [interc]
  | cons x l ih =>
    cases l with
    | nil => simp [interc]
    | cons y l =>
      rw [String.intercalate_cons_cons]
      simp only [String.toList_append, ih, List.map_cons, interc]
      simp

theorem bracketToks_toList (l : List String) :
    (bracketToks l).toList = '[' :: (interc (l.map String.toList) ++ [']']) := by
  have h1 : "[".toList = ['['] := by decide
  have h2 : "]".toList = [']'] := by decide
  rw [bracketToks, String.toList_append, String.toList_append, intercalate_toList, h1, h2]
  rfl

theorem listOf_go {α : Type} (p : P α) (tok : α → List Char) (rest : List Char) :
    ∀ (xs : List α) (x : α) (f : Nat) (acc : List α), xs.length + 1 ≤ f →
    (∀ y ∈ x :: xs, ∀ r, Stop r → p (tok y ++ r) = some (y, r)) →
    listOf.go p f (interc ((x :: xs).map tok) ++ ']' :: rest) acc
      = some (acc.reverse ++ x :: xs, rest) := by
  intro xs
  induction xs with
  | nil =>
    intro x f acc hf hp
    obtain ⟨f, rfl⟩ : ∃ g, f = g + 1 := ⟨f - 1, by simp at hf; omega⟩
    have := hp x (by simp) (']' :: rest) (Stop.brack _)
    simp [interc, listOf.go, this]
  | cons y ys ih =>
    intro x f acc hf hp
    obtain ⟨f, rfl⟩ : ∃ g, f = g + 1 := ⟨f - 1, by simp at hf; omega⟩
    have h1 := hp x (by simp) (',' :: (interc ((y :: ys).map tok) ++ ']' :: rest)) (Stop.comma _)
    have h2 := ih y f (x :: acc) (by simp at hf ⊢; omega)
      (fun z hz => hp z (List.mem_cons_of_mem _ hz))
    simp only [List.map_cons, interc, List.append_assoc, List.cons_append] at h1 h2 ⊢
    simp [listOf.go, h1, h2]

theorem length_le_interc (l : List (List Char)) : l.length ≤ (interc l).length + 1 := by
  induction l with
  | nil => simp
  | cons x l ih =>
    cases l with
    | nil => simp [interc]
    | cons y l =>
      simp only [interc, List.length_cons, List.length_append] at ih ⊢; omega

theorem length_le_interc_of_mem {l : List (List Char)} {x : List Char} (h : x ∈ l) :
    x.length ≤ (interc l).length := by
  induction l with
  | nil => cases h
  | cons y l ih =>
    cases l with
    | nil => simp_all [interc]
    | cons z l =>
      simp only [interc, List.length_append, List.length_cons]
      rcases List.mem_cons.1 h with rfl | h
      · omega
      · have := ih h; omega

theorem listOf_spec {α : Type} (p : P α) (tok : α → List Char) (xs : List α) (fuel : Nat)
    (rest : List Char) (hlen : (interc (xs.map tok)).length ≤ fuel)
    (hbr : ∀ t, p (']' :: t) = none)
    (hp : ∀ y, (tok y).length ≤ (interc (xs.map tok)).length →
      ∀ r, Stop r → p (tok y ++ r) = some (y, r)) :
    listOf p (fuel + 1) ('[' :: (interc (xs.map tok) ++ ']' :: rest)) = some (xs, rest) := by
  have hlen : xs.length ≤ fuel + 1 := by
    have := length_le_interc (xs.map tok); rw [List.length_map] at this; omega
  have hp : ∀ y ∈ xs, ∀ r, Stop r → p (tok y ++ r) = some (y, r) :=
    fun y hy => hp y (length_le_interc_of_mem (List.mem_map_of_mem hy))
  cases xs with
  | nil => simp [interc, listOf]
  | cons x xs =>
    have hg := listOf_go p tok rest xs x (fuel + 1) [] (by simpa using hlen) hp
    have : ∃ r', Stop r' ∧ interc ((x :: xs).map tok) ++ ']' :: rest = tok x ++ r' := by
      cases xs with
      | nil => exact ⟨']' :: rest, Stop.brack _, by simp [interc]⟩
      | cons y ys =>
        exact ⟨',' :: (interc ((y :: ys).map tok) ++ ']' :: rest), Stop.comma _, by simp [interc]⟩
    obtain ⟨r', hs, hr'⟩ := this
    have hpx := hp x (by simp) r' hs
    rw [hr'] at hg ⊢
    cases hx : tok x ++ r' with
    | nil => rw [hx] at hg; simpa [listOf] using hg
    | cons c t' =>
      rw [hx] at hg hpx
      have hne : c ≠ ']' := by
        rintro rfl
        rw [hbr] at hpx; cases hpx
      simp only [listOf]
      split
      · rename_i heq; simp at heq; exact absurd heq.1 hne
      · rename_i heq; simp at heq; subst heq; simpa using hg
      · rename_i h1 h2; exact absurd rfl (h2 _)

/-! ## list-level printer for cards -/

theorem toToks_eq_map (cs : List Card) : Card.toToks cs = cs.map Card.toTok := by
  induction cs with
  | nil => rfl
  | cons c cs ih => show c.toTok :: Card.toToks cs = _; rw [ih]; rfl

theorem cards_toList (cs : List Card) :
    (bracketToks (Card.toToks cs)).toList = '[' :: (interc (cs.map tokL) ++ [']']) := by
  rw [bracketToks_toList, toToks_eq_map, List.map_map]; rfl

theorem names_toList (l : List String) :
    (",".intercalate (l.map hexStr)).toList = interc (l.map nameL) := by
  rw [intercalate_toList, List.map_map]; rfl

section eqns
variable (a b c : Card) (s : String) (cs : List Card)

theorem tokL_bin (k : BinKind) : tokL (.bin k a b) = kw k.name ++ '(' :: (tokL a ++ ',' :: (tokL b ++ [')'])) := by
  conv => lhs; unfold tokL Card.toTok
  simp [tokL, kw, String.toList_append]
theorem tokL_un (k : UnKind) : tokL (.un k a) = kw k.name ++ '(' :: (tokL a ++ [')']) := by
  conv => lhs; unfold tokL Card.toTok
  simp [tokL, kw, String.toList_append]
theorem tokL_tri (k : TriKind) : tokL (.tri k a b c) =
    kw k.name ++ '(' :: (tokL a ++ ',' :: (tokL b ++ ',' :: (tokL c ++ [')']))) := by
  conv => lhs; unfold tokL Card.toTok
  simp [tokL, kw, String.toList_append]
theorem tokL_nil : tokL .scalarNil = kw "nil" := rfl
theorem tokL_table : tokL .createTable = kw "table" := rfl
theorem tokL_abort : tokL .abort = kw "abort" := rfl
theorem tokL_int (i : Int64) : tokL (.scalarInt i) = kw "int" ++ '(' :: '#' :: ((toString i.toInt).toList ++ [')']) := by
  conv => lhs; unfold tokL Card.toTok
  simp [kw, String.toList_append]
theorem tokL_float (x : UInt64) : tokL (.scalarFloat x) =
    kw "float" ++ '(' :: '$' :: ((Val.hexOfNat x.toNat 16).toList ++ [')']) := by
  conv => lhs; unfold tokL Card.toTok
  simp [kw, String.toList_append]
theorem tokL_str : tokL (.stringLiteral s) = kw "str" ++ '(' :: (nameL s ++ [')']) := by
  conv => lhs; unfold tokL Card.toTok
  simp [kw, nameL, String.toList_append]
theorem tokL_comment : tokL (.comment s) = kw "comment" ++ '(' :: (nameL s ++ [')']) := by
  conv => lhs; unfold tokL Card.toTok
  simp [kw, nameL, String.toList_append]
theorem tokL_function : tokL (.function s) = kw "function" ++ '(' :: (nameL s ++ [')']) := by
  conv => lhs; unfold tokL Card.toTok
  simp [kw, nameL, String.toList_append]
theorem tokL_nativefn : tokL (.nativeFunction s) = kw "nativefn" ++ '(' :: (nameL s ++ [')']) := by
  conv => lhs; unfold tokL Card.toTok
  simp [kw, nameL, String.toList_append]
theorem tokL_readvar : tokL (.readVar s) = kw "readvar" ++ '(' :: (nameL s ++ [')']) := by
  conv => lhs; unfold tokL Card.toTok
  simp [kw, nameL, String.toList_append]
theorem tokL_setvar : tokL (.setVar s a) = kw "setvar" ++ '(' :: (nameL s ++ ',' :: (tokL a ++ [')'])) := by
  conv => lhs; unfold tokL Card.toTok
  simp [tokL, kw, nameL, String.toList_append]
theorem tokL_setglobal : tokL (.setGlobalVar s a) =
    kw "setglobal" ++ '(' :: (nameL s ++ ',' :: (tokL a ++ [')'])) := by
  conv => lhs; unfold tokL Card.toTok
  simp [tokL, kw, nameL, String.toList_append]
theorem tokL_callnative : tokL (.callNative s cs) =
    kw "callnative" ++ '(' :: (nameL s ++ ',' :: '[' :: (interc (cs.map tokL) ++ ']' :: [')'])) := by
  conv => lhs; unfold tokL Card.toTok
  simp [kw, nameL, cards_toList, String.toList_append]
theorem tokL_call : tokL (.call s cs) =
    kw "call" ++ '(' :: (nameL s ++ ',' :: '[' :: (interc (cs.map tokL) ++ ']' :: [')'])) := by
  conv => lhs; unfold tokL Card.toTok
  simp [kw, nameL, cards_toList, String.toList_append]
theorem tokL_repeat (i : Option String) : tokL (.repeat i a b) =
    kw "repeat" ++ '(' :: ((optHex i).toList ++ ',' :: (tokL a ++ ',' :: (tokL b ++ [')']))) := by
  conv => lhs; unfold tokL Card.toTok
  simp [tokL, kw, String.toList_append]
theorem tokL_foreach (i k v : Option String) : tokL (.forEach i k v a b) =
    kw "foreach" ++ '(' :: ((optHex i).toList ++ ',' :: ((optHex k).toList ++ ',' ::
      ((optHex v).toList ++ ',' :: (tokL a ++ ',' :: (tokL b ++ [')']))))) := by
  conv => lhs; unfold tokL Card.toTok
  simp [tokL, kw, String.toList_append]
theorem tokL_composite : tokL (.composite s cs) =
    kw "composite" ++ '(' :: (nameL s ++ ',' :: '[' :: (interc (cs.map tokL) ++ ']' :: [')'])) := by
  conv => lhs; unfold tokL Card.toTok
  simp [kw, nameL, cards_toList, String.toList_append]
theorem tokL_dyncall : tokL (.dynamicCall cs a) =
    kw "dyncall" ++ '(' :: '[' :: (interc (cs.map tokL) ++ ']' :: ',' :: (tokL a ++ [')'])) := by
  conv => lhs; unfold tokL Card.toTok
  simp [tokL, kw, cards_toList, String.toList_append]
theorem tokL_array : tokL (.array cs) =
    kw "array" ++ '(' :: '[' :: (interc (cs.map tokL) ++ ']' :: [')']) := by
  conv => lhs; unfold tokL Card.toTok
  simp [kw, cards_toList, String.toList_append]
theorem tokL_closure (args : List String) : tokL (.closure args cs) =
    kw "closure" ++ '(' :: '[' :: (interc (args.map nameL) ++ ']' :: ',' :: '[' ::
      (interc (cs.map tokL) ++ ']' :: [')'])) := by
  conv => lhs; unfold tokL Card.toTok
  simp [kw, names_toList, cards_toList, String.toList_append, -String.toList_intercalate]
end eqns

/-! ## keyword facts (all by `decide`) -/

theorem binKind_name (k : BinKind) : binKind? k.name = some k := by cases k <;> decide
theorem unKind_name (k : UnKind) : binKind? k.name = none ∧ unKind? k.name = some k := by
  cases k <;> decide
theorem triKind_name (k : TriKind) :
    binKind? k.name = none ∧ unKind? k.name = none ∧ triKind? k.name = some k := by
  cases k <;> decide
theorem bin_name_kw (k : BinKind) :
    k.name ∈ keywords ∧ k.name ≠ "nil" ∧ k.name ≠ "table" ∧ k.name ≠ "abort" := by
  cases k <;> decide
theorem un_name_kw (k : UnKind) :
    k.name ∈ keywords ∧ k.name ≠ "nil" ∧ k.name ≠ "table" ∧ k.name ≠ "abort" := by
  cases k <;> decide
theorem tri_name_kw (k : TriKind) :
    k.name ∈ keywords ∧ k.name ≠ "nil" ∧ k.name ≠ "table" ∧ k.name ≠ "abort" := by
  cases k <;> decide

theorem kinds_none (s : String)
    (h : s ∈ ["int","float","str","comment","function","nativefn","readvar","setvar","setglobal",
      "callnative","call","repeat","foreach","composite","dyncall","array","closure"]) :
    binKind? s = none ∧ unKind? s = none ∧ triKind? s = none := by
  revert s; decide +kernel

theorem ident_brack (t : List Char) : ident (']' :: t) = none := by
  have : Char.isAlpha ']' = false := by decide
  simp [ident, ident.go, this]

theorem card_brack (fuel : Nat) (t : List Char) : card fuel (']' :: t) = none := by
  cases fuel with
  | zero => rfl
  | succ fuel => rw [card]; show (ident _ >>= _) = none; rw [ident_brack]; rfl

theorem hexName_brack (t : List Char) : hexName (']' :: t) = none := by
  simp [hexName]

@[simp] theorem stop_comma (t : List Char) : Stop (',' :: t) = True := eq_true (Stop.comma t)
@[simp] theorem stop_paren (t : List Char) : Stop (')' :: t) = True := eq_true (Stop.paren t)
@[simp] theorem stop_brack (t : List Char) : Stop (']' :: t) = True := eq_true (Stop.brack t)

theorem namesL_spec (args : List String) (fuel : Nat) (rest : List Char)
    (h : (interc (args.map nameL)).length ≤ fuel) :
    listOf hexName (fuel + 1) ('[' :: (interc (args.map nameL) ++ ']' :: rest)) = some (args, rest) :=
  listOf_spec hexName nameL args fuel rest h hexName_brack (fun y _ r hr => nameL_spec y r hr)

theorem bind_of_eq {α β : Type} {p : Option α} {a : α} {f : α → Option β} {b : Option β}
    (h : p = some a) (h' : f a = b) : (p >>= f) = b := by
  subst h h'; rfl

/-! ## the card parser reads back printed cards -/

theorem cards_spec (fuel : Nat) (cs : List Card) (h : (interc (cs.map tokL)).length < fuel)
    (hc : ∀ y, (tokL y).length < fuel → ∀ r, Stop r → card fuel (tokL y ++ r) = some (y, r))
    (r : List Char) :
    listOf (card fuel) (fuel + 1) ('[' :: (interc (cs.map tokL) ++ ']' :: r)) = some (cs, r) :=
  listOf_spec (card fuel) tokL cs fuel r (by omega) (card_brack fuel) (fun y hy => hc y (by omega))

/-- The fuel needed is the length of the printed card: every sub-card and every bracket list printed
    inside it is strictly shorter. Each case reads the keyword first (`bind_of_eq`), so that `simp`
    meets the parser's keyword tests with the keyword already in place. -/
theorem card_spec : ∀ (fuel : Nat) (c : Card), (tokL c).length < fuel → ∀ rest, Stop rest →
    card fuel (tokL c ++ rest) = some (c, rest) := by
  intro fuel
  induction fuel with
  | zero => intro c h; cases h
  | succ fuel ih =>
    intro c hsz rest hrest
    have hl := fun cs h => cards_spec fuel cs h ih
    cases c <;>
      simp only [tokL_bin, tokL_un, tokL_tri, tokL_nil, tokL_table, tokL_abort, tokL_int, tokL_float,
        tokL_str, tokL_comment, tokL_function, tokL_nativefn, tokL_readvar, tokL_setvar,
        tokL_setglobal, tokL_callnative, tokL_call, tokL_repeat, tokL_foreach, tokL_composite,
        tokL_dyncall, tokL_array, tokL_closure, List.length_append, List.length_cons,
        List.length_nil, List.append_assoc, List.cons_append, List.nil_append] at hsz ⊢ <;>
      rw [card]
    case bin k a b =>
      have hk := bin_name_kw k
      refine bind_of_eq (ident_kwp _ hk.1 _) ?_
      simp [hk.2, binKind_name, expect, ih a (by omega), ih b (by omega)]
    case un k a =>
      have hk := un_name_kw k
      refine bind_of_eq (ident_kwp _ hk.1 _) ?_
      simp [hk.2, unKind_name, expect, ih a (by omega)]
    case tri k a b c =>
      have hk := tri_name_kw k
      refine bind_of_eq (ident_kwp _ hk.1 _) ?_
      simp [hk.2, triKind_name, expect, ih a (by omega), ih b (by omega), ih c (by omega)]
    case scalarNil =>
      refine bind_of_eq (ident_kws "nil" (by decide) rest hrest) ?_
      simp
    case createTable =>
      refine bind_of_eq (ident_kws "table" (by decide) rest hrest) ?_
      simp
    case abort =>
      refine bind_of_eq (ident_kws "abort" (by decide) rest hrest) ?_
      simp
    case scalarInt i =>
      have hi := intLit_spec i.toInt (')' :: rest) (Stop.paren rest)
      rw [Int.toString_eq_repr] at hi
      refine bind_of_eq (ident_kwp "int" (by decide) _) ?_
      simp [kinds_none "int" (by decide), expect, hi, Int64.ofInt_toInt]
    case scalarFloat x =>
      have h16 := hexOfNat_length x.toNat 16
      refine bind_of_eq (ident_kwp "float" (by decide) _) ?_
      simp [kinds_none "float" (by decide), expect, h16, String.ofList_toList, natOfHex_hexOfNat64]
    case stringLiteral s =>
      refine bind_of_eq (ident_kwp "str" (by decide) _) ?_
      simp [kinds_none "str" (by decide), expect, nameL_spec]
    case comment s =>
      refine bind_of_eq (ident_kwp "comment" (by decide) _) ?_
      simp [kinds_none "comment" (by decide), expect, nameL_spec]
    case function s =>
      refine bind_of_eq (ident_kwp "function" (by decide) _) ?_
      simp [kinds_none "function" (by decide), expect, nameL_spec]
    case nativeFunction s =>
      refine bind_of_eq (ident_kwp "nativefn" (by decide) _) ?_
      simp [kinds_none "nativefn" (by decide), expect, nameL_spec]
    case readVar s =>
      refine bind_of_eq (ident_kwp "readvar" (by decide) _) ?_
      simp [kinds_none "readvar" (by decide), expect, nameL_spec]
    case setVar s a =>
      refine bind_of_eq (ident_kwp "setvar" (by decide) _) ?_
      simp [kinds_none "setvar" (by decide), expect, nameL_spec, ih a (by omega)]
    case setGlobalVar s a =>
      refine bind_of_eq (ident_kwp "setglobal" (by decide) _) ?_
      simp [kinds_none "setglobal" (by decide), expect, nameL_spec, ih a (by omega)]
    case callNative s cs =>
      refine bind_of_eq (ident_kwp "callnative" (by decide) _) ?_
      simp [kinds_none "callnative" (by decide), expect, nameL_spec, hl cs (by omega)]
    case call s cs =>
      refine bind_of_eq (ident_kwp "call" (by decide) _) ?_
      simp [kinds_none "call" (by decide), expect, nameL_spec, hl cs (by omega)]
    case «repeat» i a b =>
      refine bind_of_eq (ident_kwp "repeat" (by decide) _) ?_
      simp [kinds_none "repeat" (by decide), expect, optL_spec, ih a (by omega), ih b (by omega)]
    case forEach i k v a b =>
      refine bind_of_eq (ident_kwp "foreach" (by decide) _) ?_
      simp [kinds_none "foreach" (by decide), expect, optL_spec, ih a (by omega), ih b (by omega)]
    case composite s cs =>
      refine bind_of_eq (ident_kwp "composite" (by decide) _) ?_
      simp [kinds_none "composite" (by decide), expect, nameL_spec, hl cs (by omega)]
    case dynamicCall cs a =>
      refine bind_of_eq (ident_kwp "dyncall" (by decide) _) ?_
      simp [kinds_none "dyncall" (by decide), expect, hl cs (by omega), ih a (by omega)]
    case array cs =>
      refine bind_of_eq (ident_kwp "array" (by decide) _) ?_
      simp [kinds_none "array" (by decide), expect, hl cs (by omega)]
    case closure args cs =>
      refine bind_of_eq (ident_kwp "closure" (by decide) _) ?_
      simp [kinds_none "closure" (by decide), expect, hl cs (by omega),
        namesL_spec args fuel _ (by omega)]

theorem card_tok_roundtrip (c : Card) : Card.ofTok? (Card.toTok c) = some c := by
  have h := card_spec (c.toTok.length + 1) c (by rw [tokL, String.length_toList]; omega) [] Stop.nil
  rw [tokL, List.append_nil] at h
  rw [Card.ofTok?, h]


/-! ## functions -/

def funcL (p : String × Func) : List Char := (p.2.toTok p.1).toList

theorem funcL_eq (p : String × Func) : funcL p =
    kw "fn" ++ '(' :: (nameL p.1 ++ ',' :: '[' :: (interc (p.2.arguments.map nameL) ++ ']' :: ',' :: '[' ::
      (interc (p.2.cards.map tokL) ++ ']' :: [')']))) := by
  unfold funcL Func.toTok cardsTok
  simp [kw, nameL, names_toList, cards_toList, String.toList_append, -String.toList_intercalate]

theorem func_brack (fuel : Nat) (t : List Char) : func fuel (']' :: t) = none := by
  simp [func, ident_brack]

theorem func_spec (fuel : Nat) (p : String × Func) (h : (funcL p).length ≤ fuel) (rest : List Char) :
    func fuel (funcL p ++ rest) = some (p, rest) := by
  obtain ⟨n, f⟩ := p
  simp only [funcL_eq, List.length_append, List.length_cons, List.length_nil] at h
  have h1 := namesL_spec f.arguments fuel
  have h2 := cards_spec fuel f.cards (by omega) (card_spec fuel)
  simp [funcL_eq, func, ident_kwp "fn" (by decide), expect, nameL_spec]
  rw [h1 _ (by omega)]
  simp [h2]

/-! ## modules -/

def modL (m : Module) : List Char := m.toTok.toList

def subL (p : String × Module) : List Char :=
  kw "sub" ++ '(' :: (nameL p.1 ++ ',' :: (modL p.2 ++ [')']))

theorem subsToks_eq_map (subs : List (String × Module)) :
    Module.subsToks subs = subs.map (fun p => "sub(" ++ hexStr p.1 ++ "," ++ p.2.toTok ++ ")") := by
  induction subs with
  | nil => rfl
  | cons p subs ih =>
    obtain ⟨n, m⟩ := p
    show ("sub(" ++ hexStr n ++ "," ++ m.toTok ++ ")") :: Module.subsToks subs = _
    rw [ih]; rfl

theorem subs_toList (subs : List (String × Module)) :
    (",".intercalate (Module.subsToks subs)).toList = interc (subs.map subL) := by
  rw [intercalate_toList, subsToks_eq_map, List.map_map]
  congr 1
  apply List.map_congr_left
  intro p _
  simp [subL, kw, nameL, modL, String.toList_append]

theorem fns_toList (fns : List (String × Func)) :
    (",".intercalate (fns.map (fun (n, f) => f.toTok n))).toList = interc (fns.map funcL) := by
  rw [intercalate_toList, List.map_map]; rfl

theorem modL_eq (subs : List (String × Module)) (fns : List (String × Func)) (imps : List String) :
    modL (.mk subs fns imps) =
    kw "mod" ++ '(' :: '[' :: (interc (imps.map nameL) ++ ']' :: ',' :: '[' ::
      (interc (fns.map funcL) ++ ']' :: ',' :: '[' :: (interc (subs.map subL) ++ ']' :: [')']))) := by
  unfold modL Module.toTok
  simp only [String.toList_append, names_toList, fns_toList, subs_toList]
  simp [kw]

/-- the `sub(...)` entry parser that `Parse.module (fuel+1)` defines locally -/
def subP (fuel : Nat) : P (String × Module) := fun cs => do
  let (id, r) ← ident cs
  if id != "sub" then none
  let ((), r) ← expect '(' r
  let (n, r) ← hexName r; let ((), r) ← expect ',' r
  let (m, r) ← Parse.module fuel r
  let ((), r) ← expect ')' r
  return ((n, m), r)

theorem module_succ (fuel : Nat) (cs : List Char) :
    Parse.module (fuel + 1) cs = (do
      let (id, r) ← ident cs
      if id != "mod" then none
      let ((), r) ← expect '(' r
      let (imps, r) ← listOf hexName (fuel + 1) r; let ((), r) ← expect ',' r
      let (fns, r) ← listOf (func fuel) (fuel + 1) r; let ((), r) ← expect ',' r
      let (subs, r) ← listOf (subP fuel) (fuel + 1) r
      let ((), r) ← expect ')' r
      return (.mk subs fns imps, r)) := rfl

theorem subP_brack (fuel : Nat) (t : List Char) : subP fuel (']' :: t) = none := by
  simp [subP, ident_brack]

theorem module_spec : ∀ (fuel : Nat) (m : Module), (modL m).length < fuel → ∀ rest,
    Parse.module fuel (modL m ++ rest) = some (m, rest) := by
  intro fuel
  induction fuel with
  | zero => intro m h; cases h
  | succ fuel ih =>
    intro m hsz rest
    obtain ⟨subs, fns, imps⟩ := m
    simp only [modL_eq, List.length_append, List.length_cons, List.length_nil] at hsz
    have h1 := namesL_spec imps fuel
    have h2 : ∀ r, listOf (func fuel) (fuel + 1) ('[' :: (interc (fns.map funcL) ++ ']' :: r))
        = some (fns, r) := fun r =>
      listOf_spec (func fuel) funcL fns fuel r (by omega) (func_brack fuel)
        (fun y hy r _ => func_spec fuel y (by omega) r)
    have h3 : ∀ r, listOf (subP fuel) (fuel + 1) ('[' :: (interc (subs.map subL) ++ ']' :: r))
        = some (subs, r) := fun r =>
      listOf_spec (subP fuel) subL subs fuel r (by omega) (subP_brack fuel) (by
        intro y hy r _
        simp only [subL, List.length_append, List.length_cons, List.length_nil] at hy
        simp [subL, subP, ident_kwp "sub" (by decide), expect, nameL_spec, ih y.2 (by omega)])
    rw [module_succ]
    simp [modL_eq, ident_kwp "mod" (by decide), expect]
    rw [h1 _ (by omega)]
    simp [h2, h3]

theorem module_tok_roundtrip (m : Module) : Module.ofTok? (Module.toTok m) = some m := by
  have h := module_spec (m.toTok.length + 1) m (by rw [modL, String.length_toList]; omega) []
  rw [modL, List.append_nil] at h
  rw [Module.ofTok?, h]

def card_tok_roundtrip_Full : Prop := ∀ c : Card, Card.ofTok? (Card.toTok c) = some c
def module_tok_roundtrip_Full : Prop := ∀ m : Module, Module.ofTok? (Module.toTok m) = some m

theorem card_tok_roundtrip_full : card_tok_roundtrip_Full := card_tok_roundtrip
theorem module_tok_roundtrip_full : module_tok_roundtrip_Full := module_tok_roundtrip

theorem Card.toTok_injective {a b : Card} (h : a.toTok = b.toTok) : a = b := by
  have := card_tok_roundtrip a
  rw [h, card_tok_roundtrip b] at this
  exact (Option.some.inj this).symm

theorem Module.toTok_injective {a b : Module} (h : a.toTok = b.toTok) : a = b := by
  have := module_tok_roundtrip a
  rw [h, module_tok_roundtrip b] at this
  exact (Option.some.inj this).symm

/-! ## non-vacuity

Concrete instances (the printed string is computed by the kernel; names are avoided in the literal
examples because `String.toUTF8.toList` is a well-founded loop that `decide`/`rfl` cannot unfold).
`#eval`-checked: `Module.toTok (.mk [("s", .mk [] [] [])] [("f", ⟨["x"], [.scalarInt (-5)]⟩)] ["i"])
  = "mod([$69],[fn($66,[$78],[int(#-5)])],[sub($73,mod([],[],[]))])"`. -/

example : Card.ofTok? "add(int(#1),nil)" = some (.bin .add (.scalarInt 1) .scalarNil) :=
  card_tok_roundtrip (.bin .add (.scalarInt 1) .scalarNil)
example : Card.ofTok? "ifelse(nil,array([table,abort]),float($3ff0000000000000))" =
    some (.tri .ifElse .scalarNil (.array [.createTable, .abort]) (.scalarFloat 0x3ff0000000000000)) :=
  card_tok_roundtrip (.tri .ifElse .scalarNil (.array [.createTable, .abort]) (.scalarFloat 0x3ff0000000000000))
example : Card.ofTok? "dyncall([],repeat(?,int(#-12),nil))" =
    some (.dynamicCall [] (.repeat none (.scalarInt (-12)) .scalarNil)) :=
  card_tok_roundtrip (.dynamicCall [] (.repeat none (.scalarInt (-12)) .scalarNil))
example : Module.ofTok? "mod([],[],[])" = some (.mk [] [] []) := module_tok_roundtrip (.mk [] [] [])
example : Card.ofTok? (Card.toTok (.closure ["a", "b"] [.un .ret (.readVar "a"), .stringLiteral "x,)]"]))
    = some (.closure ["a", "b"] [.un .ret (.readVar "a"), .stringLiteral "x,)]"]) := card_tok_roundtrip _
example : Module.ofTok? (Module.toTok (.mk [("s", .mk [] [] [])] [("f", ⟨["x"], [.scalarInt (-5)]⟩)] ["i"]))
    = some (.mk [("s", .mk [] [] [])] [("f", ⟨["x"], [.scalarInt (-5)]⟩)] ["i"]) := module_tok_roundtrip _
/-- the parser is not trivially accepting: trailing input / glued identifiers are rejected -/
example : (Card.ofTok? "nil)").isNone = true := by decide
example : (Card.ofTok? "nilx").isNone = true := by decide

end Cao.Serde
