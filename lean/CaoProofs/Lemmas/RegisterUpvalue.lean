import CaoProofs.Lemmas.VmPrims
/-!
# `RegisterUpvalue` as a function of the state

`RegisterUpvalue` is the one instruction that edits an object by itself, so every invariant of the
machine has to look at it. The heap invariants `CoreR` (`Lemmas/UpvalueLemmas.lean`) and `InvR`
(`Lemmas/RunInv.lean`) see it through `RegEffect`; the invariants of the counters, of the call stack
and of the captures open the instruction themselves (`Lemmas/VmFrame.lean`, `Lemmas/NoPanicStep.lean`;
`Lemmas/CaptureReg.lean` through `regPure`).

* `regPure index isLocal cv p`: the text of the instruction (`Instr.registerUpvalue`,
  `Lemmas/Instr.lean`) as a function of the value `cv` it has popped and of the state `p` after the
  pop; `go_registerUpvalue` ties the two together;
* `RegEffect p s'`: what this does to the state, without the reasons: nothing, a refused allocation,
  one more upvalue for the closure on top - an existing one, which is shared -, or the same after a
  fresh capture (`captured`);
* `pres_registerUpvalue`: a relation that ignores the value stack and admits these four effects is
  respected by the instruction. This is the field `registerUpvalue` of a `StepFrame`.
-/
namespace Cao.Upv
open Cao Cao.Vm Cao.Gc

/-! ## the open upvalue of a stack slot -/

/-- the open upvalue that captures `slot`, if any (`RegisterUpvalue` looks it up like this) -/
def upvalueFor (s : VmState) (slot : Nat) : Option Nat :=
  s.openUpvalues.find? (fun a => upvalueSlot s.heap a == some slot)

theorem upvalueFor_some {s : VmState} {slot u : Nat} (h : upvalueFor s slot = some u) :
    u ∈ s.openUpvalues ∧ s.heap.get u = some (.upvalue (.stack slot)) := by
  unfold upvalueFor at h
  have h1 := List.find?_some h
  have h2 := List.mem_of_find?_eq_some h
  exact ⟨h2, upvalueSlot_eq_some.mp (by simpa using h1)⟩

theorem upvalueFor_none {s : VmState} {slot : Nat} (h : upvalueFor s slot = none) :
    ∀ a ∈ s.openUpvalues, upvalueSlot s.heap a ≠ some slot := by
  unfold upvalueFor at h
  rw [List.find?_eq_none] at h
  intro a ha hs
  exact h a ha (by simp [hs])

/-! ## the states the instruction can end in -/

def appendUp (c : Nat) (hd ar : UInt32) (ups : List Nat) (u : Nat) (s : VmState) : VmState :=
  { s with heap := s.heap.set c (.closure hd ar (ups ++ [u])) }

/-- the partition `RegisterUpvalue` uses to keep the list sorted -/
def splitAt (h : Heap) (slot : Nat) (l : List Nat) : List Nat × List Nat :=
  l.partition (fun a => match upvalueSlot h a with | some i => decide (i > slot) | none => true)

/-- the state after a successful fresh capture of `slot` for the closure `c`, from the state `s0`
    the allocator left -/
def captured (s0 : VmState) (c : Nat) (hd ar : UInt32) (ups : List Nat) (slot : Nat) : VmState :=
  let s1 := withObject (.upvalue (.stack slot)) s0
  let u := s0.heap.next
  { s1 with openUpvalues := (splitAt s1.heap slot s1.openUpvalues).1 ++ [u] ++ (splitAt s1.heap slot s1.openUpvalues).2,
            heap := s1.heap.set c (.closure hd ar (ups ++ [u])),
            guards := s1.guards.erase u }

/-! ## the instruction -/

def regPure (index : Nat) (isLocal : Bool) (cv : Val) (p : VmState) : Except ErrKind Unit × VmState :=
  match cv with
  | .obj c =>
    match p.heap.get c with
    | some (.closure hd ar ups) =>
      match p.frames.getLast? with
      | none => (.error (.panic "call stack is empty"), p)
      | some fr =>
        if isLocal then
          if fr.stackOffset + index ≥ p.stack.count then (.error .invalidArgument, p)
          else match upvalueFor p (fr.stackOffset + index) with
            | some u => (.ok (), appendUp c hd ar ups u p)
            | none =>
              match allocPure Heap.objCharge p with
              | (.ok (), s0) => (.ok (), captured s0 c hd ar ups (fr.stackOffset + index))
              | (.error e, s0) => (.error e, s0)
        else
          match fr.closure with
          | none => (.error (.panic "closure not found for capture"), p)
          | some outer =>
            match p.heap.get outer with
            | some (.closure _ _ oups) =>
              match oups[index]? with
              | some u => (.ok (), appendUp c hd ar ups u p)
              | none => (.error (.panic "upvalue index out of bounds"), p)
            | _ => (.error (.panic "closure not found for capture"), p)
    | _ => (.error .invalidArgument, p)
  | _ => (.error .invalidArgument, p)

theorem go_registerUpvalue (index : Nat) (isLocal : Bool) (ip : Nat) (s : VmState) :
    (Instr.registerUpvalue index isLocal ip).go s =
      ((regPure index isLocal s.stack.pop.2 { s with stack := s.stack.pop.1 }).1.map
          fun _ => ({ ip := ip + 2 } : Ctl),
       (regPure index isLocal s.stack.pop.2 { s with stack := s.stack.pop.1 }).2) := by
  unfold Instr.registerUpvalue regPure
  rw [go_bind, go_pop]
  generalize ({ s with stack := s.stack.pop.1 } : VmState) = p
  cases s.stack.pop.2 with
  | obj c =>
    simp only [go_bind, go_get]
    cases hg : p.heap.get c with
    | none => rfl
    | some o =>
      cases o with
      | closure hd ar ups =>
        cases isLocal with
        | true =>
          simp only [if_true, go_bind, go_curFrame]
          cases hf : p.frames.getLast? with
          | none => rfl
          | some fr =>
            simp only [go_get]
            by_cases hcnt : fr.stackOffset + index ≥ p.stack.count
            · simp only [hcnt, if_true, go_bind, go_throwE]; rfl
            · simp only [hcnt, if_false, go_bind, go_get]
              unfold upvalueFor
              cases hfind : p.openUpvalues.find? (fun a => upvalueSlot p.heap a == some (fr.stackOffset + index)) with
              | some u => simp only [go_bind, go_modify, go_pure]; rfl
              | none =>
                simp only [go_bind, go_initSimple, alloc1Pure]
                rcases allocPure Heap.objCharge p with ⟨r, s0⟩
                cases r <;> simp only [go_modify, go_dropGuard, go_pure] <;> rfl
        | false =>
          simp only [Bool.false_eq_true, if_false, go_bind, go_curFrame]
          cases hf : p.frames.getLast? with
          | none => rfl
          | some fr =>
            simp only
            cases hc : fr.closure with
            | none => rfl
            | some outer =>
              simp only [go_bind, go_get]
              cases hgo : p.heap.get outer with
              | none => rfl
              | some oo =>
                cases oo with
                | closure ohd oar oups =>
                  simp only
                  cases hi : oups[index]? with
                  | none => rfl
                  | some u => simp only [go_bind, go_modify, go_pure]; rfl
                | _ => rfl
      | _ => rfl
  | _ => rfl

/-- what `RegisterUpvalue` can do to the machine `p` it finds after its `pop`: nothing (every failure
    before the allocation), a refused allocation, one more upvalue `u` for the closure on top - the
    open upvalue of a slot, or one of the running closure's own -, or the same after a fresh capture -/
inductive RegEffect (p : VmState) : VmState → Prop
  | none : RegEffect p p
  | oom {e : ErrKind} {s0 : VmState} : allocPure Heap.objCharge p = (.error e, s0) → RegEffect p s0
  | share {c : Nat} {hd ar : UInt32} {ups : List Nat} {u : Nat}
      (hc : p.heap.get c = some (.closure hd ar ups))
      (hu : (∃ slot, upvalueFor p slot = some u) ∨
            ∃ o ohd oar oups, p.heap.get o = some (.closure ohd oar oups) ∧ u ∈ oups) :
      RegEffect p (appendUp c hd ar ups u p)
  | fresh {c : Nat} {hd ar : UInt32} {ups : List Nat} {slot : Nat} {s0 : VmState}
      (hc : p.heap.get c = some (.closure hd ar ups)) (hnone : upvalueFor p slot = none)
      (ha : allocPure Heap.objCharge p = (.ok (), s0)) : RegEffect p (captured s0 c hd ar ups slot)

theorem regPure_effect (index : Nat) (isLocal : Bool) (cv : Val) (p : VmState) :
    RegEffect p (regPure index isLocal cv p).2 := by
  unfold regPure
  split
  · split
    · next hd ar ups hc =>
      split
      · exact .none
      · split
        · split
          · exact .none
          · split
            · next u hu => exact .share hc (.inl ⟨_, hu⟩)
            · next hnone =>
              split
              · next ha => exact .fresh hc hnone ha
              · next ha => exact .oom ha
        · split
          · exact .none
          · split
            · next ho =>
              split
              · next u hu => exact .share hc (.inr ⟨_, _, _, _, ho, List.mem_of_getElem? hu⟩)
              · exact .none
            · exact .none
    · exact .none
  · exact .none

theorem pres_registerUpvalue {R : VmState → VmState → Prop} [StateFrame R]
    (h : ∀ p s', RegEffect p s' → R p s') (index : Nat) (isLocal : Bool) (ip : Nat) :
    Pres R (Instr.registerUpvalue index isLocal ip) :=
  Pres.intro fun s => by
    rw [go_registerUpvalue]
    exact StateOrder.trans (StateFrame.stack s _) (h _ _ (regPure_effect index isLocal _ _))

end Cao.Upv
