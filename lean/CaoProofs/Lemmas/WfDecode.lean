import CaoModel.Bytecode
import CaoProofs.Lemmas.CMLogic
/-!
# The decoder `decodeAll` (C04, C10)

`Tiled bc a b`: `[a, b)` is cut into spans of the generated instruction table, each read off its first
byte; a byte past the end of `bc` reads as opcode 0 (span 1), so `b ≤ bc.size` is not implied.
`Start bc t := Tiled bc 0 t`.  `decodeAll_tiles`: a position `< bc.size` is a start iff a successful decoding
has it; `decoded_next`, `decoded_last`, `decoded_zero`
say it in the terms of the interpreter's control flow (C04). At the end `rdU32` and `u32L` written out as four
terms (`rdU32_eq`, `u32L_le32`, from `word4` and `le32_word` of `Lemmas/CMLogic.lean`).
-/
namespace Cao.Bytecode
open Cao Cao.Compiler

/-! ## spans -/

theorem span_pos {o : UInt8} {n : Nat} (h : Gen.spanOf o = some n) : 1 ≤ n := by
  unfold Gen.spanOf at h
  cases hf : Gen.instrTable.find? (fun e => e.2.1 == o.toNat) with
  | none => rw [hf] at h; cases h
  | some e =>
    rw [hf] at h
    simp only [Option.map_some, Option.some.injEq] at h
    have hm := List.mem_of_find?_eq_some hf
    have hall : ∀ e ∈ Gen.instrTable, 1 ≤ e.2.2 := by decide
    rw [← h]; exact hall e hm

/-! ## tilings -/

inductive Tiled (bc : Array UInt8) : Nat → Nat → Prop
  | nil (a : Nat) : Tiled bc a a
  | cons {a n b : Nat} : Gen.spanOf (bc.getD a 0) = some n → Tiled bc (a + n) b → Tiled bc a b

abbrev Start (bc : Array UInt8) (t : Nat) : Prop := Tiled bc 0 t

theorem Tiled.le {bc : Array UInt8} {a b : Nat} (h : Tiled bc a b) : a ≤ b := by
  induction h with
  | nil => exact Nat.le_refl _
  | cons _ _ ih => omega

theorem Tiled.trans {bc : Array UInt8} {a b c : Nat} (h1 : Tiled bc a b) (h2 : Tiled bc b c) :
    Tiled bc a c := by
  induction h1 with
  | nil => exact h2
  | cons hs _ ih => exact .cons hs (ih h2)

theorem Tiled.single {bc : Array UInt8} {a n : Nat} (h : Gen.spanOf (bc.getD a 0) = some n) :
    Tiled bc a (a + n) := .cons h (.nil _)

theorem Tiled.congr {bc bc' : Array UInt8} {a b : Nat} (h : Tiled bc a b)
    (he : ∀ i, a ≤ i → i < b → bc'.getD i 0 = bc.getD i 0) : Tiled bc' a b := by
  induction h with
  | nil => exact .nil _
  | @cons a n b hs ht ih =>
    have hn := span_pos hs
    have hle := ht.le
    refine .cons (by rw [he a (Nat.le_refl _) (by omega)]; exact hs) (ih fun i h1 h2 => he i (by omega) h2)

theorem Tiled.split {bc : Array UInt8} {a b c : Nat} (h1 : Tiled bc a b) (h2 : Tiled bc a c)
    (hbc : b ≤ c) : Tiled bc b c := by
  induction h1 with
  | nil => exact h2
  | @cons a n b hs ht ih =>
    cases h2 with
    | nil =>
      have := span_pos hs; have := ht.le; omega
    | @cons _ n' _ hs' ht' =>
      rw [hs] at hs'
      cases hs'
      exact ih ht' hbc

theorem Tiled.no_overlap {bc : Array UInt8} {a p q n : Nat} (hp : Tiled bc a p) (hq : Tiled bc a q)
    (hpq : p < q) (hs : Gen.spanOf (bc.getD p 0) = some n) : p + n ≤ q := by
  have h := hp.split hq (Nat.le_of_lt hpq)
  cases h with
  | nil => omega
  | @cons _ n' _ hs' ht' =>
    rw [hs] at hs'; cases hs'
    exact ht'.le

theorem Tiled.start_lt {bc : Array UInt8} {a p e : Nat} (hp : Tiled bc a p) (he : Tiled bc a e)
    (hpe : p < e) : ∃ n, Gen.spanOf (bc.getD p 0) = some n ∧ p + n ≤ e ∧ Tiled bc a (p + n) := by
  have h := hp.split he (Nat.le_of_lt hpe)
  cases h with
  | nil => omega
  | @cons _ n _ hs ht => exact ⟨n, hs, ht.le, hp.trans (.single hs)⟩

/-- where an instruction start lies in `Goto; body; Closure; tail` -/
theorem Tiled.locate {bc : Array UInt8} {a c e x : Nat} (sg : Gen.spanOf (bc.getD a 0) = some 5)
    (tb : Tiled bc (a + 5) c) (sc : Gen.spanOf (bc.getD c 0) = some 9) (tp : Tiled bc (c + 9) e)
    (hx : Tiled bc a x) :
    x = a ∨ (Tiled bc (a + 5) x ∧ x < c) ∨ x = c ∨ (Tiled bc (c + 9) x ∧ x < e) ∨ Tiled bc e x := by
  rcases hx with _ | ⟨hs', hx1⟩
  · exact .inl rfl
  · rw [sg] at hs'; cases hs'
    rcases Nat.lt_or_ge x c with h | h
    · exact .inr (.inl ⟨hx1, h⟩)
    · rcases tb.split hx1 h with _ | ⟨hs'', hx3⟩
      · exact .inr (.inr (.inl rfl))
      · rw [sc] at hs''; cases hs''
        rcases Nat.lt_or_ge x e with h' | h'
        · exact .inr (.inr (.inr (.inl ⟨hx3, h'⟩)))
        · exact .inr (.inr (.inr (.inr (tp.split hx3 h'))))

/-! ## `decodeAll` -/

theorem decodeAll_of_tiled {bc : Array UInt8} {pos : Nat} (ht : Tiled bc pos bc.size) :
    ∀ (fuel : Nat) (acc : List (Nat × UInt8)), bc.size - pos < fuel →
    ∃ l, decodeAll bc fuel pos acc = .ok (acc.reverse ++ l) ∧
      (∀ x, x ∈ l ↔ (Tiled bc pos x.1 ∧ x.1 < bc.size ∧ x.2 = bc.getD x.1 0)) ∧
      (∀ x, l.getLast? = some x → ∃ n, Gen.spanOf x.2 = some n ∧ x.1 + n = bc.size) := by
  generalize hb : bc.size = b at ht
  induction ht with
  | nil a =>
    intro fuel acc hf
    cases fuel with
    | zero => omega
    | succ fuel =>
      refine ⟨[], ?_, ?_, ?_⟩
      · simp [decodeAll, hb]
      · intro x; simp only [List.not_mem_nil, false_iff]; rintro ⟨h1, h2, _⟩; have := h1.le; omega
      · intro x h; simp at h
  | @cons a n b' hs ht ih =>
    intro fuel acc hf
    have hn := span_pos hs
    have hle := ht.le
    cases fuel with
    | zero => omega
    | succ fuel =>
      obtain ⟨l, hl, hmem, hlast⟩ := ih hb fuel ((a, bc.getD a 0) :: acc) (by omega)
      refine ⟨(a, bc.getD a 0) :: l, ?_, ?_, ?_⟩
      · rw [decodeAll]
        have h1 : (a == bc.size) = false := by simp; omega
        have h2 : ¬ a > bc.size := by omega
        have h3 : ¬ a + n > bc.size := by omega
        simp only [h1, h2, hs, h3, if_false, Bool.false_eq_true]
        rw [hl]; simp
      · intro x
        simp only [List.mem_cons]
        constructor
        · rintro (rfl | hx)
          · exact ⟨.nil _, by simp only; omega, rfl⟩
          · obtain ⟨h1, h2, h3⟩ := (hmem x).1 hx
            exact ⟨.cons hs h1, h2, h3⟩
        · rintro ⟨h1, h2, h3⟩
          cases h1 with
          | nil => left; cases x; simp only at h3 ⊢; rw [h3]
          | @cons _ n' _ hs' ht' =>
            rw [hs] at hs'; cases hs'
            right; exact (hmem x).2 ⟨ht', h2, h3⟩
      · intro x hx
        cases l with
        | nil =>
          simp only [List.getLast?_singleton, Option.some.injEq] at hx
          subst hx
          refine ⟨n, hs, ?_⟩
          cases ht with
          | nil => rfl
          | cons hs2 ht2 =>
            exfalso
            have := (hmem (a + n, bc.getD (a + n) 0)).2 ⟨.nil _, by
              have := span_pos hs2; have := ht2.le; simp only; omega, rfl⟩
            simp at this
        | cons y l' =>
          rw [List.getLast?_cons_cons] at hx
          exact hlast x hx

theorem decodeAll_tiles_aux {bc : Array UInt8} : ∀ (fuel pos : Nat) (acc l : List (Nat × UInt8)),
    decodeAll bc fuel pos acc = .ok l → Tiled bc pos bc.size
  | 0, _, _, _, h => by simp [decodeAll] at h
  | fuel+1, pos, acc, l, h => by
    rw [decodeAll] at h
    split at h
    · rename_i h1; simp at h1; rw [h1]; exact .nil _
    · split at h
      · cases h
      · dsimp only at h
        split at h
        · cases h
        · rename_i span hs
          split at h
          · cases h
          · exact .cons hs (decodeAll_tiles_aux fuel _ _ _ h)

theorem decodeAll_fuel_mono {bc : Array UInt8} : ∀ (f1 f2 pos : Nat) (acc l : List (Nat × UInt8)),
    decodeAll bc f1 pos acc = .ok l → f1 ≤ f2 → decodeAll bc f2 pos acc = .ok l
  | 0, _, _, _, _, h, _ => by simp [decodeAll] at h
  | f1+1, 0, _, _, _, _, hle => by omega
  | f1+1, f2+1, pos, acc, l, h, hle => by
    rw [decodeAll] at h ⊢
    split
    · rename_i h1; rw [if_pos h1] at h; exact h
    · rename_i h1; rw [if_neg h1] at h
      split
      · rename_i h2; rw [if_pos h2] at h; exact h
      · rename_i h2; rw [if_neg h2] at h
        dsimp only at h ⊢
        split
        · rename_i hs; rw [hs] at h; exact h
        · rename_i span hs
          rw [hs] at h
          dsimp only at h
          split
          · rename_i h3; rw [if_pos h3] at h; exact h
          · rename_i h3; rw [if_neg h3] at h
            exact decodeAll_fuel_mono f1 f2 _ _ _ h (by omega)

/-- The members of a successful decoding are the `(p, bc[p])` for the starts `p < bc.size` (a membership
`↔`: nothing on order or repetition), and its last instruction ends at `bc.size`. -/
theorem decodeAll_tiles {bc : Array UInt8} {fuel : Nat} {l : List (Nat × UInt8)}
    (h : decodeAll bc fuel 0 [] = .ok l) :
    Tiled bc 0 bc.size ∧
    (∀ x, x ∈ l ↔ (Start bc x.1 ∧ x.1 < bc.size ∧ x.2 = bc.getD x.1 0)) ∧
    (∀ x, l.getLast? = some x → ∃ n, Gen.spanOf x.2 = some n ∧ x.1 + n = bc.size) := by
  have ht := decodeAll_tiles_aux fuel 0 [] l h
  obtain ⟨l', hl', hmem, hlast⟩ := decodeAll_of_tiled ht (fuel + bc.size + 1) [] (by omega)
  rw [decodeAll_fuel_mono _ _ _ _ _ h (by omega)] at hl'
  simp only [List.reverse_nil, List.nil_append, Except.ok.injEq] at hl'
  subst hl'
  exact ⟨ht, hmem, hlast⟩

theorem decoded_next {bc : Array UInt8} {fuel : Nat} {l : List (Nat × UInt8)} (hl : decodeAll bc fuel 0 [] = .ok l)
    {a : Nat} {o : UInt8} (hm : (a, o) ∈ l) :
    o = bc.getD a 0 ∧ a < bc.size ∧ ∃ sp, Gen.spanOf o = some sp ∧ a + sp ≤ bc.size ∧
      (a + sp < bc.size → (a + sp) ∈ l.map (·.1)) := by
  obtain ⟨ht, hmem, _⟩ := decodeAll_tiles hl
  obtain ⟨h1, h2, h3⟩ := (hmem (a, o)).1 hm
  simp only at h1 h2 h3
  obtain ⟨n, hn, hle, hnext⟩ := Tiled.start_lt h1 ht h2
  refine ⟨h3, h2, n, by rw [h3]; exact hn, hle, fun hlt => ?_⟩
  exact List.mem_map.2 ⟨(a + n, bc.getD (a + n) 0), (hmem _).2 ⟨hnext, hlt, rfl⟩, rfl⟩

theorem decoded_last {bc : Array UInt8} {fuel : Nat} {l : List (Nat × UInt8)} (hl : decodeAll bc fuel 0 [] = .ok l)
    {a a' sp : Nat} {o o' : UInt8} (hm : (a, o) ∈ l) (hsp : Gen.spanOf o = some sp) (he : a + sp = bc.size)
    (hlast : l.getLast? = some (a', o')) : (a, o) = (a', o') := by
  obtain ⟨ht, hmem, hlast'⟩ := decodeAll_tiles hl
  obtain ⟨h1, h2, h3⟩ := (hmem (a, o)).1 hm
  obtain ⟨k1, k2, k3⟩ := (hmem (a', o')).1 (List.mem_of_getLast? hlast)
  obtain ⟨n', hn', he'⟩ := hlast' _ hlast
  have hpos := span_pos hn'
  have hpos' := span_pos hsp
  simp only at h1 h2 h3 k1 k2 k3 he'
  have : a = a' := by
    rcases Nat.lt_trichotomy a a' with h | h | h
    · have := h1.no_overlap k1 h (by rw [← h3]; exact hsp); omega
    · exact h
    · have := k1.no_overlap h1 h (by rw [← k3]; exact hn'); omega
  subst this
  rw [h3, k3]

theorem decoded_zero {bc : Array UInt8} {fuel : Nat} {l : List (Nat × UInt8)} (hl : decodeAll bc fuel 0 [] = .ok l)
    (h0 : 0 < bc.size) : 0 ∈ l.map (·.1) :=
  List.mem_map.2 ⟨(0, bc.getD 0 0), ((decodeAll_tiles hl).2.1 _).2 ⟨.nil _, h0, rfl⟩, rfl⟩

theorem decoded_start_iff {bc : Array UInt8} {fuel : Nat} {l : List (Nat × UInt8)} (hl : decodeAll bc fuel 0 [] = .ok l)
    (a : Nat) : a ∈ l.map (·.1) ↔ Start bc a ∧ a < bc.size := by
  obtain ⟨_, hmem, _⟩ := decodeAll_tiles hl
  constructor
  · rintro h
    obtain ⟨x, hx, rfl⟩ := List.mem_map.1 h
    exact ⟨((hmem x).1 hx).1, ((hmem x).1 hx).2.1⟩
  · rintro ⟨h1, h2⟩
    exact List.mem_map.2 ⟨(a, bc.getD a 0), (hmem _).2 ⟨h1, h2, rfl⟩, rfl⟩

/-- `decodeAll_fuel`: the fuel `bc.size + 1` always suffices (every span is ≥ 1): if decoding
succeeds with some fuel, it succeeds with `bc.size + 1` and gives the same result. -/
theorem decodeAll_fuel {bc : Array UInt8} {fuel : Nat} {l : List (Nat × UInt8)}
    (h : decodeAll bc fuel 0 [] = .ok l) : decodeAll bc (bc.size + 1) 0 [] = .ok l := by
  have ht := decodeAll_tiles_aux fuel 0 [] l h
  obtain ⟨l1, hl1, _, _⟩ := decodeAll_of_tiled ht (bc.size + 1) [] (by omega)
  have h1 := decodeAll_fuel_mono _ (fuel + bc.size + 1) _ _ _ hl1 (by omega)
  have h2 := decodeAll_fuel_mono _ (fuel + bc.size + 1) _ _ _ h (by omega)
  rw [h1] at h2
  rw [hl1, h2]

/-! ## little-endian words -/

def u32L (bs : List UInt8) (off : Nat) : Nat :=
  (bs.getD off 0).toNat + 256 * (bs.getD (off + 1) 0).toNat + 65536 * (bs.getD (off + 2) 0).toNat
    + 16777216 * (bs.getD (off + 3) 0).toNat

theorem u32L_le32 (x : UInt32) : u32L (le32 x) 0 = x.toNat :=
  (word4 fun i => (le32 x).getD i 0).symm.trans (le32_word x _ fun _ _ => rfl)

theorem rdU32_eq (b : Array UInt8) (p : Nat) :
    rdU32 b p = (b.getD p 0).toNat + 256 * (b.getD (p + 1) 0).toNat + 65536 * (b.getD (p + 2) 0).toNat
      + 16777216 * (b.getD (p + 3) 0).toNat :=
  word4 fun i => b.getD (p + i) 0

theorem rdU32_congr {bc bc' : Array UInt8} {p : Nat} (h : ∀ i, p ≤ i → i < p + 4 → bc'.getD i 0 = bc.getD i 0) :
    rdU32 bc' p = rdU32 bc p :=
  word4_congr fun i hi => h (p + i) (by omega) (by omega)

end Cao.Bytecode
