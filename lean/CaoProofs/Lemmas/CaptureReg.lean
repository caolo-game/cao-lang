import CaoProofs.Lemmas.CaptureOpsCtl
import CaoProofs.Lemmas.RegisterUpvalue
/-!
# `CopyLast` / `RegisterUpvalue` (stage A of `Props/C04c.lean`): in the normal phase and while a closure is under
# construction (`InvX (some a)`)
-/
namespace Cao.Vm
open Cao.Gc Cao.C02

def Top2Is (s : VmState) (a : Nat) : Prop :=
  1 < s.stack.count ∧ s.stack.count < s.stack.data.length ∧
    s.stack.data.getD (s.stack.count - 1) .nil = .obj a ∧ s.stack.data.getD (s.stack.count - 2) .nil = .obj a

section rules
variable {α β : Type} {P : VmState → Prop} {Q : α → VmState → Prop} {E : ErrKind → Prop}

theorem st_false {m : M α} (h : ∀ s, P s → False) : St P m Q E :=
  ⟨fun s _ _ hs _ => (h s hs).elim, fun s _ _ hs _ => (h s hs).elim⟩

end rules

theorem getD_set_ne {α : Type} (d : List α) (n m : Nat) (v dflt : α) (h : n ≠ m) :
    (d.set n v).getD m dflt = d.getD m dflt := by
  simp [List.getD_eq_getElem?_getD, List.getElem?_set_ne h]

theorem top_push {s : VmState} {a : Nat} (h : TopIs s a) (hfit : s.stack.count + 1 < s.stack.data.length) :
    Top2Is { s with stack := { count := s.stack.count + 1, data := s.stack.data.set s.stack.count (.obj a) } } a ∧
    Val.obj a ∈ (s.stack.data.set s.stack.count (.obj a)).take (s.stack.count + 1) := by
  obtain ⟨h1, h2, h3⟩ := h
  refine ⟨⟨by show 1 < s.stack.count + 1; omega, ?_, ?_, ?_⟩, ?_⟩
  · show s.stack.count + 1 < (s.stack.data.set s.stack.count (Val.obj a)).length
    rw [List.length_set]; exact hfit
  · show (s.stack.data.set s.stack.count (Val.obj a)).getD (s.stack.count + 1 - 1) Val.nil = _
    rw [Nat.add_sub_cancel]; exact getD_set_self _ _ _ _ h2
  · show (s.stack.data.set s.stack.count (Val.obj a)).getD (s.stack.count + 1 - 2) Val.nil = _
    rw [getD_set_ne _ _ _ _ _ (by omega)]
    rw [show s.stack.count + 1 - 2 = s.stack.count - 1 by omega]; exact h3
  · exact mem_take_set_self _ _ _ h2

theorem top_pop {s : VmState} {a : Nat} (h : Top2Is s a) :
    s.stack.pop.2 = .obj a ∧ TopIs { s with stack := s.stack.pop.1 } a ∧
      Val.obj a ∈ (s.stack.pop.1).contents := by
  obtain ⟨h1, h2, h3, h4⟩ := h
  have hne : ¬ s.stack.count = 0 := by omega
  unfold VStack.pop
  rw [if_neg hne]
  refine ⟨h3, ⟨by show 0 < s.stack.count - 1; omega, ?_, ?_⟩, ?_⟩
  · show s.stack.count - 1 < (s.stack.data.set (s.stack.count - 1) default).length
    rw [List.length_set]; omega
  · show (s.stack.data.set (s.stack.count - 1) default).getD (s.stack.count - 1 - 1) Val.nil = _
    rw [getD_set_ne _ _ _ _ _ (by omega), show s.stack.count - 1 - 1 = s.stack.count - 2 by omega]
    exact h4
  · refine Native.getD_obj_mem (i := s.stack.count - 2) (by show _ < s.stack.count - 1; omega) ?_
    show (s.stack.data.set (s.stack.count - 1) default).getD (s.stack.count - 2) Val.nil = _
    rw [getD_set_ne _ _ _ _ _ (by omega)]
    exact h4

section copy
variable {p : Prog} {lvl : Nat → Nat} {E : ErrKind → Prop} [ErrClass E]
  {re : Reenter} {W : List (Option Nat × Nat)} {fs : List Frame} {src : Nat}

theorem st_copyLast_tail (hop : p.bytecode.getD src 0 = Compiler.op.copyLast) (a : Nat) (o : Obj) :
    St (fun s => InvX p lvl (some a) W fs s ∧ s.heap.get a = some o ∧ TopIs s a) (step p re src)
      (fun ctl s' => ctl.exit = false ∧ ctl.ip = src + 1 ∧ InvX p lvl (some a) W fs s' ∧
        s'.heap.get a = some o ∧ Top2Is s' a) E := by
  rw [step_copyLast p re src hop]
  unfold Instr.copyLast
  refine st_of_forall (fun s hs => ?_)
  obtain ⟨hI, hg, ht⟩ := hs
  have hlast : s.stack.last = .obj a := by
    unfold VStack.last
    rw [if_pos ht.1]; exact ht.2.2
  refine st_get_bind (fun s0 hs0 => ?_)
  subst hs0
  rw [hlast]
  refine st_push_bind fun s1 hs1 hfit => st_pure fun s2 hs2 => ?_
  subst hs1 hs2
  obtain ⟨t2, tm⟩ := top_push ht hfit
  exact ⟨rfl, rfl, ⟨hI.heap, hI.obl, hI.rooted, hI.frames, fun a' ha' => by cases ha'; exact tm⟩, hg, t2⟩

end copy

/-! ## the allocator keeps the value stack and what is on it -/

theorem allocPure_stack (c : Nat) (s : VmState) : (allocPure c s).2.stack = s.stack :=
  (allocPure_effect c s).elim (·.stack) (·.stack)

theorem allocPure_get_of_stack (c : Nat) (s : VmState) (a : Nat) (h : Val.obj a ∈ s.stack.contents) :
    (allocPure c s).2.heap.get a = s.heap.get a :=
  (allocPure_effect c s).elim (fun e => by rw [e.heap]) fun e => by
    rw [e.heap, gc_preserves_reachable s a (reach_of_stack h)]

section reg
variable {p : Prog} {lvl : Nat → Nat} {E : ErrKind → Prop} [ErrClass E]
  {re : Reenter} {W0 : List (Option Nat × Nat)} {fs0 : List Frame} {l : Frame} {src n : Nat}
  {x : Option Nat} {a : Nat} {hd0 : UInt32} {k : Nat}

/-- after the capture: the invariant, and the closure under construction has one more upvalue -/
def RegPost (p : Prog) (lvl : Nat → Nat) (x : Option Nat) (W : List (Option Nat × Nat)) (fs : List Frame)
    (a : Nat) (hd0 : UInt32) (k : Nat) (s : VmState) : Prop :=
  InvX p lvl x W fs s ∧
    (x = some a → TopIs s a ∧ ∃ ar ups, s.heap.get a = some (.closure hd0 ar ups) ∧ k + 1 ≤ ups.length)

/-- the state while the captured closure `c` is known -/
structure RegMid (p : Prog) (lvl : Nat → Nat) (x : Option Nat) (W : List (Option Nat × Nat)) (fs : List Frame)
    (a : Nat) (hd0 : UInt32) (k : Nat) (c : Nat) (hd ar : UInt32) (ups : List Nat) (s : VmState) : Prop where
  inv : InvX p lvl x W fs s
  /-- whatever closure is at `c` now is the one that was read -/
  same : ∀ h' a' u', s.heap.get c = some (.closure h' a' u') → h' = hd ∧ a' = ar ∧ u' = ups
  /-- it was a complete closure, or it is the one under construction -/
  comp : x = some c ∨ Complete p lvl hd ups.length
  tr : x = some a → c = a ∧ TopIs s a ∧ hd = hd0 ∧ k ≤ ups.length ∧ s.heap.get a = some (.closure hd ar ups)

theorem RegMid.set {W : List (Option Nat × Nat)} {fs : List Frame} {c : Nat} {hd ar : UInt32} {ups : List Nat}
    {s : VmState} (h : RegMid p lvl x W fs a hd0 k c hd ar ups s) (u : Nat) (s' : VmState)
    (hh : s'.heap = s.heap.set c (.closure hd ar (ups ++ [u]))) (hf : s'.frames = s.frames)
    (hst : s'.stack = s.stack) : RegPost p lvl x W fs a hd0 k s' := by
  have h1 := h.inv.set_clo c hd ar (ups ++ [u])
    (by rcases h.comp with hc | hc
        · exact .inl hc
        · exact .inr (hc.mono (by simp)))
    (fun h' a' u' hg => by
      obtain ⟨_, _, rfl⟩ := h.same h' a' u' hg
      simp)
  refine ⟨⟨by rw [hh]; exact h1.heap, by rw [hh]; exact h1.obl, h1.rooted, hf.trans h.inv.frames,
    by rw [hst]; exact h.inv.top⟩, fun hx => ?_⟩
  obtain ⟨rfl, t, rfl, hk, hg⟩ := h.tr hx
  refine ⟨by unfold TopIs at t ⊢; rw [hst]; exact t, ar, ups ++ [u], ?_, by simp; omega⟩
  rw [hh, Gc.get_set, if_pos rfl, hg]; rfl

/-- a new upvalue object is allocated: the closure under construction survives the collection -/
theorem RegMid.allocPure {W : List (Option Nat × Nat)} {fs : List Frame} {c : Nat} {hd ar : UInt32}
    {ups : List Nat} {s : VmState} (h : RegMid p lvl x W fs a hd0 k c hd ar ups s) :
    RegMid p lvl x W fs a hd0 k c hd ar ups (allocPure Heap.objCharge s).2 := by
  have hh := harmless_allocPure Heap.objCharge s
  have hst := allocPure_stack Heap.objCharge s
  refine ⟨h.inv.harmless hh (.inr hst), fun h' a' u' hg => h.same h' a' u' (hh.old c _ hg rfl), h.comp,
    fun hx => ?_⟩
  obtain ⟨hca, t, e1, hk, hg⟩ := h.tr hx
  refine ⟨hca, by unfold TopIs at t ⊢; rw [hst]; exact t, e1, hk, ?_⟩
  rw [allocPure_get_of_stack Heap.objCharge s a (h.inv.top a hx)]; exact hg

theorem RegMid.withObject {W : List (Option Nat × Nat)} {fs : List Frame} {c : Nat} {hd ar : UInt32}
    {ups : List Nat} {s : VmState} (h : RegMid p lvl x W fs a hd0 k c hd ar ups s) (loc : UpLoc) :
    RegMid p lvl x W fs a hd0 k c hd ar ups (withObject (.upvalue loc) s) := by
  have hh := harmless_withObject (.upvalue loc) s rfl
  refine ⟨h.inv.harmless hh (.inr rfl), fun h' a' u' hg => h.same h' a' u' (hh.old c _ hg rfl), h.comp,
    fun hx => ?_⟩
  obtain ⟨hca, t, e1, hk, hg⟩ := h.tr hx
  refine ⟨hca, t, e1, hk, ?_⟩
  rw [get_withObject, hg]

def RegOut (E : ErrKind → Prop) (Q : VmState → Prop) : Except ErrKind Unit × VmState → Prop
  | (.ok _, s') => Q s'
  | (.error e, _) => E e

/-- what `RegisterUpvalue` does after its pop, in the normal phase (`x = none`) and while the closure at
`a` is under construction (`x = some a`): no capture assertion fails, the invariant is kept, and the
closure under construction gets one more upvalue -/
theorem regPure_post {idx : Nat} {isLocal : Bool} (hreg : isLocal = false → idx < n)
    (hx : x = none ∨ x = some a) {cv : Val} {q : VmState}
    (hI : InvX p lvl x (W0 ++ [(l.closure, n)]) (fs0 ++ [l]) q)
    (ht : x = some a → cv = .obj a ∧ TopIs q a ∧
      ∃ ar ups, q.heap.get a = some (.closure hd0 ar ups) ∧ k ≤ ups.length) :
    RegOut E (RegPost p lvl x (W0 ++ [(l.closure, n)]) (fs0 ++ [l]) a hd0 k)
      (Upv.regPure idx isLocal cv q) := by
  unfold Upv.regPure
  split
  · next c =>
    split
    · next hd ar ups heq =>
      have hmid : RegMid p lvl x (W0 ++ [(l.closure, n)]) (fs0 ++ [l]) a hd0 k c hd ar ups q := by
        refine ⟨hI, fun h' a' u' hg => ?_, ?_, fun hxa => ?_⟩
        · rw [heq] at hg
          simp only [Option.some.injEq, Obj.closure.injEq] at hg
          exact ⟨hg.1.symm, hg.2.1.symm, hg.2.2.symm⟩
        · rcases hx with hx | hx
          · exact .inr (hI.heap.clo c hd ar ups heq (by rw [hx]; simp))
          · obtain ⟨e1, _⟩ := ht hx
            cases e1
            exact .inl hx
        · obtain ⟨e1, t1, ar', ups', hg', hk'⟩ := ht hxa
          cases e1
          rw [heq] at hg'
          simp only [Option.some.injEq, Obj.closure.injEq] at hg'
          obtain ⟨rfl, rfl, rfl⟩ := hg'
          exact ⟨rfl, t1, rfl, hk', heq⟩
      have hfr : q.frames.getLast? = some l := by rw [hI.frames]; simp
      rw [hfr]
      dsimp only
      split
      · -- a local variable is captured
        split
        · exact ErrClass.calm (calm_of_plain rfl)
        · split
          · next u _ => exact hmid.set u (Upv.appendUp c hd ar ups u q) rfl rfl rfl
          · have h1 := hmid.allocPure
            split
            · next s0 ha =>
              rw [ha] at h1
              exact (h1.withObject _).set _ (Upv.captured s0 c hd ar ups _) rfl rfl rfl
            · next e s0 ha =>
              rw [allocPure_err Heap.objCharge q e (by rw [ha])]
              exact ErrClass.calm (calm_of_plain rfl)
      · -- an upvalue of the running closure is captured
        next hloc =>
        have hidx := hreg (by simpa using hloc)
        rcases hI.obl (l.closure, n) (by simp) with h0 | ⟨oc, hoc, hd', ar', oups, hgo, hno⟩
        · omega
        have hcl : l.closure = some oc := hoc
        split
        · next hnone => rw [hcl] at hnone; cases hnone
        · next outer hsome =>
          rw [hcl] at hsome
          cases hsome
          rw [hgo]
          dsimp only
          split
          · next u hu => exact hmid.set u (Upv.appendUp c hd ar ups u q) rfl rfl rfl
          · next hnone =>
            have := List.getElem?_eq_none_iff.1 hnone
            omega
    · exact ErrClass.calm (calm_of_plain rfl)
  · exact ErrClass.calm (calm_of_plain rfl)

theorem st_regUp (hop : p.bytecode.getD src 0 = Compiler.op.registerUpvalue)
    (hreg : p.bytecode.getD (src + 2) 0 = 0 → (p.bytecode.getD (src + 1) 0).toNat < n)
    (hx : x = none ∨ x = some a) :
    St (fun s => InvX p lvl x (W0 ++ [(l.closure, n)]) (fs0 ++ [l]) s ∧
          (x = some a → Top2Is s a ∧ ∃ ar ups, s.heap.get a = some (.closure hd0 ar ups) ∧ k ≤ ups.length))
      (step p re src)
      (fun ctl s' => ctl.exit = false ∧ ctl.ip = src + 3 ∧
        RegPost p lvl x (W0 ++ [(l.closure, n)]) (fs0 ++ [l]) a hd0 k s') E := by
  rw [Upv.step_registerUpvalue p re src hop]
  have key : ∀ s, (InvX p lvl x (W0 ++ [(l.closure, n)]) (fs0 ++ [l]) s ∧
      (x = some a → Top2Is s a ∧ ∃ ar ups, s.heap.get a = some (.closure hd0 ar ups) ∧ k ≤ ups.length)) →
      RegOut E (RegPost p lvl x (W0 ++ [(l.closure, n)]) (fs0 ++ [l]) a hd0 k)
        (Upv.regPure (p.bytecode.getD (src + 1) 0).toNat (p.bytecode.getD (src + 1 + 1) 0 != 0)
          s.stack.pop.2 { s with stack := s.stack.pop.1 }) := by
    intro s hs
    refine regPure_post (fun h => hreg (by simpa using h)) hx ?_ ?_
    · rcases hx with hx | hx
      · subst hx; exact hs.1.congr' rfl rfl
      · subst hx
        obtain ⟨t2, _⟩ := hs.2 rfl
        exact ⟨hs.1.heap, hs.1.obl, hs.1.rooted, hs.1.frames, fun a' ha' => by cases ha'; exact (top_pop t2).2.2⟩
    · intro hxa
      obtain ⟨t2, hg2⟩ := hs.2 hxa
      exact ⟨(top_pop t2).1, (top_pop t2).2.1, hg2⟩
  refine st_iff_ho.2 (ho_iff.2 fun s hs => ?_)
  have := key s hs
  rw [Upv.go_registerUpvalue]
  generalize Upv.regPure _ _ s.stack.pop.2 { s with stack := s.stack.pop.1 } = r at this
  obtain ⟨_ | _, t⟩ := r
  · exact this
  · exact ⟨rfl, by show src + 1 + 2 = src + 3; omega, this⟩
end reg

end Cao.Vm
