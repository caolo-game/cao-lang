import CaoProofs.Lemmas.VmLogic
/-!
# The dispatch loop, unfolded once

`exec` runs the loop (`Task.loop`) and `run_function` (`Task.call`) by structural recursion on its fuel. The equations
`exec_zero`, `exec_loop`, `exec_call` say what one unfolding does, in terms of `step` and `callNative` as computations
run from a state (`M.go`) under the callback `reenterOf`, and of `enterScript`, the part of `run_function` that enters
a script callee.
-/
namespace Cao.Vm

/-- the callback `step` is given by `exec` -/
def reenterOf (p : Prog) (gas : Nat) : Reenter := fun f => liftRun (exec p gas (.call f))

/-- the state in which the dispatch loop runs an instruction -/
def VmState.tick (s : VmState) : VmState :=
  { s with remaining := s.remaining - 1, dispatches := s.dispatches + 1 }

theorem exec_zero (p : Prog) (t : Task) (s : VmState) :
    exec p 0 t s = (s, .error ⟨.panic "gas exhausted", 0, s.frames⟩) := by
  unfold exec; rfl

theorem exec_loop (p : Prog) (gas ip : Nat) (s : VmState) :
    exec p (gas+1) (.loop ip) s =
      if ip ≥ p.bytecode.size then (s, .error ⟨.unexpectedEndOfInput, ip, s.frames⟩) else
      if s.remaining - 1 = 0 then
        ({ s with remaining := s.remaining - 1 }, .error ⟨.timeout, ip, s.frames⟩) else
      match (step p (reenterOf p gas) ip).go s.tick with
      | (.error e, s') => (s', .error ⟨e, ip, s'.frames⟩)
      | (.ok ctl, s') => if ctl.exit then (s', .ok none) else exec p gas (.loop ctl.ip) s' := by
  rw [exec]
  by_cases h1 : ip ≥ p.bytecode.size
  · simp only [h1, if_true]
  · simp only [h1, if_false]
    by_cases h2 : s.remaining - 1 = 0
    · simp [h2]
    · simp only [h2, if_false, beq_iff_eq]
      rfl

def failAt (s : VmState) (e : ErrKind) : VmState × Except RunErr (Option Val) :=
  (s, .error ⟨e, 0, s.frames⟩)

/-- `run_function` on a script callee -/
def enterScript (p : Prog) (gas : Nat) (s : VmState) (label : UInt32) (arity : Nat) (closure : Option Nat) :
    VmState × Except RunErr (Option Val) :=
  match p.labels.find? (fun l => l.1 == label) with
  | none => failAt s .procedureNotFound
  | some (_, pos) =>
    if s.stack.count < arity then failAt s .missingArgument else
    let fr : Frame := { src := pos, dst := p.bytecode.size - 1, stackOffset := s.stack.count - arity, closure := closure }
    if s.frames.length + 1 > s.frameCap then failAt s .callStackOverflow else
    if s.frames.length + 2 > s.frameCap then (s, .error ⟨.callStackOverflow, 0, s.frames ++ [fr]⟩) else
    match exec p gas (.loop pos) { s with frames := s.frames ++ [fr, fr] } with
    | (s', .ok _) =>
      ({ s' with frames := s'.frames.take s.frames.length, stack := s'.stack.pop.1 }, .ok (some s'.stack.pop.2))
    | (s', .error e) => ({ s' with frames := s'.frames.take s.frames.length }, .error e)

theorem exec_call (p : Prog) (gas : Nat) (f : Val) (s : VmState) :
    exec p (gas+1) (.call f) s =
      match f with
      | .obj a =>
        match s.heap.get a with
        | some (.native h) =>
          match (callNative (reenterOf p gas) h).go s with
          | (.ok (), s') => ({ s' with stack := s'.stack.pop.1 }, .ok (some s'.stack.pop.2))
          | (.error e, s') => failAt s' e
        | some (.fn h ar) => enterScript p gas s h ar.toNat none
        | some (.closure h ar _) => enterScript p gas s h ar.toNat (some a)
        | _ => failAt s .invalidArgument
      | _ => failAt s .invalidArgument := by
  unfold exec
  rfl

end Cao.Vm
