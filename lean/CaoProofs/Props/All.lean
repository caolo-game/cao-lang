import CaoProofs.Props.C10b
import CaoProofs.Props.C15b
import CaoProofs.Props.C04
import CaoProofs.Props.C08b
import CaoProofs.Props.C06
import CaoProofs.Props.C04b
import CaoProofs.Props.C15c
import CaoProofs.Props.C08c
import CaoProofs.Props.C08d
/-!
# All — the property files about compiled programs, imported together

Importing them together checks that their lemma libraries declare no name twice: `C10`/`C10b` (through
`Lemmas/WfLemmas.lean`, `WfUnit`, `WfFinal` in namespace `Cao.Compiler.Wf`, and `WfInv`, `WfUpvalues`, `HashInj` in
`Cao.Compiler`), `C15`/`C15b` (through `Lemmas/TraceLemmas.lean`), `C04`, `C08`/`C08b` (through
`Lemmas/ResolveLemmas.lean`, `Lemmas/CallSiteLemmas.lean`), `C06`, and the files that compose them: `C04b`, `C04c`,
`C15c`, `C08c`, `C08d`.

Two groups cannot be imported here.  `C09b`: its `Lemmas/RowValueCompile.lean` declares `Cao.Compiler.Pre`, and so does
`Lemmas/TraceLemmas.lean`.  The `C01` files: their `Lemmas/SimLemmas.lean` declares `Cao.Compiler.Keep` and
`Cao.Compiler.Ext.keep`, and so do `Lemmas/WfUpvalues.lean` and `Lemmas/WfLemmas.lean`.
-/

-- the same short names live side by side in different namespaces
example := @Cao.Compiler.Pre
example := @Cao.Compiler.Wf.Pre
example := @Cao.Compiler.fail_bind_run
example := @Cao.Compiler.Wf.fail_bind_run
example := @Cao.Compiler.withStd
example := @Cao.C10b.compile_wf
example := @Cao.C15b.run_error_located
example := @Cao.C04.run_no_panic_partial
example := @Cao.C08b.compiled_call_card_enters_body
example := @Cao.C06.closure_card_dispatch
example := @Cao.C04b.compiled_run_no_panic
example := @Cao.C15c.compiled_error_located
example := @Cao.C08c.compiled_call_card_enters_body'
example := @Cao.C08c.compiled_closure_dispatch
