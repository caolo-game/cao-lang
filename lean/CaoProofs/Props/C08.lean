import CaoProofs.Lemmas.ResolveLemmas
import CaoProofs.Lemmas.SplitOn
/-!
# C08 — static calls and function references designate exactly one function

"A static call or function reference compiles only if its name designates exactly one function
under the resolution rules - absolute dotted path, then the caller's own module, then the caller
module's imports (function imports, module-prefix imports, with `super.` walking up) - and at run
time it executes that function's body and no other; names that resolve to nothing, invalid
function or module names, duplicate names, ambiguous or malformed imports and a user module named
like the injected standard library are compilation errors."

All statements are about the total compiler model `Cao.Compiler` and the reference resolution
`Cao.Sem.resolve`. `resolveSpec` / `resolveWith` (`Lemmas/ResolveSpec.lean`) is the pure specification
of the lookup; the tree predicates (`anyMod`, `defect`, …) and the stream specification (`entries`,
`withHandles`, `irStream`) are in `Lemmas/Flatten.lean`. Statements about a successful `compile` are
read off facts about its run `(unit, sF)` (`compile_run`); for the static calls that fact is `Designates`.

The tags in the doc comments name five parts: **(1)** `resolveFunction` is the four-step lookup;
**(2)** it agrees with `Sem.resolve`; **(3)** function handles (placed after part 5: it needs the
stream facts of part 4); **(4)** what `compile` rejects — (4a) invalid names, (4b) duplicate function
names, (4c) duplicate sibling modules and a user `std`, (4d) import lists, (4e) no `main`,
(4f) nesting; **(5)** the operand a static call emits and the label of its target. What the
interpreter does with that operand is in `Props/C08b.lean`.
-/
namespace Cao.C08
open Cao Cao.Compiler

/-! ## 1. `resolveFunction` is the documented four-step lookup -/

theorem curTrace_run (s : CState) : curTrace.run s = .ok (traceOf s, s) := rfl

/-- **(1)** the implementation's `resolveFunction` is the pure four-step lookup `resolveSpec`
(absolute path; caller's module; function import; module-prefix import — first match wins; too
many `super.` ⇒ `SuperLimitReached`; nothing ⇒ `InvalidJump`) over the current jump table,
namespace and imports. The state is unchanged on success; on failure the error carries the
current trace. -/
theorem resolveFunction_spec (name : String) (s : CState) :
    (resolveFunction name).run s =
      match resolveSpec s.jumpTable s.ns s.imports name with
      | .ok r => .ok (r, s)
      | .error k => .error (.err k (some (traceOf s))) := by
  show resolveFunction name s = _
  rw [resolveFunction_run]
  cases resolveSpec s.jumpTable s.ns s.imports name <;> rfl

theorem resolveSpec_unfold (jt : JumpTable) (ns : List String) (imports : List (String × String))
    (name : String) :
    resolveSpec jt ns imports name =
      match look jt name with
      | some r => .ok r
      | none =>
      match look jt (joinNs ns name) with
      | some r => .ok r
      | none =>
      match fnImportStep (look jt) ns imports name with
      | .error k => .error k
      | .ok (some r) => .ok r
      | .ok none =>
      match modImportStep (look jt) ns imports name with
      | .error k => .error k
      | .ok (some r) => .ok r
      | .ok none => .error .invalidJump := by
  unfold resolveSpec resolveWith stepThen
  cases look jt name with
  | some r => rfl
  | none =>
  cases look jt (joinNs ns name) with
  | some r => rfl
  | none =>
  rcases fnImportStep (look jt) ns imports name with e | _ | a
  · rfl
  · rcases modImportStep (look jt) ns imports name with e | _ | a <;> rfl
  · rfl

theorem resolveSpec_error_kind {jt : JumpTable} {ns : List String} {imports : List (String × String)}
    {name : String} {k : CErrKind} (h : resolveSpec jt ns imports name = .error k) :
    k = .invalidJump ∨ k = .superLimitReached :=
  resolveWith_error_kind h

/-! ## 2. the compiler and the reference semantics designate the same function -/

theorem joinNs_agree : Sem.joinNs = Compiler.joinNs := rfl

theorem resolveSpec_error_iff {fns : Array FunctionIr} {ns : List String} {imports : List (String × String)}
    {name : String} {k : CErrKind} :
    resolveSpec (jumpTableOf fns.toList) ns imports name = .error k ↔
      resolveWith (Sem.findFn (fns.map toFnDef)) ns imports name = .error k := by
  rw [resolveSpec_eq_map]
  cases resolveWith _ ns imports name <;> simp [Except.map]

/-- **(2, soundness — no hypothesis)** if the compiler resolves `name` (called from `fns[home]`,
over the jump table built from the stream `fns`) to `(h, a)`, then the reference resolution
`Sem.resolve` over the `FnDef` image of the same stream designates a function `j`, `h` is the
handle of `fns[j]` and `a` its arity. -/
theorem resolve_agrees_sound (fns : Array FunctionIr) (home : Nat) (hh : home < fns.size)
    (name : String) (h a : UInt32)
    (hr : resolveSpec (jumpTableOf fns.toList) fns[home].ns fns[home].imports name = .ok (h, a)) :
    ∃ j, ∃ hj : j < fns.size, Sem.resolve (fns.map toFnDef) home name = some j ∧
      fns[j].handle = h ∧ a = UInt32.ofNat fns[j].arguments.length := by
  rw [resolveSpec_eq_map] at hr
  cases hw : resolveWith (Sem.findFn (fns.map toFnDef)) fns[home].ns fns[home].imports name with
  | error k => rw [hw] at hr; cases hr
  | ok j =>
    rw [hw] at hr
    obtain ⟨n, hn⟩ := resolveWith_ok_lk hw
    have hj : j < fns.size := by simpa using findFn_lt hn
    refine ⟨j, hj, ?_, ?_⟩
    · rw [sem_resolve_stream fns home hh]; exact resolveWith_ok_sem hw
    · simp only [Except.map, Except.ok.injEq, getD_toList fns j hj, tgt, Prod.mk.injEq] at hr
      exact ⟨hr.1, hr.2.symm⟩

/-- **(2, completeness up to `SuperLimitReached`)** whatever function the reference resolution
designates, the compiler designates the same one, or rejects the program with
`SuperLimitReached` (where `Sem.resolve` silently skips an import with too many `super.`). -/
theorem resolve_agrees_complete (fns : Array FunctionIr) (home : Nat) (hh : home < fns.size)
    (name : String) (j : Nat) (hs : Sem.resolve (fns.map toFnDef) home name = some j) :
    ∃ hj : j < fns.size,
      resolveSpec (jumpTableOf fns.toList) fns[home].ns fns[home].imports name =
        .ok (fns[j].handle, UInt32.ofNat fns[j].arguments.length) ∨
      resolveSpec (jumpTableOf fns.toList) fns[home].ns fns[home].imports name =
        .error .superLimitReached := by
  rw [sem_resolve_stream fns home hh] at hs
  rw [resolveSpec_eq_map]
  obtain ⟨n, hn⟩ := semWith_lk hs
  have hj : j < fns.size := by simpa using findFn_lt hn
  refine ⟨hj, (semWith_some hs).imp (fun hw => ?_) (fun hw => ?_)⟩
  · rw [hw]; simp only [Except.map, getD_toList fns j hj, tgt]
  · rw [hw]; rfl

/-- **(2)** with single-segment import keys (what `executeImports` produces: the key is the last
`.`-segment of the import path) the two resolutions agree exactly: the compiler resolves `name`
to `(h, a)` iff `Sem.resolve` designates a function with handle `h` and arity `a`. -/
theorem resolve_agrees (fns : Array FunctionIr) (home : Nat) (hh : home < fns.size)
    (hk : SimpleKeys fns[home].imports) (name : String) (h a : UInt32) :
    resolveSpec (jumpTableOf fns.toList) fns[home].ns fns[home].imports name = .ok (h, a) ↔
      ∃ j, ∃ hj : j < fns.size, Sem.resolve (fns.map toFnDef) home name = some j ∧
        fns[j].handle = h ∧ a = UInt32.ofNat fns[j].arguments.length := by
  constructor
  · exact resolve_agrees_sound fns home hh name h a
  · rintro ⟨j, hj, hs, rfl, rfl⟩
    obtain ⟨_, hr | hr⟩ := resolve_agrees_complete fns home hh name j hs
    · exact hr
    · -- impossible with simple keys: the compiler's error means the reference finds nothing
      have ht := resolveWith_toOption (lk := Sem.findFn (fns.map toFnDef)) (ns := fns[home].ns)
        (name := name) hk
      rw [← sem_resolve_stream fns home hh, hs, resolveSpec_error_iff.1 hr] at ht
      cases ht

/-- **(2)** `InvalidJump` is reported only for names the reference resolution cannot resolve -/
theorem resolve_invalidJump_sem (fns : Array FunctionIr) (home : Nat) (hh : home < fns.size)
    (name : String)
    (hr : resolveSpec (jumpTableOf fns.toList) fns[home].ns fns[home].imports name = .error .invalidJump) :
    Sem.resolve (fns.map toFnDef) home name = none := by
  rw [sem_resolve_stream fns home hh]
  exact resolveWith_invalidJump_sem (resolveSpec_error_iff.1 hr)

/-- **(2)** with single-segment import keys, every compiler error (`InvalidJump` *and*
`SuperLimitReached`) corresponds to an unresolvable name in the reference semantics -/
theorem resolve_error_sem (fns : Array FunctionIr) (home : Nat) (hh : home < fns.size)
    (hk : SimpleKeys fns[home].imports) (name : String) (k : CErrKind)
    (hr : resolveSpec (jumpTableOf fns.toList) fns[home].ns fns[home].imports name = .error k) :
    Sem.resolve (fns.map toFnDef) home name = none := by
  rw [sem_resolve_stream fns home hh, ← resolveWith_toOption hk, resolveSpec_error_iff.1 hr]
  rfl

/-- "exactly one": when the full names of the stream are pairwise distinct (which `compile`
enforces, see `compile_ok_names_unique`), a full name designates at most one function, so the
function found by `findFn` (first match) is the only one with that name. -/
theorem findFn_unique (fns : Array FunctionIr)
    (hd : (fns.toList.map FunctionIr.fullName).Pairwise (· ≠ ·)) (n : String) (j : Nat) (hj : j < fns.size) :
    Sem.findFn (fns.map toFnDef) n = some j ↔ fns[j].fullName = n := by
  unfold Sem.findFn
  rw [Array.findIdx?_eq_some_iff_getElem]
  simp only [Array.size_map, Array.getElem_map, toFnDef, beq_iff_eq, ← fullName_eq_joinNs]
  constructor
  · rintro ⟨_, h, _⟩; exact h
  · intro h
    refine ⟨hj, h, fun i hi he => ?_⟩
    have hp := List.pairwise_iff_getElem.1 hd i j (by simp; omega) (by simpa using hj) hi
    simp only [List.getElem_map, Array.getElem_toList] at hp
    exact hp (he.trans h.symm)

/-! ## 4. what `compile` rejects

`compile m std limit` first runs `intoIrStream` (which injects `std` as submodule `"std"`:
`withStd m std`), then `compileUnit`. The stages of `intoIrStream`, in order
(`intoIrStream_eq`): duplicate sibling modules anywhere in the tree ⇒ `DuplicateModule`; no
`main` in the root ⇒ `NoMain`; then the depth-first walk `flatten`, which reports the first of:
nesting ≥ `limit` ⇒ `RecursionLimitReached`, a rejected import list ⇒ `BadImport` /
`AmbigousImport`, an invalid function or submodule name ⇒ `BadFunctionName`.
`anyMod P M []` = "some module of the tree `M` (given its namespace) satisfies `P`". -/

/-- errors of `intoIrStream` carry the trace of the root -/
theorem compile_error_of_intoIrStream {m std : Module} {limit : Nat} {k : CErrKind}
    (h : intoIrStream m std limit = .error k) :
    compile m std limit = .error (.err k (some { ns := [], function := 0, indices := [] })) :=
  compile_error_iff.2 (.inl ⟨k, h, rfl⟩)

theorem compile_ok_iff {m std : Module} {limit : Nat} {p : Program} :
    compile m std limit = .ok p ↔
      ∃ unit s', intoIrStream m std limit = .ok unit ∧ (compileUnit unit).run {} = .ok ((), s') ∧
        p = { bytecode := s'.bytecode, data := s'.data, labels := resolveLog s'.labels,
              varIds := s'.varIds, varNames := s'.varNames, trace := resolveLog s'.trace } := by
  constructor
  · intro h
    obtain ⟨unit, s', hC, e⟩ := compile_run h
    exact ⟨unit, s', hC.ir, hC.run, e⟩
  · rintro ⟨unit, s', hi, hc, rfl⟩
    exact CompileRun.compiles ⟨hi, hc⟩

/-- **(4, success ⇒ well-formed)** if `intoIrStream` succeeds then: no two sibling modules have
the same name, the root has a `main`, and no module of the tree (with `std` injected) is nested
`≥ limit` deep, has a rejected import list, or has an invalid function / submodule name; and the
result is exactly `irStream`: every function of the tree, once, in walk order (`entries`), with
handle `from_u64(walk position)`, `main` swapped to position 0. -/
theorem intoIrStream_ok {m std : Module} {limit : Nat} {fns : Array FunctionIr}
    (h : intoIrStream m std limit = .ok fns) :
    anyMod (fun _ m => dupMods m) (withStd m std) [] = false ∧
    anyMod (fun ns _ => tooDeep limit ns) (withStd m std) [] = false ∧
    anyMod (fun _ m => importBad m) (withStd m std) [] = false ∧
    anyMod (fun _ m => badName m) (withStd m std) [] = false ∧
    ∃ mainIdx, m.functions.findIdx? (fun p => p.1 == "main") = some mainIdx ∧
      fns = irStream m std mainIdx := by
  obtain ⟨h1, h2, h3⟩ := (intoIrStream_ok_iff m std limit fns).1 h
  have hn : ∀ (P : List String → Module → Bool), (∀ ns m, P ns m = true → defect limit ns m = true) →
      anyMod P (withStd m std) [] = false := by
    intro P hP
    cases hp : anyMod P (withStd m std) [] with
    | false => rfl
    | true => rw [anyMod_mono hP hp] at h2; cases h2
  refine ⟨h1, hn _ ?_, hn _ ?_, hn _ ?_, h3⟩
  · intro ns m h; simp [defect, h]
  · intro ns m h; simp [defect, h]
  · intro ns m h; simp [defect, h]

theorem compile_rejects_defect {m std : Module} {limit : Nat}
    (h : anyMod (fun _ m => dupMods m) (withStd m std) [] = true ∨
         m.functions.findIdx? (fun p => p.1 == "main") = none ∨
         anyMod (defect limit) (withStd m std) [] = true) :
    ∃ k, compile m std limit = .error (.err k (some { ns := [], function := 0, indices := [] })) := by
  cases hi : intoIrStream m std limit with
  | error k => exact ⟨k, compile_error_of_intoIrStream hi⟩
  | ok fns =>
    obtain ⟨h1, h2, mi, h3, _⟩ := (intoIrStream_ok_iff m std limit fns).1 hi
    rcases h with h | h | h
    · rw [h1] at h; cases h
    · rw [h3] at h; cases h
    · rw [h2] at h; cases h

/-- **(4a)** a function name or a module name with `isNameValid = false` anywhere in the tree is
a compilation error -/
theorem compile_rejects_bad_name {m std : Module} {limit : Nat}
    (h : anyMod (fun _ m => badName m) (withStd m std) [] = true) :
    ∃ k, compile m std limit = .error (.err k (some { ns := [], function := 0, indices := [] })) :=
  compile_rejects_defect (Or.inr (Or.inr (anyMod_mono (fun ns m h => by simp [defect, h]) h)))

/-- **(4d)** a module whose import list `executeImports` rejects is a compilation error -/
theorem compile_rejects_bad_imports {m std : Module} {limit : Nat}
    (h : anyMod (fun _ m => importBad m) (withStd m std) [] = true) :
    ∃ k, compile m std limit = .error (.err k (some { ns := [], function := 0, indices := [] })) :=
  compile_rejects_defect (Or.inr (Or.inr (anyMod_mono (fun ns m h => by simp [defect, h]) h)))

/-- **(4f)** a module nested `≥ limit` deep is a compilation error -/
theorem compile_rejects_too_deep {m std : Module} {limit : Nat}
    (h : anyMod (fun ns _ => tooDeep limit ns) (withStd m std) [] = true) :
    ∃ k, compile m std limit = .error (.err k (some { ns := [], function := 0, indices := [] })) :=
  compile_rejects_defect (Or.inr (Or.inr (anyMod_mono (fun ns m h => by simp [defect, h]) h)))

mutual
  /-- number of nesting levels of a module tree (a module without submodules has height 1) -/
  def height : Module → Nat
    | .mk subs _ _ => heightSubs subs + 1
  def heightSubs : List (String × Module) → Nat
    | [] => 0
    | (_, s) :: rest => max (height s) (heightSubs rest)
end

theorem tooDeep_iff_all (limit : Nat) :
    (∀ m ns, anyMod (fun ns _ => tooDeep limit ns) m ns = true ↔ limit < ns.length + height m) ∧
    (∀ subs ns, anyModSubs (fun ns _ => tooDeep limit ns) subs ns = true ↔
      1 ≤ heightSubs subs ∧ limit ≤ ns.length + heightSubs subs) := by
  apply Module.tree_induct
  · intro subs fns imps ih ns
    simp only [anyMod, height, Bool.or_eq_true, ih]
    simp only [tooDeep, decide_eq_true_eq]
    omega
  · intro ns
    simp [anyModSubs, heightSubs]
  · intro n s rest ih1 ih2 ns
    simp only [anyModSubs, heightSubs, Bool.or_eq_true, ih1, ih2, List.length_append, List.length_cons,
      List.length_nil]
    have : 1 ≤ height s := by cases s; simp [height]
    omega

/-- **(4f)** a tree (with `std` injected) with more than `limit` nesting levels is a compilation error -/
theorem compile_rejects_height {m std : Module} {limit : Nat} (h : limit < height (withStd m std)) :
    ∃ k, compile m std limit = .error (.err k (some { ns := [], function := 0, indices := [] })) :=
  compile_rejects_too_deep (((tooDeep_iff_all limit).1 _ []).2 (by simpa using h))

theorem importErr_importBad {k : CErrKind} {m : Module} (h : importErr k m = true) : importBad m = true := by
  unfold importErr at h
  unfold importBad
  split at h
  · rfl
  · cases h

theorem importErr_kind {k : CErrKind} {m : Module} (h : importErr k m = true) :
    k = .badImport ∨ k = .ambigousImport := by
  unfold importErr at h
  split at h
  · next k' he =>
    obtain rfl : k' = k := by simpa using h
    exact (executeImports_error he).imp And.left And.left
  · cases h

theorem defectK_defect {limit : Nat} {k : CErrKind} {ns : List String} {m : Module}
    (h : defectK limit k ns m = true) : defect limit ns m = true := by
  unfold defectK at h
  unfold defect
  split at h
  · simp [h]
  · simp [h]
  · simp [importErr_importBad h]

theorem anyMod_exists_all {P : List String → Module → Bool} :
    (∀ m ns, anyMod P m ns = true → ∃ ns' m', P ns' m' = true) ∧
    (∀ l ns, anyModSubs P l ns = true → ∃ ns' m', P ns' m' = true) := by
  apply Module.tree_induct
  · intro subs fns imps ih ns
    simp only [anyMod, Bool.or_eq_true]
    rintro (h | h)
    · exact ⟨_, _, h⟩
    · exact ih ns h
  · intro ns h; simp [anyModSubs] at h
  · intro n s rest ih1 ih2 ns
    simp only [anyModSubs, Bool.or_eq_true]
    rintro (h | h)
    · exact ih1 _ h
    · exact ih2 _ h

/-- **(4, which kind)** the error kind names a defect that is really there: `DuplicateModule` ⇒
duplicate sibling modules; `NoMain` ⇒ no `main`; `RecursionLimitReached` ⇒ a module nested too
deep; `BadFunctionName` ⇒ an invalid function / module name; `BadImport` / `AmbigousImport` ⇒ a
module whose import list is rejected with that error. `intoIrStream` has no other errors. -/
theorem intoIrStream_error_sound {m std : Module} {limit : Nat} {k : CErrKind}
    (h : intoIrStream m std limit = .error k) :
    (k = .duplicateModule ∧ anyMod (fun _ m => dupMods m) (withStd m std) [] = true) ∨
    (k = .noMain ∧ m.functions.findIdx? (fun p => p.1 == "main") = none) ∨
    (k = .recursionLimitReached ∧ anyMod (fun ns _ => tooDeep limit ns) (withStd m std) [] = true) ∨
    (k = .badFunctionName ∧ anyMod (fun _ m => badName m) (withStd m std) [] = true) ∨
    ((k = .badImport ∨ k = .ambigousImport) ∧
      anyMod (fun _ m => importErr k m) (withStd m std) [] = true) := by
  rcases intoIrStream_error h with h1 | h1 | h1
  · exact Or.inl h1
  · exact Or.inr (Or.inl h1)
  · right; right
    by_cases hk1 : k = .recursionLimitReached
    · subst hk1; exact Or.inl ⟨rfl, h1⟩
    by_cases hk2 : k = .badFunctionName
    · subst hk2; exact Or.inr (Or.inl ⟨rfl, h1⟩)
    -- for every other kind `defectK limit k` is `importErr k`, which only holds of the two import errors
    have hdk : ∀ ns m', defectK limit k ns m' = importErr k m' := by
      intro ns m'; cases k <;> first | rfl | exact absurd rfl hk1 | exact absurd rfl hk2
    have h2 : anyMod (fun _ m => importErr k m) (withStd m std) [] = true :=
      anyMod_mono (fun ns m' hm => hdk ns m' ▸ hm) h1
    obtain ⟨_, m', hm⟩ := anyMod_exists_all.1 _ _ h2
    exact Or.inr (Or.inr ⟨importErr_kind hm, h2⟩)

/-- **(4, the kind when there is only one kind of defect)** if the tree has no duplicate sibling
modules and a `main`, and all the `flatten`-defects of the tree are of kind `k`, then the error is `k`. -/
theorem intoIrStream_error_only {m std : Module} {limit : Nat} {k : CErrKind}
    (hdup : anyMod (fun _ m => dupMods m) (withStd m std) [] = false)
    (hmain : m.functions.findIdx? (fun p => p.1 == "main") ≠ none)
    (hk : anyMod (defectK limit k) (withStd m std) [] = true)
    (honly : ∀ k', k' ≠ k → anyMod (defectK limit k') (withStd m std) [] = false) :
    intoIrStream m std limit = .error k := by
  cases hi : intoIrStream m std limit with
  | ok fns =>
    obtain ⟨_, h2, _⟩ := (intoIrStream_ok_iff m std limit fns).1 hi
    rw [anyMod_mono (fun _ _ => defectK_defect) hk] at h2; cases h2
  | error k' =>
    rcases intoIrStream_error hi with ⟨_, h1⟩ | ⟨_, h1⟩ | h1
    · rw [hdup] at h1; cases h1
    · exact absurd h1 hmain
    · by_cases he : k' = k
      · rw [he]
      · rw [honly k' he] at h1; cases h1

/-- **(4c)** duplicate sibling module names (anywhere in the tree, with `std` injected at the
root) are reported as `DuplicateModule`, and that is the only source of this error -/
theorem intoIrStream_duplicateModule_iff {m std : Module} {limit : Nat} :
    intoIrStream m std limit = .error .duplicateModule ↔
      anyMod (fun _ m => dupMods m) (withStd m std) [] = true := by
  constructor
  · intro h
    rcases intoIrStream_error_sound h with ⟨_, h1⟩ | ⟨h1, _⟩ | ⟨h1, _⟩ | ⟨h1, _⟩ | ⟨h1 | h1, _⟩
    · exact h1
    all_goals cases h1
  · intro h
    rw [intoIrStream_eq, h]; rfl

/-- **(4c)** a user submodule of the root named `std` collides with the injected standard library -/
theorem compile_rejects_user_std {m std : Module} {limit : Nat}
    (h : "std" ∈ m.submodules.map (·.1)) :
    compile m std limit =
      .error (.err .duplicateModule (some { ns := [], function := 0, indices := [] })) := by
  apply compile_error_of_intoIrStream
  rw [intoIrStream_duplicateModule_iff]
  cases m with
  | mk subs fns imps =>
    simp only [withStd, Module.submodules, Module.functions, Module.imports, anyMod, dupMods,
      List.map_append, List.map_cons, List.map_nil, Bool.or_eq_true]
    exact Or.inl (dupNames_append_singleton h)

/-- **(4c)** two submodules with the same name in one module ⇒ `DuplicateModule` -/
theorem compile_rejects_dup_modules {m std : Module} {limit : Nat}
    (h : anyMod (fun _ m => dupMods m) (withStd m std) [] = true) :
    compile m std limit =
      .error (.err .duplicateModule (some { ns := [], function := 0, indices := [] })) :=
  compile_error_of_intoIrStream (intoIrStream_duplicateModule_iff.2 h)

/-- **(4e)** no `main` in the root module (and no duplicate sibling modules) ⇔ `NoMain` -/
theorem intoIrStream_noMain_iff {m std : Module} {limit : Nat} :
    intoIrStream m std limit = .error .noMain ↔
      anyMod (fun _ m => dupMods m) (withStd m std) [] = false ∧
      m.functions.findIdx? (fun p => p.1 == "main") = none := by
  constructor
  · intro h
    have hd : anyMod (fun _ m => dupMods m) (withStd m std) [] = false := by
      cases hd : anyMod (fun _ m => dupMods m) (withStd m std) [] with
      | false => rfl
      | true => rw [intoIrStream_duplicateModule_iff.2 hd] at h; cases h
    refine ⟨hd, ?_⟩
    rcases intoIrStream_error_sound h with ⟨h1, _⟩ | ⟨_, h1⟩ | ⟨h1, _⟩ | ⟨h1, _⟩ | ⟨h1 | h1, _⟩
    · cases h1
    · exact h1
    all_goals cases h1
  · rintro ⟨h1, h2⟩
    rw [intoIrStream_eq, h1, h2]; rfl

/-- **(4d)** the import lists `executeImports` accepts: every import has a dot (at least two
`.`-segments) and the last segments are pairwise distinct; the table maps the last segment to
the whole path -/
theorem executeImports_accepts (imps : List String) (l : List (String × String)) :
    executeImports imps = .ok l ↔
      (∀ imp ∈ imps, dotted imp = true) ∧ (imps.map lastSeg).Pairwise (· ≠ ·) ∧
      l = imps.map (fun imp => (lastSeg imp, imp)) :=
  executeImports_ok_iff imps l

/-- **(4d)** an import without a dot ⇒ the list is rejected -/
theorem executeImports_badImport {imps : List String} :
    (∃ imp ∈ imps, dotted imp = false) → ∃ k, executeImports imps = .error k := by
  rintro ⟨imp, hi, hd⟩
  cases h : executeImports imps with
  | error k => exact ⟨k, rfl⟩
  | ok l =>
    have := ((executeImports_ok_iff imps l).1 h).1 imp hi
    rw [hd] at this; cases this

/-- **(4d)** two imports with the same last segment ⇒ the list is rejected -/
theorem executeImports_ambiguous {imps : List String} :
    ¬ (imps.map lastSeg).Pairwise (· ≠ ·) → ∃ k, executeImports imps = .error k := by
  intro hp
  cases h : executeImports imps with
  | error k => exact ⟨k, rfl⟩
  | ok l => exact absurd ((executeImports_ok_iff imps l).1 h).2.1 hp

/-- **(4d)** `BadImport` is reported only when some import has no dot, `AmbigousImport` only when two
imports have the same last segment -/
theorem executeImports_error_kinds {imps : List String} {k : CErrKind} (h : executeImports imps = .error k) :
    (k = .badImport ∧ ∃ imp ∈ imps, dotted imp = false) ∨
    (k = .ambigousImport ∧ ¬ (imps.map lastSeg).Pairwise (· ≠ ·)) :=
  executeImports_error h

theorem executeImports_single_bad (imp : String) (h : dotted imp = false) :
    executeImports [imp] = .error .badImport := by
  rw [executeImports_eq, List.foldlM_cons, importStep_eq, h]; rfl

theorem executeImports_pair_ambiguous (a b : String) (ha : dotted a = true) (hb : dotted b = true)
    (h : lastSeg a = lastSeg b) : executeImports [a, b] = .error .ambigousImport := by
  rw [executeImports_eq, List.foldlM_cons, importStep_eq, ha]
  simp only [Bool.true_eq_false, if_false, List.any_nil]
  show List.foldlM importStep ([] ++ [(lastSeg a, a)]) [b] = _
  rw [List.foldlM_cons, importStep_eq, hb]
  simp [h]

/-! ### (4b) duplicate function names

`intoIrStream` does not look at them; `addFunctions`, the first stage of `compileUnit`, rejects two
stream entries with the same full name. -/

theorem irStream_dupFns {m std : Module} {mi : Nat}
    (hmi : m.functions.findIdx? (fun p => p.1 == "main") = some mi)
    (hd : anyMod (fun _ m => dupFns m) (withStd m std) [] = true) :
    ¬ ((irStream m std mi).toList.map FunctionIr.fullName).Pairwise (· ≠ ·) := by
  intro hp
  refine dupFns_entries_all.1 _ _ hd ?_
  have h2 := (irStream_perm (m := m) (std := std) (mainIdx_lt hmi)).map FunctionIr.fullName
  rw [withHandles_fullName] at h2
  exact (h2.pairwise_iff (fun {a b} (hab : a ≠ b) => hab.symm)).1 hp

/-- **(4b)** `compile` succeeds only if the full dotted names of the stream are pairwise distinct
(so a full name designates exactly one function), and then no module of the tree has two
functions with the same name. -/
theorem compile_ok_names_unique {m std : Module} {limit : Nat} {p : Program}
    (h : compile m std limit = .ok p) :
    ∃ unit, intoIrStream m std limit = .ok unit ∧
      (unit.toList.map FunctionIr.fullName).Pairwise (· ≠ ·) ∧
      anyMod (fun _ m => dupFns m) (withStd m std) [] = false := by
  obtain ⟨unit, s', hC, _⟩ := compile_run h
  have hpw := (compileUnit_spec hC.run).2.1
  refine ⟨unit, hC.ir, hpw, ?_⟩
  cases hd : anyMod (fun _ m => dupFns m) (withStd m std) [] with
  | false => rfl
  | true =>
    obtain ⟨_, _, _, _, mi, hmi, rfl⟩ := intoIrStream_ok hC.ir
    exact absurd hpw (irStream_dupFns hmi hd)

/-- **(4b)** two functions with the same full dotted name — in particular two same-named
functions in one module — are reported as `DuplicateName` (when the tree is otherwise accepted
by `intoIrStream`) -/
theorem compile_rejects_dup_names {m std : Module} {limit : Nat} {unit : Array FunctionIr}
    (hi : intoIrStream m std limit = .ok unit)
    (hd : ¬ (unit.toList.map FunctionIr.fullName).Pairwise (· ≠ ·)) :
    compile m std limit =
      .error (.err .duplicateName (some { ns := [], function := 0, indices := [] })) := by
  have hne : unit.isEmpty = false := by
    cases hemp : unit.isEmpty with
    | false => rfl
    | true =>
      have : unit.toList = [] := by simpa using hemp
      rw [this] at hd; exact absurd List.Pairwise.nil hd
  cases ha : addFunctions unit.toList {} with
  | ok r => exact absurd ((addFunctions_ok _ _ _).1 ha).2.1 hd
  | error e =>
    have hc : (compileUnit unit).run {} = .error e := by
      show compileUnit unit {} = _
      unfold compileUnit
      simp only [hne, Bool.false_eq_true, if_false]
      exact bind_err.2 (.inl ha)
    rw [addFunctions_error _ _ _ ha] at hc
    exact compile_error_iff.2 (.inr ⟨unit, hi, hc⟩)

theorem compile_rejects_dup_fn_in_module {m std : Module} {limit : Nat} {unit : Array FunctionIr}
    (hi : intoIrStream m std limit = .ok unit)
    (hd : anyMod (fun _ m => dupFns m) (withStd m std) [] = true) :
    compile m std limit =
      .error (.err .duplicateName (some { ns := [], function := 0, indices := [] })) := by
  obtain ⟨_, _, _, _, mi, hmi, rfl⟩ := intoIrStream_ok hi
  exact compile_rejects_dup_names hi (irStream_dupFns hmi hd)

/-! ### success ⇒ the stream is the tree (converse soundness) -/

mutual
  /-- every function of a module tree with its namespace, in walk order -/
  def allFns : Module → List String → List (List String × String × Func)
    | .mk subs fns _, ns => fns.map (fun p => (ns, p.1, p.2)) ++ allFnsSubs subs ns
  def allFnsSubs : List (String × Module) → List String → List (List String × String × Func)
    | [], _ => []
    | (n, s) :: rest, ns => allFns s (ns ++ [n]) ++ allFnsSubs rest ns
end

/-- what a stream entry says about the source function -/
def srcOf (f : FunctionIr) : List String × String × Func := (f.ns, f.name, ⟨f.arguments, f.cards⟩)

theorem fnEntries_srcOf (ns : List String) (imports : List (String × String)) :
    ∀ (fns : List (String × Func)) (i : Nat),
      (fnEntries ns imports fns i).map srcOf = fns.map (fun p => (ns, p.1, p.2)) :=
  fnEntries_map ns imports _ _ fun _ _ => rfl

theorem entries_srcOf_all :
    (∀ m ns, (entries m ns).map srcOf = allFns m ns) ∧
    (∀ subs ns, (entriesSubs subs ns).map srcOf = allFnsSubs subs ns) := by
  apply Module.tree_induct
  · intro subs fns imps ih ns
    simp only [entries, allFns, List.map_append, fnEntries_srcOf, ih]
  · intro ns; rfl
  · intro n s rest ih1 ih2 ns
    simp only [entriesSubs, allFnsSubs, List.map_append, ih1, ih2]

theorem withHandles_srcOf : ∀ (k : Nat) (l : List FunctionIr), (withHandles k l).map srcOf = l.map srcOf :=
  withHandles_map _ fun _ _ => rfl

/-- **(4, converse soundness)** if `intoIrStream` succeeds, the stream is a permutation of the
walk `withHandles 0 (entries (withStd m std) [])` (only `main` and the first function are
swapped): every function of the tree (`allFns`, `std` included) appears exactly once, with its
namespace, name, arguments and cards; `entries` also fixes its index within its module and the
imports of its module as computed by `executeImports`. -/
theorem intoIrStream_stream {m std : Module} {limit : Nat} {fns : Array FunctionIr}
    (h : intoIrStream m std limit = .ok fns) :
    fns.toList.Perm (withHandles 0 (entries (withStd m std) [])) ∧
    (fns.toList.map srcOf).Perm (allFns (withStd m std) []) := by
  obtain ⟨_, _, _, _, mi, hmi, rfl⟩ := intoIrStream_ok h
  have hp := irStream_perm (m := m) (std := std) (mainIdx_lt hmi)
  refine ⟨hp, ?_⟩
  have := hp.map srcOf
  rw [withHandles_srcOf, entries_srcOf_all.1] at this
  exact this

theorem swap_head {α : Type} [Inhabited α] (a : Array α) (i : Nat) (h : i < a.size) :
    ((a.set! 0 a[i]!).set! i a[0]!)[0]! = a[i] := by
  have h0 : 0 < a.size := by omega
  simp only [Array.set!_eq_setIfInBounds]
  rw [getElem!_pos _ 0 (by simpa using h0), getElem!_pos a i h,
    Array.getElem_setIfInBounds (by simpa using h0), Array.getElem_setIfInBounds h0]
  split <;> simp_all

/-- **(4)** `intoIrStream` moves `main` to index 0: the first function of the stream is the root
module's `main` (the first function of the root with that name), with the root's imports and
the handle of its position in the walk -/
theorem intoIrStream_main_first {m std : Module} {limit : Nat} {fns : Array FunctionIr}
    (h : intoIrStream m std limit = .ok fns) :
    ∃ mi f, m.functions[mi]? = some ("main", f) ∧
      fns[0]! = { functionIndex := mi, name := "main", arguments := f.arguments, cards := f.cards,
                  ns := [], imports := importsOf m.imports,
                  handle := Hash.handleFromU64 (UInt64.ofNat mi) } := by
  obtain ⟨_, _, _, _, mi, hmi, rfl⟩ := intoIrStream_ok h
  obtain ⟨hlt, hname, _⟩ := List.findIdx?_eq_some_iff_getElem.1 hmi
  have hname' : (m.functions[mi]).1 = "main" := by simpa using hname
  refine ⟨mi, (m.functions[mi]).2, by rw [List.getElem?_eq_getElem hlt, ← hname'], ?_⟩
  -- the root's functions come first in the walk
  have hwalk : (withHandles 0 (entries (withStd m std) []))[mi]? = some {
      functionIndex := mi, name := "main", arguments := (m.functions[mi]).2.arguments,
      cards := (m.functions[mi]).2.cards, ns := [], imports := importsOf m.imports,
      handle := Hash.handleFromU64 (UInt64.ofNat mi) } := by
    rw [withHandles_getElem?]
    cases m with
    | mk subs fs imps =>
      simp only [withStd, entries, Module.functions, Module.imports] at hlt hname' ⊢
      rw [List.getElem?_append_left (by rw [fnEntries_length]; exact hlt), fnEntries_getElem?,
        List.getElem?_eq_getElem hlt]
      simp [hname']
  obtain ⟨hlen, hget⟩ := List.getElem?_eq_some_iff.1 hwalk
  unfold irStream
  rw [swap_head _ mi (by simpa using hlen)]
  simpa using hget

/-- `semFlatten` (defined like the reference table `Sem.flattenFns`) lists the
same functions as the compiler's stream, up to the swap of `main` -/
theorem intoIrStream_semFlatten {m std : Module} {limit : Nat} {fns : Array FunctionIr}
    (h : intoIrStream m std limit = .ok fns) :
    (fns.toList.map toFnDef).Perm (semFlatten (withStd m std) []) := by
  obtain ⟨_, _, h3, _, mi, hmi, rfl⟩ := intoIrStream_ok h
  have hp := (irStream_perm (m := m) (std := std) (mainIdx_lt hmi)).map toFnDef
  rw [withHandles_toFnDef, entries_toFnDef_all.1 _ _ h3] at hp
  exact hp

/-! ## 5. the operand of a static call is the handle of the designated function, and the label
table maps that handle to the start of the function's body -/

/-- **(5)** on success `encodeJump name` appends exactly `le32 h ++ le32 arity` for the `(h, arity)`
the resolution designates, and changes nothing else -/
theorem encodeJump_emits_target (name : String) (s : CState) (h a : UInt32)
    (hr : resolveSpec s.jumpTable s.ns s.imports name = .ok (h, a)) :
    (encodeJump name).run s =
      .ok ((), { s with bytecode := s.bytecode ++ (le32 h).toArray ++ (le32 a).toArray }) := by
  show encodeJump name s = _
  rw [encodeJump_run, hr]

/-- **(5)** `encodeJump` succeeds only if the name resolves -/
theorem encodeJump_ok_iff (name : String) (s s' : CState) :
    (encodeJump name).run s = .ok ((), s') ↔
      ∃ h a, resolveSpec s.jumpTable s.ns s.imports name = .ok (h, a) ∧
        s' = { s with bytecode := s.bytecode ++ (le32 h).toArray ++ (le32 a).toArray } := by
  show encodeJump name s = _ ↔ _
  rw [encodeJump_run]
  cases hr : resolveSpec s.jumpTable s.ns s.imports name with
  | error k => simp
  | ok r =>
    obtain ⟨h, a⟩ := r
    simp only [Except.ok.injEq, Prod.mk.injEq, true_and]
    constructor
    · intro e; exact ⟨h, a, ⟨rfl, rfl⟩, e.symm⟩
    · rintro ⟨h', a', ⟨rfl, rfl⟩, e⟩; exact e.symm

/-- **(5)** a name that does not resolve is a compilation error with the resolution's kind
(`InvalidJump` or `SuperLimitReached`) at the current card -/
theorem encodeJump_error (name : String) (s : CState) (k : CErrKind)
    (hr : resolveSpec s.jumpTable s.ns s.imports name = .error k) :
    (encodeJump name).run s = .error (.err k (some (traceOf s))) := by
  show encodeJump name s = _
  rw [encodeJump_run, hr]

/-- both static-call cards go through `encodeJump`: `Call name args` emits the arguments, then
`FunctionPointer`, the jump operand, `CallFunction`; `Function name` emits `FunctionPointer` and
the jump operand -/
theorem callCode_eq (name : String) (args : CM Unit) :
    callCode name args = (do args; pushInstr op.functionPointer; encodeJump name; pushInstr op.callFunction) := rfl

theorem processCard_function_eq (name : String) :
    processCard (.function name) = (do cardLabel; pushInstr op.functionPointer; encodeJump name) := by
  simp only [processCard]

/-- so inside the body of a function every `encodeJump` resolves against that function's own namespace and imports
and the full jump table -/
theorem processCard_keeps {c : Card} {s s' : CState} (h : (processCard c).run s = .ok ((), s')) :
    s'.jumpTable = s.jumpTable ∧ s'.ns = s.ns ∧ s'.imports = s.imports ∧
    ∃ t, s'.labels = s.labels ++ t := by
  have := kp_run (processCard_kp c) h
  exact ⟨this.jt, this.ns, this.imports, this.labels⟩

/-- **(5, labels)** for a successful `compile`: there is the stream `unit` and the final compiler
state `s'` such that
* every body was compiled against the jump table `jumpTableOf unit` (one entry per function, keyed
  by its full name, holding its handle and arity; it is the first argument of `BodyAt`);
* the body of `main = unit[0]` starts at position 0;
* for every other function `unit[i]` the label log contains `(unit[i].handle, pos)` where `pos` is
  the bytecode length when its body started (`BodyAt`: the cards of `unit[i]` were compiled from
  there, with `unit[i]`'s namespace and imports installed, and those bytes are still there at
  the end), its handle is not 0, and
* the program's label table maps a handle to its *last* insertion in the log; so if no other
  label (another function, a card, a closure) was inserted under the same 32-bit handle, the
  table maps `unit[i].handle` to `pos`. -/
theorem compile_function_labels {m std : Module} {limit : Nat} {p : Program}
    (h : compile m std limit = .ok p) :
    ∃ unit s', intoIrStream m std limit = .ok unit ∧ (compileUnit unit).run {} = .ok ((), s') ∧
      p.bytecode = s'.bytecode ∧
      (∀ hd, p.labels.find? (fun q => q.1 == hd) = s'.labels.reverse.find? (fun q => q.1 == hd)) ∧
      BodyAt (jumpTableOf unit.toList) unit[0]! 0 s' ∧
      ∀ i (hi : i < unit.size), 0 < i → unit[i].handle ≠ 0 ∧
        ∃ pos, (unit[i].handle, pos) ∈ s'.labels ∧
          BodyAt (jumpTableOf unit.toList) unit[i] pos s' ∧
          ((∀ q ∈ s'.labels, q.1 = unit[i].handle → q.2 = pos) →
            p.labels.find? (fun q => q.1 == unit[i].handle) = some (unit[i].handle, pos)) := by
  obtain ⟨unit, s', hC, rfl⟩ := compile_run h
  obtain ⟨_, _, _, hmain, hrest⟩ := compileUnit_spec hC.run
  refine ⟨unit, s', hC.ir, hC.run, rfl, fun hd => resolveLog_find _ _, hmain, fun i hi hi0 => ?_⟩
  obtain ⟨hne, pos, hl, hb⟩ := hrest i hi hi0
  exact ⟨hne, pos, hl, hb, fun hu => resolveLog_find_of_unique hl hu⟩

theorem compileUnit_bodyAt {unit : Array FunctionIr} {s' : CState}
    (hc : (compileUnit unit).run {} = .ok ((), s')) (i : Nat) (hi : i < unit.size) :
    ∃ pos, BodyAt (jumpTableOf unit.toList) unit[i] pos s' := by
  obtain ⟨_, _, _, hmain, hrest⟩ := compileUnit_spec hc
  rcases Nat.eq_zero_or_pos i with rfl | h0
  · exact ⟨0, getElem!_pos unit 0 hi ▸ hmain⟩
  · obtain ⟨_, pos, _, hb⟩ := hrest i hi h0
    exact ⟨pos, hb⟩

/-! ## C08, assembled: a program compiles only if every static call designates exactly one
function — the one the reference semantics designates — and the label table leads to its body -/

/-- `calls c` / `callsList cs`: the names of all `Call` and `Function` cards in a card tree -/
example : calls (.call "f" [.function "g", .bin .add (.call "h" []) .scalarNil]) = ["f", "g", "h"] := rfl

/-- in the run `(unit, sF)`, the static call or function reference `n` in the body of `unit[i]`
designates `unit[j]`: `n` resolves (four-step rules, namespace and imports of `unit[i]`) to the handle
and arity of `unit[j]`; `j` is what the reference lookup designates; no other function of the stream
has the full name of `unit[j]`; and for `j > 0` the handle is in the label log at the position where
the body of `unit[j]` starts, which the program's label table returns unless another label was
inserted under the same 32-bit handle -/
structure Designates (unit : Array FunctionIr) (sF : CState) (i : Nat) (hi : i < unit.size) (n : String)
    (j : Nat) (hj : j < unit.size) : Prop where
  resolves : resolveSpec (jumpTableOf unit.toList) unit[i].ns unit[i].imports n =
    .ok (unit[j].handle, UInt32.ofNat unit[j].arguments.length)
  sem : Sem.resolve (unit.map toFnDef) i n = some j
  only : ∀ j' (hj' : j' < unit.size), unit[j'].fullName = unit[j].fullName → j' = j
  body : 0 < j → ∃ pos, (unit[j].handle, pos) ∈ sF.labels ∧ BodyAt (jumpTableOf unit.toList) unit[j] pos sF ∧
    ((∀ q ∈ sF.labels, q.1 = unit[j].handle → q.2 = pos) →
      (programOf sF).labels.find? (fun q => q.1 == unit[j].handle) = some (unit[j].handle, pos))

theorem designates_of_resolves {unit : Array FunctionIr} {sF : CState}
    (hc : (compileUnit unit).run {} = .ok ((), sF)) {i : Nat} (hi : i < unit.size) {n : String} {hd a : UInt32}
    (hr : resolveSpec (jumpTableOf unit.toList) unit[i].ns unit[i].imports n = .ok (hd, a)) :
    ∃ j, ∃ hj : j < unit.size, Designates unit sF i hi n j hj ∧ hd = unit[j].handle ∧
      a = UInt32.ofNat unit[j].arguments.length := by
  obtain ⟨_, hpw, _, _, hrest⟩ := compileUnit_spec hc
  obtain ⟨j, hj, hs, rfl, rfl⟩ := resolve_agrees_sound unit i hi n hd a hr
  refine ⟨j, hj, ⟨hr, hs, fun j' hj' he => ?_, fun h0 => ?_⟩, rfl, rfl⟩
  · exact (List.getElem_inj (h₀ := by simpa using hj') (h₁ := by simpa using hj) hpw).1 (by simpa using he)
  · obtain ⟨_, pos, hl, hb⟩ := hrest j hj h0
    exact ⟨pos, hl, hb, fun hu => resolveLog_find_of_unique hl hu⟩

theorem calls_designate {unit : Array FunctionIr} {sF : CState}
    (hc : (compileUnit unit).run {} = .ok ((), sF)) {i : Nat} (hi : i < unit.size) {n : String}
    (hn : n ∈ callsList unit[i].cards) : ∃ j, ∃ hj : j < unit.size, Designates unit sF i hi n j hj := by
  obtain ⟨pos, hb⟩ := compileUnit_bodyAt hc i hi
  obtain ⟨⟨hd, a⟩, hr⟩ := hb.resolves n hn
  obtain ⟨j, hj, d, _⟩ := designates_of_resolves hc hi hr
  exact ⟨j, hj, d⟩

/-- **(C08)** if `compile` succeeds then, for the stream `unit` of the program: the full names
are pairwise distinct, and every name `n` of a static call or function reference anywhere in the
body of any function `unit[i]` resolves — under the four-step rules, with `unit[i]`'s namespace and
imports — to the handle and arity of a function `unit[j]`, and `j` is the function the reference
semantics `Sem.resolve` designates for that call. -/
theorem compile_calls_resolve {m std : Module} {limit : Nat} {p : Program}
    (h : compile m std limit = .ok p) :
    ∃ unit, intoIrStream m std limit = .ok unit ∧
      (unit.toList.map FunctionIr.fullName).Pairwise (· ≠ ·) ∧
      ∀ i (hi : i < unit.size), ∀ n ∈ callsList unit[i].cards,
        ∃ j, ∃ hj : j < unit.size,
          resolveSpec (jumpTableOf unit.toList) unit[i].ns unit[i].imports n =
            .ok (unit[j].handle, UInt32.ofNat unit[j].arguments.length) ∧
          Sem.resolve (unit.map toFnDef) i n = some j ∧
          (∀ j' (hj' : j' < unit.size), unit[j'].fullName = unit[j].fullName → j' = j) := by
  obtain ⟨unit, sF, hC, rfl⟩ := compile_run h
  refine ⟨unit, hC.ir, (compileUnit_spec hC.run).2.1, fun i hi n hn => ?_⟩
  obtain ⟨j, hj, d⟩ := calls_designate hC.run hi hn
  exact ⟨j, hj, d.resolves, d.sem, d.only⟩

/-- **(C08, where the handle leads)** … and the designated function `unit[j]`, if it is not `main`, has its
handle in the label log at the position where its body starts; the program's label table maps
the handle there unless another label was later inserted under the same 32-bit handle. For
`j = 0` (`main`, whose body starts at position 0) the compiler inserts **no** label: a static
call of `main` compiles, but its handle is not in the label table (unless by collision) — known
finding K3 (an instance: `C10.entry_ref_not_wf`; there is no general theorem). -/
theorem compile_call_target_labelled {m std : Module} {limit : Nat} {p : Program}
    (h : compile m std limit = .ok p) :
    ∃ unit s', intoIrStream m std limit = .ok unit ∧ (compileUnit unit).run {} = .ok ((), s') ∧
      p.bytecode = s'.bytecode ∧
      ∀ i (hi : i < unit.size), ∀ n ∈ callsList unit[i].cards,
        ∃ j, ∃ hj : j < unit.size,
          resolveSpec (jumpTableOf unit.toList) unit[i].ns unit[i].imports n =
            .ok (unit[j].handle, UInt32.ofNat unit[j].arguments.length) ∧
          (0 < j → ∃ pos, (unit[j].handle, pos) ∈ s'.labels ∧
            BodyAt (jumpTableOf unit.toList) unit[j] pos s' ∧
            ((∀ q ∈ s'.labels, q.1 = unit[j].handle → q.2 = pos) →
              p.labels.find? (fun q => q.1 == unit[j].handle) = some (unit[j].handle, pos))) := by
  obtain ⟨unit, sF, hC, rfl⟩ := compile_run h
  refine ⟨unit, sF, hC.ir, hC.run, rfl, fun i hi n hn => ?_⟩
  obtain ⟨j, hj, d⟩ := calls_designate hC.run hi hn
  exact ⟨j, hj, d.resolves, d.body⟩

/-! ## 3. handles

`compileUnit` has **no duplicate-handle check**: `insertLabel` only rejects the handle 0 (a
panic in the implementation), a second insertion under an existing handle silently overwrites
the first (`resolveLog`: later wins). The handles are `Hash.handleFromU64 (walk position)`, a
64→32 bit mixing hash: injectivity on stream positions is an *assumption* (`HandleInj`), it is
not provable from the definition (and false on all of `UInt64` by counting). -/

/-- **(3)** if `Handle::from_u64` is injective on the first `unit.size` positions, the function
handles of the stream are pairwise distinct -/
theorem handles_distinct {m std : Module} {limit : Nat} {unit : Array FunctionIr}
    (h : intoIrStream m std limit = .ok unit) (hinj : HandleInj unit.size) :
    (unit.toList.map (·.handle)).Pairwise (· ≠ ·) := by
  obtain ⟨hp, _⟩ := intoIrStream_stream h
  have hlen : unit.size = (entries (withStd m std) []).length := by
    have := hp.length_eq; simpa using this
  rw [hlen] at hinj
  have h1 := withHandles_handles_nodup hinj
  have h2 := hp.map (·.handle)
  exact (h2.pairwise_iff (fun {a b} (hab : a ≠ b) => hab.symm)).2 h1

/-- the assumption holds (by evaluation) for programs with up to 64 functions (`std` included) -/
theorem handleInj_64 : HandleInj 64 := by
  have h : ∀ i, i < 64 → ∀ j, j < i →
      Hash.handleFromU64 (UInt64.ofNat i) ≠ Hash.handleFromU64 (UInt64.ofNat j) := by decide +kernel
  intro i j hi hj he
  rcases Nat.lt_trichotomy i j with hlt | heq | hgt
  · exact absurd he.symm (h j hj i hlt)
  · exact heq
  · exact absurd he (h i hi j hgt)

theorem HandleInj.mono {n k : Nat} (h : HandleInj n) (hk : k ≤ n) : HandleInj k :=
  fun i j hi hj => h i j (by omega) (by omega)

/-- what the code does guarantee: every labelled function handle is non-zero -/
theorem compile_handles_nonzero {m std : Module} {limit : Nat} {p : Program}
    (h : compile m std limit = .ok p) :
    ∃ unit, intoIrStream m std limit = .ok unit ∧ ∀ i (hi : i < unit.size), 0 < i → unit[i].handle ≠ 0 := by
  obtain ⟨unit, s', hi, _, _, _, _, hrest⟩ := compile_function_labels h
  exact ⟨unit, hi, fun i h1 h2 => (hrest i h1 h2).1⟩

/-! ## non-vacuity: a small concrete program

`String.splitOn` is defined by well-founded recursion and does not reduce in the kernel. The two
steps of the lookup that split strings have twins `fnImportStepT`, `modImportStepT` in which every
`splitOn` is its step-bounded copy (`Lemmas/SplitOn.lean`); a closed lookup is rewritten into them and
evaluated by the kernel. The other `splitOn` facts are `rw [splitOn_eq]; decide +kernel`.

The tree behind the hand-made function table `exFns` (handles are arbitrary distinct numbers). It is not the
stream of a compilable module: `executeImports` rejects the root's undotted import `lib` (example below), so the
`ex_*` theorems are instances of `resolveSpec` on this table, not of `compile`:
```
root          main(), f(a)            imports lib.g, lib, lib.inner
└ lib         g(x,y), f()
  ├ inner     k()                     imports super.g, super.super.super.x, super.sib
  └ sib       q(z)
``` -/

def rootImps : List (String × String) := [("g", "lib.g"), ("lib", "lib"), ("inner", "lib.inner")]
def innerImps : List (String × String) :=
  [("g", "super.g"), ("x", "super.super.super.x"), ("sib", "super.sib")]

def mkFn (i : Nat) (name : String) (args : List String) (ns : List String)
    (imps : List (String × String)) (h : UInt32) : FunctionIr :=
  { functionIndex := i, name := name, arguments := args, cards := [], ns := ns, imports := imps, handle := h }

def exFns : Array FunctionIr := #[
  mkFn 0 "main" [] [] rootImps 10,
  mkFn 1 "f" ["a"] [] rootImps 11,
  mkFn 0 "g" ["x", "y"] ["lib"] [] 12,
  mkFn 1 "f" [] ["lib"] [] 13,
  mkFn 0 "k" [] ["lib", "inner"] innerImps 14,
  mkFn 0 "q" ["z"] ["lib", "sib"] [] 15]

theorem so_libg : "lib.g".splitOn "." = ["lib", "g"] := by rw [splitOn_eq]; decide +kernel
theorem so_lib : "lib".splitOn "." = ["lib"] := by rw [splitOn_eq]; decide +kernel
theorem so_libinner : "lib.inner".splitOn "." = ["lib", "inner"] := by rw [splitOn_eq]; decide +kernel
theorem so_af : "a.f".splitOn "." = ["a", "f"] := by rw [splitOn_eq]; decide +kernel
theorem so_bf : "b.f".splitOn "." = ["b", "f"] := by rw [splitOn_eq]; decide +kernel

section
local instance decEqExcept {ε α : Type} [DecidableEq ε] [DecidableEq α] : DecidableEq (Except ε α)
  | .ok a, .ok b => if h : a = b then isTrue (h ▸ rfl) else isFalse fun e => h (Except.ok.inj e)
  | .error a, .error b => if h : a = b then isTrue (h ▸ rfl) else isFalse fun e => h (Except.error.inj e)
  | .ok _, .error _ => isFalse nofun
  | .error _, .ok _ => isFalse nofun

/-- absolute dotted path (from `main`) -/
theorem ex_absolute : resolveSpec (jumpTableOf exFns.toList) [] rootImps "lib.g" = .ok (12, 2) := by
  unfold resolveSpec resolveWith; rw [fnImportStepT.2, modImportStepT.2]; decide +kernel

/-- the caller's own module (from `lib.f`): `g` is `lib.g` -/
theorem ex_same_module : resolveSpec (jumpTableOf exFns.toList) ["lib"] [] "g" = .ok (12, 2) := by
  unfold resolveSpec resolveWith; rw [fnImportStepT.2, modImportStepT.2]; decide +kernel

/-- the absolute path is tried FIRST: from inside `lib`, the short name `f` designates the root
function `f` (handle 11, arity 1), not the caller's sibling `lib.f` (handle 13) — a root function
shadows a same-module function with the same short name (both in the compiler and in `Sem.resolve`) -/
theorem ex_root_shadows_same_module :
    resolveSpec (jumpTableOf exFns.toList) ["lib"] [] "f" = .ok (11, 1) := by
  unfold resolveSpec resolveWith; rw [fnImportStepT.2, modImportStepT.2]; decide +kernel

/-- a function import (from `main`: `g` ↦ `lib.g`) -/
theorem ex_fn_import : resolveSpec (jumpTableOf exFns.toList) [] rootImps "g" = .ok (12, 2) := by
  unfold resolveSpec resolveWith; rw [fnImportStepT.2, modImportStepT.2]; decide +kernel

/-- a function import with `super.` (from `lib.inner.k`: `g` ↦ `super.g` = `lib.g`) -/
theorem ex_fn_import_super :
    resolveSpec (jumpTableOf exFns.toList) ["lib", "inner"] innerImps "g" = .ok (12, 2) := by
  unfold resolveSpec resolveWith; rw [fnImportStepT.2, modImportStepT.2]; decide +kernel

/-- a module-prefix import (from `main`: `inner` ↦ `lib.inner`, so `inner.k` is `lib.inner.k`) -/
theorem ex_mod_import : resolveSpec (jumpTableOf exFns.toList) [] rootImps "inner.k" = .ok (14, 0) := by
  unfold resolveSpec resolveWith; rw [fnImportStepT.2, modImportStepT.2]; decide +kernel

/-- a module-prefix import through `super.` resolves: from `lib.inner.k`, with the import
`super.sib`, the call `sib.q` is `lib.sib.q`. (A defect repaired in /repo 8247431: the compiler
looked up `lib.super.sib.sib` — the `super.` segment kept, the module name repeated — and never
found `lib.sib.q`.) -/
theorem ex_mod_import_super :
    resolveSpec (jumpTableOf exFns.toList) ["lib", "inner"] innerImps "sib.q" = .ok (15, 1) ∧
    look (jumpTableOf exFns.toList) "lib.sib.q" = some (15, 1) := by
  unfold resolveSpec resolveWith; rw [fnImportStepT.2, modImportStepT.2]; decide +kernel

theorem ex_unresolvable : resolveSpec (jumpTableOf exFns.toList) [] rootImps "nope" = .error .invalidJump := by
  unfold resolveSpec resolveWith; rw [fnImportStepT.2, modImportStepT.2]; decide +kernel

theorem ex_super_limit :
    resolveSpec (jumpTableOf exFns.toList) ["lib", "inner"] innerImps "x" = .error .superLimitReached := by
  unfold resolveSpec resolveWith; rw [fnImportStepT.2, modImportStepT.2]; decide +kernel

/-- … and `encodeJump` then emits exactly the handle and the arity -/
example (s : CState) (hjt : s.jumpTable = jumpTableOf exFns.toList) (hns : s.ns = []) (hi : s.imports = rootImps) :
    (encodeJump "inner.k").run s =
      .ok ((), { s with bytecode := s.bytecode ++ (le32 14).toArray ++ (le32 0).toArray }) :=
  encodeJump_emits_target _ _ _ _ (by rw [hjt, hns, hi]; exact ex_mod_import)

/-- the reference semantics designates a function with the same handle -/
example : ∃ j, ∃ hj : j < exFns.size, Sem.resolve (exFns.map toFnDef) 0 "inner.k" = some j ∧
    exFns[j].handle = 14 ∧ (0 : UInt32) = UInt32.ofNat exFns[j].arguments.length :=
  resolve_agrees_sound exFns 0 (by decide) "inner.k" 14 0 ex_mod_import

example : Sem.resolve (exFns.map toFnDef) 0 "nope" = none :=
  resolve_invalidJump_sem exFns 0 (by decide) "nope" ex_unresolvable

example : ∃ j, ∃ hj : j < exFns.size, Sem.resolve (exFns.map toFnDef) 4 "sib.q" = some j ∧
    exFns[j].handle = 15 ∧ (1 : UInt32) = UInt32.ofNat exFns[j].arguments.length :=
  resolve_agrees_sound exFns 4 (by decide) "sib.q" 15 1 ex_mod_import_super.1

/-! ### the one place where the two lookup orders differ

`Sem.resolve` treats an import with too many `super.` as a miss and goes on with the next step;
the compiler stops with `SuperLimitReached`. With import keys that contain a dot (which
`executeImports` never produces: the key is the last `.`-segment) the reference can therefore
resolve a name the compiler rejects. At the level of the generic steps (`Sem.resolve` is
`semWith (Sem.findFn fns)`, `resolveSpec` is `resolveWith (look jt)`): -/

def cexLk (n : String) : Option Nat := if n = "m.b" then some 1 else none
def cexImps : List (String × String) := [("a.b", "super.x"), ("a", "m")]

theorem orders_differ_with_dotted_keys :
    resolveWith cexLk [] cexImps "a.b" = .error .superLimitReached ∧
    semWith cexLk [] cexImps "a.b" = some 1 := by
  unfold resolveWith semWith; rw [fnImportStepT.2, modImportStepT.2]; decide +kernel

theorem orders_differ : resolveWith cexLk [] cexImps "a.b" ≠ (match semWith cexLk [] cexImps "a.b" with
    | some j => .ok j | none => .error .invalidJump) := by
  rw [orders_differ_with_dotted_keys.1, orders_differ_with_dotted_keys.2]
  intro h; cases h
end

/-- `cexImps` does not have single-segment keys, as it must -/
example : ¬ SimpleKeys cexImps := fun h =>
  h ("a.b", "super.x") (by simp [cexImps]) "a" "b" [] (by rw [splitOn_eq]; decide +kernel)

/-- unproven (needs a theory of `String.splitOn`): the keys `executeImports` produces are single
segments, i.e. the hypothesis `SimpleKeys` of `resolve_agrees` always holds for streams produced by
`intoIrStream` (`stream_imports`). It is checked on the example table `rootImps` below. -/
def executeImports_simpleKeys_Full : Prop :=
  ∀ imps l, executeImports imps = .ok l → SimpleKeys l

example : SimpleKeys rootImps := by
  intro p hp pre x rest
  simp only [rootImps, List.mem_cons, List.not_mem_nil, or_false] at hp
  rcases hp with rfl | rfl | rfl <;> simp [splitOn_eq, show splitOnF "g" "." = ["g"] by decide +kernel,
    show splitOnF "lib" "." = ["lib"] by decide +kernel, show splitOnF "inner" "." = ["inner"] by decide +kernel]

theorem stream_imports {m std : Module} {limit : Nat} {unit : Array FunctionIr}
    (h : intoIrStream m std limit = .ok unit) (i : Nat) (hi : i < unit.size) :
    ∃ imps, executeImports imps = .ok unit[i].imports := by
  obtain ⟨hp, _⟩ := intoIrStream_stream h
  obtain ⟨_, _, h3, _⟩ := intoIrStream_ok h
  have hm : unit[i] ∈ unit.toList := by simp
  obtain ⟨g, hg, he⟩ := withHandles_mem_imports _ _ _ (hp.mem_iff.1 hm)
  obtain ⟨imps, hi'⟩ := entries_imports_all.1 _ _ h3 g hg
  exact ⟨imps, by rw [← he]; exact hi'⟩

/-- **(2, for compiled programs, modulo the string fact)** assuming
`executeImports_simpleKeys_Full`, on the stream of any program accepted by `intoIrStream` the
compiler's resolution and `Sem.resolve` agree exactly, for every caller and every name -/
theorem resolve_agrees_stream (hfull : executeImports_simpleKeys_Full)
    {m std : Module} {limit : Nat} {unit : Array FunctionIr}
    (h : intoIrStream m std limit = .ok unit) (home : Nat) (hh : home < unit.size) (name : String)
    (hd a : UInt32) :
    resolveSpec (jumpTableOf unit.toList) unit[home].ns unit[home].imports name = .ok (hd, a) ↔
      ∃ j, ∃ hj : j < unit.size, Sem.resolve (unit.map toFnDef) home name = some j ∧
        unit[j].handle = hd ∧ a = UInt32.ofNat unit[j].arguments.length := by
  obtain ⟨imps, hi⟩ := stream_imports h home hh
  exact resolve_agrees unit home hh (hfull imps _ hi) name hd a

/-! ### rejections on concrete inputs -/

example : isNameValid "super" = false := by decide +kernel
example : isNameValid "" = false := by decide +kernel
example : isNameValid "a.b" = false := by decide +kernel
example : isNameValid "foo_1" = true := by decide +kernel

/-- the two dotted imports of the example root, as `executeImports` tabulates them (its third import
`lib` has no dot and is rejected: next example; `rootImps` is written by hand) -/
example : executeImports ["lib.g", "lib.inner"] = .ok [("g", "lib.g"), ("inner", "lib.inner")] := by
  rw [executeImports_accepts]
  simp [dotted, lastSeg, so_libg, so_libinner]

example : executeImports ["lib"] = .error .badImport :=
  executeImports_single_bad _ (by simp [dotted, so_lib])

example : executeImports ["a.f", "b.f"] = .error .ambigousImport :=
  executeImports_pair_ambiguous _ _ (by simp [dotted, so_af]) (by simp [dotted, so_bf])
    (by simp [lastSeg, so_af, so_bf])

example (std : Module) (limit : Nat) :
    compile (.mk [("std", .mk [] [] [])] [("main", ⟨[], []⟩)] []) std limit =
      .error (.err .duplicateModule (some { ns := [], function := 0, indices := [] })) :=
  compile_rejects_user_std (by simp [Module.submodules])

example (limit : Nat) :
    intoIrStream (.mk [] [("start", ⟨[], []⟩)] []) (.mk [] [] []) limit = .error .noMain := rfl

/-- `limit ≥ 2`, so that the nesting is fine (the injected `std` is one level down) -/
example : intoIrStream (.mk [] [("main", ⟨[], []⟩), ("a.b", ⟨[], []⟩)] []) (.mk [] [] []) 2 =
    .error .badFunctionName := rfl

example : intoIrStream (.mk [("a", .mk [("b", .mk [] [] [])] [] [])] [("main", ⟨[], []⟩)] []) (.mk [] [] []) 2 =
    .error .recursionLimitReached := rfl

example : ∃ unit, intoIrStream (.mk [] [("main", ⟨[], []⟩), ("f", ⟨[], []⟩), ("f", ⟨["x"], []⟩)] [])
      (.mk [] [] []) 2 = .ok unit ∧
    compile (.mk [] [("main", ⟨[], []⟩), ("f", ⟨[], []⟩), ("f", ⟨["x"], []⟩)] []) (.mk [] [] []) 2 =
      .error (.err .duplicateName (some { ns := [], function := 0, indices := [] })) :=
  ⟨_, rfl, rfl⟩

end Cao.C08
