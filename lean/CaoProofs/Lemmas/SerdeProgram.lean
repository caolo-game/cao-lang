import CaoProofs.Lemmas.SerdeTables
import CaoProofs.Lemmas.Dispatch
/-!
# Serialization of compiled programs (`CaoCompiledProgram`)

`CProgram` is the compiled program with its four tables as the Rust keeps them
(`labels: HandleTable<Label>`, `variables.ids / names: HandleTable<_>`,
`trace: CaoHashMap<u32, Trace>`); the derived `Serialize`/`Deserialize` impls go field by field, the
byte vectors and the version string are handled by the (trusted) format, the tables by the impls
modelled in `SerdeTables.lean`.

The interpreter model (`Vm.Prog`) looks tables up only through `find?` on their entry lists
(`p.labels.find?` in `step.callScript` / `exec`, `p.trace.find?` in `errTrace`), so programs whose
tables are equal *as maps* run identically: `exec_congr`, `run_congr`, `errTrace_congr`.
-/
namespace Cao.Serde
open Cao Cao.Vm Cao.Compiler

/-! ## equal lookups give equal runs -/

/-- the two programs agree on everything the interpreter reads -/
structure ProgEq (p p' : Prog) : Prop where
  bytecode : p.bytecode = p'.bytecode
  data : p.data = p'.data
  labels : ∀ l, p.labels.find? (fun x => x.1 == l) = p'.labels.find? (fun x => x.1 == l)
  trace : ∀ a, p.trace.find? (fun x => x.1 == a) = p'.trace.find? (fun x => x.1 == a)

theorem ProgEq.refl (p : Prog) : ProgEq p p := ⟨rfl, rfl, fun _ => rfl, fun _ => rfl⟩
theorem ProgEq.symm {p p' : Prog} (h : ProgEq p p') : ProgEq p' p :=
  ⟨h.bytecode.symm, h.data.symm, fun l => (h.labels l).symm, fun a => (h.trace a).symm⟩
theorem ProgEq.trans {p q r : Prog} (h1 : ProgEq p q) (h2 : ProgEq q r) : ProgEq p r :=
  ⟨h1.bytecode.trans h2.bytecode, h1.data.trans h2.data, fun l => (h1.labels l).trans (h2.labels l),
   fun a => (h1.trace a).trans (h2.trace a)⟩

theorem callScript_congr {p p' : Prog} (h : ProgEq p p')
    (src ip : Nat) (label : UInt32) (arity : Nat) (closure : Option Nat) :
    step.callScript p src ip label arity closure = step.callScript p' src ip label arity closure := by
  unfold step.callScript
  simp only [h.labels]

theorem step_congr {p p' : Prog} (h : ProgEq p p') (re : Reenter) (src : Nat) :
    step p re src = step p' re src := by
  unfold step
  simp only [h.bytecode, h.data, callScript_congr h]

theorem enterScript_congr {p p' : Prog} (h : ProgEq p p') (gas : Nat)
    (ih : ∀ t s, exec p gas t s = exec p' gas t s) (s : VmState) (l : UInt32) (ar : Nat)
    (c : Option Nat) : enterScript p gas s l ar c = enterScript p' gas s l ar c := by
  unfold enterScript
  simp only [h.labels, h.bytecode, ih]

theorem exec_congr {p p' : Prog} (h : ProgEq p p') :
    ∀ (gas : Nat) (t : Task) (s : VmState), exec p gas t s = exec p' gas t s := by
  intro gas
  induction gas with
  | zero => intro t s; rw [exec_zero, exec_zero]
  | succ gas ih =>
    have hre : reenterOf p gas = reenterOf p' gas := by
      funext f
      unfold reenterOf
      have : exec p gas (.call f) = exec p' gas (.call f) := funext (ih (.call f))
      rw [this]
    intro t s
    cases t with
    | loop ip =>
      rw [exec_loop, exec_loop, step_congr h, hre, h.bytecode]
      simp only [ih]
    | call f =>
      rw [exec_call, exec_call, hre]
      simp only [enterScript_congr h gas ih]

theorem runLoop_congr {p p' : Prog} (h : ProgEq p p') (gas ip : Nat) (s : VmState) :
    runLoop p gas ip s = runLoop p' gas ip s := by
  unfold runLoop
  rw [exec_congr h]

theorem run_congr {p p' : Prog} (h : ProgEq p p') (n : Nat) (s : VmState) :
    run p n s = run p' n s := by
  unfold run
  simp only [runLoop_congr h]

theorem errTrace_congr {p p' : Prog} (h : ProgEq p p') (e : RunErr) :
    errTrace p e = errTrace p' e := by
  unfold errTrace
  simp only [h.trace]

/-! ## association lists -/

theorem find?_eq_lookup {K V : Type} [DecidableEq K] (l : List (K × V)) (k : K) :
    l.find? (fun x => x.1 == k) = (AL.lookup l k).map (fun v => (k, v)) := by
  induction l with
  | nil => rfl
  | cons x l ih =>
    obtain ⟨k', v⟩ := x
    simp only [List.find?_cons, AL.lookup_cons]
    by_cases hk : k' = k
    · subst hk; simp
    · have : (k' == k) = false := by simp [hk]
      simp only [this, hk, if_false]
      exact ih

theorem lookup_perm {K V : Type} [DecidableEq K] {l l' : List (K × V)} (wf : AL.WF l)
    (hp : l.Perm l') (k : K) : AL.lookup l k = AL.lookup l' k := by
  have wf' : AL.WF l' := (hp.map Prod.fst).nodup_iff.mp wf
  cases h : AL.lookup l k with
  | some v =>
    have := (AL.lookup_iff_mem wf k v).mp h
    exact ((AL.lookup_iff_mem wf' k v).mpr (hp.mem_iff.mp this)).symm
  | none =>
    symm
    rw [AL.lookup_eq_none] at h ⊢
    intro hk
    exact h ((hp.map Prod.fst).mem_iff.mpr hk)

/-- `hln`, `htn`: `find?` returns the first match, so with a duplicated key the order matters -/
theorem progEq_of_perm {p p' : Prog} (hb : p.bytecode = p'.bytecode) (hd : p.data = p'.data)
    (hl : p.labels.Perm p'.labels) (hln : (p.labels.map Prod.fst).Nodup)
    (ht : p.trace.Perm p'.trace) (htn : (p.trace.map Prod.fst).Nodup) : ProgEq p p' where
  bytecode := hb
  data := hd
  labels := fun l => by rw [find?_eq_lookup, find?_eq_lookup, lookup_perm hln hl]
  trace := fun a => by rw [find?_eq_lookup, find?_eq_lookup, lookup_perm htn ht]

/-- the side condition is needed: with a duplicated label the two orders resolve differently -/
theorem progEq_needs_nodup :
    let p : Prog := { bytecode := #[], data := #[], labels := [(1, 0), (1, 5)], varNames := [], trace := [] }
    let p' : Prog := { p with labels := [(1, 5), (1, 0)] }
    p.labels.Perm p'.labels ∧ ¬ ProgEq p p' := by
  refine ⟨List.Perm.swap _ _ _, fun h => ?_⟩
  have := h.labels 1
  revert this
  decide

/-! ## the compiled program and its serialized form -/

structure CProgram where
  bytecode : Array UInt8
  data : Array UInt8
  labels : HTable Nat
  varIds : HTable Nat
  varNames : HTable String
  version : String
  trace : HMap Nat Trace

/-- what the derived `Serialize` hands to the format -/
structure SProgram where
  bytecode : Array UInt8
  data : Array UInt8
  labels : List (UInt32 × Nat)
  varIds : List (UInt32 × Nat)
  varNames : List (UInt32 × String)
  version : String
  trace : List (Nat × Trace)

def serializeProgram (p : CProgram) : SProgram :=
  { bytecode := p.bytecode, data := p.data, labels := htSerialize p.labels,
    varIds := htSerialize p.varIds, varNames := htSerialize p.varNames, version := p.version,
    trace := hmSerialize p.trace }

/-- the derived `Deserialize`: fields in declaration order. `fmt len` is the size hint the format
    gives for a map of `len` entries (`some len` for bincode / CBOR, `none` for JSON / YAML). -/
def deserializeProgram (hashOf : Nat → UInt64) (fmt : Nat → Option Nat) (sp : SProgram)
    (al : Alloc) : Alloc × Res CProgram :=
  match htDeserialize (hintCap (fmt sp.labels.length)) sp.labels al with
  | (al, .allocErr) => (al, .allocErr)
  | (al, .panic w) => (al, .panic w)
  | (al, .ok labels) =>
    match htDeserialize (hintCap (fmt sp.varIds.length)) sp.varIds al with
    | (al, .allocErr) => (al, .allocErr)
    | (al, .panic w) => (al, .panic w)
    | (al, .ok varIds) =>
      match htDeserialize (hintCap (fmt sp.varNames.length)) sp.varNames al with
      | (al, .allocErr) => (al, .allocErr)
      | (al, .panic w) => (al, .panic w)
      | (al, .ok varNames) =>
        match hmDeserialize hashOf (hintCap (fmt sp.trace.length)) sp.trace al with
        | (al, .allocErr) => (al, .allocErr)
        | (al, .panic w) => (al, .panic w)
        | (al, .ok trace) =>
          (al, .ok { bytecode := sp.bytecode, data := sp.data, labels := labels, varIds := varIds,
                     varNames := varNames, version := sp.version, trace := trace })

structure CProgram.WF (hashOf : Nat → UInt64) (p : CProgram) : Prop where
  labels : C13.HTInv p.labels
  varIds : C13.HTInv p.varIds
  varNames : C13.HTInv p.varNames
  trace : C12.HInv hashOf p.trace

structure CProgram.Equiv (hashOf : Nat → UInt64) (p p' : CProgram) : Prop where
  bytecode : p'.bytecode = p.bytecode
  data : p'.data = p.data
  version : p'.version = p.version
  labels : HTEquiv p.labels p'.labels
  varIds : HTEquiv p.varIds p'.varIds
  varNames : HTEquiv p.varNames p'.varNames
  trace : HMEquiv hashOf p.trace p'.trace

theorem deserializeProgram_eq (hashOf : Nat → UInt64) (fmt : Nat → Option Nat) (sp : SProgram) :
    deserializeProgram hashOf fmt sp = fun al =>
      resBind (htDeserialize (hintCap (fmt sp.labels.length)) sp.labels al) fun labels al =>
      resBind (htDeserialize (hintCap (fmt sp.varIds.length)) sp.varIds al) fun varIds al =>
      resBind (htDeserialize (hintCap (fmt sp.varNames.length)) sp.varNames al) fun varNames al =>
      resBind (hmDeserialize hashOf (hintCap (fmt sp.trace.length)) sp.trace al) fun trace al =>
        (al, .ok { bytecode := sp.bytecode, data := sp.data, labels := labels, varIds := varIds,
                   varNames := varNames, version := sp.version, trace := trace }) := by
  funext al
  unfold deserializeProgram resBind
  rcases htDeserialize (hintCap (fmt sp.labels.length)) sp.labels al with ⟨al, _ | _ | _⟩ <;> dsimp only
  rcases htDeserialize (hintCap (fmt sp.varIds.length)) sp.varIds al with ⟨al, _ | _ | _⟩ <;> dsimp only
  rcases htDeserialize (hintCap (fmt sp.varNames.length)) sp.varNames al with ⟨al, _ | _ | _⟩ <;> dsimp only
  rcases hmDeserialize hashOf (hintCap (fmt sp.trace.length)) sp.trace al with ⟨al, _ | _ | _⟩ <;> rfl

theorem program_safe (hashOf : Nat → UInt64) (fmt : Nat → Option Nat) {p : CProgram}
    (hw : p.WF hashOf) :
    Safe (deserializeProgram hashOf fmt (serializeProgram p)) fun p' =>
      p'.WF hashOf ∧ CProgram.Equiv hashOf p p' := by
  rw [deserializeProgram_eq]
  exact (ht_roundtrip_safe hw.labels _).bind fun _ h1 => (ht_roundtrip_safe hw.varIds _).bind fun _ h2 =>
    (ht_roundtrip_safe hw.varNames _).bind fun _ h3 => (hm_roundtrip_safe hw.trace _).bind fun _ h4 =>
    Safe.pure ⟨⟨h1.1, h2.1, h3.1, h4.1⟩, ⟨rfl, rfl, rfl, h1.2, h2.2, h3.2, h4.2⟩⟩

/-- the view of a compiled program the interpreter model takes (`Vm.Prog`) -/
def CProgram.toProg (p : CProgram) : Prog :=
  { bytecode := p.bytecode, data := p.data, labels := p.labels.toList,
    varNames := p.varNames.toList, trace := p.trace.toList }

/-- `CaoCompiledProgram::variable_id` on the handle `h = Handle::from_str(name)` of the name (as does `Vm::read_var_by_name`) -/
def CProgram.variableId (p : CProgram) (h : UInt32) : Option Nat := p.varIds.get h

/-- the lookup in `names` (by variable id) for the message of `VarNotFound` in `instr_read_var` -/
def CProgram.variableName (p : CProgram) (h : UInt32) : Option String := p.varNames.get h

theorem ht_find?_toList {V : Type} {t : HTable V} (hI : C13.HTInv t) (k : UInt32) :
    t.toList.find? (fun x => x.1 == k) = (t.get k).map (fun v => (k, v)) := by
  rw [find?_eq_lookup, (ht_toList_facts hI).2.2.1 k]

theorem hm_find?_toList {K V : Type} [DecidableEq K] {hashOf : K → UInt64} {m : HMap K V}
    (hI : C12.HInv hashOf m) (k : K) :
    m.toList.find? (fun x => x.1 == k) = (m.get hashOf k).map (fun v => (k, v)) := by
  rw [find?_eq_lookup, (hm_toList_facts hI).2.1 k]

theorem CProgram.Equiv.progEq {hashOf : Nat → UInt64} {p p' : CProgram}
    (hw : p.WF hashOf) (hw' : p'.WF hashOf) (h : CProgram.Equiv hashOf p p') :
    ProgEq p.toProg p'.toProg where
  bytecode := h.bytecode.symm
  data := h.data.symm
  labels := fun l => by
    show p.labels.toList.find? _ = p'.labels.toList.find? _
    rw [ht_find?_toList hw.labels, ht_find?_toList hw'.labels, h.labels.get]
  trace := fun a => by
    show p.trace.toList.find? _ = p'.trace.toList.find? _
    rw [hm_find?_toList hw.trace, hm_find?_toList hw'.trace, h.trace.get]

/-! ## the tables of the model compiler's output -/

/-- `cp` holds the tables of the program `prog` the model compiler produced (whose tables are
    resolved association lists) -/
structure Represents (hashOf : Nat → UInt64) (cp : CProgram) (prog : Program) : Prop where
  bytecode : cp.bytecode = prog.bytecode
  data : cp.data = prog.data
  labels : ∀ k, cp.labels.get k = AL.lookup prog.labels k
  varIds : ∀ k, cp.varIds.get k = AL.lookup prog.varIds k
  varNames : ∀ k, cp.varNames.get k = AL.lookup prog.varNames k
  trace : ∀ k, cp.trace.get hashOf k = AL.lookup prog.trace k

theorem Represents.progEq {hashOf : Nat → UInt64} {cp : CProgram} {prog : Program}
    (hw : cp.WF hashOf) (h : Represents hashOf cp prog) :
    ProgEq cp.toProg (Prog.ofProgram prog) where
  bytecode := h.bytecode
  data := h.data
  labels := fun l => by
    show cp.labels.toList.find? _ = prog.labels.find? _
    rw [ht_find?_toList hw.labels, find?_eq_lookup, h.labels]
  trace := fun a => by
    show cp.trace.toList.find? _ = prog.trace.find? _
    rw [hm_find?_toList hw.trace, find?_eq_lookup, h.trace]

theorem Represents.of_equiv {hashOf : Nat → UInt64} {cp cp' : CProgram} {prog : Program}
    (h : Represents hashOf cp prog) (he : CProgram.Equiv hashOf cp cp') :
    Represents hashOf cp' prog where
  bytecode := he.bytecode.trans h.bytecode
  data := he.data.trans h.data
  labels := fun k => (he.labels.get k).trans (h.labels k)
  varIds := fun k => (he.varIds.get k).trans (h.varIds k)
  varNames := fun k => (he.varNames.get k).trans (h.varNames k)
  trace := fun k => (he.trace.get k).trans (h.trace k)

end Cao.Serde
