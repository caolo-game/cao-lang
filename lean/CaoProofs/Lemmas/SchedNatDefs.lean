import CaoProofs.Lemmas.SchedUpvalue
/-!
# Schedule independence: the side condition on callbacks of the iterating host functions

`__min`, `__max` and `__sort` read the entries of the table once, when they start, and then call
back into the script for every entry (call-site stack: `… iterable keyFn value key`). The snapshot
is only referenced from the native: if a callback removes an entry from the table, the values of
that entry may become unreachable, and whether the native then pushes a dangling reference depends
on the collection schedule. `IterOk x x'` (state at the call site / state after the callback
returned) excludes this: the callback gives back the guards as they were, pops exactly its two
arguments, and the table at call-site position 3 keeps all its entries.
-/
namespace Cao.SchedFull
open Cao Cao.Vm Cao.Gc Cao.C02 Cao.C05 Cao.RunInv Cao.Native

/-- the host functions that iterate over a table while calling back into the script -/
def iterNames : List String := ["__min", "__max", "__sort"]

def isIter (hd : UInt32) : Bool := iterNames.any (fun n => hName n == hd)

/-- a callback made by an iterating host function left the host function's data intact -/
def IterOk (x x' : VmState) : Prop :=
  x'.guards = x.guards ∧
  x'.stack.contents = x.stack.contents.dropLast.dropLast ∧
  ∀ a cap es, x.stack.peekLast 3 = .obj a → x.heap.get a = some (.table cap es) →
    ∃ cap' es', x'.heap.get a = some (.table cap' es') ∧ ∀ e ∈ es, e ∈ es'

/-- the same as a check -/
def iterOkB (x x' : VmState) : Bool :=
  decide (x'.guards = x.guards) && decide (x'.stack.contents = x.stack.contents.dropLast.dropLast) &&
  (match x.stack.peekLast 3 with
   | .obj a =>
     match x.heap.get a with
     | some (.table _ es) =>
       match x'.heap.get a with
       | some (.table _ es') => es.all (fun e => es'.contains e)
       | _ => false
     | _ => true
   | _ => true)

theorem iterOkB_iff (x x' : VmState) : iterOkB x x' = true ↔ IterOk x x' := by
  unfold iterOkB IterOk
  simp only [Bool.and_eq_true, decide_eq_true_eq, and_assoc]
  refine and_congr_right (fun _ => and_congr_right (fun _ => ?_))
  constructor
  · intro h a cap es hp hg
    rw [hp] at h
    dsimp only at h
    rw [hg] at h
    dsimp only at h
    cases hg' : x'.heap.get a with
    | none => rw [hg'] at h; cases h
    | some o' =>
      rw [hg'] at h
      cases o' with
      | table cap' es' =>
        exact ⟨cap', es', rfl, fun e he => by simpa using List.all_eq_true.mp h e he⟩
      | _ => cases h
  · intro h
    cases hp : x.stack.peekLast 3 with
    | obj a =>
      dsimp only
      cases hg : x.heap.get a with
      | none => rfl
      | some o =>
        cases o with
        | table cap es =>
          dsimp only
          obtain ⟨cap', es', hg', hsub⟩ := h a cap es hp hg
          rw [hg']
          exact List.all_eq_true.mpr (fun e he => by simpa using hsub e he)
        | _ => rfl
    | _ => rfl

def IterPost (re : Reenter) : Prop :=
  ∀ (f : Val) (x : VmState) (r : Val) (x' : VmState), (re f).go x = (.ok r, x') → IterOk x x'

/-- the callback `re`, checked: it fails when it disturbed the iteration, and also when
    `count ≤ data.length` does not hold of the stack at the call (`iterOk_congr` needs that to move
    `IterOk` between related states) -/
def wrapIter (re : Reenter) : Reenter := fun f => do
  let x ← get
  let r ← re f
  let x' ← get
  if iterOkB x x' && decide (x.stack.count ≤ x.stack.data.length) then pure r
  else throwE (.panic "callback disturbed the iteration")

end Cao.SchedFull
