import CaoModel.Vm
/-!
# Instructions of `step` as stand-alone computations

`Instr.*` repeat the text of single branches of `step` - those that the upvalue proofs (`Cao.Upv`: closures, upvalues,
`Pop`, `Return`, locals), the call-stack proofs (`Cao.Cross`: `CallFunction`, `FunctionPointer`), the walks of `step`
(`Cao.Vm`: the jumps, `PopTable`, `Exit`, a byte that is no opcode; `CopyLast`) and the compile-correctness proofs
(`Cao.Vm`, at the end: constants, globals, `Not`, the binary operators) follow one at a time; the equations `step_*`
tie them to `step` (one unfolding of `step` each, so that proofs about one instruction never see the other branches).

The opcodes that have a branch in `step` are `stepOps` (every opcode of the instruction table is among them); they
fall into `plainOps`, whose branches run primitives and go on behind the instruction, and the ten `ctlOps`
(`op_cases`: the dispatch of every walk of `step`).
-/
namespace Cao.Upv
open Cao Cao.Vm

namespace Instr

/-- `Closure handle arity` -/
def closure (hd ar : UInt32) (ip : Nat) : M Ctl := do
  let a ← initSimple (.closure hd ar [])
  push (.obj a)
  dropGuard a
  return { ip := ip + 8 }

/-- `SetUpvalue index` -/
def setUpvalue (index ip : Nat) : M Ctl := do
  let v ← pop
  match (← curFrame).closure with
  | none => throwE .notClosure
  | some c =>
    match (← get).heap.get c with
    | some (.closure _ _ ups) =>
      match ups[index]? with
      | some u => writeUpvalueLoc u v
      | none => throwE .invalidUpvalue
    | _ => throwE .notClosure
  return { ip := ip + 4 }

/-- `ReadUpvalue index` -/
def readUpvalue (index ip : Nat) : M Ctl := do
  match (← curFrame).closure with
  | none => throwE .notClosure
  | some c =>
    match (← get).heap.get c with
    | some (.closure _ _ ups) =>
      match ups[index]? with
      | some u => push (← readUpvalueLoc u)
      | none => throwE .invalidUpvalue
    | _ => throwE .notClosure
  return { ip := ip + 4 }

/-- `RegisterUpvalue index isLocal` -/
@[reducible] def registerUpvalue (index : Nat) (isLocal : Bool) (ip : Nat) : M Ctl := do
  let cv ← pop
  match cv with
  | .obj c =>
    match (← get).heap.get c with
    | some (.closure hd ar ups) =>
      if isLocal then
        let off := (← curFrame).stackOffset
        let slot := off + index
        -- (repaired) the slot of the variable is gone: an error, not an out-of-bounds panic
        if slot ≥ (← get).stack.count then throwE .invalidArgument
        let s ← get
        match s.openUpvalues.find? (fun a => upvalueSlot s.heap a == some slot) with
        | some u =>
          modify fun s => { s with heap := s.heap.set c (.closure hd ar (ups ++ [u])) }
        | none =>
          let u ← initSimple (.upvalue (.stack slot))
          modify fun s =>
            let (hi, lo) := s.openUpvalues.partition (fun a => match upvalueSlot s.heap a with
              | some i => i > slot | none => true)
            { s with openUpvalues := hi ++ [u] ++ lo,
                     heap := s.heap.set c (.closure hd ar (ups ++ [u])) }
          dropGuard u
      else
        match (← curFrame).closure with
        | none => throwE (.panic "closure not found for capture")
        | some outer =>
          match (← get).heap.get outer with
          | some (.closure _ _ oups) =>
            match oups[index]? with
            | some u => modify fun s => { s with heap := s.heap.set c (.closure hd ar (ups ++ [u])) }
            | none => throwE (.panic "upvalue index out of bounds")
          | _ => throwE (.panic "closure not found for capture")
      return { ip := ip + 2 }
    | _ => throwE .invalidArgument
  | _ => throwE .invalidArgument

/-- `CloseUpvalue` -/
def closeUpvalue (ip : Nat) : M Ctl := do
  let s ← get
  if s.stack.count == 0 then throwE .invalidArgument
  closeUpvalues (s.stack.count - 1)
  -- (repaired) the instruction stands in for the `Pop` of a captured local: the slot goes
  let _ ← Vm.pop
  return { ip }

/-- `Return` -/
def ret : M Ctl := do
  let s ← get
  match s.frames.getLast? with
  | none => throwE .badReturn
  | some fr =>
    set { s with frames := s.frames.dropLast }
    closeUpvalues fr.stackOffset
    let s ← get
    let (st, v) := s.stack.clearUntil fr.stackOffset
    set { s with stack := st }
    match (← get).frames.getLast? with
    | none => throwE .badReturn
    | some caller =>
      push v
      return { ip := caller.dst }

/-- `Pop` -/
def pop (ip : Nat) : M Ctl := do
  let _ ← Vm.pop
  return { ip }

/-- `ReadLocalVar handle` -/
def readLocalVar (handle ip : Nat) : M Ctl := do
  let off := (← curFrame).stackOffset
  push (← readLocal off handle)
  return { ip := ip + 4 }

/-- `SetLocalVar handle` -/
def setLocalVar (handle ip : Nat) : M Ctl := do
  let off := (← curFrame).stackOffset
  let s ← get
  let (st, v) := s.stack.popWOffset off
  set { s with stack := st }
  writeLocal off handle v
  return { ip := ip + 4 }

end Instr

section stepEq
variable (p : Prog) (re : Reenter) (src : Nat)

theorem step_closure (h : p.bytecode.getD src 0 = Compiler.op.closure) :
    step p re src = Instr.closure (UInt32.ofNat (rdU32 p.bytecode (src + 1)))
      (UInt32.ofNat (rdU32 p.bytecode (src + 1 + 4))) (src + 1) := by
  rw [step, h]; rfl

theorem step_setUpvalue (h : p.bytecode.getD src 0 = Compiler.op.setUpvalue) :
    step p re src = Instr.setUpvalue (rdU32 p.bytecode (src + 1)) (src + 1) := by
  rw [step, h]; rfl

theorem step_readUpvalue (h : p.bytecode.getD src 0 = Compiler.op.readUpvalue) :
    step p re src = Instr.readUpvalue (rdU32 p.bytecode (src + 1)) (src + 1) := by
  rw [step, h]; rfl

theorem step_registerUpvalue (h : p.bytecode.getD src 0 = Compiler.op.registerUpvalue) :
    step p re src = Instr.registerUpvalue (p.bytecode.getD (src + 1) 0).toNat
      (p.bytecode.getD (src + 1 + 1) 0 != 0) (src + 1) := by
  rw [step, h]; rfl

theorem step_closeUpvalue (h : p.bytecode.getD src 0 = Compiler.op.closeUpvalue) :
    step p re src = Instr.closeUpvalue (src + 1) := by
  rw [step, h]; rfl

theorem step_ret (h : p.bytecode.getD src 0 = Compiler.op.ret) : step p re src = Instr.ret := by
  rw [step, h]; rfl

theorem step_pop (h : p.bytecode.getD src 0 = Compiler.op.pop) : step p re src = Instr.pop (src + 1) := by
  rw [step, h]; rfl

theorem step_readLocalVar (h : p.bytecode.getD src 0 = Compiler.op.readLocalVar) :
    step p re src = Instr.readLocalVar (rdU32 p.bytecode (src + 1)) (src + 1) := by
  rw [step, h]; rfl

theorem step_setLocalVar (h : p.bytecode.getD src 0 = Compiler.op.setLocalVar) :
    step p re src = Instr.setLocalVar (rdU32 p.bytecode (src + 1)) (src + 1) := by
  rw [step, h]; rfl

end stepEq

end Cao.Upv

namespace Cao.Cross
open Cao Cao.Vm

namespace Instr

/-- `FunctionPointer handle arity` -/
def functionPointer (h ar : UInt32) (ip : Nat) : M Ctl := do
  let a ← initSimple (.fn h ar)
  push (.obj a)
  dropGuard a
  return { ip := ip + 8 }

/-- `CallFunction` at address `src` -/
def callFunction (p : Prog) (reenter : Reenter) (src : Nat) : M Ctl := do
  let f ← pop
  match f with
  | .obj a =>
    match (← get).heap.get a with
    | some (.native h) => callNative reenter h; return { ip := src + 1 }
    | some (.fn h ar) => step.callScript p src (src + 1) h ar.toNat none
    | some (.closure h ar _) => step.callScript p src (src + 1) h ar.toNat (some a)
    | _ => throwE .invalidArgument
  | _ => throwE .invalidArgument

end Instr

theorem step_functionPointer (p : Prog) (re : Reenter) (src : Nat)
    (h : p.bytecode.getD src 0 = Compiler.op.functionPointer) :
    step p re src = Instr.functionPointer (UInt32.ofNat (rdU32 p.bytecode (src + 1)))
      (UInt32.ofNat (rdU32 p.bytecode (src + 1 + 4))) (src + 1) := by
  rw [step, h]; rfl

theorem step_callFunction (p : Prog) (re : Reenter) (src : Nat)
    (h : p.bytecode.getD src 0 = Compiler.op.callFunction) :
    step p re src = Instr.callFunction p re src := by
  rw [step, h]; rfl

end Cao.Cross

namespace Cao.Vm

namespace Instr

/-- `GotoIfTrue`, `GotoIfFalse`: go on at `yes` or at `no` -/
def gotoIf (yes no : Nat) : M Ctl := do
  let c ← pop
  let h := (← get).heap
  return { ip := if OVal.asBool hostF64 (ownD h c) then yes else no }

/-- `PopTable` -/
def popTable (ip : Nat) : M Ctl := do
  let inst ← pop
  let (a, cap, es) ← getTable inst
  match es.getLast? with
  | none => push .nil
  | some (_, v) =>
    modify fun s => { s with heap := s.heap.set a (.table cap es.dropLast) }
    push v
  return { ip }

end Instr

theorem step_gotoIfTrue (p : Prog) (re : Reenter) (src : Nat)
    (h : p.bytecode.getD src 0 = Compiler.op.gotoIfTrue) :
    step p re src = Instr.gotoIf (rdU32 p.bytecode (src + 1)) (src + 1 + 4) := by
  rw [step, h]; rfl

theorem step_gotoIfFalse (p : Prog) (re : Reenter) (src : Nat)
    (h : p.bytecode.getD src 0 = Compiler.op.gotoIfFalse) :
    step p re src = Instr.gotoIf (src + 1 + 4) (rdU32 p.bytecode (src + 1)) := by
  rw [step, h]; rfl

theorem step_goto (p : Prog) (re : Reenter) (src : Nat) (h : p.bytecode.getD src 0 = Compiler.op.goto) :
    step p re src = pure { ip := rdU32 p.bytecode (src + 1) } := by
  rw [step, h]; rfl

theorem step_popTable (p : Prog) (re : Reenter) (src : Nat) (h : p.bytecode.getD src 0 = Compiler.op.popTable) :
    step p re src = Instr.popTable (src + 1) := by
  rw [step, h]; rfl

theorem step_exit (p : Prog) (re : Reenter) (src : Nat) (h : p.bytecode.getD src 0 = Compiler.op.exit) :
    step p re src = pure { ip := src + 1, exit := true } := by
  unfold step
  dsimp only
  rw [h]
  rfl

/-! ## the opcodes -/

open Compiler in
def stepOps : List UInt8 :=
  [op.initTable, op.getProperty, op.setProperty, op.beginForEach, op.forEach, op.gotoIfTrue,
   op.gotoIfFalse, op.goto, op.swapLast, op.scalarNil, op.clearStack, op.setLocalVar, op.readLocalVar,
   op.setGlobalVar, op.readGlobalVar, op.pop, op.callFunction, op.ret, op.exit, op.copyLast,
   op.nativeFunctionPointer, op.functionPointer, op.closure, op.scalarInt, op.scalarFloat, op.not,
   op.and, op.or, op.xor, op.add, op.sub, op.mul, op.div, op.equals, op.notEquals, op.less, op.lessOrEq,
   op.stringLiteral, op.callNative, op.len, op.nthRow, op.appendTable, op.popTable, op.setUpvalue,
   op.readUpvalue, op.registerUpvalue, op.closeUpvalue]

theorem stepOps_table : ∀ e ∈ Gen.instrTable, stepOps.contains (UInt8.ofNat e.2.1) = true := by
  decide +kernel

theorem spanOf_none_of_not_stepOps (b : UInt8) (h : stepOps.contains b = false) : Gen.spanOf b = none := by
  cases hs : Gen.spanOf b with
  | none => rfl
  | some sp =>
    obtain ⟨e, he, _⟩ := Option.map_eq_some_iff.1 hs
    have hb := List.find?_some he
    have := stepOps_table e (List.mem_of_find?_eq_some he)
    rw [eq_of_beq hb, UInt8.ofNat_toNat, h] at this
    cases this

open Compiler in
/-- the opcodes that move control, frames or a closure under construction: each is looked at by itself -/
def ctlOps : List UInt8 :=
  [op.gotoIfTrue, op.gotoIfFalse, op.goto, op.callFunction, op.ret, op.exit, op.functionPointer, op.closure,
   op.popTable, op.registerUpvalue]

open Compiler in
def plainOps : List UInt8 :=
  [op.initTable, op.getProperty, op.setProperty, op.beginForEach, op.forEach, op.swapLast, op.scalarNil,
   op.clearStack, op.setLocalVar, op.readLocalVar, op.setGlobalVar, op.readGlobalVar, op.pop, op.copyLast,
   op.nativeFunctionPointer, op.scalarInt, op.scalarFloat, op.not, op.and, op.or, op.xor, op.add, op.sub,
   op.mul, op.div, op.equals, op.notEquals, op.less, op.lessOrEq, op.stringLiteral, op.callNative, op.len,
   op.nthRow, op.appendTable, op.setUpvalue, op.readUpvalue, op.closeUpvalue]

theorem stepOps_split : ∀ o ∈ stepOps, (plainOps.contains o || ctlOps.contains o) = true := by decide

open Compiler in
/-- how `step` dispatches on a byte: one of the 37 `plainOps`, one of the ten `ctlOps`, or no opcode -/
theorem op_cases (b : UInt8) :
    plainOps.contains b = true ∨
    (b = op.gotoIfTrue ∨ b = op.gotoIfFalse ∨ b = op.goto ∨ b = op.callFunction ∨ b = op.ret ∨ b = op.exit ∨
      b = op.functionPointer ∨ b = op.closure ∨ b = op.popTable ∨ b = op.registerUpvalue) ∨
    stepOps.contains b = false := by
  by_cases hst : stepOps.contains b = true
  · have hc := stepOps_split b (List.contains_iff_mem.1 hst)
    simp only [ctlOps, List.contains_cons, List.contains_nil, Bool.or_false, Bool.or_eq_true, beq_iff_eq] at hc
    exact hc.elim .inl fun h => .inr (.inl h)
  · exact .inr (.inr (Bool.eq_false_iff.2 hst))

theorem ne_of_plainOps {b o : UInt8} (hb : plainOps.contains b = true) (ho : plainOps.contains o = false) :
    b ≠ o :=
  fun h => by rw [h, ho] at hb; cases hb

def isArith (b : UInt8) : Bool :=
  b == Compiler.op.and || b == Compiler.op.or || b == Compiler.op.xor || b == Compiler.op.add || b == Compiler.op.sub || b == Compiler.op.mul || b == Compiler.op.div || b == Compiler.op.equals || b == Compiler.op.notEquals || b == Compiler.op.less || b == Compiler.op.lessOrEq

theorem arith_span (b : UInt8) (h : isArith b = true) :
    Gen.spanOf b = some 1 ∧ b ≠ Compiler.op.exit ∧ b ≠ Compiler.op.goto ∧ b ≠ Compiler.op.ret := by
  simp only [isArith, Bool.or_eq_true, beq_iff_eq] at h
  rcases h with (((((((((rfl | rfl) | rfl) | rfl) | rfl) | rfl) | rfl) | rfl) | rfl) | rfl) | rfl <;>
    exact ⟨rfl, by decide, by decide, by decide⟩

theorem seq_of_beq {b o : UInt8} (h : (b == o) = true) {sp : Nat} (hsp : Gen.spanOf o = some sp)
    (hx : o ≠ Compiler.op.exit) : Gen.spanOf b = some sp ∧ b ≠ Compiler.op.exit :=
  eq_of_beq h ▸ ⟨hsp, hx⟩

theorem step_invalid (p : Prog) (re : Reenter) (src : Nat) (h : stepOps.contains (p.bytecode.getD src 0) = false) :
    step p re src = throwE (.panic "invalid opcode") := by
  simp only [stepOps, List.contains_cons, List.contains_nil, Bool.or_false, Bool.or_eq_false_iff] at h
  unfold step
  simp only [h, Bool.or_self, Bool.false_eq_true, if_false]

/-! ## `CopyLast`

Plain, but the capture invariant follows it also while a closure is under construction. -/

namespace Instr

def copyLast (ip : Nat) : M Ctl := do
  push (← get).stack.last
  return { ip }

end Instr

theorem step_copyLast (p : Prog) (re : Reenter) (src : Nat) (h : p.bytecode.getD src 0 = Compiler.op.copyLast) :
    step p re src = Instr.copyLast (src + 1) := by
  rw [step, h]; rfl

/-! ## constants, globals, operators

The plain instructions that compiled expressions and assignments consist of, beside those above. -/

namespace Instr

/-- `ScalarNil`, `ScalarInt`, `ScalarFloat`: push a constant -/
def scalar (v : Val) (ip : Nat) : M Ctl := do
  push v
  return { ip }

/-- `Not` -/
def not (ip : Nat) : M Ctl := do
  let v ← pop
  let h := (← get).heap
  push (boolVal (!(OVal.asBool hostF64 (ownD h v))))
  return { ip }

/-- `SetGlobalVar id`: the table of globals grows as far as `id` -/
def setGlobalVar (id ip : Nat) : M Ctl := do
  let v ← pop
  modify fun s =>
    let g := if s.globals.length ≤ id then s.globals ++ List.replicate (id + 1 - s.globals.length) .nil else s.globals
    { s with globals := g.set id v }
  return { ip := ip + 4 }

/-- `ReadGlobalVar id` -/
def readGlobalVar (id ip : Nat) : M Ctl := do
  match (← get).globals[id]? with
  | some v => push v
  | none => throwE .varNotFound
  return { ip := ip + 4 }

/-- what the binary operator with opcode `opc` computes from the deep values of its operands -/
def arithVal (opc : UInt8) (oa ob : OVal) : Val :=
  let o := Compiler.op
  let F := hostF64
  let num (x : OVal) : Val := match x with
    | .int i => .int i | .real r => .real r | _ => .nil
  if opc == o.and then boolVal (OVal.asBool F oa && OVal.asBool F ob)
  else if opc == o.or then boolVal (OVal.asBool F oa || OVal.asBool F ob)
  else if opc == o.xor then boolVal (OVal.asBool F oa != OVal.asBool F ob)
  else if opc == o.add then num (OVal.arith F .add oa ob)
  else if opc == o.sub then num (OVal.arith F .sub oa ob)
  else if opc == o.mul then num (OVal.arith F .mul oa ob)
  else if opc == o.div then num (OVal.arith F .div oa ob)
  else if opc == o.equals then boolVal (OVal.veq F oa ob)
  else if opc == o.notEquals then boolVal (!(OVal.veq F oa ob))
  else if opc == o.less then boolVal (OVal.vlt F oa ob)
  else boolVal (OVal.vle F oa ob)

/-- the eleven binary operators (`isArith`): one branch of `step`, the opcode selects the operation -/
def arith (opc : UInt8) (ip : Nat) : M Ctl := do
  let b ← pop
  let a ← pop
  let h := (← get).heap
  push (arithVal opc (ownD h a) (ownD h b))
  return { ip }

end Instr

section stepEq
variable (p : Prog) (re : Reenter) (src : Nat)

theorem step_scalarNil (h : p.bytecode.getD src 0 = Compiler.op.scalarNil) :
    step p re src = Instr.scalar .nil (src + 1) := by
  rw [step, h]; rfl

theorem step_scalarInt (h : p.bytecode.getD src 0 = Compiler.op.scalarInt) :
    step p re src = Instr.scalar (.int (rdU64 p.bytecode (src + 1)).toInt64) (src + 1 + 8) := by
  rw [step, h]; rfl

theorem step_scalarFloat (h : p.bytecode.getD src 0 = Compiler.op.scalarFloat) :
    step p re src = Instr.scalar (.real (rdU64 p.bytecode (src + 1))) (src + 1 + 8) := by
  rw [step, h]; rfl

theorem step_not (h : p.bytecode.getD src 0 = Compiler.op.not) : step p re src = Instr.not (src + 1) := by
  rw [step, h]; rfl

theorem step_setGlobalVar (h : p.bytecode.getD src 0 = Compiler.op.setGlobalVar) :
    step p re src = Instr.setGlobalVar (rdU32 p.bytecode (src + 1)) (src + 1) := by
  rw [step, h]; rfl

theorem step_readGlobalVar (h : p.bytecode.getD src 0 = Compiler.op.readGlobalVar) :
    step p re src = Instr.readGlobalVar (rdU32 p.bytecode (src + 1)) (src + 1) := by
  rw [step, h]; rfl

/-- the opcode stays a variable: the tests of `step` that come first are on opcodes that are no binary operator -/
theorem step_arith (h : isArith (p.bytecode.getD src 0) = true) :
    step p re src = Instr.arith (p.bytecode.getD src 0) (src + 1) := by
  have hop : ∀ o, (p.bytecode.getD src 0 == o) = true → isArith o = true := fun o hb => eq_of_beq hb ▸ h
  rw [step]
  repeat refine (if_neg fun hb => ?_).trans ?_; · exact absurd (hop _ hb) (by decide)
  exact if_pos h

end stepEq

end Cao.Vm
