import CaoProofs.Lemmas.CMPrims
/-!
# Closed `String.splitOn` facts by kernel evaluation

`String.splitOn` is defined by well-founded recursion and does not reduce in the kernel. `splitOnF` is a
copy that does: `splitOnAux` with a bound on the number of steps, falling back on `String.splitOn` itself
should the bound be reached (which makes `splitOn_eq` hold without a proof that the bound suffices; on a
closed input the kernel never gets to the fallback). A closed fact is then
`by rw [splitOn_eq]; decide +kernel`.

Six functions of the compiler model and of the lookup specification that split a name have *twins*
(`superDepthT`, `readVarCardT`, `setVarTargetT`, `encodeJumpT`, `fnImportStepT`, `modImportStepT`;
`executeImports` and `resolveFunction` have none): the same
function with `splitOnF` for `String.splitOn`, found by Lean (`⟨_, …⟩`) together with the equation, for every
argument. A compilation or a lookup on closed input is rewritten with these equations and then evaluated.
-/
namespace Cao

/-- `String.splitOnAux` with a bound on the number of steps -/
def splitOnFuel (s sep : String) :
    Nat → String.Pos.Raw → String.Pos.Raw → String.Pos.Raw → List String → Option (List String)
  | 0, _, _, _, _ => none
  | n + 1, b, i, j, r =>
    if String.Pos.Raw.atEnd s i then some (String.Pos.Raw.extract s b i :: r).reverse
    else if String.Pos.Raw.get s i == String.Pos.Raw.get sep j then
      if String.Pos.Raw.atEnd sep (String.Pos.Raw.next sep j) then
        splitOnFuel s sep n (String.Pos.Raw.next s i) (String.Pos.Raw.next s i) 0
          (String.Pos.Raw.extract s b ((String.Pos.Raw.next s i).unoffsetBy (String.Pos.Raw.next sep j)) :: r)
      else splitOnFuel s sep n b (String.Pos.Raw.next s i) (String.Pos.Raw.next sep j) r
    else splitOnFuel s sep n b (String.Pos.Raw.next s (i.unoffsetBy j)) 0 r

theorem splitOnFuel_eq {s sep : String} : ∀ (n : Nat) (b i j : String.Pos.Raw) (r l : List String),
    splitOnFuel s sep n b i j r = some l → s.splitOnAux sep b i j r = l
  | 0, _, _, _, _, _, h => by cases h
  | n + 1, b, i, j, r, l, h => by
    rw [String.splitOnAux.eq_1]
    unfold splitOnFuel at h
    split at h
    · next h1 => rw [if_pos h1]; exact Option.some.inj h
    · next h1 =>
      rw [if_neg h1]
      split at h
      · next h2 =>
        rw [if_pos h2]
        split at h
        · next h3 => simp only [h3, if_true]; exact splitOnFuel_eq n _ _ _ _ _ h
        · next h3 => simp only [h3]; exact splitOnFuel_eq n _ _ _ _ _ h
      · next h2 => rw [if_neg h2]; exact splitOnFuel_eq n _ _ _ _ _ h

def splitOnF (s sep : String) : List String :=
  if sep == "" then [s]
  else (splitOnFuel s sep ((s.utf8ByteSize + 1) * (sep.utf8ByteSize + 1) + 1) 0 0 0 []).getD (s.splitOn sep)

theorem splitOn_eq (s sep : String) : s.splitOn sep = splitOnF s sep := by
  unfold splitOnF
  split
  · next h => unfold String.splitOn; rw [if_pos h]
  · next h =>
    cases hf : splitOnFuel s sep ((s.utf8ByteSize + 1) * (sep.utf8ByteSize + 1) + 1) 0 0 0 [] with
    | none => rfl
    | some l =>
      unfold String.splitOn
      rw [if_neg h]
      exact splitOnFuel_eq _ _ _ _ _ _ hf

end Cao

namespace Cao.Compiler
open Cao

def superDepthT : {F : String → Nat × Option String // ∀ imp, superDepth imp = F imp} :=
  ⟨_, fun imp => by unfold superDepth; rw [splitOn_eq]⟩

def readVarCardT : {F : String → CM Unit // ∀ v, readVarCard v = F v} :=
  ⟨_, fun v => by unfold readVarCard; rw [splitOn_eq]⟩

def setVarTargetT : {F : String → CM Unit // ∀ n, setVarTarget n = F n} :=
  ⟨_, fun n => by unfold setVarTarget; simp only [splitOn_eq, readVarCardT.2]; rfl⟩

def fnImportStepT {α : Type} : {F : (String → Option α) → List String → List (String × String) → String →
    Except CErrKind (Option α) // ∀ lk ns imports name, fnImportStep lk ns imports name = F lk ns imports name} :=
  ⟨_, fun lk ns imports name => by simp only [fnImportStep, importTarget, superDepthT.2]; rfl⟩

def modImportStepT {α : Type} : {F : (String → Option α) → List String → List (String × String) → String →
    Except CErrKind (Option α) // ∀ lk ns imports name, modImportStep lk ns imports name = F lk ns imports name} :=
  ⟨_, fun lk ns imports name => by simp only [modImportStep, importTarget, superDepthT.2, splitOn_eq]; rfl⟩

def encodeJumpT : {F : String → CM Unit // ∀ f, encodeJump f = F f} :=
  ⟨_, fun f => funext fun s => by
    rewrite [encodeJump_run]; unfold resolveSpec resolveWith; rw [fnImportStepT.2, modImportStepT.2]⟩

end Cao.Compiler
