import CaoProofs.Lemmas.ExecRule
import CaoProofs.Lemmas.VmPrims
/-!
# Frame reasoning for the interpreter monad `M`

`Pres R m` for a preorder `R` says that `m` keeps each invariant `R s₀` ("reached from `s₀` along `R`"), so the logic
of `Lemmas/VmLogic.lean` applies: `pres_auto` is `kp_auto` for that invariant. The rules below are for proofs that go
through a `do` block by hand; `PresAt R m s` is the pointwise version for the code shape
`let s ← get; …; set { s with … }`.

A `StepFrame` ignores the value stack, the globals, the guards and the host log and is respected by the few primitives
that touch the heap. `callNative` and `step` then preserve `R` as soon as the re-entry callback does
(`pres_callNative`, `pres_step_of`), and so does every run of the dispatch loop when `R` also ignores the call stack
and admits the budget updates of the loop (`RunFrame`, `exec_pres`). Everything that contains `Steady` (what no
primitive touches) is an instance. `throws_step` (an instruction never raises `Timeout` by itself) is `kp_step` at the
trivial invariant.
-/
namespace Cao.Vm
open Cao.Gc

/-! ## the rules of `Pres` -/

section closure
variable {R : VmState → VmState → Prop} [StateOrder R] {α β : Type}

theorem presAt_pure (a : α) (s : VmState) : PresAt R (pure a : M α) s := ⟨StateOrder.refl s⟩
theorem presAt_throwE (e : ErrKind) (s : VmState) : PresAt R (throwE e : M α) s := ⟨StateOrder.refl s⟩
omit [StateOrder R] in
theorem presAt_set {x s : VmState} (h : R s x) : PresAt R (set x : M PUnit) s := ⟨h⟩

theorem pres_pure (a : α) : Pres R (pure a : M α) := ⟨fun s => presAt_pure a s⟩
theorem pres_throwE (e : ErrKind) : Pres R (throwE e : M α) := ⟨fun s => presAt_throwE e s⟩
theorem pres_get : Pres R (get : M VmState) := ⟨fun s => ⟨StateOrder.refl s⟩⟩
omit [StateOrder R] in
theorem pres_modify {f : VmState → VmState} (h : ∀ s, R s (f s)) : Pres R (modify f : M PUnit) :=
  ⟨fun s => ⟨h s⟩⟩

theorem presAt_bind' {m : M α} {f : α → M β} {s : VmState} (hm : PresAt R m s)
    (hf : ∀ a s', m.go s = (.ok a, s') → PresAt R (f a) s') : PresAt R (m >>= f) s := by
  constructor
  have hm := hm.rel
  rw [go_bind]
  rcases h : m.go s with ⟨r, s'⟩
  rw [h] at hm
  cases r with
  | error e => exact hm
  | ok a => exact StateOrder.trans hm (hf a s' h).rel

theorem presAt_bind {m : M α} {f : α → M β} {s : VmState} (hm : PresAt R m s)
    (hf : ∀ a, Pres R (f a)) : PresAt R (m >>= f) s :=
  presAt_bind' hm (fun a s' _ => (hf a).at_ s')

theorem pres_bind {m : M α} {f : α → M β} (hm : Pres R m) (hf : ∀ a, Pres R (f a)) :
    Pres R (m >>= f) := ⟨fun s => presAt_bind (hm.at_ s) hf⟩

theorem pres_get_bind {f : VmState → M β} (hf : ∀ s, PresAt R (f s) s) : Pres R (get >>= f) :=
  ⟨fun s => presAt_bind' ⟨StateOrder.refl s⟩ fun _ _ h => by cases h; exact hf s⟩

theorem presAt_guard_bind {c : Prop} [Decidable c] {e : ErrKind} {s : VmState} {f : PUnit → M β}
    (hf : ¬ c → PresAt R (f ⟨⟩) s) :
    PresAt R ((if c then throwE e else Pure.pure PUnit.unit) >>= f) s := by
  by_cases hc : c
  · simp only [hc, if_true]
    exact presAt_bind' (presAt_throwE e s) (fun a s' h => by simp at h)
  · simp only [hc, if_false]
    exact presAt_bind' (presAt_pure _ s) (fun a s' h => by
      simp only [go_pure, Prod.mk.injEq] at h
      obtain ⟨_, rfl⟩ := h
      exact hf hc)

theorem pres_throwE_bind {e : ErrKind} {f : α → M β} : Pres R ((throwE e : M α) >>= f) :=
  ⟨fun s => presAt_bind' (presAt_throwE e s) (fun a s' h => by simp at h)⟩

omit [StateOrder R] in
theorem pres_liftRun {g : VmState → VmState × Except RunErr (Option Val)} (hg : ∀ s, R s (g s).1) :
    Pres R (liftRun g) := by
  refine Pres.intro (fun s => ?_)
  rw [liftRun_go_state]
  exact hg s

end closure

/-! ## automation -/

/-- closes goals `Pres R m` for what lies below the primitives (the allocator, the object store); extended by
    `macro_rules` (below for a `StepFrame` and for `Steady`; `Lemmas/CaptureInv.lean` for `Harmless`,
    `Lemmas/UpvalueLemmas.lean` for `CoreR`) -/
syntax "pres_prim" : tactic

/-- closes the side goals `R s s'` of `set`/`modify`; extended by `macro_rules` (below for the fields of a
    `StateFrame`, `Steady`, a `CounterFrame`, a `RunFrame`; `Lemmas/CaptureInv.lean` for `Harmless`,
    `Lemmas/UpvalueLemmas.lean` for `CoreR`) -/
syntax "pres_side" : tactic

macro_rules | `(tactic| kp_side) => `(tactic| exact StateOrder.trans ‹_› (by pres_side))
macro_rules | `(tactic| kp_spec) => `(tactic| exact Kp.of_pres (by pres_prim) _)

/-- `Pres R m`, syntax-directed: the invariant `R s₀` is taken through `m` by `kp_auto` -/
macro "pres_auto" : tactic => `(tactic| (refine Kp.pres (E := fun _ => True) (φ := fun _ => True) fun _ => ?_; kp_auto))

/-! ## what a relation has to admit -/

/-- a `StateFrame` that the primitives which touch the heap respect: beside those of `PlainFrame`, `initSimple` of any
    object with a plain header that refers to nothing, the replacement of a table's rows, and `RegisterUpvalue`, the one
    instruction that edits an object by itself -/
class StepFrame (R : VmState → VmState → Prop) : Prop extends StateFrame R where
  initTable : Pres R initTable
  initString : ∀ b, Pres R (initString b)
  initSimple : ∀ o, Heap.chargeOf o = Heap.objCharge → Heap.children o = [] → Pres R (initSimple o)
  tableInsert : ∀ (s : VmState) (a : Nat) (k v : Val),
    (∃ n, s.stack.peekLast n = .obj a) ∨ a ∈ s.guards → R s ((tableInsert a k v).go s).2
  setTable : ∀ (s : VmState) (a cap : Nat) (es es' : List (Val × Val)),
    s.heap.get a = some (.table cap es) → R s { s with heap := s.heap.set a (.table cap es') }
  closeUpvalues : ∀ t, Pres R (closeUpvalues t)
  writeUpvalueLoc : ∀ a v, Pres R (writeUpvalueLoc a v)
  registerUpvalue : ∀ i l ip, Pres R (Upv.Instr.registerUpvalue i l ip)

macro_rules | `(tactic| pres_side) => `(tactic| with_reducible first
  | exact StateFrame.stack _ _ | exact StateFrame.guards _ _ | exact StateFrame.globals _ _
  | exact StateFrame.hostLog _ _)

macro_rules | `(tactic| pres_prim) => `(tactic| with_reducible exact StepFrame.initSimple _ rfl rfl)

instance {R : VmState → VmState → Prop} [StepFrame R] : PlainFrame R where
  initTable := StepFrame.initTable
  initString := StepFrame.initString
  initNative _ := StepFrame.initSimple _ rfl rfl
  closeUpvalues := StepFrame.closeUpvalues
  writeUpvalueLoc := StepFrame.writeUpvalueLoc
  tableInsert := StepFrame.tableInsert

/-! ## natives and instructions: they preserve `R` as soon as the re-entry callback does -/

theorem pres_curFrame {R : VmState → VmState → Prop} [StateOrder R] : Pres R curFrame :=
  Kp.pres fun _ => kp_curFrame (E := fun _ => True) fun _ _ _ => trivial

section compound
variable {R : VmState → VmState → Prop} [StepFrame R]

theorem pres_callNative (reenter : Reenter) (hre : ∀ f, Pres R (reenter f)) (h : UInt32) :
    Pres R (callNative reenter h) :=
  Kp.pres fun s₀ => kp_callNative (E' := fun _ => True) (E := fun _ => True) (fun _ _ _ => trivial) reenter (fun f => .of_pres (hre f) s₀) h

/-- **the frame lemma for `step`**: an instruction respects `R` as soon as the re-entry callback does,
    `push_call_frame` does (at a `CallFunction`) and `R` admits the pop of a frame (at a `Return`) -/
theorem pres_step_of (p : Prog) (reenter : Reenter) (hre : ∀ f, Pres R (reenter f)) (src : Nat)
    (hcall : p.bytecode.getD src 0 = Compiler.op.callFunction →
      ∀ h ar c, Pres R (step.callScript p src (src + 1) h ar c))
    (hret : p.bytecode.getD src 0 = Compiler.op.ret →
      ∀ s : VmState, R s { s with frames := s.frames.dropLast }) :
    Pres R (step p reenter src) :=
  Kp.pres fun s₀ => kp_step (E' := fun _ => True) (E := fun _ => True) p reenter src (fun _ _ _ => trivial) trivial (fun _ _ _ => trivial)
    (fun f => .of_pres (hre f) s₀) (fun hc h ar c => .of_pres (hcall hc h ar c) s₀)
    (fun hc s hs => StateOrder.trans hs (hret hc s)) (fun o h1 h2 => .of_pres (StepFrame.initSimple o h1 h2) s₀)
    (fun s a cap es es' hs hg => StateOrder.trans hs (StepFrame.setTable s a cap es es' hg))
    (fun i l ip => .of_pres (StepFrame.registerUpvalue i l ip) s₀)

end compound

/-! ## relations that only look at the budget counters -/

@[reducible] def Keep (s s' : VmState) : Prop :=
  s'.remaining = s.remaining ∧ s'.dispatches = s.dispatches ∧ s'.frameCap = s.frameCap

instance : StateOrder Keep where
  refl _ := ⟨rfl, rfl, rfl⟩
  trans h1 h2 := ⟨h2.1.trans h1.1, h2.2.1.trans h1.2.1, h2.2.2.trans h1.2.2⟩

class CounterFrame (R : VmState → VmState → Prop) : Prop extends StateOrder R where
  of_keep : ∀ {s s'}, Keep s s' → R s s'

instance : CounterFrame Keep where
  of_keep h := h

def Budget (s s' : VmState) : Prop :=
  s'.dispatches + s'.remaining ≤ s.dispatches + s.remaining ∧ s.dispatches ≤ s'.dispatches

instance : CounterFrame Budget where
  refl _ := ⟨Nat.le_refl _, Nat.le_refl _⟩
  trans h1 h2 := ⟨Nat.le_trans h2.1 h1.1, Nat.le_trans h1.2 h2.2⟩
  of_keep h := by unfold Budget; rw [h.1, h.2.1]; exact ⟨Nat.le_refl _, Nat.le_refl _⟩

def SameFrameCap (s s' : VmState) : Prop := s'.frameCap = s.frameCap

instance : CounterFrame SameFrameCap where
  refl _ := rfl
  trans h1 h2 := h2.trans h1
  of_keep h := h.2.2

theorem gc_remaining (s : VmState) : (gc s).remaining = s.remaining := by
  unfold gc; simp only []
theorem gc_dispatches (s : VmState) : (gc s).dispatches = s.dispatches := by
  unfold gc; simp only []
theorem gc_frameCap (s : VmState) : (gc s).frameCap = s.frameCap := by
  unfold gc; simp only []

/-! ## what no primitive touches -/

/-- what holds across every primitive, and across the collector -/
structure Steady (s s' : VmState) : Prop where
  frames : s'.frames = s.frames
  keep : Keep s s'
  limit : s'.mem.limit = s.mem.limit
  next : s.heap.next ≤ s'.heap.next

theorem Steady.of_eq {s s' : VmState} (h1 : s'.frames = s.frames) (h2 : s'.remaining = s.remaining)
    (h3 : s'.dispatches = s.dispatches) (h4 : s'.frameCap = s.frameCap) (h5 : s'.mem.limit = s.mem.limit)
    (h6 : s'.heap.next = s.heap.next) : Steady s s' := ⟨h1, ⟨h2, h3, h4⟩, h5, Nat.le_of_eq h6.symm⟩

instance : StateFrame Steady where
  refl _ := .of_eq rfl rfl rfl rfl rfl rfl
  trans h1 h2 := ⟨h2.frames.trans h1.frames,
    StateOrder.trans h1.keep h2.keep,
    h2.limit.trans h1.limit, Nat.le_trans h1.next h2.next⟩
  stack _ _ := .of_eq rfl rfl rfl rfl rfl rfl
  globals _ _ := .of_eq rfl rfl rfl rfl rfl rfl
  guards _ _ := .of_eq rfl rfl rfl rfl rfl rfl
  hostLog _ _ := .of_eq rfl rfl rfl rfl rfl rfl

macro_rules | `(tactic| pres_side) => `(tactic| exact Steady.of_eq rfl rfl rfl rfl rfl rfl)

theorem steady_allocBytes (c : Nat) : Pres Steady (allocBytes c) := by unfold allocBytes; pres_auto
theorem steady_newObject (o : Obj) : Pres Steady (newObject o) := by
  unfold newObject
  exact pres_get_bind fun s => presAt_bind (presAt_set ⟨rfl, ⟨rfl, rfl, rfl⟩, rfl, Nat.le_succ _⟩) fun _ => pres_pure _
macro_rules | `(tactic| pres_prim) => `(tactic| with_reducible first
  | apply steady_allocBytes | apply steady_newObject)
theorem steady_initSimple (o : Obj) : Pres Steady (initSimple o) := by unfold initSimple; pres_auto
theorem steady_tableInsert (a : Nat) (k v : Val) : Pres Steady (tableInsert a k v) := by
  unfold tableInsert deallocBytes; pres_auto
macro_rules | `(tactic| pres_prim) => `(tactic| with_reducible apply steady_initSimple)

instance : StepFrame Steady where
  initTable := by unfold initTable deallocBytes; pres_auto
  initString _ := by unfold initString deallocBytes; pres_auto
  initSimple o _ _ := steady_initSimple o
  tableInsert s a k v _ := (steady_tableInsert a k v).rel s
  setTable _ _ _ _ _ _ := .of_eq rfl rfl rfl rfl rfl rfl
  closeUpvalues t := by
    unfold closeUpvalues
    exact pres_get_bind fun s => presAt_set (.of_eq rfl rfl rfl rfl rfl
      (closeGo_pres (R := fun h h' => h'.next = h.next) (fun _ => rfl) (fun h1 h2 => h2.trans h1)
        (fun _ _ _ _ _ => rfl) ..))
  writeUpvalueLoc _ _ := by unfold writeUpvalueLoc; pres_auto
  registerUpvalue _ _ _ := by unfold Upv.Instr.registerUpvalue; pres_auto

theorem StepFrame.mono {R₀ R : VmState → VmState → Prop} [StepFrame R₀] [StateOrder R]
    (h : ∀ {s s'}, R₀ s s' → R s s') : StepFrame R where
  stack s st := h (StateFrame.stack s st)
  globals s g := h (StateFrame.globals s g)
  guards s g := h (StateFrame.guards s g)
  hostLog s l := h (StateFrame.hostLog s l)
  initTable := StepFrame.initTable.mono h
  initString b := (StepFrame.initString b).mono h
  initSimple o h1 h2 := (StepFrame.initSimple o h1 h2).mono h
  tableInsert s a k v hr := h (StepFrame.tableInsert s a k v hr)
  setTable s a cap es es' hg := h (StepFrame.setTable s a cap es es' hg)
  closeUpvalues t := (StepFrame.closeUpvalues t).mono h
  writeUpvalueLoc a v := (StepFrame.writeUpvalueLoc a v).mono h
  registerUpvalue i l ip := (StepFrame.registerUpvalue i l ip).mono h

macro_rules
  | `(tactic| pres_side) => `(tactic| with_reducible exact CounterFrame.of_keep ⟨rfl, rfl, rfl⟩)

section counters
variable {R : VmState → VmState → Prop} [CounterFrame R]

instance : StepFrame R := StepFrame.mono (R₀ := Steady) fun h => CounterFrame.of_keep h.keep

theorem Pres.of_keep {α : Type} {m : M α} (h : Pres Keep m) : Pres R m :=
  Pres.intro (fun s => CounterFrame.of_keep (h.rel s))

theorem pres_keyOf (v : Val) : Pres R (keyOf v) := pres_of_prim _

end counters

theorem pres_callScript {R : VmState → VmState → Prop} [StateOrder R]
    (hR : ∀ (s : VmState) (fs : List Frame), R s { s with frames := fs }) (p : Prog) (src ip : Nat) (l : UInt32)
    (ar : Nat) (c : Option Nat) : Pres R (step.callScript p src ip l ar c) :=
  Pres.intro fun s => by
    obtain ⟨fs, h⟩ := callScript_frames p src ip l ar c s
    rw [h]
    exact hR s fs

theorem step_keep (p : Prog) (reenter : Reenter) (hre : ∀ f, Pres Keep (reenter f)) (src : Nat)
    (s : VmState) :
    ((step p reenter src).go s).2.remaining = s.remaining ∧
    ((step p reenter src).go s).2.dispatches = s.dispatches ∧
    ((step p reenter src).go s).2.frameCap = s.frameCap :=
  (pres_step_of p reenter hre src (fun _ => pres_callScript (fun _ _ => ⟨rfl, rfl, rfl⟩) p src _)
    (fun _ _ => ⟨rfl, rfl, rfl⟩)).rel s

/-! ## the dispatch loop -/

/-- a step frame that ignores the call stack and admits the two counter updates of the dispatch
    loop: what every run respects -/
class RunFrame (R : VmState → VmState → Prop) : Prop extends StepFrame R where
  frames : ∀ (s : VmState) (fs : List Frame), R s { s with frames := fs }
  tick : ∀ s : VmState, s.remaining - 1 ≠ 0 → R s s.tick
  timeout : ∀ s : VmState, R s { s with remaining := s.remaining - 1 }

class LoopFrame (R : VmState → VmState → Prop) : Prop extends CounterFrame R where
  tick : ∀ s : VmState, s.remaining - 1 ≠ 0 → R s s.tick
  timeout : ∀ s : VmState, R s { s with remaining := s.remaining - 1 }

instance {R : VmState → VmState → Prop} [LoopFrame R] : RunFrame R where
  frames _ _ := CounterFrame.of_keep ⟨rfl, rfl, rfl⟩
  tick := LoopFrame.tick
  timeout := LoopFrame.timeout

macro_rules | `(tactic| pres_side) => `(tactic| with_reducible exact RunFrame.frames _ _)

theorem pres_step {R : VmState → VmState → Prop} [RunFrame R] (p : Prog) (reenter : Reenter)
    (hre : ∀ f, Pres R (reenter f)) (src : Nat) : Pres R (step p reenter src) :=
  pres_step_of p reenter hre src (fun _ => pres_callScript RunFrame.frames p src _) (fun _ s => RunFrame.frames s _)

instance : LoopFrame Budget where
  tick s h := by simp only [Budget, VmState.tick]; omega
  timeout s := by simp only [Budget]; omega

instance : LoopFrame SameFrameCap where
  tick _ _ := rfl
  timeout _ := rfl

/-- **every run of the dispatch loop / of `run_function` respects every `RunFrame`**: the rule of the loop with
    "reached from `s₀` along `R`" as every assertion -/
theorem exec_pres {R : VmState → VmState → Prop} [RunFrame R] (p : Prog) :
    ∀ (gas : Nat) (t : Task) (s : VmState), R s (exec p gas t s).1 := by
  intro gas t s
  have key := exec_rule p (Pre := fun s₀ _ => R s₀) (LQ := R) (LE := fun s₀ _ => R s₀)
    (CPre := R) (CQ := R) (CE := fun s₀ _ => R s₀)
    (fun _ _ s h => ⟨h, fun _ => h, fun _ => StateOrder.trans h (RunFrame.timeout s)⟩)
    (fun _ _ _ h _ => h) ?run ?enter gas
  · cases t with
    | loop ip => exact (key.1 s ip s (StateOrder.refl s)).state
    | call f => exact (key.2 s f s (StateOrder.refl s)).state
  case run =>
    intro gas hre
    have hp : ∀ f, Pres R (reenterOf p gas f) := fun f => pres_of_callback fun s₀ => hre s₀ f
    refine ⟨fun s₀ ip s h hrem => ?_, fun s₀ h => ?_⟩
    · exact ((pres_iff_ho.1 (pres_step p _ hp ip) s₀).at (StateOrder.trans h (RunFrame.tick s hrem))).conseq
        (fun _ h => h) (fun ctl s' h => by split <;> exact h) (fun _ _ h => h)
    · exact (pres_iff_ho.1 (pres_callNative _ hp h) s₀).conseq
        (fun _ h => h) (fun _ s' h => StateOrder.trans h (StateFrame.stack _ _)) (fun _ _ h => h)
  case enter =>
    intro s₀ s a l ar clo e h _ _
    exact ⟨h, s₀, StateOrder.trans h (RunFrame.frames s _),
      fun s' h => StateOrder.trans h (StateOrder.trans (RunFrame.frames s' _)
        (StateFrame.stack { s' with frames := s'.frames.take s.frames.length } _)),
      fun _ s' h => StateOrder.trans h (RunFrame.frames s' _)⟩

/-! ## `run` -/

/-- the state in which `run` starts the loop -/
def started (n : Nat) (s : VmState) : VmState :=
  { s with frames := s.frames ++ [{ src := 0, dst := 0, stackOffset := 0, closure := none }],
           remaining := n, dispatches := 0 }

theorem run_no_room (p : Prog) (n : Nat) (s : VmState) (h : s.frames.length ≥ s.frameCap) :
    run p n s = (s, some ⟨.callStackOverflow, 0, []⟩) := by
  unfold run
  simp only [h, if_true]

theorem run_room (p : Prog) (n : Nat) (s : VmState) (h : s.frames.length < s.frameCap) :
    run p n s =
      (let r := exec p (gasFor (started n s) n) (.loop 0) (started n s)
       ({ r.1 with frames := r.1.frames.take s.frames.length, guards := s.guards },
        match r.2 with
        | .ok _ => none
        | .error e => some e)) := by
  unfold run runLoop
  rw [if_neg (Nat.not_le.2 h)]
  dsimp only [started]
  generalize exec p _ (Task.loop 0) _ = r
  rcases r with ⟨s', (e | v)⟩ <;> rfl

theorem run_pres {R : VmState → VmState → Prop} [RunFrame R] (p : Prog) (n : Nat) (s : VmState)
    (hstart : R s (started n s)) : R s (run p n s).1 := by
  by_cases h : s.frames.length < s.frameCap
  · rw [run_room p n s h]
    have h1 := exec_pres (R := R) p (gasFor (started n s) n) (.loop 0) (started n s)
    generalize exec p _ _ _ = r at h1
    obtain ⟨s', e⟩ := r
    exact StateOrder.trans hstart (StateOrder.trans h1 (StateOrder.trans (RunFrame.frames s' _)
      (StateFrame.guards { s' with frames := s'.frames.take s.frames.length } _)))
  · rw [run_no_room p n s (Nat.not_lt.mp h)]
    exact StateOrder.refl s

theorem exec_frameCap (p : Prog) (gas : Nat) (t : Task) (s : VmState) :
    (exec p gas t s).1.frameCap = s.frameCap :=
  exec_pres (R := SameFrameCap) p gas t s

/-! ## which errors an instruction can raise -/

/-- the errors the interpreter raises by itself: everything except `Timeout` and the model's
    own fuel panic -/
def Benign (e : ErrKind) : Prop := e ≠ .timeout ∧ e ≠ .panic "gas exhausted"

instance : ErrBase Benign where
  plain {e} h := ⟨fun he => by rw [he] at h; exact h.2 rfl, fun he => by rw [he] at h; exact absurd h.1 nofun⟩
  wrap _ := ⟨nofun, nofun⟩

theorem benign_panic {w : String} (h : w ≠ "gas exhausted") : Benign (.panic w) :=
  ⟨nofun, fun he => h (ErrKind.panic.inj he)⟩

macro_rules | `(tactic| kp_err) => `(tactic| exact benign_panic (by decide))

theorem throws_keyOf (v : Val) : Throws Benign (keyOf v) := throws_iff_kp.2 (kp_prim _)
theorem throws_guardRows (es : List (Val × Val)) : Throws Benign (guardRows es) := throws_iff_kp.2 (kp_prim _)
theorem throws_unguardRows (es : List (Val × Val)) : Throws Benign (unguardRows es) := throws_iff_kp.2 (kp_prim _)

/-- **an instruction never raises `Timeout` (nor the fuel panic) by itself**, whatever the
    callback does: errors of natives are wrapped -/
theorem throws_step (p : Prog) (reenter : Reenter) (src : Nat) : Throws Benign (step p reenter src) := by
  have hne : ∀ s : VmState, True → s.frames = [] → Benign (.panic "call stack is empty") :=
    fun _ _ _ => benign_panic (by decide)
  refine throws_iff_kp.2 (kp_step (E' := fun _ => True) p reenter src hne (benign_panic (by decide))
    (fun _ _ _ => ⟨nofun, nofun⟩) (fun f => throws_iff_kp.1 ⟨fun _ _ _ => trivial⟩) (fun _ _ _ _ => ?_)
    (fun _ _ _ => trivial) (fun o _ _ => kp_prim _) (fun _ _ _ _ _ _ _ => trivial) fun _ _ _ => ?_)
  · unfold step.callScript; kp_auto
  · unfold Upv.Instr.registerUpvalue; kp_auto

/-! ## errors that depend on the budget -/

def Fatal (e : ErrKind) : Prop := rootCause e = .timeout ∨ rootCause e = .panic "gas exhausted"

theorem fatal_taskFailure (n : String) (e : ErrKind) : Fatal (.taskFailure n e) ↔ Fatal e := by
  simp [Fatal, rootCause]

end Cao.Vm
