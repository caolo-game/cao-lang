import CaoProofs.Lemmas.CompilerLemmas
import CaoProofs.Lemmas.Flatten
/-!
# The jump table and the calls of compiled code (C08)

`Keeps`/`Kp`: the card compiler leaves the jump table, the namespace, the imports and `fnHandle` alone and only adds labels.
`compileUnit_spec`: the stages of `compileUnit` — the jump table is that of the stream (`jumpTableOf`), every body is
compiled with the full table (`BodyAt`). `Found T P m l`: what a card tree leaves in the window of bytecode it
emits, name by name; with `P = Resolves T` every static call of a compiled body resolved (`BodyAt.resolves`),
`CallSiteLemmas` uses it for the call sequences. The pure resolution is `ResolveSpec`, the module tree `Flatten`.
-/

namespace Cao.Compiler
open Cao

/-! ## what the card compiler leaves alone

`Keeps` holds of every primitive update (it is a `Prims` relation), hence of every action of the card compiler
(everything below `processFunction`): `Kp` is read off `Runs`. -/

structure Keeps (s s' : CState) : Prop where
  jt : s'.jumpTable = s.jumpTable
  ns : s'.ns = s.ns
  imports : s'.imports = s.imports
  fnHandle : s'.fnHandle = s.fnHandle
  labels : ∃ t, s'.labels = s.labels ++ t

theorem Keeps.refl (s : CState) : Keeps s s := ⟨rfl, rfl, rfl, rfl, [], (List.append_nil _).symm⟩

theorem Keeps.trans {s s1 s2 : CState} (h1 : Keeps s s1) (h2 : Keeps s1 s2) : Keeps s s2 := by
  obtain ⟨a1, b1, c1, d1, t1, e1⟩ := h1
  obtain ⟨a2, b2, c2, d2, t2, e2⟩ := h2
  exact ⟨a2.trans a1, b2.trans b1, c2.trans c1, d2.trans d1, t1 ++ t2, by rw [e2, e1, List.append_assoc]⟩

structure Kp {α : Type} (m : CM α) : Prop where
  run : ∀ s a s', m s = .ok (a, s') → Keeps s s'

instance : Prims (fun _ => Keeps) where
  refl _ := Keeps.refl
  trans := Keeps.trans
  weaken _ h := h
  emit _ _ := ⟨rfl, rfl, rfl, rfl, [], (List.append_nil _).symm⟩
  instr _ _ _ := ⟨rfl, rfl, rfl, rfl, [], (List.append_nil _).symm⟩
  patch _ _ _ _ := ⟨rfl, rfl, rfl, rfl, [], (List.append_nil _).symm⟩
  label x := ⟨rfl, rfl, rfl, rfl, [x], rfl⟩
  data _ := ⟨rfl, rfl, rfl, rfl, [], (List.append_nil _).symm⟩
  varId _ := ⟨rfl, rfl, rfl, rfl, [], (List.append_nil _).symm⟩
  varName _ := ⟨rfl, rfl, rfl, rfl, [], (List.append_nil _).symm⟩
  book _ _ _ _ _ := ⟨rfl, rfl, rfl, rfl, [], (List.append_nil _).symm⟩

theorem Runs.kp {α : Type} {E : CErr → Prop} {Q : α → Prop} {m : CM α}
    (h : Runs (fun _ => Keeps) E 0 Q m) : Kp m :=
  ⟨fun s a s' hr => (h.ok s a s' hr (Nat.zero_le _)).1.2⟩

theorem kp_throw {α : Type} {e : CErr} : Kp (throw e : CM α) := ⟨fun _ _ _ hr => nomatch hr⟩

theorem kp_run {α : Type} {m : CM α} (hm : Kp m) {s s' : CState} {a : α} (h : m s = .ok (a, s')) :
    Keeps s s' := hm.run s a s' h

theorem emitBytes_kp (bs : List UInt8) : Kp (emitBytes bs) := (emitBytes_runs (E := AnyErr) bs).kp
theorem emitU32_kp (x : Nat) : Kp (emitU32 x) := emitBytes_kp _
theorem pushInstr_kp (o : UInt8) : Kp (pushInstr o) := (pushInstr_runs (E := AnyErr) o).kp
theorem pushSub_kp (i : Nat) : Kp (pushSub i) := (pushSub_runs (E := AnyErr) i).kp
theorem patchI32_kp (at_ v : Nat) : Kp (patchI32 at_ v) := (patchI32_runs (E := AnyErr) v (Nat.zero_le _)).kp
theorem scopeBegin_kp : Kp scopeBegin := (scopeBegin_runs (E := AnyErr)).kp
theorem scopeEnd_kp : Kp scopeEnd := (scopeEnd_runs (E := AnyErr)).kp
theorem addLocalUnchecked_kp (n : String) : Kp (addLocalUnchecked n) := (addLocalUnchecked_runs (E := AnyErr) n).kp
theorem addLocal_kp (n : String) : Kp (addLocal n) := (addLocal_runs (E := AnyErr) n).kp
theorem addLocals_kp (ps : List String) : Kp (addLocals ps) := (addLocals_runs (E := AnyErr) ps).kp
theorem processCard_kp (c : Card) : Kp (processCard c) := (processCard_runs (E := AnyErr) c).kp
theorem processArrayItems_kp (tv i : Nat) (cs : List Card) : Kp (processArrayItems tv i cs) :=
  (processArrayItems_runs (E := AnyErr) tv i cs).kp
theorem compileSubexprFrom_kp (i : Nat) (cs : List Card) : Kp (compileSubexprFrom i cs) :=
  (compileSubexprFrom_runs (E := AnyErr) i cs).kp
theorem processFunctionCards_kp (i : Nat) (cs : List Card) : Kp (processFunctionCards i cs) :=
  (processFunctionCards_runs (E := AnyErr) i cs).kp

/-! ## `addFunctions`, the stages of `compileUnit` -/

theorem fail_bind_run {α β : Type} (k : CErrKind) (f : α → CM β) (s : CState) :
    StateT.bind (fail k : CM α) f s = .error (.err k (some (traceOf s))) := rfl

theorem addFunctions_ok : ∀ (fs : List FunctionIr) (s s' : CState),
    addFunctions fs s = .ok ((), s') ↔
      (∀ f ∈ fs, ∀ p ∈ s.jumpTable, p.1 ≠ f.fullName) ∧
      (fs.map FunctionIr.fullName).Pairwise (· ≠ ·) ∧
      s' = { s with jumpTable := s.jumpTable ++ jumpTableOf fs }
  | [], s, s' => by
    simp only [addFunctions, pure_run, Except.ok.injEq, Prod.mk.injEq, true_and, List.not_mem_nil,
      false_imp_iff, implies_true, List.map_nil, List.Pairwise.nil, jumpTableOf, List.append_nil]
    exact eq_comm
  | f :: fs, s, s' => by
    unfold addFunctions
    rw [bind_ok]
    simp only [addFunction_run]
    by_cases hc : (s.jumpTable.any fun p => p.1 == f.fullName) = true
    · simp only [hc, if_true, reduceCtorEq, false_and, exists_false, false_iff]
      rintro ⟨h, _⟩
      obtain ⟨p, hp, hpe⟩ := List.any_eq_true.1 hc
      exact h f (List.mem_cons_self ..) p hp (by simpa using hpe)
    · have hc' : ∀ p ∈ s.jumpTable, p.1 ≠ f.fullName := by
        intro p hp he
        exact hc (List.any_eq_true.2 ⟨p, hp, by simpa using he⟩)
      simp only [if_neg hc]
      constructor
      · rintro ⟨u, s1, h1, h2⟩
        cases h1
        rw [addFunctions_ok fs] at h2
        obtain ⟨h1, h2, rfl⟩ := h2
        simp only [List.mem_append, List.mem_singleton] at h1
        refine ⟨?_, ?_, ?_⟩
        · intro a ha p hp
          rcases List.mem_cons.1 ha with rfl | ha
          · exact hc' p hp
          · exact h1 a ha p (Or.inl hp)
        · simp only [List.map_cons, List.pairwise_cons, List.mem_map, forall_exists_index, and_imp,
            forall_apply_eq_imp_iff₂]
          exact ⟨fun a ha he => h1 a ha _ (Or.inr rfl) he, h2⟩
        · simp [jumpTableOf, List.append_assoc]
      · rintro ⟨h1, h2, rfl⟩
        refine ⟨(), _, rfl, ?_⟩
        rw [addFunctions_ok fs]
        simp only [List.map_cons, List.pairwise_cons, List.mem_map, forall_exists_index, and_imp,
          forall_apply_eq_imp_iff₂] at h2
        refine ⟨?_, h2.2, ?_⟩
        · intro a ha p hp
          simp only [List.mem_append, List.mem_singleton] at hp
          rcases hp with hp | rfl
          · exact h1 a (List.mem_cons_of_mem _ ha) p hp
          · exact h2.1 a ha
        · simp [jumpTableOf, List.append_assoc]

theorem addFunctions_error : ∀ (fs : List FunctionIr) (s : CState) (e : CErr),
    addFunctions fs s = .error e → e = .err .duplicateName (some (traceOf s))
  | [], s, e => by intro h; cases h
  | f :: fs, s, e => by
    unfold addFunctions
    show StateT.bind (addFunction f) _ s = _ → _
    unfold StateT.bind
    rw [addFunction_run]
    by_cases hc : (s.jumpTable.any fun p => p.1 == f.fullName) = true
    · rw [if_pos hc]
      intro h; cases h; rfl
    · rw [if_neg hc]
      intro h
      exact addFunctions_error fs { s with jumpTable := s.jumpTable ++ [(f.fullName, tgt f)] } e h

theorem Extends.refl (s : CState) : Extends s s := extends_iff.2 (Ext.refl _ s)

theorem Extends.trans {s s1 s2 : CState} (h1 : Extends s s1) (h2 : Extends s1 s2) : Extends s s2 :=
  extends_iff.2 ((extends_iff.1 h1).trans ((extends_iff.1 h2).weaken h1.size_le))

/-- the frame of the function-level actions: weaker than `Keeps`, because the namespace and the imports are
re-installed for every function -/
structure KeepsJ (s s' : CState) : Prop where
  jt : s'.jumpTable = s.jumpTable
  labels : ∃ t, s'.labels = s.labels ++ t

theorem Keeps.toJ {s s' : CState} (h : Keeps s s') : KeepsJ s s' := ⟨h.jt, h.labels⟩
theorem KeepsJ.refl (s : CState) : KeepsJ s s := ⟨rfl, [], (List.append_nil _).symm⟩
theorem KeepsJ.trans {s s1 s2 : CState} (h1 : KeepsJ s s1) (h2 : KeepsJ s1 s2) : KeepsJ s s2 := by
  obtain ⟨a1, t1, e1⟩ := h1
  obtain ⟨a2, t2, e2⟩ := h2
  exact ⟨a2.trans a1, t1 ++ t2, by rw [e2, e1, List.append_assoc]⟩
theorem KeepsJ.mem {s s' : CState} (h : KeepsJ s s') {p : UInt32 × Nat} (hp : p ∈ s.labels) : p ∈ s'.labels := by
  obtain ⟨t, e⟩ := h.labels
  rw [e]; exact List.mem_append_left _ hp

/-- the body of `f` was compiled starting at bytecode position `pos`, with the jump table `jt`
and `f`'s own namespace and imports installed (and kept while its cards are compiled); the
final state `final` still has those bytes -/
def BodyAt (jt : JumpTable) (f : FunctionIr) (pos : Nat) (final : CState) : Prop :=
  ∃ sb sb', sb.jumpTable = jt ∧ sb.ns = f.ns ∧ sb.imports = f.imports ∧ sb.fnHandle = f.handle ∧
    sb.bytecode.size = pos ∧ processFunctionCards 0 f.cards sb = .ok ((), sb') ∧ Keeps sb sb' ∧
    Extends sb' final

theorem BodyAt.mono {jt : JumpTable} {f : FunctionIr} {pos : Nat} {s s' : CState}
    (h : BodyAt jt f pos s) (he : Extends s s') : BodyAt jt f pos s' := by
  obtain ⟨sb, sb', h1, h2, h3, h4, h5, h6, h7, h8⟩ := h
  exact ⟨sb, sb', h1, h2, h3, h4, h5, h6, h7, h8.trans he⟩

theorem processFunction_spec {f : FunctionIr} {s s' : CState} (h : processFunction f s = .ok ((), s')) :
    BodyAt s.jumpTable f s.bytecode.size s' ∧ KeepsJ s s' := by
  unfold processFunction at h
  obtain ⟨_, s1, h1, h⟩ := bind_ok.1 h
  obtain ⟨_, s2, h2, h3⟩ := bind_ok.1 h
  simp only [modify_run, Except.ok.injEq, Prod.mk.injEq, true_and] at h1
  subst h1
  have hb : s2.bytecode = s.bytecode := by obtain ⟨L, rfl⟩ := addLocals_ok _ h2; rfl
  have hk := ((addLocals_kp f.arguments.reverse).run _ _ _ h2)
  have hk3 := ((processFunctionCards_kp 0 f.cards).run _ _ _ h3)
  refine ⟨⟨s2, s', hk.jt, hk.ns, hk.imports, hk.fnHandle, by rw [hb], h3, hk3, Extends.refl _⟩, ?_⟩
  exact KeepsJ.trans ⟨hk.jt, hk.labels⟩ hk3.toJ

theorem compileFunction_spec {f : FunctionIr} {s s' : CState} (h : compileFunction f s = .ok ((), s')) :
    f.handle ≠ 0 ∧ (f.handle, s.bytecode.size) ∈ s'.labels ∧
    BodyAt s.jumpTable f s.bytecode.size s' ∧ KeepsJ s s' ∧ Extends s s' := by
  have hext : Extends s s' := Mono.extends (fun _ => compileFunction_mono f) h
  obtain ⟨s3, s4, s5, s6, s7, h3, h4, h5, h6, h7, h8⟩ := compileFunction_ok h
  rw [insertLabel_run] at h3
  have hne : f.handle ≠ 0 := by
    intro h0
    rw [if_pos h0] at h3; cases h3
  rw [if_neg hne] at h3
  have hs3 : s3 = { s with labels := s.labels ++ [(f.handle, s.bytecode.size)],
                           curFunction := f.functionIndex, curIndices := ([] : List Nat) } :=
    (Prod.mk.inj (Except.ok.inj h3)).2.symm
  have k4 := kp_run scopeBegin_kp h4
  have e4 : s4.bytecode = s3.bytecode := by
    rw [scopeBegin_run] at h4
    rw [← (Prod.mk.inj (Except.ok.inj h4)).2]
  obtain ⟨hbody, k5⟩ := processFunction_spec h5
  have k6 := kp_run scopeEnd_kp h6
  have k7 := kp_run (pushInstr_kp _) h7
  have k8 := kp_run (pushInstr_kp _) h8
  have x6 := Mono.extends (fun _ => scopeEnd_mono) h6
  have x7 := Mono.extends (fun _ => pushInstr_mono _) h7
  have x8 := Mono.extends (fun _ => pushInstr_mono _) h8
  have k3 : KeepsJ s s3 := by rw [hs3]; exact ⟨rfl, _, rfl⟩
  have kall : KeepsJ s s' :=
    k3.trans (k4.toJ.trans (k5.trans (k6.toJ.trans (k7.toJ.trans k8.toJ))))
  refine ⟨hne, ?_, ?_, kall, hext⟩
  · have : (f.handle, s.bytecode.size) ∈ s3.labels := by rw [hs3]; simp
    exact (k4.toJ.trans (k5.trans (k6.toJ.trans (k7.toJ.trans k8.toJ)))).mem this
  · have hb := hbody.mono (x6.trans (x7.trans x8))
    have e1 : s4.jumpTable = s.jumpTable := by rw [k4.jt, hs3]
    have e2 : s4.bytecode.size = s.bytecode.size := by rw [e4, hs3]
    rw [e1, e2] at hb
    exact hb

theorem compileFunctions_spec : ∀ (fs : List FunctionIr) (s s' : CState),
    compileFunctions fs s = .ok ((), s') →
      KeepsJ s s' ∧ Extends s s' ∧
      ∀ i (hi : i < fs.length), fs[i].handle ≠ 0 ∧
        ∃ pos, (fs[i].handle, pos) ∈ s'.labels ∧ BodyAt s.jumpTable fs[i] pos s'
  | [], s, s' => by
    intro h
    simp only [compileFunctions, pure_run, Except.ok.injEq, Prod.mk.injEq, true_and] at h
    subst h
    exact ⟨KeepsJ.refl _, Extends.refl _, fun i hi => absurd hi (by simp)⟩
  | f :: fs, s, s' => by
    intro h
    unfold compileFunctions at h
    obtain ⟨_, s1, h1, h2⟩ := bind_ok.1 h
    obtain ⟨hne, hl, hb, hk, hx⟩ := compileFunction_spec h1
    obtain ⟨hk2, hx2, hrest⟩ := compileFunctions_spec fs s1 s' h2
    refine ⟨hk.trans hk2, hx.trans hx2, fun i hi => ?_⟩
    cases i with
    | zero => exact ⟨hne, _, hk2.mem hl, hb.mono hx2⟩
    | succ i =>
      obtain ⟨h3, pos, h4, h5⟩ := hrest i (by simpa using hi)
      rw [hk.jt] at h5
      exact ⟨h3, pos, h4, h5⟩

theorem compileUnit_spec {unit : Array FunctionIr} {s' : CState} (h : compileUnit unit {} = .ok ((), s')) :
    0 < unit.size ∧
    (unit.toList.map FunctionIr.fullName).Pairwise (· ≠ ·) ∧
    s'.jumpTable = jumpTableOf unit.toList ∧
    BodyAt (jumpTableOf unit.toList) unit[0]! 0 s' ∧
    ∀ i (hi : i < unit.size), 0 < i → unit[i].handle ≠ 0 ∧
      ∃ pos, (unit[i].handle, pos) ∈ s'.labels ∧ BodyAt (jumpTableOf unit.toList) unit[i] pos s' := by
  obtain ⟨he, s1, s3, s4, s6, s7, s8, h1, h3, h4, h6, h7, h8, h10⟩ := compileUnit_ok h
  have hpos : 0 < unit.size := by
    rcases Nat.eq_zero_or_pos unit.size with h0 | h0
    · have : unit.isEmpty = true := by simpa using h0
      rw [he] at this; cases this
    · exact h0
  obtain ⟨_, hpw, rfl⟩ := (addFunctions_ok _ _ _).1 h1
  have e3 : s3.jumpTable = jumpTableOf unit.toList ∧ s3.bytecode = #[] := by
    rw [scopeBegin_run] at h3
    rw [← (Prod.mk.inj (Except.ok.inj h3)).2]; exact ⟨by simp, rfl⟩
  obtain ⟨hbody, k4⟩ := processFunction_spec h4
  rw [e3.1, e3.2] at hbody
  have k6 := (kp_run scopeEnd_kp h6).toJ
  have k7 := (kp_run (processCard_kp _) h7).toJ
  obtain ⟨k8, x8, hfs⟩ := compileFunctions_spec _ _ _ h8
  have k10 := (kp_run (pushInstr_kp _) h10).toJ
  have x6 := Mono.extends (fun _ => scopeEnd_mono) h6
  have x7 := Mono.extends (fun _ => processCard_mono _) h7
  have x10 := Mono.extends (fun _ => pushInstr_mono _) h10
  have x6' : Extends s4 s6 := ⟨x6.1, x6.2, x6.3⟩
  have x10' : Extends s8 s' := ⟨x10.1, x10.2, x10.3⟩
  have jt4 : s4.jumpTable = jumpTableOf unit.toList := by rw [k4.jt, e3.1]
  have jt7 : s7.jumpTable = jumpTableOf unit.toList := by rw [k7.jt, k6.jt]; exact jt4
  refine ⟨hpos, hpw, ?_, ?_, ?_⟩
  · rw [k10.jt]; show s8.jumpTable = _; rw [k8.jt, jt7]
  · exact hbody.mono (x6'.trans (x7.trans (x8.trans x10')))
  · intro i hi hi0
    have hlen : i - 1 < (unit.toList.drop 1).length := by simp; omega
    obtain ⟨hne, pos, hl, hb⟩ := hfs (i - 1) hlen
    have hget : (unit.toList.drop 1)[i - 1] = unit[i] := by
      simp only [List.getElem_drop, Array.getElem_toList]
      congr 1; omega
    rw [hget] at hne hl hb
    rw [jt7] at hb
    refine ⟨hne, pos, ?_, hb.mono x10'⟩
    have k9 : KeepsJ s8 { s8 with imports := [] } := ⟨rfl, [], (List.append_nil _).symm⟩
    exact (k9.trans k10).mem hl

/-! ## a successful compilation resolved every static call

`calls c`: the names of all static calls (`Call`) and function references (`Function`) in a card tree.
`Res T m Q`: every successful run of `m` from a state whose tables are `T` establishes `Q`. The one local fact is
that `encodeJump name` succeeds only if `name` resolves (`res_encodeJump`). -/

mutual
  def calls : Card → List String
    | .bin _ a b => calls a ++ calls b
    | .un _ c => calls c
    | .tri _ a b c => calls a ++ (calls b ++ calls c)
    | .function name => [name]
    | .setVar _ v => calls v
    | .setGlobalVar _ v => calls v
    | .callNative _ args => callsList args
    | .call name args => name :: callsList args
    | .repeat _ n body => calls n ++ calls body
    | .forEach _ _ _ it body => calls it ++ calls body
    | .composite _ cards => callsList cards
    | .dynamicCall args f => callsList args ++ calls f
    | .array cards => callsList cards
    | .closure _ cards => callsList cards
    | .scalarNil | .createTable | .abort | .scalarInt _ | .scalarFloat _ | .stringLiteral _
    | .comment _ | .nativeFunction _ | .readVar _ => []
  def callsList : List Card → List String
    | [] => []
    | c :: cs => calls c ++ callsList cs
end

/-- the resolution tables in force while one function is compiled -/
structure Tables where
  jt : JumpTable
  ns : List String
  imports : List (String × String)

def Tables.holds (T : Tables) (s : CState) : Prop :=
  s.jumpTable = T.jt ∧ s.ns = T.ns ∧ s.imports = T.imports

theorem Tables.holds_of_keeps {T : Tables} {s s' : CState} (h : T.holds s) (k : Keeps s s') : T.holds s' :=
  ⟨k.jt.trans h.1, k.ns.trans h.2.1, k.imports.trans h.2.2⟩

def Resolves (T : Tables) (n : String) : Prop := ∃ r, resolveSpec T.jt T.ns T.imports n = .ok r

def Res (T : Tables) {α : Type} (m : CM α) (Q : Prop) : Prop :=
  ∀ s a s', T.holds s → m s = .ok (a, s') → Q

theorem res_bind_left {T : Tables} {α β : Type} {m : CM α} {f : α → CM β} {Q : Prop} (h : Res T m Q) :
    Res T (m >>= f) Q := by
  intro s b s'' hT hr
  obtain ⟨a, s', h1, _⟩ := bind_ok.1 hr
  exact h s a s' hT h1

theorem res_bind_right {T : Tables} {α β : Type} {m : CM α} {f : α → CM β} {Q : Prop} (hk : Kp m)
    (h : ∀ a, Res T (f a) Q) : Res T (m >>= f) Q := by
  intro s b s'' hT hr
  obtain ⟨a, s', h1, h2⟩ := bind_ok.1 hr
  exact h a s' b s'' (Tables.holds_of_keeps hT (hk.run s a s' h1)) h2

section
variable {T : Tables} {Q : Prop}

theorem encodeIfThen_res {skip : UInt8} {m : CM Unit} (h : Res T m Q) : Res T (encodeIfThen skip m) Q :=
  res_bind_right (pushInstr_kp _) fun _ => res_bind_right ⟨fun _ _ _ hr => by cases hr; exact Keeps.refl _⟩ fun _ =>
    res_bind_right (emitU32_kp _) fun _ => res_bind_left h

theorem encodeIfThenRet_res {skip : UInt8} {m : CM Nat} (h : Res T m Q) : Res T (encodeIfThenRet skip m) Q :=
  res_bind_right (pushInstr_kp _) fun _ => res_bind_right ⟨fun _ _ _ hr => by cases hr; exact Keeps.refl _⟩ fun _ =>
    res_bind_right (emitU32_kp _) fun _ => res_bind_left h

set_option linter.unusedVariables false in
theorem forEachCode_res1 {i k v : Option String} {it body : CM Unit} (hb : Kp body) (h : Res T it Q) :
    Res T (forEachCode i k v it body) Q :=
  res_bind_left (res_bind_right (pushSub_kp 0) fun _ => res_bind_left h)

end

/-! ### what a card tree leaves in the code, name by name

Both "every name resolved" and "every `Call` card left its call sequence" (`CallSiteLemmas`) say
that something holds, for every name in a list read off the card tree, of the bytecode inside the
window the card's code occupies; code compiled before or after only appends, or back-patches a
jump operand outside that window.  `Found T P m l` is that statement for a window property `P`. -/

abbrev Grown (k : Nat) (s s' : CState) : Prop := Ext k s s' ∧ Keeps s s'

abbrev Growing {α : Type} (m : CM α) : Prop := ∀ k, Run Grown AnyErr k m

theorem Growing.grown {α : Type} {m : CM α} (h : Growing m) {s s' : CState} {a : α} (hr : m s = .ok (a, s')) :
    Ext s.bytecode.size s s' ∧ Keeps s s' :=
  ((h s.bytecode.size).ok s a s' hr (Nat.le_refl _)).1.2

/-- a property of the bytecode in the window `[lo, hi)`: stable under changes outside the window -/
class Window (P : String → Nat → Nat → Array UInt8 → Prop) : Prop where
  stable : ∀ {n lo hi bc bc'}, P n lo hi bc → bc.size ≤ bc'.size →
    (∀ i, lo ≤ i → i < hi → bc'[i]? = bc[i]?) → P n lo hi bc'
  widen : ∀ {n lo hi lo' hi' bc}, P n lo hi bc → lo' ≤ lo → hi ≤ hi' → P n lo' hi' bc

/-- `m` only grows the state, and run with the tables `T` it leaves, for every name in `l`, what `P`
says in the window of the code it emitted -/
structure Found (T : Tables) (P : String → Nat → Nat → Array UInt8 → Prop) {α : Type} (m : CM α)
    (l : List String) : Prop where
  gen : Growing m
  run : ∀ s a s', T.holds s → m s = .ok (a, s') → ∀ n ∈ l, P n s.bytecode.size s'.bytecode.size s'.bytecode

theorem patchI32_result {idx v : Nat} {s s' : CState} (h : patchI32 idx v s = .ok ((), s')) :
    s' = { s with bytecode := patched s.bytecode idx (le32 (UInt32.ofNat v)) } := by
  rw [patchI32_eq] at h; cases h; rfl

section found
variable {T : Tables} {P : String → Nat → Nat → Array UInt8 → Prop} [Window P] {α β : Type}

omit [Window P] in
theorem found_nil {m : CM α} (hg : Growing m) : Found T P m [] := ⟨hg, fun _ _ _ _ _ _ h => nomatch h⟩

omit [Window P] in
theorem Found.sub {m : CM α} {l l' : List String} (h : Found T P m l) (hl : ∀ n ∈ l', n ∈ l) :
    Found T P m l' := ⟨h.gen, fun s a s' hT hr n hn => h.run s a s' hT hr n (hl n hn)⟩

/-- what the first action left stays, what the rest leaves lies behind it -/
theorem found_bind {m : CM α} {f : α → CM β} {l₁ l₂ : List String} (hm : Found T P m l₁)
    (hf : ∀ a, Found T P (f a) l₂) : Found T P (m >>= f) (l₁ ++ l₂) := by
  refine ⟨fun k => runs_bind (hm.gen k) fun a _ => (hf a).gen k, fun s b s'' hT hr n hn => ?_⟩
  obtain ⟨a, s', h1, h2⟩ := bind_ok.1 hr
  obtain ⟨e1, k1⟩ := hm.gen.grown h1
  obtain ⟨e2, _⟩ := (hf a).gen.grown h2
  rcases List.mem_append.1 hn with hn | hn
  · exact Window.widen (Window.stable (hm.run s a s' hT h1 n hn) e2.size_le fun i _ hi => e2.pref i hi)
      (Nat.le_refl _) e2.size_le
  · exact Window.widen ((hf a).run s' b s'' (Tables.holds_of_keeps hT k1) h2 n hn) e1.size_le (Nat.le_refl _)

theorem found_pre {m : CM α} {f : α → CM β} {l : List String} (hm : Growing m) (hf : ∀ a, Found T P (f a) l) :
    Found T P (m >>= f) l := found_bind (found_nil hm) hf

theorem found_post {m : CM α} {f : α → CM β} {l : List String} (hm : Found T P m l) (hf : ∀ a, Growing (f a)) :
    Found T P (m >>= f) l :=
  (found_bind hm fun a => found_nil (hf a)).sub fun _ h => List.mem_append_left _ h

theorem found_seq {m : CM Unit} {n : CM β} {l₁ l₂ : List String} (hm : Found T P m l₁) (hn : Found T P n l₂) :
    Found T P (m >>= fun _ => n) (l₁ ++ l₂) := found_bind hm fun _ => hn

omit [Window P] in
theorem gen_seq {m : CM Unit} {n : CM β} (hm : Growing m) (hn : Growing n) : Growing (m >>= fun _ => n) :=
  fun k => runs_seq (hm k) (hn k)

theorem found_withSub {i : Nat} {m : CM Unit} {l : List String} (h : Found T P m l) :
    Found T P (withSub i m) l :=
  found_pre (fun _ => pushSub_runs i) fun _ => found_post h fun _ _ => popSub_runs

omit [Window P] in
theorem holds_step {m : CM α} {s s' : CState} {a : α} (hT : T.holds s) (hg : Growing m) (hr : m s = .ok (a, s')) :
    T.holds s' := Tables.holds_of_keeps hT (hg.grown hr).2

theorem Window.step {n : String} {lo hi : Nat} {m : CM α} (hg : Growing m) {s s' : CState} {a : α}
    (hp : P n lo hi s.bytecode) (hr : m s = .ok (a, s')) (hhi : hi ≤ s.bytecode.size) :
    P n lo hi s'.bytecode :=
  Window.stable hp (hg.grown hr).1.size_le fun i _ hi' => (hg.grown hr).1.pref i (Nat.lt_of_lt_of_le hi' hhi)

theorem Window.patch {n : String} {lo hi idx v : Nat} {s s' : CState} (hp : P n lo hi s.bytecode)
    (hr : patchI32 idx v s = .ok ((), s')) (hout : idx + 4 ≤ lo ∨ hi ≤ idx) : P n lo hi s'.bytecode := by
  rw [patchI32_result hr]
  exact Window.stable hp (Nat.le_of_eq (patched_size ..).symm) fun i h1 h2 =>
    patched_getElem? _ _ _ (by omega)

omit [Window P] in
theorem grows_size {m : CM α} (hg : Growing m) {s s' : CState} {a : α} (hr : m s = .ok (a, s')) :
    s.bytecode.size ≤ s'.bytecode.size := (hg.grown hr).1.size_le

theorem patchI32_size {idx v : Nat} {s s' : CState} (h : patchI32 idx v s = .ok ((), s')) :
    s'.bytecode.size = s.bytecode.size := by rw [patchI32_result h]; exact patched_size ..

theorem pushSub_size {i : Nat} {s s' : CState} (h : pushSub i s = .ok ((), s')) :
    s'.bytecode.size = s.bytecode.size := by cases h; rfl

theorem popSub_size {s s' : CState} (h : popSub s = .ok ((), s')) :
    s'.bytecode.size = s.bytecode.size := by cases h; rfl

omit [Window P] in
theorem gen_withSub {i : Nat} {m : CM Unit} (h : Growing m) : Growing (withSub i m) := fun k => withSub_runs (h k)

omit [Window P] in
theorem gen_instr (o : UInt8) (bs : List UInt8) : Growing (pushInstr o >>= fun _ => emitBytes bs) :=
  fun _ => runs_seq (pushInstr_runs o) (emitBytes_runs bs)

/-- the placeholder patched behind the block lies in front of it -/
theorem found_encodeIfThen {skip : UInt8} {m : CM Unit} {l : List String} (h : Found T P m l) :
    Found T P (encodeIfThen skip m) l := by
  refine ⟨fun k => encodeIfThen_runs (h.gen k), fun s u s' hT hr n hn => ?_⟩
  obtain ⟨s3, h4, h6⟩ := Wf.encodeIfThen_ok hr
  have z := Wf.afterJump_size s skip 0
  have hp := h.run _ _ s3 (holds_step hT (gen_instr _ _) (Wf.jump_run skip 0 s)) h4 n hn
  exact Window.widen (Window.patch hp h6 (.inl (by omega))) (by omega) (Nat.le_of_eq (patchI32_size h6).symm)

/-- `IfElse`: both back-patched operands lie outside the windows of the three children -/
theorem found_ifElseCode {c t e : CM Unit} {l₁ l₂ l₃ : List String} (h1 : Found T P c l₁)
    (h2 : Found T P t l₂) (h3 : Found T P e l₃) : Found T P (ifElseCode c t e) (l₁ ++ (l₂ ++ l₃)) := by
  refine ⟨fun k => ifElseCode_runs (h1.gen k) (h2.gen k) (h3.gen k), fun s u s' hT hr n hn => ?_⟩
  obtain ⟨s1, s2, b1, a4, s4, s5, r1, r2, r5, r8, r9, r10, r11⟩ := Wf.ifElseCode_ok hr
  have j1 := Wf.jump_run op.gotoIfFalse 0 s2
  have j2 := Wf.jump_run op.goto 0xEEF b1
  have gJ : ∀ o x, Growing (pushInstr o >>= fun _ => emitU32 x) := fun o x => gen_instr o _
  have gPush : Growing (pushSub 1) := fun _ => pushSub_runs 1
  have gPop : Growing popSub := fun _ => popSub_runs
  have z1 := grows_size (gen_withSub h1.gen) r1
  have z2 := pushSub_size r2
  have z3 := Wf.afterJump_size s2 op.gotoIfFalse 0
  have z5 := grows_size h2.gen r5
  have z6 := Wf.afterJump_size b1 op.goto 0xEEF
  have z8 := patchI32_size r8
  have z9 := popSub_size r9
  have z10 := grows_size (gen_withSub h3.gen) r10
  have z11 := patchI32_size r11
  have hTa2 : T.holds (Wf.afterJump s2 op.gotoIfFalse 0) :=
    holds_step (holds_step (holds_step hT (gen_withSub h1.gen) r1) gPush r2) (gJ _ _) j1
  rcases List.mem_append.1 hn with hn | hn
  · have p1 := (found_withSub h1).run s _ s1 hT r1 n hn
    have p2 := Window.step gPush p1 r2 (Nat.le_refl _)
    have p4 := Window.step (gJ _ _) p2 j1 (by omega)
    have p5 := Window.step h2.gen p4 r5 (by omega)
    have p7 := Window.step (gJ _ _) p5 j2 (by omega)
    have p8 := Window.patch p7 r8 (.inr (by omega))
    have p9 := Window.step gPop p8 r9 (by omega)
    have p10 := Window.step (gen_withSub h3.gen) p9 r10 (by omega)
    exact Window.widen (Window.patch p10 r11 (.inr (by omega))) (Nat.le_refl _) (by omega)
  rcases List.mem_append.1 hn with hn | hn
  · have p5 := h2.run _ _ b1 hTa2 r5 n hn
    have p7 := Window.step (gJ _ _) p5 j2 (Nat.le_refl _)
    have p8 := Window.patch p7 r8 (.inl (by omega))
    have p9 := Window.step gPop p8 r9 (by omega)
    have p10 := Window.step (gen_withSub h3.gen) p9 r10 (by omega)
    exact Window.widen (Window.patch p10 r11 (.inr (by omega))) (by omega) (by omega)
  · have hTa4 : T.holds a4 := Tables.holds_of_keeps
      (holds_step (holds_step hTa2 h2.gen r5) (gJ _ _) j2) (kp_run (patchI32_kp _ _) r8)
    have p10 := (found_withSub h3).run s4 _ s5 (holds_step hTa4 gPop r9) r10 n hn
    exact Window.widen (Window.patch p10 r11 (.inl (by omega))) (by omega) (by omega)

/-- `Closure`: the `Goto` operand patched behind the body lies in front of it -/
theorem found_closureCode {args : List String} {b : CM Unit} {l : List String} (h : Found T P b l) :
    Found T P (closureCode args b) l := by
  refine ⟨fun k => closureCode_runs (h.gen k), fun s u s' hT hr n hn => ?_⟩
  obtain ⟨fh, s8, s11, s12, _, h8, h11, h12, h13⟩ := Wf.closureCode_ok hr
  obtain ⟨_, s5, h5, h8⟩ := bind_ok.1 h8
  obtain ⟨_, s6, h6, h8⟩ := bind_ok.1 h8
  obtain ⟨_, s7, h7, h8⟩ := bind_ok.1 h8
  have g5 : Growing scopeBegin := fun _ => scopeBegin_runs
  have g6 : Growing (addLocals args.reverse) := fun _ => addLocals_runs _
  have g8 : Growing scopeEnd := fun _ => scopeEnd_runs
  have hT6 : T.holds s6 :=
    holds_step (holds_step (Tables.holds_of_keeps hT ⟨rfl, rfl, rfl, rfl, [_], rfl⟩ : T.holds (Wf.closureCtx s fh)) g5 h5) g6 h6
  have z4 := Wf.closureCtx_size s fh
  have z5 := grows_size g5 h5
  have z6 := grows_size g6 h6
  have z7 := grows_size h.gen h7
  have z8 := grows_size g8 h8
  have z9 := Wf.afterInstr_size s8 op.scalarNil
  have z10 := Wf.afterInstr_size (Wf.afterInstr s8 op.scalarNil []) op.ret
  have z11 := patchI32_size h11
  have j12 := Wf.pushInstr_emit_run op.closure (le32 fh ++ le32 (UInt32.ofNat args.length)) s11
  have z12 := grows_size (gen_instr _ _) j12
  have z13 := grows_size (fun _ => emitUpvalues_runs _) h12
  have z14 := grows_size (fun _ => compileEnd_runs) h13
  have p8 := Window.step g8 (h.run s6 _ s7 hT6 h7 n hn) h8 (Nat.le_refl _)
  have p9 := Window.step (gen_instr _ _) p8 (Wf.pushInstr_emit_run op.scalarNil [] s8) (by omega)
  have p10 := Window.step (gen_instr _ _) p9 (Wf.pushInstr_emit_run op.ret [] _) (by omega)
  have p11 := Window.patch p10 h11 (.inl (by omega))
  have p12 := Window.step (gen_instr _ _) p11 j12 (by omega)
  have p13 := Window.step (fun _ => emitUpvalues_runs _) p12 h12 (by omega)
  exact Window.widen (Window.step (fun _ => compileEnd_runs) p13 h13 (by omega)) (by omega) (by omega)

theorem found_callCode {name : String} {a : CM Unit} {l : List String} (h : Found T P a l)
    (hh : ∀ s s', T.holds s → (pushInstr op.functionPointer >>= fun _ => encodeJump name >>= fun _ =>
      pushInstr op.callFunction) s = .ok ((), s') → P name s.bytecode.size s'.bytecode.size s'.bytecode) :
    Found T P (callCode name a) (name :: l) :=
  (found_seq h ⟨fun _ => runs_seq (pushInstr_runs _) <| runs_seq (encodeJump_runs name) (pushInstr_runs _),
    fun s _ s' hT hr n hn => by rw [List.mem_singleton.1 hn]; exact hh s s' hT hr⟩).sub fun n hn => by
      rcases List.mem_cons.1 hn with rfl | hn
      · exact List.mem_append_right _ (List.mem_singleton_self _)
      · exact List.mem_append_left _ hn

/-! #### the other arms, statement by statement -/

theorem found_forEachCode {i kk v : Option String} {it body : CM Unit} {l₁ l₂ : List String}
    (h1 : Found T P it l₁) (h2 : Found T P body l₂) : Found T P (forEachCode i kk v it body) (l₁ ++ l₂) :=
  found_seq (found_withSub h1) <| found_pre (fun _ => scopeBegin_runs) fun _ =>
  found_pre (fun _ => addLocalUnchecked_runs _) fun _ => found_pre (fun _ => addLocalUnchecked_runs _) fun _ =>
  found_pre (fun _ => addLocalUnchecked_runs _) fun _ => found_pre (fun _ => addLocalUnchecked_runs _) fun _ =>
  found_pre (fun _ => addLocalUnchecked_runs _) fun _ =>
  found_pre (fun _ => pushInstr_runs _) fun _ => found_pre (fun _ => emitU32_runs _) fun _ => found_pre (fun _ => emitU32_runs _) fun _ =>
  found_pre (fun _ => emitU32_runs _) fun _ => found_pre (fun _ => emitU32_runs _) fun _ => found_pre (fun _ => emitU32_runs _) fun _ =>
  found_pre (fun _ => runs_weaken runs_get fun _ _ => trivial) fun _ =>
  found_pre (fun _ => pushInstr_runs _) fun _ => found_pre (fun _ => emitU32_runs _) fun _ => found_pre (fun _ => emitU32_runs _) fun _ =>
  found_pre (fun _ => emitU32_runs _) fun _ => found_pre (fun _ => emitU32_runs _) fun _ => found_pre (fun _ => emitU32_runs _) fun _ =>
  found_post (found_encodeIfThen <| found_pre (fun _ => scopeBegin_runs) fun _ => found_pre (fun _ => bindLoopVar_runs _ _) fun _ =>
    found_pre (fun _ => bindLoopVar_runs _ _) fun _ => found_pre (fun _ => bindLoopVar_runs _ _) fun _ =>
    found_post (found_withSub h2) fun _ =>
      (fun _ => runs_seq scopeEnd_runs <| runs_seq (pushInstr_runs _) (emitU32_runs _))) fun _ => (fun _ => scopeEnd_runs)

theorem found_whileCode {c b : CM Unit} {l₁ l₂ : List String} (h1 : Found T P c l₁) (h2 : Found T P b l₂) :
    Found T P (whileCode c b) (l₁ ++ l₂) :=
  found_pre (fun _ => runs_weaken runs_get fun _ _ => trivial) fun _ => found_seq (found_withSub h1) <|
  found_pre (fun _ => pushSub_runs 1) fun _ =>
  found_post (found_encodeIfThen <| found_pre (fun _ => scopeBegin_runs) fun _ => found_post h2 fun _ =>
    (fun _ => runs_seq scopeEnd_runs <| runs_seq (pushInstr_runs _) (emitU32_runs _))) fun _ => (fun _ => popSub_runs)

theorem found_repeatCode {i : Option String} {n b : CM Unit} {l₁ l₂ : List String}
    (h1 : Found T P n l₁) (h2 : Found T P b l₂) : Found T P (repeatCode i n b) (l₁ ++ l₂) :=
  found_seq (found_withSub h1) <| found_pre (fun _ => scopeBegin_runs) fun _ =>
  found_pre (fun _ => addLocalUnchecked_runs _) fun _ => found_pre (fun _ => addLocalUnchecked_runs _) fun _ =>
  found_pre (fun _ => writeLocalVar_runs _) fun _ => found_pre (fun _ => processScalarInt_runs 0) fun _ =>
  found_pre (fun _ => writeLocalVar_runs _) fun _ => found_pre (fun _ => runs_weaken runs_get fun _ _ => trivial) fun _ =>
  found_pre (fun _ => readLocalVar_runs _) fun _ => found_pre (fun _ => readLocalVar_runs _) fun _ =>
  found_pre (fun _ => pushInstr_runs _) fun _ =>
  found_post (found_encodeIfThen <| found_pre (fun _ => scopeBegin_runs) fun _ => found_pre (fun _ => bindLoopVar_runs _ _) fun _ =>
    found_post (found_withSub h2) fun _ =>
      (fun _ => runs_seq scopeEnd_runs <| runs_seq (processScalarInt_runs 1) <| runs_seq (readLocalVar_runs _) <|
        runs_seq (pushInstr_runs _) <| runs_seq (writeLocalVar_runs _) <| runs_seq (pushInstr_runs _)
          (emitU32_runs _))) fun _ => (fun _ => scopeEnd_runs)

theorem found_setVarCode {n : String} {v : CM Unit} {l : List String} (h : Found T P v l) :
    Found T P (setVarCode n v) l :=
  found_post (found_withSub h) fun _ => (fun _ => setVarTarget_runs n)

theorem found_setGlobalVarCode {n : String} {v : CM Unit} {l : List String} (h : Found T P v l) :
    Found T P (setGlobalVarCode n v) l :=
  found_post (found_withSub h) fun _ => (fun _ => setGlobalTail_runs n)

theorem found_ifCode {skip : UInt8} {c b : CM Unit} {l₁ l₂ : List String} (h1 : Found T P c l₁)
    (h2 : Found T P b l₂) : Found T P (ifCode skip c b) (l₁ ++ l₂) :=
  found_seq (found_withSub h1) <| found_pre (fun _ => pushSub_runs 1) fun _ =>
  found_post (found_encodeIfThen h2) fun _ => (fun _ => popSub_runs)

theorem found_callNativeCode {n : String} {a : CM Unit} {l : List String} (h : Found T P a l) :
    Found T P (callNativeCode n a) l :=
  found_post h fun _ => (fun _ => runs_seq (pushInstr_runs _) (emitBytes_runs _))

theorem found_arrayCode {items : Nat → CM Unit} {l : List String} (h : ∀ tv, Found T P (items tv) l) :
    Found T P (arrayCode items) l :=
  found_pre (fun _ => pushInstr_runs _) fun _ => found_pre (fun _ => addLocalUnchecked_runs _) fun tv =>
  found_pre (fun _ => writeLocalVar_runs _) fun _ => found_post (h tv) fun _ => (fun _ => readLocalVar_runs _)

theorem found_unCode {u : UnKind} {c : CM Unit} {l : List String} (h : Found T P c l) :
    Found T P (unCode u c) l :=
  found_post (found_withSub h) fun _ => (fun _ => pushInstr_runs _)

theorem found_binCode {bk : BinKind} {a b : CM Unit} {l₁ l₂ : List String} (h1 : Found T P a l₁)
    (h2 : Found T P b l₂) : Found T P (binCode bk a b) (l₁ ++ l₂) := by
  unfold binCode
  split
  · exact found_whileCode h1 h2
  · exact found_ifCode h1 h2
  · exact found_ifCode h1 h2
  · exact found_seq (found_withSub h1) <| found_post (found_withSub h2) fun _ => (fun _ => pushInstr_runs _)

theorem found_triCode {tk : TriKind} {a b c : CM Unit} {l₁ l₂ l₃ : List String} (h1 : Found T P a l₁)
    (h2 : Found T P b l₂) (h3 : Found T P c l₃) : Found T P (triCode tk a b c) (l₁ ++ (l₂ ++ l₃)) := by
  unfold triCode
  split
  · exact found_ifElseCode h1 h2 h3
  · exact found_seq (found_withSub h1) <| found_seq (found_withSub h2) <|
      found_post (found_withSub h3) fun _ => (fun _ => pushInstr_runs _)

theorem found_dynamicCallCode {a f : CM Unit} {l₁ l₂ : List String} (h1 : Found T P a l₁)
    (h2 : Found T P f l₂) : Found T P (dynamicCallCode a f) (l₁ ++ l₂) :=
  found_seq h1 <| found_post (found_withSub h2) fun _ => (fun _ => pushInstr_runs _)

omit [Window P] in
theorem found_leaf {m : CM Unit} (hg : Growing m) : Found T P (cardLabel >>= fun _ => m) [] :=
  found_nil (gen_seq (fun _ => cardLabel_runs) hg)

theorem found_card {m : CM Unit} {l : List String} (h : Found T P m l) : Found T P (cardLabel >>= fun _ => m) l :=
  found_pre (fun _ => cardLabel_runs) fun _ => h

end found

/-! ### every name resolved -/

instance (T : Tables) : Window (fun n _ _ _ => Resolves T n) := ⟨fun h _ _ => h, fun h _ _ => h⟩

theorem res_encodeJump {T : Tables} (name : String) : Res T (encodeJump name) (Resolves T name) := by
  intro s a s' hT hr
  rw [encodeJump_run, hT.1, hT.2.1, hT.2.2] at hr
  cases hx : resolveSpec T.jt T.ns T.imports name with
  | ok r => exact ⟨r, hx⟩
  | error k => rw [hx] at hr; cases hr

section
variable {T : Tables}

mutual
theorem processCard_found : ∀ c, Found T (fun n _ _ _ => Resolves T n) (processCard c) (calls c)
  | .composite _ cards => found_card (compileSubexprFrom_found 0 cards)
  | .forEach _ _ _ it body => found_card (found_forEachCode (processCard_found it) (processCard_found body))
  | .repeat _ n body => found_card (found_repeatCode (processCard_found n) (processCard_found body))
  | .readVar v => found_leaf fun _ => readVarCard_runs v
  | .setVar _ value => found_card (found_setVarCode (processCard_found value))
  | .setGlobalVar _ value => found_card (found_setGlobalVarCode (processCard_found value))
  | .call name args => found_card (found_callCode (compileSubexprFrom_found 0 args) fun s _ hT hr =>
      res_bind_right (pushInstr_kp _) (fun _ => res_bind_left (res_encodeJump name)) s _ _ hT hr)
  | .stringLiteral s => found_leaf fun _ => runs_seq (pushInstr_runs _) (pushStr_runs s)
  | .callNative _ args => found_card (found_callNativeCode (compileSubexprFrom_found 0 args))
  | .scalarInt i => found_leaf fun _ => scalarIntCode_runs i
  | .scalarFloat _ => found_leaf fun _ => runs_seq (pushInstr_runs _) (emitBytes_runs _)
  | .function name => found_card ⟨fun _ => runs_seq (pushInstr_runs _) (encodeJump_runs name),
      fun s _ s' hT hr n hn => by
        rw [List.mem_singleton.1 hn]
        exact res_bind_right (pushInstr_kp _) (fun _ => res_encodeJump name) s _ _ hT hr⟩
  | .closure _ cards => found_card (found_closureCode (compileSubexprFrom_found 0 cards))
  | .nativeFunction name => found_leaf fun _ => runs_seq (pushInstr_runs _) (pushStr_runs name)
  | .array cards => found_card (found_arrayCode fun tv => processArrayItems_found tv 0 cards)
  | .un _ c => found_card (found_unCode (processCard_found c))
  | .bin _ a b => found_card (found_binCode (processCard_found a) (processCard_found b))
  | .tri _ a b c =>
    found_card (found_triCode (processCard_found a) (processCard_found b) (processCard_found c))
  | .dynamicCall args f =>
    found_card (found_dynamicCallCode (compileSubexprFrom_found 1 args) (processCard_found f))
  | .scalarNil => found_leaf fun _ => pushInstr_runs _
  | .abort => found_leaf fun _ => pushInstr_runs _
  | .createTable => found_leaf fun _ => pushInstr_runs _
  | .comment _ => found_leaf fun _ => runs_ret
theorem compileSubexprFrom_found : ∀ i cs, Found T (fun n _ _ _ => Resolves T n) (compileSubexprFrom i cs) (callsList cs)
  | _, [] => found_nil fun _ => runs_ret
  | i, c :: cs => found_seq (found_withSub (processCard_found c)) (compileSubexprFrom_found (i + 1) cs)
theorem processArrayItems_found (tv : Nat) : ∀ i cs, Found T (fun n _ _ _ => Resolves T n) (processArrayItems tv i cs) (callsList cs)
  | _, [] => found_nil fun _ => runs_ret
  | i, c :: cs => found_pre (fun _ => pushInstr_runs _) fun _ => found_seq (found_withSub (processCard_found c)) <|
      found_pre (fun _ => readLocalVar_runs _) fun _ => found_pre (fun _ => pushInstr_runs _) fun _ =>
      processArrayItems_found tv (i + 1) cs
end

theorem processFunctionCards_found : ∀ i cs, Found T (fun n _ _ _ => Resolves T n) (processFunctionCards i cs) (callsList cs)
  | _, [] => found_nil fun _ => runs_ret
  | i, c :: cs => found_pre (fun _ => popSub_runs) fun _ => found_pre (fun _ => pushSub_runs i) fun _ =>
      found_seq (processCard_found c) (processFunctionCards_found (i + 1) cs)

end

/-- every static call / function reference in the body of a compiled function resolved, with the
full jump table and the function's own namespace and imports -/
theorem BodyAt.resolves {jt : JumpTable} {f : FunctionIr} {pos : Nat} {final : CState}
    (h : BodyAt jt f pos final) :
    ∀ n ∈ callsList f.cards, ∃ r, resolveSpec jt f.ns f.imports n = .ok r := by
  obtain ⟨sb, sb', h1, h2, h3, _, _, h6, _, _⟩ := h
  exact (processFunctionCards_found (T := ⟨jt, f.ns, f.imports⟩) 0 f.cards).run sb () sb' ⟨h1, h2, h3⟩ h6

end Cao.Compiler
