import CaoProofs.Lemmas.CaptureStep
import CaoProofs.Lemmas.NoPanicExec
/-!
# The capture assertions are unreachable in every run of a program with `CapStatic` (stage B of `Props/C04c.lean`)

An instance of the rule of the dispatch loop (`Lemmas/ExecRule.lean`): the loop keeps the invariant `InvX` with
the obligations `Wof` derived from the call stack above a protected base, in one of two phases (`Mode`): normal,
or between a `Closure` instruction and the end of its `CopyLast; RegisterUpvalue` pairs; `run_function` keeps the
invariant of its caller. The control-flow facts (good return addresses, the next address) are those of
`fr_step_cfi`, with the callback known from `exec_cfi`.
-/
namespace Cao.Vm
open Cao.Gc Cao.C02

/-- the obligations of frames that wait for a callee: continue at `dst` with their closure -/
def Wof (lvl : Nat → Nat) (fs : List Frame) : List (Option Nat × Nat) := fs.map (fun f => (f.closure, lvl f.dst))

theorem wof_concat (lvl : Nat → Nat) (fs : List Frame) (f : Frame) :
    Wof lvl (fs ++ [f]) = Wof lvl fs ++ [(f.closure, lvl f.dst)] := by simp [Wof]

theorem rooted_wof (lvl : Nat → Nat) (fs : List Frame) : RootedIn (Wof lvl fs) fs := by
  intro w hw c hc
  obtain ⟨f, hf, rfl⟩ := List.mem_map.1 hw
  unfold fcs
  exact List.mem_filterMap.2 ⟨f, hf, hc⟩

theorem RootedIn.weaken {W : List (Option Nat × Nat)} {fs fs' : List Frame} (h : RootedIn W fs) :
    RootedIn W (fs ++ fs') := fun w hw c hc => mem_fcs_append.2 (.inl (h w hw c hc))

theorem RootedIn.app {W W' : List (Option Nat × Nat)} {fs fs' : List Frame} (h : RootedIn W fs)
    (h' : RootedIn W' fs') : RootedIn (W ++ W') (fs ++ fs') := by
  intro w hw c hc
  rcases List.mem_append.1 hw with hw | hw
  · exact mem_fcs_append.2 (.inl (h w hw c hc))
  · exact mem_fcs_append.2 (.inr (h' w hw c hc))

/-- outcome of a run of `exec`: `Q` for the state it returns with, `E` for its error -/
def ExecPostS (Q : VmState → Prop) (E : ErrKind → Prop) (r : VmState × Except RunErr (Option Val)) : Prop :=
  match r.2 with
  | .ok _ => Q r.1
  | .error e => E e.kind

theorem execPostS_iff {Q : VmState → Prop} {E : ErrKind → Prop} {r : VmState × Except RunErr (Option Val)} :
    ExecPostS Q E r ↔ OutPost Q (fun e _ => E e.kind) r := Iff.rfl

/-- an error that the loop or `run_function` raises itself -/
theorem noCap_own {e : ErrKind} (h : e.isPlain = true ∨ e = .panic "gas exhausted") : NoCap e := by
  rcases h with h | rfl
  · exact noCap_plain h
  · exact noCap_gas

section inv
variable {p : Prog} {lvl : Nat → Nat}

theorem heapOk_empty (hp : Heap) (h : hp.objs = []) : HeapOkX p lvl none hp := by
  have : ∀ a, hp.get a = none := fun a => by unfold Heap.get; rw [h]; rfl
  exact ⟨fun a hd ar hg => (by rw [this] at hg; cases hg), fun a hd ar ups hg => (by rw [this] at hg; cases hg)⟩

theorem invX_fresh (c : Config) : InvX p lvl none [] [] (VmState.fresh c) :=
  ⟨heapOk_empty _ rfl, fun _ hw => (by cases hw), fun _ hw => (by cases hw), rfl, fun _ hx => (by cases hx)⟩

theorem invX_clear (s : VmState) : InvX p lvl none [] [] (clear s) :=
  ⟨heapOk_empty _ rfl, fun _ hw => (by cases hw), fun _ hw => (by cases hw), rfl, fun _ hx => (by cases hx)⟩

end inv

section exec
variable (p : Prog) (G : Nat → Prop) (lvl cnt : Nat → Nat)

/-- the two phases of the loop: normal, or the closure at `a` (created by the `Closure` instruction at `c`)
is under construction, `k` of its pairs are done -/
def Mode (W0 : List (Option Nat × Nat)) (fs0 : List Frame) (l : Frame) (ip : Nat) (s : VmState) : Prop :=
  InvX p lvl none (W0 ++ [(l.closure, lvl ip)]) (fs0 ++ [l]) s ∨
  ∃ a c k ar ups, G c ∧ p.bytecode.getD c 0 = Compiler.op.closure ∧ k < cnt c ∧
    InvX p lvl (some a) (W0 ++ [(l.closure, lvl ip)]) (fs0 ++ [l]) s ∧
    s.heap.get a = some (.closure (UInt32.ofNat (rdU32 p.bytecode (c + 1))) ar ups) ∧ k ≤ ups.length ∧
    ((ip = c + 9 + 4 * k ∧ TopIs s a) ∨ (ip = c + 9 + 4 * k + 1 ∧ Top2Is s a))

/-- what the loop guarantees: above the protected base `B` (obligations `WB`) -/
def LoopSpecS (gas : Nat) : Prop :=
  ∀ (WB : List (Option Nat × Nat)) (B rest : List Frame) (l : Frame) (ip : Nat) (s : VmState),
    BaseExit p B → RootedIn WB B → Good G (B ++ rest ++ [l]) → G ip →
    Mode p G lvl cnt (WB ++ Wof lvl rest) (B ++ rest) l ip s →
    ExecPostS (fun s' => ∃ W', InvX p lvl none (WB ++ W') s'.frames s' ∧ B <+: s'.frames) NoCap
      (exec p gas (.loop ip) s)

/-- what `run_function` guarantees: the invariant of its caller -/
def CallSpecS (gas : Nat) : Prop :=
  ∀ (f : Val) (s : VmState) (W : List (Option Nat × Nat)) (fs : List Frame), InvX p lvl none W fs s →
    Good G fs → ExecPostS (fun s' => InvX p lvl none W fs s') NoCap (exec p gas (.call f) s)

/-- where the loop stands, above the protected base `B` (obligations `WB`): in one of the two phases, on the call
stack `B ++ rest ++ [l]`; or on `B` itself, at the `Exit` to which its last frame returns -/
def LoopAt (WB : List (Option Nat × Nat)) (B : List Frame) (ip : Nat) (s : VmState) : Prop :=
  BaseExit p B ∧ RootedIn WB B ∧ G ip ∧
  ((∃ rest l, Good G (B ++ rest ++ [l]) ∧ Mode p G lvl cnt (WB ++ Wof lvl rest) (B ++ rest) l ip s) ∨
    (p.bytecode.getD ip 0 = Compiler.op.exit ∧ InvX p lvl none WB B s))

variable {p G lvl cnt}

theorem exec_capture (hs : CapStatic p G lvl cnt) (hc : Cfi p G) :
    ∀ gas, LoopSpecS p G lvl cnt gas ∧ CallSpecS p G lvl gas := by
  intro gas
  have key := exec_rule p (ι := List (Option Nat × Nat) × List Frame) (κ := List (Option Nat × Nat) × List Frame)
    (Pre := fun i => LoopAt p G lvl cnt i.1 i.2)
    (LQ := fun i s' => ∃ W', InvX p lvl none (i.1 ++ W') s'.frames s' ∧ i.2 <+: s'.frames)
    (LE := fun _ r _ => NoCap r.kind)
    (CPre := fun k s => InvX p lvl none k.1 k.2 s ∧ Good G k.2) (CQ := fun k s' => InvX p lvl none k.1 k.2 s')
    (CE := fun _ r _ => NoCap r.kind)
    (fun _ _ _ _ => ⟨noCap_gas, fun _ => noCap_plain rfl, fun _ => noCap_plain rfl⟩) (fun _ _ _ _ => noCap_own)
    ?run ?enter gas
  · exact ⟨fun WB B rest l ip s hB hWB hgood hip hmode => execPostS_iff.2
        (key.1 (WB, B) ip s ⟨hB, hWB, hip, .inl ⟨rest, l, hgood, hmode⟩⟩),
      fun f s W fs hK hg => execPostS_iff.2 (key.2 (W, fs) f s ⟨hK, hg⟩)⟩
  case run =>
    intro gas hre
    have hreS : ∀ W fs, Good G fs → ReSpecS (reenterOf p gas) (InvX p lvl none W fs) NoCap := fun W fs hg f =>
      st_iff_ho.2 ((hre (W, fs) f).conseq (fun _ hK => ⟨hK, hg⟩) (fun _ _ h => h) fun _ _ ⟨_, hr, he⟩ => hr ▸ he)
    refine ⟨?_, ?_⟩
    · rintro ⟨WB, B⟩ ip s ⟨hB, hWB, hip, ⟨rest, l, hgood, hmode⟩ | ⟨hx, hK⟩⟩ hrem
      · have hfr : s.frames = B ++ rest ++ [l] := by
          rcases hmode with h | ⟨_, _, _, _, _, _, _, _, h, _⟩ <;> exact h.frames
        have hroot : RootedIn (WB ++ Wof lvl rest) (B ++ rest) := hWB.app (rooted_wof lvl rest)
        have hcfi := fr_step_cfi (E := fun _ => True) p hc _ (reBase_reenterOf p hc gas) ip s.frames
          (by rw [hfr]; simp) (hfr ▸ hgood) hip
        -- the loop goes on above the base `B`
        have above : ∀ {ctl : Ctl} {s' : VmState} (rest' : List Frame) (l' : Frame), ctl.exit = false →
            StepPost G s.frames ctl s'.frames → s'.frames = B ++ rest' ++ [l'] →
            Mode p G lvl cnt (WB ++ Wof lvl rest') (B ++ rest') l' ctl.ip s' →
            ∀ {Q : Prop}, if ctl.exit = true then Q else LoopAt p G lvl cnt WB B ctl.ip s' :=
          fun rest' l' hx post hf hm _ => by
            rw [if_neg (by simp [hx])]
            exact ⟨hB, hWB, post.next hx, .inl ⟨rest', l', hf ▸ post.good, hm⟩⟩
        rcases hmode with hN | ⟨a, c, k, ar, ups, hGc, hopc, hk, hI, hga, hku, hpos⟩
        · -- the normal phase
          have hst := st_step (E := NoCap) (re := reenterOf p gas) (W0 := WB ++ Wof lvl rest) (fs0 := B ++ rest)
            (l := l) hs hc hip hroot (hreS _ _ hgood)
          refine ⟨fun t ctl s' ht heq => ?_, fun t e s' ht heq => hst.err t e s' (ht ▸ hN.congr' rfl rfl) heq⟩
          subst ht
          have post := hcfi.ok s.tick ctl s' rfl heq
          have hq := hst.ok s.tick ctl s' (hN.congr' rfl rfl) heq
          cases hq with
          | exit hx hK =>
            rw [if_pos hx]
            refine ⟨Wof lvl rest ++ [(l.closure, lvl ip)], ?_, ?_⟩
            · rw [hK.frames, ← List.append_assoc]; exact hK
            · rw [hK.frames, List.append_assoc]; exact List.prefix_append _ _
          | ord hx hK hl => exact above rest l hx post hK.frames (.inl (by rw [hl]; exact hK))
          | call l' nf hx hcl hl hK hfo =>
            have hK2 := hK.add_obl hfo (fun c hcc =>
              mem_fcs_append.2 (.inr (mem_fcs_singleton.2 hcc)))
            have e1 : WB ++ Wof lvl (rest ++ [l']) = WB ++ Wof lvl rest ++ [(l.closure, lvl ip)] := by
              rw [wof_concat, hcl, hl, List.append_assoc]
            have e2 : B ++ (rest ++ [l']) = B ++ rest ++ [l'] := by rw [List.append_assoc]
            exact above (rest ++ [l']) nf hx post (by rw [e2]; exact hK.frames) (.inl (by rw [e1, e2]; exact hK2))
          | ret hx hK hcf =>
            obtain ⟨cf, hcf, hipc⟩ := hcf
            rcases List.eq_nil_or_concat rest with hrest | ⟨rest', cfr, hrest⟩
            · -- back at the base: its last frame returns to an `Exit`
              subst hrest
              rw [if_neg (by simp [hx]), hipc]
              exact ⟨hB, hWB, hipc ▸ post.next hx, .inr ⟨hB cf (by simpa using hcf), by simpa [Wof] using hK⟩⟩
            · rw [List.concat_eq_append] at hrest
              subst hrest
              have hcc : cf = cfr := by
                rw [← List.append_assoc, List.getLast?_concat] at hcf
                exact (Option.some.inj hcf).symm
              subst hcc
              refine above rest' cf hx post (by rw [hK.frames, List.append_assoc]) (.inl ?_)
              have := hK
              rw [wof_concat, ← List.append_assoc, ← List.append_assoc] at this
              rw [hipc]; exact this
          | clos a ar hx hipc hop hK hga htop =>
            have hl : lvl ctl.ip = lvl ip := by
              rw [hipc]
              exact hs.fall hip hop
            by_cases hcnt : 0 < cnt ip
            · exact above rest l hx post hK.frames
                (.inr ⟨a, ip, 0, ar, [], hip, hop, hcnt, by rw [hl]; exact hK, hga, Nat.le_refl _,
                  .inl ⟨by rw [hipc], htop⟩⟩)
            · have hcomp := hs.closLabel ip hip hop
              have hK' := hK.finish hga (hcomp.mono (by show cnt ip ≤ 0; omega))
              exact above rest l hx post hK'.frames (.inl (by rw [hl]; exact hK'))
        · -- a closure is under construction
          have hpairs := hs.pairs c k hGc hopc hk
          rcases hpos with ⟨hip', ht⟩ | ⟨hip', ht2⟩
          · -- `CopyLast`
            have hopl : p.bytecode.getD ip 0 = Compiler.op.copyLast := by rw [hip']; exact hpairs.1
            have hst := st_copyLast_tail (p := p) (lvl := lvl) (E := NoCap) (re := reenterOf p gas)
              (W := WB ++ Wof lvl rest ++ [(l.closure, lvl ip)]) (fs := B ++ rest ++ [l]) (src := ip) hopl a
              (.closure (UInt32.ofNat (rdU32 p.bytecode (c + 1))) ar ups)
            have hl : lvl (ip + 1) = lvl ip :=
              hs.fall hip hopl
            refine ⟨fun t ctl s' ht' heq => ?_,
              fun t e s' ht' heq => hst.err t e s' (ht' ▸ ⟨hI.congr rfl rfl (.inr rfl), hga, ht⟩) heq⟩
            subst ht'
            have post := hcfi.ok s.tick ctl s' rfl heq
            obtain ⟨hx, hipn, hI', hga', ht2'⟩ := hst.ok s.tick ctl s' ⟨hI.congr rfl rfl (.inr rfl), hga, ht⟩ heq
            refine above rest l hx post hI'.frames
              (.inr ⟨a, c, k, ar, ups, hGc, hopc, hk, ?_, hga', hku, .inr ⟨by rw [hipn, hip'], ht2'⟩⟩)
            rw [hipn, hl]; exact hI'
          · -- `RegisterUpvalue`
            have hopr : p.bytecode.getD ip 0 = Compiler.op.registerUpvalue := by rw [hip']; exact hpairs.2
            have hst := st_regUp (p := p) (lvl := lvl) (E := NoCap) (re := reenterOf p gas)
              (W0 := WB ++ Wof lvl rest) (fs0 := B ++ rest) (l := l) (src := ip) (n := lvl ip) (x := some a) (a := a)
              (hd0 := UInt32.ofNat (rdU32 p.bytecode (c + 1))) (k := k) hopr (hs.reg ip hip hopr) (.inr rfl)
            have hl : lvl (ip + 3) = lvl ip :=
              hs.fall hip hopr
            have hpre : InvX p lvl (some a) (WB ++ Wof lvl rest ++ [(l.closure, lvl ip)]) (B ++ rest ++ [l]) s.tick ∧
                (some a = some a → Top2Is s.tick a ∧ ∃ ar ups,
                  s.tick.heap.get a = some (.closure (UInt32.ofNat (rdU32 p.bytecode (c + 1))) ar ups) ∧
                    k ≤ ups.length) :=
              ⟨hI.congr rfl rfl (.inr rfl), fun _ => ⟨ht2, ar, ups, hga, hku⟩⟩
            refine ⟨fun t ctl s' ht' heq => ?_, fun t e s' ht' heq => hst.err t e s' (ht' ▸ hpre) heq⟩
            subst ht'
            have post := hcfi.ok s.tick ctl s' rfl heq
            obtain ⟨hx, hipn, hI', htr⟩ := hst.ok s.tick ctl s' hpre heq
            obtain ⟨ht', ar', ups', hga', hku'⟩ := htr rfl
            by_cases hk1 : k + 1 < cnt c
            · refine above rest l hx post hI'.frames
                (.inr ⟨a, c, k + 1, ar', ups', hGc, hopc, hk1, ?_, hga', hku', .inl ⟨by rw [hipn, hip']; omega, ht'⟩⟩)
              rw [hipn, hl]; exact hI'
            · have hcomp := hs.closLabel c hGc hopc
              have hK' := hI'.finish hga' (hcomp.mono (by omega))
              refine above rest l hx post hK'.frames (.inl ?_)
              rw [hipn, hl]; exact hK'
      · -- at the `Exit` of the base
        rw [step_exit p _ ip hx]
        exact ho_pure fun t ht => by
          subst ht
          rw [if_pos rfl]
          exact ⟨[], by rw [List.append_nil]; exact hK.frames ▸ hK.congr' rfl rfl, hK.frames ▸ List.prefix_refl _⟩
    · rintro ⟨W, fs⟩ h
      refine Ho.of_at fun s ⟨hK, hg⟩ => ?_
      have hn := st_callNative (E := NoCap) (reenterOf p gas) (hreS W fs hg) h
      exact ⟨fun t _ s' ht heq => (hn.ok t () s' (ht ▸ hK) heq).congr' rfl rfl,
        fun t e s' ht heq => hn.err t e s' (ht ▸ hK) heq⟩
  case enter =>
    rintro ⟨W, fs⟩ s a label ar clo e ⟨hK, hg⟩ hobj hfind
    have hf := hK.frames
    subst hf
    have hfo : FrameOk s.heap (lvl e.2) clo := by
      rcases hobj with ⟨hget, rfl⟩ | ⟨ups, hget, rfl⟩
      · exact .inl (hK.heap.fn a label ar hget e hfind)
      · exact .inr ⟨a, rfl, label, ar, ups, hget, hK.heap.clo a label ar ups hget (by simp) e hfind⟩
    have hdst := entryFrame_dst p s e.2 ar.toNat clo
    have hclo := entryFrame_closure p s e.2 ar.toNat clo
    generalize entryFrame p s e.2 ar.toNat clo = fr at hdst hclo ⊢
    have hB : BaseExit p (s.frames ++ [fr]) := by
      intro c' hc'
      rw [List.getLast?_append, List.getLast?_singleton] at hc'
      simp only [Option.some_or, Option.some.injEq] at hc'
      rw [← hc', hdst]; exact hc.lastExit
    have hgood : Good G (s.frames ++ [fr] ++ [] ++ [fr]) := by
      intro f hf
      simp only [List.mem_append, List.mem_cons, List.not_mem_nil, or_false] at hf
      rcases hf with (hf | rfl) | rfl
      · exact hg f hf
      · rw [hdst]; exact hc.last
      · rw [hdst]; exact hc.last
    have hroot : ∀ c, fr.closure = some c → c ∈ fcs (s.frames ++ [fr]) := fun c hcl =>
      mem_fcs_append.2 (.inr (mem_fcs_singleton.2 hcl))
    have hWB : RootedIn (W ++ [(fr.closure, lvl fr.dst)]) (s.frames ++ [fr]) := by
      intro w hw c hcw
      rcases List.mem_append.1 hw with hw | hw
      · exact mem_fcs_append.2 (.inl (hK.rooted w hw c hcw))
      · simp only [List.mem_singleton] at hw; subst hw; exact hroot c hcw
    have hm0 : InvX p lvl none W (s.frames ++ [fr] ++ [fr]) { s with frames := s.frames ++ [fr, fr] } :=
      hK.reframe' rfl (.inl rfl) (by simp) (fun w hw => hw) (fun w hw c hcw =>
        mem_fcs_append.2 (.inl (mem_fcs_append.2 (.inl (hK.rooted w hw c hcw)))))
    have hm1 := hm0.add_obl (n := lvl fr.dst) (clo := fr.closure) (.inl (by rw [hdst]; exact hs.lastLvl))
      (fun c hcl => mem_fcs_append.2 (.inl (hroot c hcl)))
    have hm2 := hm1.add_obl (n := lvl e.2) (clo := fr.closure) (by rw [hclo]; exact hfo)
      (fun c hcl => mem_fcs_append.2 (.inl (hroot c hcl)))
    refine ⟨noCap_plain rfl, (W ++ [(fr.closure, lvl fr.dst)], s.frames ++ [fr]),
      ⟨hB, hWB, hc.label _ (List.mem_of_find?_eq_some hfind), .inl ⟨[], fr, hgood, .inl (by simpa [Wof] using hm2)⟩⟩,
      fun s' ⟨W', hI, ⟨u, hu⟩⟩ => ?_, fun _ _ h => h⟩
    refine hI.reframe' rfl (.inl rfl) ?_ (fun w hw => List.mem_append_left _ (List.mem_append_left _ hw)) hK.rooted
    show s'.frames.take s.frames.length = s.frames
    rw [← hu, List.append_assoc, List.take_left' rfl]

theorem started_capture (hs : CapStatic p G lvl cnt) (hc : Cfi p G) (h0 : G 0) (n : Nat) (s : VmState)
    (hK : InvX p lvl none (Wof lvl s.frames) s.frames s) (hg : Good G s.frames) :
    ExecPostS (fun s' => ∃ W', InvX p lvl none ([] ++ W') s'.frames s' ∧ [] <+: s'.frames) NoCap
      (exec p (gasFor (started n s) n) (.loop 0) (started n s)) := by
  have hgood : Good G ([] ++ s.frames ++ [{ src := 0, dst := 0, stackOffset := 0, closure := none }]) := by
    intro f hf
    simp only [List.nil_append, List.mem_append, List.mem_singleton] at hf
    rcases hf with hf | rfl
    · exact hg f hf
    · exact h0
  have hm0 : InvX p lvl none (Wof lvl s.frames)
      (s.frames ++ [{ src := 0, dst := 0, stackOffset := 0, closure := none }]) (started n s) :=
    hK.reframe' rfl (.inl rfl) rfl (fun w hw => hw) (fun w hw c hcw => mem_fcs_append.2 (.inl (hK.rooted w hw c hcw)))
  have hm1 := hm0.add_obl (n := lvl 0) (clo := none) (.inl hs.entryLvl) (fun c hcl => by cases hcl)
  exact (exec_capture hs hc (gasFor (started n s) n)).1 [] [] s.frames
    { src := 0, dst := 0, stackOffset := 0, closure := none } 0 (started n s)
    (fun c hc' => by simp at hc') (fun w hw => by cases hw) hgood h0 (.inl (by simpa using hm1))

/-- **`run`**: a program with the static facts `CapStatic` (and control-flow integrity), run with
any budget from a machine that satisfies the invariant (see `invX_fresh`, `invX_clear`, `run_keeps_inv`):
no reported error has a capture assertion as its root cause -/
theorem run_no_capture_panic_of (hs : CapStatic p G lvl cnt) (hc : Cfi p G) (h0 : G 0) (n : Nat) (s : VmState)
    (hK : InvX p lvl none (Wof lvl s.frames) s.frames s) (hg : Good G s.frames) (e : RunErr)
    (h : (run p n s).2 = some e) : NoCap e.kind := by
  by_cases hr : s.frames.length < s.frameCap
  · rw [run_room p n s hr] at h
    simp only at h
    split at h
    · cases h
    · next e' heq =>
      simp only [Option.some.injEq] at h
      subst h
      exact (execPostS_iff.1 (started_capture hs hc h0 n s hK hg)).of_error heq
  · rw [run_no_room p n s (Nat.not_lt.1 hr)] at h
    simp only [Option.some.injEq] at h
    subst h
    exact noCap_plain rfl

/-- a run that ends without an error leaves a machine that satisfies the invariant again: the hypothesis
of `run_no_capture_panic_of` is an invariant of (error-free) use of a machine for one program -/
theorem run_keeps_inv (hs : CapStatic p G lvl cnt) (hc : Cfi p G) (h0 : G 0) (n : Nat) (s : VmState)
    (hfr : s.frames = []) (hK : InvX p lvl none [] [] s) (hok : (run p n s).2 = none) :
    InvX p lvl none [] [] (run p n s).1 := by
  by_cases hr : s.frames.length < s.frameCap
  · rw [run_room p n s hr] at hok ⊢
    simp only at hok ⊢
    have key := started_capture hs hc h0 n s (by rw [hfr]; exact hK) (by rw [hfr]; intro f hf; cases hf)
    unfold ExecPostS at key
    split at hok
    · next v heq =>
      rw [heq] at key
      obtain ⟨W', hI, _⟩ := key
      refine hI.reframe' rfl (.inl rfl) ?_ (fun w hw => by cases hw) (fun w hw => by cases hw)
      show List.take s.frames.length _ = []
      rw [hfr]; rfl
    · cases hok
  · rw [run_no_room p n s (Nat.not_lt.1 hr)]
    exact hK

end exec

end Cao.Vm
