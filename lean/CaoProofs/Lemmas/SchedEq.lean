import CaoProofs.Lemmas.SchedFull
/-!
# Schedule independence in terms of `SchedEq`

Two parts, both about the relation `SchedEq` of `Lemmas/SchedSim.lean`.

The first is the relation and its calculus without a configuration, stated for the record: nothing uses it.
`Agree K s t` is `SchedEq` with an explicit set `K` of addresses on which the two heaps agree: `K` contains the roots
and is closed under children. Between two allocations nothing is freed, so `K` stays fixed while an instruction pops
values, reads the objects they denote and pushes results; at an allocation `K` is reset to what is reachable then.
`W2 m₁ m₂ Q s t` is the two-run weakest precondition. The proofs are written with `SchedFull.Agree` and `SchedFull.W2`
(`Lemmas/SchedRel.lean`), which take a configuration; no lemma relates those to the two of this part.

The second: `SchedEq s t` is `SchedFull.Rel cfg0 s t` (`rel_of_schedEq`, `schedEq_of_rel`), so what is proved for every
configuration gives the statements about `SchedEq`: the allocation layer (`allocPure_sim`, `initTable_sim`, …), the
instructions of the fragment `simpleOps`, which neither call back nor have a side condition (`stepSimAny_simple`), and
the lifting to the dispatch loop, `run_function` and `Vm::run`: `run_sim_any` for programs over `simpleOps`;
`exec_sim`, `run_sim` keep the premises `StepSim p`, `NatSim`, which nothing establishes.
-/
namespace Cao.SchedSim
open Cao Cao.Vm Cao.Gc Cao.C02 Cao.C05 Cao.RunInv

/-! # The agreement set and the two-run weakest precondition over `SchedEq` -/

/-! ## the relation with an explicit agreement set -/

def VK (K : Nat → Prop) (v : Val) : Prop := ∀ a, v = .obj a → K a

theorem VK.real {K : Nat → Prop} {b : UInt64} : VK K (.real b) := fun _ h => by cases h
theorem VK.boolVal {K : Nat → Prop} {b : Bool} : VK K (boolVal b) := fun _ h => by
  unfold Vm.boolVal at h; cases h

structure Agree (K : Nat → Prop) (s t : VmState) : Prop where
  stack : t.stack = s.stack
  globals : t.globals = s.globals
  frames : t.frames = s.frames
  openUpvalues : t.openUpvalues = s.openUpvalues
  guards : t.guards = s.guards
  next : t.heap.next = s.heap.next
  limit : t.mem.limit = s.mem.limit
  remaining : t.remaining = s.remaining
  dispatches : t.dispatches = s.dispatches
  hostLog : t.hostLog = s.hostLog
  frameCap : t.frameCap = s.frameCap
  invL : Inv s
  invR : Inv t
  rootsK : ∀ a ∈ rootAddrs s, K a
  closed : ∀ a o b, K a → s.heap.get a = some o → Val.obj b ∈ Heap.children o → K b
  agree : ∀ a, K a → t.heap.get a = s.heap.get a

theorem Agree.vk_stack {K : Nat → Prop} {s t : VmState} (h : Agree K s t) {v : Val}
    (hv : v ∈ s.stack.contents) : VK K v := by
  intro a e; subst e
  exact h.rootsK a ((mem_rootAddrs s a).mpr (Or.inl hv))

theorem Agree.vk_global {K : Nat → Prop} {s t : VmState} (h : Agree K s t) {v : Val}
    (hv : v ∈ s.globals) : VK K v := by
  intro a e; subst e
  exact h.rootsK a ((mem_rootAddrs s a).mpr (Or.inr (Or.inl hv)))

/-! ## the two-run weakest precondition -/

def W2 {α : Type} (m₁ m₂ : M α) (Q : α → α → VmState → VmState → Prop) (s t : VmState) : Prop :=
  match m₁.go s, m₂.go t with
  | (.ok a, s'), (.ok b, t') => Q a b s' t'
  | (.error e, s'), (.error e', t') => e' = e ∧ SchedEq s' t'
  | _, _ => False

section w2
variable {α β : Type} {Q : α → α → VmState → VmState → Prop} {s t : VmState}

theorem w2_of_go {m₁ m₂ : M α} {a b : α} {s' t' : VmState} (h1 : m₁.go s = (.ok a, s'))
    (h2 : m₂.go t = (.ok b, t')) (hq : Q a b s' t') : W2 m₁ m₂ Q s t := by
  unfold W2; rw [h1, h2]; exact hq

theorem w2_of_go_err {m₁ m₂ : M α} {e : ErrKind} {s' t' : VmState} (h1 : m₁.go s = (.error e, s'))
    (h2 : m₂.go t = (.error e, t')) (hq : SchedEq s' t') : W2 m₁ m₂ Q s t := by
  unfold W2; rw [h1, h2]; exact ⟨rfl, hq⟩

theorem w2_set {Q : PUnit → PUnit → VmState → VmState → Prop} {x y : VmState}
    (h : Q ⟨⟩ ⟨⟩ x y) : W2 (set x) (set y) Q s t := w2_of_go rfl rfl h
theorem w2_throwE {e : ErrKind} (h : SchedEq s t) : W2 (throwE e : M α) (throwE e) Q s t :=
  w2_of_go_err rfl rfl h

theorem w2_mono {m₁ m₂ : M α} {Q' : α → α → VmState → VmState → Prop} (h : W2 m₁ m₂ Q s t)
    (hq : ∀ a b s' t', Q a b s' t' → Q' a b s' t') : W2 m₁ m₂ Q' s t := by
  unfold W2 at h ⊢
  rcases h1 : m₁.go s with ⟨r1, s'⟩
  rcases h2 : m₂.go t with ⟨r2, t'⟩
  rw [h1, h2] at h
  cases r1 <;> cases r2 <;> first | exact hq _ _ _ _ h | exact h | exact h.elim

theorem w2_of_resEq {m₁ m₂ : M α} (h : ResEq (m₁.go s) (m₂.go t))
    (hq : ∀ a s' t', SchedEq s' t' → Q a a s' t') : W2 m₁ m₂ Q s t := by
  unfold W2
  unfold ResEq at h
  rcases h1 : m₁.go s with ⟨r1, s'⟩
  rcases h2 : m₂.go t with ⟨r2, t'⟩
  rw [h1, h2] at h
  obtain ⟨e, hs⟩ := h
  dsimp only at e hs
  subst e
  cases r2 with
  | error e => exact ⟨rfl, hs⟩
  | ok a => exact hq a s' t' hs

end w2

/-! ## the stack primitives -/

section prims
variable {K : Nat → Prop} {s t : VmState}

theorem w2_peek {Q : Val → Val → VmState → VmState → Prop} (n : Nat) (h : Agree K s t)
    (hq : ∀ v, v = s.stack.peekLast n → VK K v → Q v v s t) : W2 (peek n) (peek n) Q s t := by
  refine w2_of_go (a := s.stack.peekLast n) (b := t.stack.peekLast n) rfl rfl ?_
  rw [h.stack]
  exact hq _ rfl (fun a e => h.vk_stack (peekLast_mem e) a rfl)

end prims

/-! # `SchedEq` as the case `cfg0` of the relation with a configuration -/

open Cao.SchedFull

/-- the post-condition of an instruction -/
abbrev QStep : Ctl → Ctl → VmState → VmState → Prop := fun a b s' t' => b = a ∧ SchedEq s' t'

/-! ## the two relations -/

theorem schedCore_of_core {K : Nat → Prop} {s t : VmState} (h : Core cfg0 K s t) : SchedCore s t :=
  ⟨⟨h.stack.2 trivial, h.globals, h.frames, h.openUpvalues, h.guards, h.next,
      fun a ha => h.agree a (h.reachK ha), fun a ha => (h.agree a (h.reachL ha).2).symm⟩,
    h.limit, h.remaining, h.dispatches, h.hostLog.symm, h.frameCap, h.uniqL, h.uniqR, h.freshL, h.freshR⟩

theorem agree_of_schedEq {s t : VmState} (h : SchedEq s t) : SchedFull.Agree cfg0 (R s) s t :=
  { core_of_schedCore h.core with invL := h.invL, invR := h.invR }

theorem rel_of_schedEq {s t : VmState} (h : SchedEq s t) : Rel cfg0 s t := ⟨R s, agree_of_schedEq h⟩

theorem schedEq_of_rel {s t : VmState} (h : Rel cfg0 s t) : SchedEq s t :=
  let ⟨_, hA⟩ := h
  ⟨schedCore_of_core hA.toCore, hA.invL, hA.invR⟩

section w2
variable {α : Type} {m₁ m₂ : M α} {s t : VmState}

theorem resEq_of_w2_full (h : SchedFull.W2 cfg0 m₁ m₂ (fun a b s' t' => b = a ∧ Rel cfg0 s' t') s t) :
    ResEq (m₁.go s) (m₂.go t) :=
  ⟨(SchedFull.resEq_of_w2 h).1, schedEq_of_rel (SchedFull.resEq_of_w2 h).2⟩

theorem w2_full_of_resEq (h : ResEq (m₁.go s) (m₂.go t)) :
    SchedFull.W2 cfg0 m₁ m₂ (fun a b s' t' => b = a ∧ Rel cfg0 s' t') s t :=
  SchedFull.w2_of_resEq ⟨h.1, rel_of_schedEq h.2⟩ (fun _ _ _ hr => ⟨rfl, hr⟩)

end w2

/-! ## the allocation layer -/

/-- **one allocation, two schedules**: same outcome, related states, same amount pending -/
theorem allocPure_sim (c : Nat) {s t : VmState} (p : Nat) (h : SchedCore s t) (l₁ : LedgerP s p)
    (l₂ : LedgerP t p) :
    (allocPure c t).1 = (allocPure c s).1 ∧ SchedCore (allocPure c s).2 (allocPure c t).2 :=
  ⟨(allocPure_core c p (core_of_schedCore h) l₁ l₂).1,
   (schedCore_allocPure c s h.uniqL h.freshL).symm.trans (h.trans (schedCore_allocPure c t h.uniqR h.freshR))⟩

theorem initTable_sim {s t : VmState} (h : SchedEq s t) : ResEq (initTable.go s) (initTable.go t) :=
  resEq_of_w2_full (w2_initTable (agree_of_schedEq h) fun _ _ _ _ _ hA => ⟨rfl, hA.rel⟩)

theorem initString_sim (b : List UInt8) {s t : VmState} (h : SchedEq s t) :
    ResEq ((initString b).go s) ((initString b).go t) :=
  resEq_of_w2_full (w2_initString b (agree_of_schedEq h) fun _ _ _ _ _ hA => ⟨rfl, hA.rel⟩)

theorem initSimple_sim (o : Obj) (hk : Heap.children o = []) (ho : Heap.chargeOf o = Heap.objCharge)
    {s t : VmState} (h : SchedEq s t) : ResEq ((initSimple o).go s) ((initSimple o).go t) :=
  resEq_of_w2_full (w2_initSimple o hk ho (agree_of_schedEq h) fun _ _ _ _ _ hA => ⟨rfl, hA.rel⟩)

/-! ## programs over the simple fragment -/

/-- `ScalarNil`, `CopyLast`, `Exit`, `Pop`, `SwapLast`, `InitTable`, `Len`, `PopTable` -/
def simpleOps : List UInt8 := [7, 9, 10, 16, 23, 31, 34, 41]

/-- every byte of the program is one of these one-byte instructions (so every address decodes
    to one of them) -/
def SimpleProg (p : Prog) : Prop := ∀ i, i < p.bytecode.size → p.bytecode.getD i 0 ∈ simpleOps

/-- none of them calls a host function or reads an upvalue slot, so `step_sim_upv` applies with
    arbitrary callbacks -/
theorem stepSimAny_simple (p : Prog) (hp : SimpleProg p) : StepSimAny p := by
  intro re₁ re₂ src hsrc s t h
  have hop := hp src hsrc
  have ne : ∀ o : UInt8, o ∉ simpleOps → p.bytecode.getD src 0 ≠ o := fun o ho e => ho (e ▸ hop)
  refine resEq_of_w2_full (step_sim_upv p re₁ re₂ src ?_ (agree_of_schedEq h) ?_ ?_)
  · rintro hd (⟨e, _⟩ | ⟨e, _⟩)
    · exact absurd e (ne _ (by decide))
    · exact absurd e (ne _ (by decide))
  · rintro (e | e)
    · exact absurd e (ne _ (by decide))
    · exact absurd e (ne _ (by decide))
  · exact fun e => absurd e (ne _ (by decide))

/-! ## from instructions to runs -/

theorem reSim_of_full {re₁ re₂ : Reenter} (h : SchedFull.ReSim cfg0 re₁ re₂) : ReSim re₁ re₂ :=
  fun f s t hst hf => resEq_of_w2_full
    (SchedFull.w2_mono (h f (R s) s t (agree_of_schedEq hst) hf) fun _ _ _ _ hq => ⟨hq.1, hq.2.rel⟩)

theorem execG_sim_of (p : Prog) (hstep : StepSim p) (hnat : NatSim) (gas : Nat) (task : Task)
    (K : Nat → Prop) (s t : VmState) (h : SchedFull.Agree cfg0 K s t) (hok : SchedFull.TaskOk K task) :
    SchedFull.ExecEq cfg0 (execG (step p) callNative p gas task s) (execG (step p) callNative p gas task t) :=
  execG_sim (step p) callNative p
    (fun re₁ re₂ hre src hsrc _ s t hA =>
      w2_full_of_resEq (hstep re₁ re₂ (reSim_of_full hre) src hsrc s t (schedEq_of_rel hA.rel)))
    (fun re₁ re₂ hre hd _ s t hA => SchedFull.w2_mono
      (w2_full_of_resEq (hnat re₁ re₂ (reSim_of_full hre) hd s t (schedEq_of_rel hA.rel)))
      fun _ _ _ _ hq => hq.2)
    gas task K s t h hok

/-- **the dispatch loop and `run_function` under two schedules**: same result (value, or error
    kind with position and frames), related final states — provided every instruction and every
    host function respects the relation -/
theorem exec_sim (p : Prog) (hstep : StepSim p) (hnat : NatSim) :
    ∀ (gas : Nat) (task : Task) (s t : VmState), SchedEq s t → TaskOk task s →
      ExecEq (exec p gas task s) (exec p gas task t) := by
  intro gas task s t h hok
  rw [exec_eq_execG, exec_eq_execG]
  have := execG_sim_of p hstep hnat gas task (R s) s t (agree_of_schedEq h) (by cases task <;> exact hok)
  exact ⟨this.1, schedEq_of_rel this.2.1⟩

/-- `Vm::run` (started, as the host does, with no guard outstanding: `run` resets the guards to
    what they were when it returns), from the simulation of the main loop -/
theorem run_sim_of_execG (p : Prog) (n : Nat)
    (hexec : ∀ (gas : Nat) (K : Nat → Prop) (s t : VmState), SchedFull.Agree cfg0 K s t →
      SchedFull.ExecEq cfg0 (execG (step p) callNative p gas (.loop 0) s)
        (execG (step p) callNative p gas (.loop 0) t))
    {s t : VmState} (h : SchedEq s t) (hg : s.guards = []) :
    (run p n t).2 = (run p n s).2 ∧ SchedEq (run p n s).1 (run p n t).1 := by
  rw [run_eq_runG, run_eq_runG]
  have := runG_sim (step p) callNative p n hexec (rel_of_schedEq h) hg
  exact ⟨this.1, schedEq_of_rel this.2⟩

/-- **whole runs are schedule independent as soon as single instructions and host functions are** -/
theorem run_sim (p : Prog) (hstep : StepSim p) (hnat : NatSim) (n : Nat) {s t : VmState}
    (h : SchedEq s t) (hg : s.guards = []) :
    (run p n t).2 = (run p n s).2 ∧ SchedEq (run p n s).1 (run p n t).1 :=
  run_sim_of_execG p n (fun gas K s t hA => execG_sim_of p hstep hnat gas (.loop 0) K s t hA trivial) h hg

/-- programs whose instructions never call back: no hypothesis on host functions -/
theorem run_sim_any (p : Prog) (hstep : StepSimAny p) (n : Nat) {s t : VmState}
    (h : SchedEq s t) (hg : s.guards = []) :
    (run p n t).2 = (run p n s).2 ∧ SchedEq (run p n s).1 (run p n t).1 :=
  run_sim_of_execG p n (fun gas => execG_sim_loop (step p) callNative p
    (fun re₁ re₂ src hsrc _ s t hA => w2_full_of_resEq (hstep re₁ re₂ src hsrc s t (schedEq_of_rel hA.rel)))
    gas 0) h hg

end Cao.SchedSim
