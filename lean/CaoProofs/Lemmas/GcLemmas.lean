import CaoModel.Vm
/-!
# The interpreter monad and the heap: what every proof about the VM model starts from

How the combinators of `M = ExceptT ErrKind (StateM VmState)` run (`run_*`); the allocator and the object constructors
as pure functions of the state (`allocPure`, `alloc2Pure`, `alloc1Pure`, `tableInsertPure`) and all they can do to the
machine (`allocPure_effect`: nothing or a collection, up to the allocator's own fields, `MemOnly`;
`tableInsertPure_effect`: `InsertEffect`); the addresses the collector starts from and follows (`rootAddrs`, `kidsOf`);
lookups in the heap after an edit.
-/
namespace Cao.Gc
open Cao Cao.Vm

/-! ## running `M` -/
section run
variable {α β : Type}

theorem run_bind (x : M α) (f : α → M β) (s : VmState) :
    (x >>= f).run.run s = match x.run.run s with
      | (.ok a, s') => (f a).run.run s'
      | (.error e, s') => (.error e, s') := by
  show (ExceptT.bind x f).run.run s = _
  simp only [ExceptT.bind, ExceptT.run, ExceptT.mk, StateT.run, bind, StateT.bind, ExceptT.bindCont]
  rcases h : x s with ⟨r, s'⟩
  cases r <;> rfl

theorem run_pure (a : α) (s : VmState) : (pure a : M α).run.run s = (.ok a, s) := rfl
theorem run_modify (f : VmState → VmState) (s : VmState) :
    (modify f : M Unit).run.run s = (.ok (), f s) := rfl
theorem run_get (s : VmState) : (get : M VmState).run.run s = (.ok s, s) := rfl
theorem run_set (s' s : VmState) : (set s' : M Unit).run.run s = (.ok (), s') := rfl
theorem run_throwE (e : ErrKind) (s : VmState) : (throwE e : M α).run.run s = (.error e, s) := rfl
theorem run_throw (e : ErrKind) (s : VmState) : (throw e : M α).run.run s = (.error e, s) := rfl
theorem run_ite (c : Prop) [Decidable c] (x y : M α) (s : VmState) :
    (if c then x else y).run.run s = if c then x.run.run s else y.run.run s := by split <;> rfl
theorem run_tryCatch (x : M α) (h : ErrKind → M α) (s : VmState) :
    (tryCatch x h).run.run s = match x.run.run s with
      | (.ok a, s') => (.ok a, s')
      | (.error e, s') => (h e).run.run s' := by
  show (ExceptT.tryCatch x h).run.run s = _
  simp only [ExceptT.tryCatch, ExceptT.run, ExceptT.mk, StateT.run, bind, StateT.bind]
  rcases h' : x s with ⟨r, s'⟩
  cases r <;> rfl

end run

/-! ## `allocBytes` as a pure function -/

def allocCharged (c : Nat) (s : VmState) : VmState :=
  { s with mem := { s.mem with allocated := s.mem.allocated + c },
           allocIndex := s.allocIndex + 1,
           forcedGcs := s.forcedGcs + (if s.sched.forced s.allocIndex then 1 else 0) }

/-- does this allocation run a collection? -/
def allocTrig (c : Nat) (s : VmState) : Bool :=
  s.sched.forced s.allocIndex || decide (s.mem.allocated + c > s.mem.nextGc) ||
    decide (s.mem.allocated + c > s.mem.limit)

def collect (s : VmState) : VmState :=
  let s' := gc s
  { s' with mem := { s'.mem with nextGc := max (s'.mem.allocated * 2) (Mem.initialGc s'.mem.limit) } }

def allocCollected (c : Nat) (s : VmState) : VmState :=
  if allocTrig c s then collect (allocCharged c s) else allocCharged c s

def refund (c : Nat) (s : VmState) : VmState :=
  { s with mem := { s.mem with allocated := s.mem.allocated - c } }

def allocPure (c : Nat) (s : VmState) : Except ErrKind Unit × VmState :=
  let s2 := allocCollected c s
  if s2.mem.allocated > s2.mem.limit then (.error .outOfMemory, refund c s2) else (.ok (), s2)

theorem allocBytes_run (c : Nat) (s : VmState) : (allocBytes c).run.run s = allocPure c s := by
  simp only [allocBytes, run_bind, run_modify, run_get, run_set, run_ite, run_pure, run_throwE]
  simp only [allocPure, allocCollected, allocTrig, allocCharged, collect, refund]
  by_cases h : (s.sched.forced s.allocIndex || decide (s.mem.allocated + c > s.mem.nextGc) ||
            decide (s.mem.allocated + c > s.mem.limit)) = true
  · simp only [h, if_true]
  · simp only [h, Bool.false_eq_true, if_false]

theorem deallocBytes_run (c : Nat) (s : VmState) :
    (deallocBytes c).run.run s = (.ok (), refund c s) := rfl

/-- `newObject` as a pure function -/
def withObject (o : Obj) (s : VmState) : VmState :=
  { s with heap := { objs := s.heap.objs ++ [(s.heap.next, o)], next := s.heap.next + 1 },
           guards := s.heap.next :: s.guards }

theorem newObject_run (o : Obj) (s : VmState) :
    (newObject o).run.run s = (.ok s.heap.next, withObject o s) := rfl

def alloc2Pure (c1 c2 : Nat) (o : Obj) (s : VmState) : Except ErrKind Nat × VmState :=
  match allocPure c1 s with
  | (.error e, s1) => (.error e, s1)
  | (.ok (), s1) =>
    match allocPure c2 s1 with
    | (.error e, s2) => (.error e, refund c1 s2)
    | (.ok (), s2) => (.ok s2.heap.next, withObject o s2)

/-- the common shape of `initTable` and `initString` -/
theorem alloc2_run (c1 c2 : Nat) (o : Obj) (s : VmState) :
    (do allocBytes c1
        try allocBytes c2 catch e => do deallocBytes c1; throw e
        newObject o : M Nat).run.run s = alloc2Pure c1 c2 o s := by
  simp only [run_bind, allocBytes_run, alloc2Pure]
  rcases allocPure c1 s with ⟨r1, s1⟩
  cases r1 with
  | error e => rfl
  | ok u =>
    simp only [run_tryCatch, allocBytes_run]
    rcases allocPure c2 s1 with ⟨r2, s2⟩
    cases r2 with
    | error e => simp only [run_bind, deallocBytes_run, run_throw]
    | ok u => simp only [newObject_run]

theorem initTable_run (s : VmState) :
    initTable.run.run s =
      alloc2Pure Heap.objCharge (Heap.tableCharge Gen.tableInitCap) (.table Gen.tableInitCap []) s :=
  alloc2_run _ _ _ s

theorem initString_run (bytes : List UInt8) (s : VmState) :
    (initString bytes).run.run s =
      alloc2Pure Heap.objCharge (Heap.strCharge bytes.length) (.str bytes) s :=
  alloc2_run _ _ _ s

def alloc1Pure (c1 : Nat) (o : Obj) (s : VmState) : Except ErrKind Nat × VmState :=
  match allocPure c1 s with
  | (.error e, s1) => (.error e, s1)
  | (.ok (), s1) => (.ok s1.heap.next, withObject o s1)

theorem initSimple_run (o : Obj) (s : VmState) :
    (initSimple o).run.run s = alloc1Pure Heap.objCharge o s := by
  simp only [initSimple, run_bind, allocBytes_run, alloc1Pure]
  rcases allocPure Heap.objCharge s with ⟨r1, s1⟩
  cases r1 with
  | error e => rfl
  | ok u => simp only [newObject_run]

/-! ## `tableInsert` as a pure function -/

theorem getTable_run (a : Nat) (s : VmState) :
    (getTable (.obj a)).run.run s = match s.heap.get a with
      | some (.table cap es) => (.ok (a, cap, es), s)
      | _ => (.error .invalidArgument, s) := by
  simp only [getTable, run_bind, run_get]
  cases hg : s.heap.get a with
  | none => rfl
  | some o => cases o <;> rfl

def tableInsertPure (a : Nat) (k v : Val) (s : VmState) : Except ErrKind Unit × VmState :=
  match s.heap.get a with
  | some (.table cap es) =>
    let ck := ownD s.heap k
    if (findEntry s.heap es ck).isSome then
      (.ok (), { s with heap := s.heap.set a (.table cap
        (es.map (fun e => if decide (ownD s.heap e.1 = ck) then (e.1, v) else e))) })
    else if HMap.needsGrow (es.length + 1) cap then
      match allocPure (Heap.tableCharge (HMap.growCap cap)) s with
      | (.error e, s1) => (.error e, s1)
      | (.ok (), s1) =>
        let s2 := refund (Heap.tableCharge cap) s1
        (.ok (), { s2 with heap := s2.heap.set a (.table (HMap.growCap cap) (es ++ [(k, v)])) })
    else (.ok (), { s with heap := s.heap.set a (.table cap (es ++ [(k, v)])) })
  | _ => (.error .invalidArgument, s)

theorem tableInsert_run (a : Nat) (k v : Val) (s : VmState) :
    (tableInsert a k v).run.run s = tableInsertPure a k v s := by
  simp only [tableInsert, run_bind, getTable_run, tableInsertPure]
  cases hg : s.heap.get a with
  | none => rfl
  | some o =>
    cases o with
    | table cap es =>
      simp only [run_get, run_ite, run_modify, run_bind, allocBytes_run, deallocBytes_run]
      split
      · rfl
      · split
        · rcases allocPure (Heap.tableCharge (HMap.growCap cap)) s with ⟨r, s1⟩
          cases r <;> rfl
        · rfl
    | _ => rfl

/-! ## lists -/

theorem foldl_add_eq_sum {α : Type} (f : α → Nat) (l : List α) (n : Nat) :
    l.foldl (fun n p => n + f p) n = n + (l.map f).sum := by
  induction l generalizing n with
  | nil => simp
  | cons a l ih => simp [ih, Nat.add_assoc]

theorem sum_filter_add_sum_filter_not {α : Type} (f : α → Nat) (p : α → Bool) (l : List α) :
    ((l.filter p).map f).sum + ((l.filter (fun x => !p x)).map f).sum = (l.map f).sum := by
  induction l with
  | nil => simp
  | cons a l ih =>
    cases h : p a <;> simp [h] <;> omega

theorem find?_filter_of_imp {α : Type} (p q : α → Bool) (l : List α)
    (h : ∀ x ∈ l, q x = true → p x = true) : (l.filter p).find? q = l.find? q := by
  induction l with
  | nil => rfl
  | cons a l ih =>
    have ih' := ih (fun x hx => h x (List.mem_cons_of_mem _ hx))
    by_cases hp : p a = true
    · rw [List.filter_cons_of_pos hp]
      simp only [List.find?_cons, ih']
    · rw [List.filter_cons_of_neg hp, ih']
      have hq : q a = false := by
        cases hqa : q a with
        | false => rfl
        | true => exact absurd (h a List.mem_cons_self hqa) hp
      simp [hq]

/-! ## addresses, children, the equations of `markLoop` -/

def objAddr : Val → Option Nat
  | .obj x => some x
  | _ => none

def addrs (vs : List Val) : List Nat := vs.filterMap objAddr

theorem mem_addrs {vs : List Val} {a : Nat} : a ∈ addrs vs ↔ Val.obj a ∈ vs := by
  simp only [addrs, List.mem_filterMap]
  constructor
  · rintro ⟨v, hv, h⟩
    cases v <;> simp [objAddr] at h
    subst h; exact hv
  · intro h; exact ⟨_, h, rfl⟩

theorem length_addrs_le (vs : List Val) : (addrs vs).length ≤ vs.length :=
  List.length_filterMap_le _ _

def kidsOf (h : Heap) (a : Nat) : List Nat :=
  match h.get a with
  | some o => addrs (Heap.children o)
  | none => []

theorem mem_kidsOf {h : Heap} {a b : Nat} :
    b ∈ kidsOf h a ↔ ∃ o, h.get a = some o ∧ Val.obj b ∈ Heap.children o := by
  unfold kidsOf
  cases hg : h.get a with
  | none => simp
  | some o => simp [mem_addrs]

def rootAddrs (s : VmState) : List Nat := addrs (roots s)

theorem mem_rootAddrs (s : VmState) (a : Nat) :
    a ∈ rootAddrs s ↔ Val.obj a ∈ s.stack.contents ∨ Val.obj a ∈ s.globals ∨
      a ∈ s.frames.filterMap (·.closure) ∨ a ∈ s.openUpvalues ∨ a ∈ s.guards := by
  unfold rootAddrs
  rw [mem_addrs]
  unfold Vm.roots
  simp only [List.mem_append, List.mem_map, Val.obj.injEq, exists_eq_right, or_assoc]

theorem mem_rootAddrs_stack {s : VmState} {a : Nat} (h : Val.obj a ∈ s.stack.contents) : a ∈ rootAddrs s :=
  (mem_rootAddrs s a).mpr (.inl h)

theorem mem_rootAddrs_open {s : VmState} {a : Nat} (h : a ∈ s.openUpvalues) : a ∈ rootAddrs s :=
  (mem_rootAddrs s a).mpr (.inr (.inr (.inr (.inl h))))

theorem mem_rootAddrs_guard {s : VmState} {a : Nat} (h : a ∈ s.guards) : a ∈ rootAddrs s :=
  (mem_rootAddrs s a).mpr (.inr (.inr (.inr (.inr h))))

theorem markLoop_zero (h : Heap) (w m : List Nat) : markLoop h 0 w m = m := by
  simp [markLoop]

theorem markLoop_nil (h : Heap) (f : Nat) (m : List Nat) : markLoop h f [] m = m := by
  cases f <;> simp [markLoop]

theorem markLoop_cons (h : Heap) (f a : Nat) (w m : List Nat) :
    markLoop h (f+1) (a :: w) m =
      if m.contains a then markLoop h f w m else markLoop h f (kidsOf h a ++ w) (a :: m) := by
  rw [markLoop]
  split
  · rfl
  · unfold kidsOf
    cases h.get a <;> rfl

/-- number of child references of the whole heap, as `reachable` computes it -/
def edgeCount (h : Heap) : Nat := h.objs.foldl (fun n p => n + (Heap.children p.2).length) 0

theorem reachable_eq (s : VmState) :
    reachable s = markLoop s.heap ((rootAddrs s).length + edgeCount s.heap + s.heap.objs.length + 1)
      (rootAddrs s) [] := rfl

/-! ## looking objects up after `Heap.set` and `withObject` -/

theorem get_set (h : Heap) (a b : Nat) (o : Obj) :
    (h.set a o).get b = if b = a then (h.get a).map (fun _ => o) else h.get b := by
  unfold Heap.get Heap.set
  simp only
  induction h.objs with
  | nil => simp
  | cons p l ih =>
    simp only [List.map_cons, List.find?_cons]
    by_cases hpa : p.1 = a
    · by_cases hb : b = a
      · subst hb; simp [hpa]
      · have h1 : (a == b) = false := by simpa using fun h => hb h.symm
        have h2 : (p.1 == b) = false := by rw [hpa]; exact h1
        simp only [hpa, beq_self_eq_true, if_true, h1]
        simpa [hb] using ih
    · have h0 : (p.1 == a) = false := by simpa using hpa
      simp only [h0, Bool.false_eq_true, if_false]
      by_cases hpb : p.1 = b
      · have hb : ¬ b = a := fun h => hpa (hpb.trans h)
        simp [hpb, hb]
      · have h2 : (p.1 == b) = false := by simpa using hpb
        simp only [h2]
        exact ih

theorem get_set_self (h : Heap) (a : Nat) (o o' : Obj) (ha : h.get a = some o') :
    (h.set a o).get a = some o := by
  rw [get_set, if_pos rfl, ha]; rfl

theorem get_set_ne (h : Heap) (a b : Nat) (o : Obj) (hb : b ≠ a) : (h.set a o).get b = h.get b := by
  rw [get_set, if_neg hb]

/-- `hf` is `C05.FreshNext` -/
theorem get_lt_next {h : Heap} (hf : ∀ p ∈ h.objs, p.1 < h.next) {b : Nat} {o : Obj}
    (hg : h.get b = some o) : b < h.next := by
  unfold Heap.get at hg
  cases hfind : h.objs.find? (fun p => p.1 == b) with
  | none => rw [hfind] at hg; cases hg
  | some p =>
    have : p.1 = b := by simpa using List.find?_some hfind
    rw [← this]; exact hf p (List.mem_of_find?_eq_some hfind)

theorem get_next_none {h : Heap} (hf : ∀ p ∈ h.objs, p.1 < h.next) : h.get h.next = none := by
  cases hg : h.get h.next with
  | none => rfl
  | some o => exact absurd (get_lt_next hf hg) (Nat.lt_irrefl _)

theorem get_withObject (o : Obj) (s : VmState) (b : Nat) :
    (withObject o s).heap.get b =
      match s.heap.get b with
      | some x => some x
      | none => if s.heap.next = b then some o else none := by
  unfold withObject Heap.get
  simp only [List.find?_append]
  cases s.heap.objs.find? (fun p => p.1 == b) with
  | some p => simp
  | none => by_cases hn : s.heap.next = b <;> simp [hn]

theorem get_withObject_of_some (o : Obj) (s : VmState) {b : Nat} {x : Obj} (h : s.heap.get b = some x) :
    (withObject o s).heap.get b = some x := by
  rw [get_withObject, h]

theorem get_withObject_old (o : Obj) (s : VmState) (b : Nat) (hb : b ≠ s.heap.next) :
    (withObject o s).heap.get b = s.heap.get b := by
  rw [get_withObject, if_neg (Ne.symm hb)]
  cases s.heap.get b <;> rfl

theorem get_withObject_new (o : Obj) (s : VmState) (hf : ∀ p ∈ s.heap.objs, p.1 < s.heap.next) :
    (withObject o s).heap.get s.heap.next = some o := by
  rw [get_withObject, get_next_none hf, if_pos rfl]

theorem get_withObject_of_fresh (o : Obj) (s : VmState) (hf : ∀ p ∈ s.heap.objs, p.1 < s.heap.next)
    (b : Nat) : (withObject o s).heap.get b = if b = s.heap.next then some o else s.heap.get b := by
  split
  · next hb => rw [hb]; exact get_withObject_new o s hf
  · next hb => exact get_withObject_old o s b hb

/-! ## the loop of `closeUpvalues` -/

/-- one induction over the loop for every preorder on heaps that admits its one edit, an open
    upvalue object becoming a closed one -/
theorem closeGo_pres {R : Heap → Heap → Prop} (refl : ∀ h, R h h)
    (trans : ∀ {a b c}, R a b → R b c → R a c)
    (close : ∀ h a i v, upvalueSlot h a = some i → R h (h.set a (.upvalue (.closed v))))
    (top : Nat) (s0 : VmState) : ∀ (l : List Nat) (h : Heap), R h (closeUpvalues.go top s0 l h).2 := by
  intro l
  induction l with
  | nil => intro h; exact refl h
  | cons a rest ih =>
    intro h
    unfold closeUpvalues.go
    split
    · next i hi =>
      split
      · exact refl h
      · exact trans (close h a i _ hi) (ih _)
    · exact refl h

/-! ## what an allocation can do to the machine -/

/-- `s'` differs from `s` in the allocator's own fields only (bytes allocated, threshold, the
    position in the schedule, the ghost counters) -/
structure MemOnly (s s' : VmState) : Prop where
  heap : s'.heap = s.heap
  stack : s'.stack = s.stack
  frames : s'.frames = s.frames
  frameCap : s'.frameCap = s.frameCap
  globals : s'.globals = s.globals
  guards : s'.guards = s.guards
  openUpvalues : s'.openUpvalues = s.openUpvalues
  remaining : s'.remaining = s.remaining
  hostLog : s'.hostLog = s.hostLog
  dispatches : s'.dispatches = s.dispatches
  sched : s'.sched = s.sched
  limit : s'.mem.limit = s.mem.limit

theorem MemOnly.refund {s s' : VmState} (h : MemOnly s s') (c : Nat) : MemOnly s (refund c s') :=
  ⟨h.heap, h.stack, h.frames, h.frameCap, h.globals, h.guards, h.openUpvalues, h.remaining,
   h.hostLog, h.dispatches, h.sched, h.limit⟩

theorem allocCollected_effect (c : Nat) (s : VmState) :
    MemOnly s (allocCollected c s) ∨ MemOnly (gc s) (allocCollected c s) := by
  unfold allocCollected
  split
  · exact .inr ⟨rfl, rfl, rfl, rfl, rfl, rfl, rfl, rfl, rfl, rfl, rfl, rfl⟩
  · exact .inl ⟨rfl, rfl, rfl, rfl, rfl, rfl, rfl, rfl, rfl, rfl, rfl, rfl⟩

/-- **all an allocation can do**, granted or refused: nothing, or a collection; beyond that only
    the allocator's own fields change -/
theorem allocPure_effect (c : Nat) (s : VmState) :
    MemOnly s (allocPure c s).2 ∨ MemOnly (gc s) (allocPure c s).2 := by
  unfold allocPure
  dsimp only
  split
  · exact (allocCollected_effect c s).imp (·.refund c) (·.refund c)
  · exact allocCollected_effect c s

theorem allocPure_err (c : Nat) (s : VmState) (e : ErrKind) (h : (allocPure c s).1 = .error e) :
    e = .outOfMemory := by
  unfold allocPure at h
  dsimp only at h
  split at h
  · simp only [Except.error.injEq] at h; exact h.symm
  · cases h

theorem allocPure_counters (c : Nat) (s : VmState) :
    (allocPure c s).2.mem.limit = s.mem.limit ∧ (allocPure c s).2.remaining = s.remaining ∧
    (allocPure c s).2.dispatches = s.dispatches ∧ (allocPure c s).2.hostLog = s.hostLog ∧
    (allocPure c s).2.frameCap = s.frameCap := by
  rcases allocPure_effect c s with h | h <;> exact ⟨h.limit, h.remaining, h.dispatches, h.hostLog, h.frameCap⟩

/-! ## what `tableInsert` can do to the machine -/

/-- nothing (there is no table at `a`), new rows for the table in place, a refused allocation, or a
    granted one followed by the refund of the old storage and the new rows in the larger table -/
inductive InsertEffect (a : Nat) (s : VmState) : VmState → Prop
  | none : InsertEffect a s s
  | rows {cap : Nat} {es : List (Val × Val)} (es' : List (Val × Val))
      (hg : s.heap.get a = some (.table cap es)) :
      InsertEffect a s { s with heap := s.heap.set a (.table cap es') }
  | oom {cap : Nat} {es : List (Val × Val)} {e : ErrKind} {s1 : VmState}
      (hg : s.heap.get a = some (.table cap es))
      (ha : allocPure (Heap.tableCharge (HMap.growCap cap)) s = (.error e, s1)) : InsertEffect a s s1
  | grow {cap : Nat} {es : List (Val × Val)} {s1 : VmState} (es' : List (Val × Val))
      (hg : s.heap.get a = some (.table cap es))
      (ha : allocPure (Heap.tableCharge (HMap.growCap cap)) s = (.ok (), s1)) :
      InsertEffect a s { refund (Heap.tableCharge cap) s1 with
        heap := (refund (Heap.tableCharge cap) s1).heap.set a (.table (HMap.growCap cap) es') }

theorem tableInsertPure_effect (a : Nat) (k v : Val) (s : VmState) :
    InsertEffect a s (tableInsertPure a k v s).2 := by
  unfold tableInsertPure
  split
  · next cap es hg =>
    dsimp only
    split
    · exact .rows _ hg
    · split
      · split
        · next ha => exact .oom hg ha
        · next ha => exact .grow _ hg ha
      · exact .rows _ hg
  · exact .none

/-! ## the object list: membership and lookup -/

theorem mem_of_get {h : Heap} {a : Nat} {o : Obj} (hg : h.get a = some o) : (a, o) ∈ h.objs := by
  unfold Heap.get at hg
  cases hf : h.objs.find? (fun q => q.1 == a) with
  | none => rw [hf] at hg; cases hg
  | some q =>
    rw [hf] at hg
    simp only [Option.map_some, Option.some.injEq] at hg
    have h1 := List.mem_of_find?_eq_some hf
    have h2 : q.1 = a := by simpa using List.find?_some hf
    have : q = (a, o) := by rw [← h2, ← hg]
    rw [← this]; exact h1

theorem get_of_mem_aux (l : List (Nat × Obj)) (hu : (l.map (fun p => p.1)).Nodup) (p : Nat × Obj)
    (hp : p ∈ l) : (l.find? (fun q => q.1 == p.1)).map (fun q => q.2) = some p.2 := by
  induction l with
  | nil => cases hp
  | cons q l ih =>
    simp only [List.map_cons, List.nodup_cons] at hu
    by_cases hq : (q.1 == p.1) = true
    · simp only [List.find?_cons, hq, Option.map_some, Option.some.injEq]
      rcases List.mem_cons.mp hp with rfl | hp'
      · rfl
      · exact absurd (List.mem_map_of_mem hp') ((show q.1 = p.1 by simpa using hq) ▸ hu.1)
    · have hq' : (q.1 == p.1) = false := by simpa using hq
      simp only [List.find?_cons, hq']
      rcases List.mem_cons.mp hp with rfl | hp'
      · simp at hq
      · exact ih hu.2 hp'

/-- `hu` is `C05.UniqueAddrs` -/
theorem get_of_mem {h : Heap} (hu : (h.objs.map (fun p => p.1)).Nodup) {p : Nat × Obj} (hp : p ∈ h.objs) :
    h.get p.1 = some p.2 := get_of_mem_aux h.objs hu p hp

end Cao.Gc
