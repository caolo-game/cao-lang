import CaoModel.CardOps
/-!
# The card / module editing model (`CaoModel/CardOps.lean`)

A card is its kind together with the list of its children: each by-kind function of the model has
one equation in terms of `children` / `withChildren` (`getChild_eq`, `setChild_eq`,
`insertChild_eq`, `removeChild_eq`). Whatever has a list of parts that can be put back (`Kids`: a
list, a card, the function table of a module) has a partial lens (`PLens`) for the part at each
position, independent (`Indep`) for different positions; a child, a path and a card of a module
(`childL`, `pathL`, `Module.cardL`) are composites of these, and `cardL_get` / `cardL_set` say what
the last reads and writes in the model's terms (`getL` / `setL`). Then the walk over all cards
with their indices, `swap_cards`, and what a successful `insert_card` / `remove_card` did
(`insertCard_ok`, `removeCard_ok`).
-/
namespace Cao
open Card

theorem Card.induct {P : Card → Prop} (h : ∀ c, (∀ ch ∈ c.children, P ch) → P c) (c : Card) :
    P c := by
  induction c using Card.rec (motive_2 := fun l => ∀ ch ∈ l, P ch) with
  | nil => rename_i hm; cases hm
  | cons c l ih1 ih2 =>
    rename_i hm
    rcases List.mem_cons.1 hm with rfl | hm
    · exact ih1
    · exact ih2 _ hm
  | _ => refine h _ ?_; clear h; simp_all [children]

theorem Card.inductL {P : Card → Prop} (h : ∀ c, (∀ ch ∈ c.children, P ch) → P c) :
    ∀ (l : List Card), ∀ ch ∈ l, P ch := fun _ ch _ => Card.induct h ch

/-! ## partial lenses -/

theorem _root_.List.getElem?_set_map {α : Type} (l : List α) (i j : Nat) (x : α) :
    (l.set i x)[j]? = if i = j then (l[i]?).map (fun _ => x) else l[j]? := by
  rw [List.getElem?_set]
  split
  · by_cases h : i < l.length <;> simp [h]
  · rfl

theorem _root_.List.set_of_getElem? {α : Type} (l : List α) (i : Nat) (x : α) (h : l[i]? = some x) :
    l.set i x = l := by
  obtain ⟨hi, rfl⟩ := List.getElem?_eq_some_iff.1 h
  exact List.set_getElem_self hi

/-- a part of `S` that may be absent, read by `get` and overwritten by `set`: what `get_child` /
`get_child_mut`, indexing a `Vec`, `get_card` / `get_card_mut` have in common -/
structure PLens (S A : Type) where
  get : S → Option A
  set : S → A → S
  get_set : ∀ s a, get (set s a) = (get s).map fun _ => a
  set_set : ∀ s a b, set (set s a) b = set s b
  set_get : ∀ s a, get s = some a → set s a = s

namespace PLens
variable {S A A' B B' : Type}

def comp (l : PLens S A) (m : PLens A B) : PLens S B where
  get s := (l.get s).bind m.get
  set s b := match l.get s with
    | none => s
    | some a => l.set s (m.set a b)
  get_set s b := by
    cases h : l.get s with
    | none => simp [h]
    | some a => simp [h, l.get_set, m.get_set]
  set_set s b c := by
    cases h : l.get s with
    | none => simp [h]
    | some a => simp [h, l.get_set, l.set_set, m.set_set]
  set_get s b hb := by
    cases h : l.get s with
    | none => rfl
    | some a =>
      rw [h] at hb
      show l.set s (m.set a b) = s
      rw [m.set_get a b hb, l.set_get s a h]

theorem comp_get (l : PLens S A) (m : PLens A B) (s : S) :
    (l.comp m).get s = (l.get s).bind m.get := rfl

theorem comp_set (l : PLens S A) (m : PLens A B) (s : S) (b : B) :
    (l.comp m).set s b = match l.get s with
      | none => s
      | some a => l.set s (m.set a b) := rfl

theorem ext {l l' : PLens S A} (hg : l.get = l'.get) (hs : l.set = l'.set) : l = l' := by
  cases l; cases l'; cases hg; cases hs; rfl

theorem comp_assoc (l : PLens S A) (m : PLens A B) {C : Type} (n : PLens B C) :
    (l.comp m).comp n = l.comp (m.comp n) := by
  refine ext (funext fun s => ?_) (funext fun s => funext fun x => ?_)
  · simp only [comp_get, Option.bind_assoc]; rfl
  · simp only [comp_set, comp_get]
    cases h : l.get s with
    | none => rfl
    | some a => cases h' : m.get a <;> simp [h', l.set_get s a h]

structure Indep (l : PLens S A) (l' : PLens S A') : Prop where
  get_set : ∀ s a, l'.get (l.set s a) = l'.get s
  set_get : ∀ s a', l.get (l'.set s a') = l.get s
  comm : ∀ s a a', l'.set (l.set s a) a' = l.set (l'.set s a') a

theorem Indep.comp {l : PLens S A} {l' : PLens S A'} (h : Indep l l') (m : PLens A B)
    (m' : PLens A' B') : Indep (l.comp m) (l'.comp m') where
  get_set s b := by
    simp only [comp_get, comp_set]
    cases l.get s <;> simp [h.get_set]
  set_get s b' := by
    simp only [comp_get, comp_set]
    cases l'.get s <;> simp [h.set_get]
  comm s b b' := by
    simp only [comp_set]
    cases h1 : l.get s <;> cases h2 : l'.get s <;> simp [h1, h2, h.get_set, h.set_get, h.comm]

theorem Indep.comp_right (l : PLens S A) {m : PLens A B} {m' : PLens A B'} (h : Indep m m') :
    Indep (l.comp m) (l.comp m') where
  get_set s b := by
    simp only [comp_get, comp_set]
    cases h1 : l.get s <;> simp [h1, l.get_set, h.get_set]
  set_get s b' := by
    simp only [comp_get, comp_set]
    cases h1 : l.get s <;> simp [h1, l.get_set, h.set_get]
  comm s b b' := by
    simp only [comp_set]
    cases h1 : l.get s <;> simp [h1, l.get_set, l.set_set, h.comm]

def id : PLens S S :=
  ⟨some, fun _ a => a, fun _ _ => rfl, fun _ _ _ => rfl, fun _ _ h => (Option.some.inj h).symm⟩

end PLens

/-- the parts of `S` of one type, as a list that can be put back: `kids` lists them, `put` writes a
whole list of them. A card with its children is the reason for the length condition: a kind with two
fixed slots takes back two children, not any list. -/
structure Kids (S A : Type) where
  kids : S → List A
  put : S → List A → S
  put_kids : ∀ s, put s (kids s) = s
  put_put : ∀ s l l', put (put s l) l' = put s l'
  kids_put : ∀ s l, l.length = (kids s).length → kids (put s l) = l

namespace Kids
variable {S A : Type}

def «at» (K : Kids S A) (i : Nat) : PLens S A where
  get s := (K.kids s)[i]?
  set s x := K.put s ((K.kids s).set i x)
  get_set s x := by rw [K.kids_put _ _ List.length_set, List.getElem?_set_map, if_pos rfl]
  set_set s x y := by rw [K.kids_put _ _ List.length_set, K.put_put, List.set_set]
  set_get s x h := by rw [List.set_of_getElem? _ _ _ h, K.put_kids]

theorem at_indep (K : Kids S A) {i j : Nat} (h : i ≠ j) : (K.at i).Indep (K.at j) where
  get_set s x := by
    show (K.kids (K.put s ((K.kids s).set i x)))[j]? = (K.kids s)[j]?
    rw [K.kids_put _ _ List.length_set, List.getElem?_set_ne h]
  set_get s x := by
    show (K.kids (K.put s ((K.kids s).set j x)))[i]? = (K.kids s)[i]?
    rw [K.kids_put _ _ List.length_set, List.getElem?_set_ne (Ne.symm h)]
  comm s x y := by
    show K.put (K.put s ((K.kids s).set i x)) ((K.kids (K.put s ((K.kids s).set i x))).set j y)
      = K.put (K.put s ((K.kids s).set j y)) ((K.kids (K.put s ((K.kids s).set j y))).set i x)
    rw [K.kids_put _ _ List.length_set, K.kids_put _ _ List.length_set, K.put_put, K.put_put,
      List.set_comm _ _ h]

def list {α : Type} : Kids (List α) α :=
  ⟨fun l => l, fun _ l => l, fun _ => rfl, fun _ _ _ => rfl, fun _ _ _ => rfl⟩

end Kids

namespace PLens

def ix {α : Type} (i : Nat) : PLens (List α) α := Kids.list.at i

theorem ix_get {α : Type} (i : Nat) (l : List α) : (ix i).get l = l[i]? := rfl
theorem ix_set {α : Type} (i : Nat) (l : List α) (x : α) : (ix i).set l x = l.set i x := rfl

theorem ix_indep {α : Type} {i j : Nat} (h : i ≠ j) : Indep (ix (α := α) i) (ix j) :=
  Kids.list.at_indep h

end PLens

/-! ## the children of a card as a list -/

theorem Card.numChildren_eq (c : Card) : c.numChildren = c.children.length := by
  cases c <;> first | rfl | exact Nat.add_comm ..

theorem Card.getChild_eq (c : Card) (i : Nat) : c.getChild i = c.children[i]? := by
  cases c
  case bin | «repeat» | forEach => rcases i with _ | _ | i <;> rfl
  case un | setVar | setGlobalVar | dynamicCall => cases i <;> rfl
  case tri => rcases i with _ | _ | _ | i <;> rfl
  all_goals rfl

def Card.withChildren : Card → List Card → Card
  | .bin k _ _, l => .bin k (l.getD 0 .scalarNil) (l.getD 1 .scalarNil)
  | .un k _, l => .un k (l.getD 0 .scalarNil)
  | .tri k _ _ _, l => .tri k (l.getD 0 .scalarNil) (l.getD 1 .scalarNil) (l.getD 2 .scalarNil)
  | .setVar n _, l => .setVar n (l.getD 0 .scalarNil)
  | .setGlobalVar n _, l => .setGlobalVar n (l.getD 0 .scalarNil)
  | .callNative n _, l => .callNative n l
  | .call n _, l => .call n l
  | .repeat v _ _, l => .repeat v (l.getD 0 .scalarNil) (l.getD 1 .scalarNil)
  | .forEach i k v _ _, l => .forEach i k v (l.getD 0 .scalarNil) (l.getD 1 .scalarNil)
  | .composite ty _, l => .composite ty l
  | .dynamicCall _ _, l => .dynamicCall l.tail (l.getD 0 .scalarNil)
  | .array _, l => .array l
  | .closure ar _, l => .closure ar l
  | c, _ => c

theorem Card.withChildren_children (c : Card) : c.withChildren c.children = c := by
  cases c <;> rfl

theorem Card.withChildren_withChildren (c : Card) (l l' : List Card) :
    (c.withChildren l).withChildren l' = c.withChildren l' := by
  cases c <;> rfl

theorem _root_.List.getD_cons_tail {α : Type} (l : List α) (d : α) (n : Nat) (h : l.length = n + 1) :
    l.getD 0 d :: l.tail = l := by
  cases l with
  | nil => cases h
  | cons a t => rfl

theorem _root_.List.getD_one {α : Type} (l : List α) (d : α) (h : l.length = 1) : [l.getD 0 d] = l := by
  rcases l with _ | ⟨a, _ | ⟨b, t⟩⟩ <;> first | rfl | cases h

theorem _root_.List.getD_two {α : Type} (l : List α) (d : α) (h : l.length = 2) :
    [l.getD 0 d, l.getD 1 d] = l := by
  rcases l with _ | ⟨a, _ | ⟨b, _ | ⟨e, t⟩⟩⟩ <;> first | rfl | cases h

theorem _root_.List.getD_three {α : Type} (l : List α) (d : α) (h : l.length = 3) :
    [l.getD 0 d, l.getD 1 d, l.getD 2 d] = l := by
  rcases l with _ | ⟨a, _ | ⟨b, _ | ⟨e, _ | ⟨g, t⟩⟩⟩⟩ <;> first | rfl | cases h

theorem Card.children_withChildren (c : Card) (l : List Card) (h : l.length = c.children.length) :
    (c.withChildren l).children = l := by
  cases c
  case bin | «repeat» | forEach => exact List.getD_two l _ h
  case un | setVar | setGlobalVar => exact List.getD_one l _ h
  case tri => exact List.getD_three l _ h
  case dynamicCall => exact List.getD_cons_tail l _ _ h
  case callNative | call | composite | array | closure => rfl
  all_goals exact (List.eq_nil_of_length_eq_zero h).symm

theorem Card.setChild_eq (c : Card) (i : Nat) (x : Card) :
    c.setChild i x = c.withChildren (c.children.set i x) := by
  cases c
  case bin | «repeat» | forEach => rcases i with _ | _ | i <;> rfl
  case un | setVar | setGlobalVar | dynamicCall => cases i <;> rfl
  case tri => rcases i with _ | _ | _ | i <;> rfl
  all_goals rfl

theorem Card.children_setChild (c : Card) (i : Nat) (x : Card) :
    (c.setChild i x).children = c.children.set i x := by
  rw [setChild_eq, children_withChildren _ _ List.length_set]

def Card.kids : Kids Card Card :=
  ⟨children, withChildren, withChildren_children, withChildren_withChildren, children_withChildren⟩

/-! ## paths -/

def PDisj (p q : List Nat) : Prop := ¬ p <+: q ∧ ¬ q <+: p

theorem PDisj.symm {p q : List Nat} (h : PDisj p q) : PDisj q p := ⟨h.2, h.1⟩

theorem pdisj_cons {i j : Nat} {p q : List Nat} : PDisj (i :: p) (j :: q) ↔ i ≠ j ∨ PDisj p q := by
  unfold PDisj
  simp only [List.cons_prefix_cons]
  by_cases h : i = j
  · subst h; simp
  · simp [h, Ne.symm h]

theorem not_pdisj_nil_left {q : List Nat} : ¬ PDisj [] q := fun h => h.1 (List.nil_prefix)
theorem not_pdisj_nil_right {p : List Nat} : ¬ PDisj p [] := fun h => h.2 (List.nil_prefix)

namespace Card
open PLens

def childL (i : Nat) : PLens Card Card := Card.kids.at i

theorem childL_get (i : Nat) (c : Card) : (childL i).get c = c.getChild i := (getChild_eq c i).symm

theorem childL_set (i : Nat) (c x : Card) : (childL i).set c x = c.setChild i x :=
  (setChild_eq c i x).symm

theorem childL_indep {i j : Nat} (h : i ≠ j) : Indep (childL i) (childL j) := Card.kids.at_indep h

theorem getChild_setChild (c : Card) (i j : Nat) (x : Card) :
    (c.setChild i x).getChild j =
      if i = j then (c.getChild i).map (fun _ => x) else c.getChild j := by
  simp only [getChild_eq, children_setChild, List.getElem?_set_map]

theorem setChild_setChild (c : Card) (i : Nat) (x y : Card) :
    (c.setChild i x).setChild i y = c.setChild i y := by
  simpa only [childL_set] using (childL i).set_set c x y

theorem setChild_getChild (c : Card) (i : Nat) (x : Card) (h : c.getChild i = some x) :
    c.setChild i x = c := by
  simpa only [childL_set] using (childL i).set_get c x ((childL_get i c).trans h)

theorem setChild_comm (c : Card) (i j : Nat) (x y : Card) (h : i ≠ j) :
    (c.setChild i x).setChild j y = (c.setChild j y).setChild i x := by
  simpa only [childL_set] using (childL_indep h).comm c x y

def pathL : List Nat → PLens Card Card
  | [] => PLens.id
  | i :: p => (childL i).comp (pathL p)

theorem getPath_eq (c : Card) (p : List Nat) : c.getPath p = (pathL p).get c := by
  induction p generalizing c with
  | nil => rfl
  | cons i p ih => cases h : c.getChild i <;> simp [getPath, pathL, comp_get, childL_get, h, ih]

theorem setPath_eq (c : Card) (p : List Nat) (x : Card) : c.setPath p x = (pathL p).set c x := by
  induction p generalizing c with
  | nil => rfl
  | cons i p ih =>
    cases h : c.getChild i <;> simp [setPath, pathL, comp_set, childL_get, childL_set, h, ih]

theorem cons_indep {S : Type} {l : Nat → PLens S Card} (hl : ∀ {i j}, i ≠ j → Indep (l i) (l j))
    {i j : Nat} {p q : List Nat} (ih : PDisj p q → Indep (pathL p) (pathL q))
    (h : PDisj (i :: p) (j :: q)) : Indep ((l i).comp (pathL p)) ((l j).comp (pathL q)) := by
  by_cases hij : i = j
  · subst hij
    exact Indep.comp_right _ (ih ((pdisj_cons.1 h).resolve_left (fun h => h rfl)))
  · exact (hl hij).comp _ _

theorem pathL_indep : ∀ {p q : List Nat}, PDisj p q → Indep (pathL p) (pathL q)
  | [], _, h => absurd h not_pdisj_nil_left
  | _ :: _, [], h => absurd h not_pdisj_nil_right
  | _ :: _, _ :: _, h => cons_indep childL_indep pathL_indep h

theorem pathL_append (p t : List Nat) : pathL (p ++ t) = (pathL p).comp (pathL t) := by
  induction p with
  | nil => exact PLens.ext rfl rfl
  | cons i p ih => rw [List.cons_append, pathL, pathL, ih, comp_assoc]

end Card

/-! ## the list-of-cards layer (a function body): paths are non-empty -/

/-- `cards.get(indices[0])` followed by the `get_child` loop -/
def getL : List Card → List Nat → Option Card
  | _, [] => none
  | l, i :: rest => match l[i]? with
    | none => none
    | some c => c.getPath rest

def setL : List Card → List Nat → Card → List Card
  | l, [], _ => l
  | l, i :: rest, x => match l[i]? with
    | none => l
    | some c => l.set i (c.setPath rest x)

open PLens in
def itemL : List Nat → PLens (List Card) Card
  | [] => ⟨fun _ => none, fun l _ => l, fun _ _ => rfl, fun _ _ _ => rfl, fun _ _ h => by cases h⟩
  | i :: rest => (ix i).comp (Card.pathL rest)

theorem getL_eq (l : List Card) (p : List Nat) : getL l p = (itemL p).get l := by
  cases p with
  | nil => rfl
  | cons i rest => cases h : l[i]? <;> simp [getL, itemL, PLens.comp_get, PLens.ix_get, h, getPath_eq]

theorem setL_eq (l : List Card) (p : List Nat) (x : Card) : setL l p x = (itemL p).set l x := by
  cases p with
  | nil => rfl
  | cons i rest =>
    cases h : l[i]? <;> simp [setL, itemL, PLens.comp_set, PLens.ix_get, PLens.ix_set, h, setPath_eq]

theorem itemL_indep : ∀ {p q : List Nat}, PDisj p q → (itemL p).Indep (itemL q)
  | [], _, h => absurd h not_pdisj_nil_left
  | _ :: _, [], h => absurd h not_pdisj_nil_right
  | _ :: _, _ :: _, h => cons_indep PLens.ix_indep pathL_indep h

theorem itemL_append (p t : List Nat) (hp : p ≠ []) :
    itemL (p ++ t) = (itemL p).comp (pathL t) := by
  cases p with
  | nil => exact absurd rfl hp
  | cons i p => rw [List.cons_append, itemL, itemL, pathL_append, PLens.comp_assoc]

theorem length_setL (l : List Card) (p : List Nat) (x : Card) : (setL l p x).length = l.length := by
  cases p with
  | nil => rfl
  | cons i rest => simp only [setL]; cases l[i]? <;> simp


/-! ## the module layer -/
namespace Module

@[simp] theorem functions_withFunctions (m : Module) (fns) : (m.withFunctions fns).functions = fns := by
  cases m; rfl
@[simp] theorem withFunctions_withFunctions (m : Module) (a b) :
    (m.withFunctions a).withFunctions b = m.withFunctions b := by
  cases m; rfl
@[simp] theorem withFunctions_self (m : Module) : m.withFunctions m.functions = m := by
  cases m; rfl

def cardsOf (m : Module) (f : Nat) : Option (List Card) :=
  (m.functions[f]?).map (fun nf => nf.2.cards)

def setFn (m : Module) (f : Nat) (cs : List Card) : Module :=
  match m.functions[f]? with
  | none => m
  | some nf => m.withFunctions (m.functions.set f (nf.1, { nf.2 with cards := cs }))

def fns : Kids Module (String × Func) :=
  ⟨functions, withFunctions, withFunctions_self, withFunctions_withFunctions,
   fun m l _ => functions_withFunctions m l⟩

def cardsF : PLens (String × Func) (List Card) where
  get nf := some nf.2.cards
  set nf cs := (nf.1, { nf.2 with cards := cs })
  get_set _ _ := rfl
  set_set _ _ _ := rfl
  set_get nf cs h := by cases h; rfl

def fnL (f : Nat) : PLens Module (List Card) := (fns.at f).comp cardsF

theorem fnL_get (f : Nat) (m : Module) : (fnL f).get m = m.cardsOf f := by
  show (m.functions[f]?).bind cardsF.get = _
  unfold cardsOf; cases m.functions[f]? <;> rfl

theorem fnL_set (f : Nat) (m : Module) (cs : List Card) : (fnL f).set m cs = m.setFn f cs := by
  have h : (fns.at f).get m = m.functions[f]? := rfl
  rw [fnL, PLens.comp_set, h]
  unfold setFn; cases m.functions[f]? <;> rfl

theorem fnL_indep {f g : Nat} (h : f ≠ g) : (fnL f).Indep (fnL g) := (fns.at_indep h).comp _ _

theorem cardsOf_setFn (m : Module) (f g : Nat) (cs : List Card) :
    (m.setFn f cs).cardsOf g = if f = g then (m.cardsOf f).map (fun _ => cs) else m.cardsOf g := by
  simp only [← fnL_get, ← fnL_set]
  split
  · rename_i h; subst h; exact (fnL f).get_set m cs
  · rename_i h; exact (fnL_indep h).get_set m cs

theorem setFn_setFn (m : Module) (f : Nat) (a b : List Card) :
    (m.setFn f a).setFn f b = m.setFn f b := by
  simpa only [fnL_set] using (fnL f).set_set m a b

theorem setFn_cardsOf (m : Module) (f : Nat) (cs : List Card) (h : m.cardsOf f = some cs) :
    m.setFn f cs = m := by
  simpa only [fnL_set] using (fnL f).set_get m cs ((fnL_get f m).trans h)

def cardL (idx : CardIndex) : PLens Module Card := (fnL idx.function).comp (itemL idx.indices)

theorem cardL_get (idx : CardIndex) (m : Module) :
    (cardL idx).get m = (m.cardsOf idx.function).bind fun cs => getL cs idx.indices := by
  simp only [cardL, PLens.comp_get, fnL_get, getL_eq]

theorem cardL_set (idx : CardIndex) (m : Module) (x : Card) :
    (cardL idx).set m x = match m.cardsOf idx.function with
      | none => m
      | some cs => m.setFn idx.function (setL cs idx.indices x) := by
  rw [cardL, PLens.comp_set, fnL_get]
  cases m.cardsOf idx.function with
  | none => rfl
  | some cs => exact (fnL_set ..).trans (by rw [← setL_eq])

def optE : Option Card → Except CardFetchError Card
  | none => .error .cardNotFound
  | some d => .ok d

theorem getCard_eq (m : Module) (idx : CardIndex) :
    m.getCard idx = match m.cardsOf idx.function with
      | none => .error .functionNotFound
      | some cs => if idx.indices = [] then .error .invalidIndex else optE (getL cs idx.indices) := by
  unfold getCard cardsOf
  cases m.functions[idx.function]? with
  | none => rfl
  | some nf =>
    obtain ⟨n, fn⟩ := nf
    cases hi : idx.indices with
    | nil => simp
    | cons i rest =>
      simp only [Option.map_some, getL]
      cases fn.cards[i]? with
      | none => rfl
      | some c => cases c.getPath rest <;> rfl

theorem setCard_eq (m : Module) (idx : CardIndex) (x : Card) :
    m.setCard idx x = (cardL idx).set m x := by
  rw [cardL_set]
  cases hc : m.cardsOf idx.function with
  | none =>
    unfold setCard; unfold cardsOf at hc
    cases hf : m.functions[idx.function]? with
    | none => rfl
    | some nf => simp [hf] at hc
  | some cs =>
    have hself := m.setFn_cardsOf _ _ hc
    unfold setCard setFn
    unfold cardsOf at hc
    cases hf : m.functions[idx.function]? with
    | none => simp [hf] at hc
    | some nf =>
      obtain ⟨n, fn⟩ := nf
      simp only [hf, Option.map_some, Option.some.injEq] at hc
      subst hc
      unfold setFn at hself
      simp only [hf] at hself
      cases idx.indices with
      | nil => simp only [setL]; exact hself.symm
      | cons i rest =>
        simp only [setL]
        cases fn.cards[i]? with
        | none => exact hself.symm
        | some c => rfl

end Module

def MDisj (a b : CardIndex) : Prop := a.function ≠ b.function ∨ PDisj a.indices b.indices

theorem MDisj.symm {a b : CardIndex} (h : MDisj a b) : MDisj b a := by
  rcases h with h | h
  · exact Or.inl (Ne.symm h)
  · exact Or.inr h.symm

namespace Module

theorem cardL_indep {a b : CardIndex} (h : MDisj a b) : (cardL a).Indep (cardL b) := by
  by_cases hf : a.function = b.function
  · unfold cardL
    rw [hf]
    exact .comp_right _ (itemL_indep (h.resolve_left (fun h => h hf)))
  · exact (fnL_indep hf).comp _ _

theorem getCard_ok_iff (m : Module) (idx : CardIndex) (d : Card) :
    m.getCard idx = .ok d ↔ (cardL idx).get m = some d := by
  simp only [getCard_eq, cardL_get]
  cases m.cardsOf idx.function with
  | none => simp
  | some cs =>
    by_cases hi : idx.indices = []
    · simp [hi, getL]
    · simp only [hi, if_false, Option.bind_some]
      cases getL cs idx.indices <;> simp [optE]

theorem getCard_lens (m : Module) (idx : CardIndex) :
    m.getCard idx = if (m.cardsOf idx.function).isNone then .error .functionNotFound
      else if idx.indices = [] then .error .invalidIndex else optE ((cardL idx).get m) := by
  simp only [getCard_eq, cardL_get]
  cases m.cardsOf idx.function <;> rfl

theorem cardsOf_setCard_isNone (m : Module) (a : CardIndex) (x : Card) (f : Nat) :
    ((m.setCard a x).cardsOf f).isNone = (m.cardsOf f).isNone := by
  simp only [setCard_eq, cardL_set]
  cases h : m.cardsOf a.function with
  | none => rfl
  | some cs =>
    simp only [cardsOf_setFn]
    split
    · rename_i hf; subst hf; simp [h]
    · rfl

theorem getCard_setCard_same (m : Module) (a : CardIndex) (x old : Card)
    (h : m.getCard a = .ok old) : (m.setCard a x).getCard a = .ok x := by
  rw [getCard_ok_iff] at h ⊢
  rw [setCard_eq, (cardL a).get_set, h]; rfl

theorem getCard_setCard_disj (m : Module) (a b : CardIndex) (x : Card) (hd : MDisj a b) :
    (m.setCard a x).getCard b = m.getCard b := by
  rw [getCard_lens, getCard_lens, cardsOf_setCard_isNone, setCard_eq, (cardL_indep hd).get_set]

theorem setCard_setCard_same (m : Module) (a : CardIndex) (x y : Card) :
    (m.setCard a x).setCard a y = m.setCard a y := by
  simp only [setCard_eq, (cardL a).set_set]

theorem setCard_getCard (m : Module) (a : CardIndex) (x : Card) (h : m.getCard a = .ok x) :
    m.setCard a x = m := by
  rw [setCard_eq, (cardL a).set_get m x ((getCard_ok_iff m a x).mp h)]

theorem setCard_comm (m : Module) (a b : CardIndex) (x y : Card) (hd : MDisj a b) :
    (m.setCard a x).setCard b y = (m.setCard b y).setCard a x := by
  simp only [setCard_eq, (cardL_indep hd).comm]

theorem cardL_append (f : Nat) (p t : List Nat) (hp : p ≠ []) :
    cardL ⟨f, p ++ t⟩ = (cardL ⟨f, p⟩).comp (pathL t) := by
  rw [cardL, cardL, itemL_append p t hp, PLens.comp_assoc]

private theorem ne_nil_of_getCard_ok {m : Module} {f : Nat} {p : List Nat} {c : Card}
    (h : m.getCard ⟨f, p⟩ = .ok c) : p ≠ [] := by
  rintro rfl; rw [getCard_eq] at h; cases hc : m.cardsOf f <;> simp [hc] at h

theorem getCard_append (m : Module) (f : Nat) (p t : List Nat) (c : Card)
    (h : m.getCard ⟨f, p⟩ = .ok c) : m.getCard ⟨f, p ++ t⟩ = optE (c.getPath t) := by
  have hp := ne_nil_of_getCard_ok h
  rw [getCard_lens] at h ⊢
  rw [cardL_append f p t hp, PLens.comp_get]
  simp only [hp, List.append_eq_nil_iff, false_and, if_false] at h ⊢
  split at h
  · cases h
  · cases hg : (cardL ⟨f, p⟩).get m <;> simp_all [optE, getPath_eq]

theorem getCard_append_error (m : Module) (f : Nat) (p t : List Nat) (e : CardFetchError)
    (hp : p ≠ []) (h : m.getCard ⟨f, p⟩ = .error e) : m.getCard ⟨f, p ++ t⟩ = .error e := by
  rw [getCard_lens] at h ⊢
  rw [cardL_append f p t hp, PLens.comp_get]
  simp only [hp, List.append_eq_nil_iff, false_and, if_false] at h ⊢
  split at h
  · rename_i hf; simp [hf, h]
  · cases hg : (cardL ⟨f, p⟩).get m <;> simp_all [optE]

theorem setCard_append (m : Module) (f : Nat) (p t : List Nat) (x P : Card)
    (h : m.getCard ⟨f, p⟩ = .ok P) : m.setCard ⟨f, p ++ t⟩ x = m.setCard ⟨f, p⟩ (P.setPath t x) := by
  rw [setCard_eq, setCard_eq, cardL_append f p t (ne_nil_of_getCard_ok h), PLens.comp_set,
    (getCard_ok_iff _ _ _).1 h, setPath_eq]

end Module

/-! ## walking -/

theorem Card.descendants_eq (c : Card) : c.descendants = descList 0 c.children := by
  cases c <;> simp [descendants, children, descList]

theorem Card.mem_node (k : Nat) (c : Card) (ds : List (List Nat × Card)) (p : List Nat) (d : Card) :
    (p, d) ∈ node k c ds ↔ (p = [k] ∧ d = c) ∨ ∃ r, (r, d) ∈ ds ∧ p = k :: r := by
  unfold node
  simp only [List.mem_cons, Prod.mk.injEq, List.mem_map, Prod.exists]
  constructor
  · rintro (h | ⟨r, d', hm, h1, h2⟩)
    · exact Or.inl h
    · subst h2; exact Or.inr ⟨r, hm, h1.symm⟩
  · rintro (h | ⟨r, hm, h1⟩)
    · exact Or.inl h
    · exact Or.inr ⟨r, d, hm, h1.symm, rfl⟩

theorem Card.mem_descList (l : List Card) (k : Nat) (p : List Nat) (d : Card) :
    (p, d) ∈ descList k l ↔
      ∃ j c rest, l[j]? = some c ∧ p = (k + j) :: rest ∧
        ((rest = [] ∧ d = c) ∨ (rest, d) ∈ c.descendants) := by
  induction l generalizing k with
  | nil => simp [descList]
  | cons c cs ih =>
    simp only [descList, List.mem_append, Card.mem_node, ih]
    constructor
    · rintro ((⟨h1, h2⟩ | ⟨r, hm, h1⟩) | ⟨j, c', rest, hj, hp, h⟩)
      · exact ⟨0, c, [], by simp, by simp [h1], Or.inl ⟨rfl, h2⟩⟩
      · exact ⟨0, c, r, by simp, by simp [h1], Or.inr hm⟩
      · exact ⟨j + 1, c', rest, by simpa using hj, by rw [hp]; congr 1; omega, h⟩
    · rintro ⟨j, c', rest, hj, hp, h⟩
      cases j with
      | zero =>
        simp only [List.getElem?_cons_zero, Option.some.injEq] at hj
        subst hj
        rcases h with ⟨h1, h2⟩ | h
        · exact Or.inl (Or.inl ⟨by simp [hp, h1], h2⟩)
        · exact Or.inl (Or.inr ⟨rest, h, by simp [hp]⟩)
      | succ j =>
        exact Or.inr ⟨j, c', rest, by simpa using hj, by rw [hp]; congr 1; omega, h⟩

theorem Card.mem_descList_of (l : List Card)
    (hl : ∀ c ∈ l, ∀ p d, (p, d) ∈ c.descendants ↔ p ≠ [] ∧ c.getPath p = some d)
    (p : List Nat) (d : Card) : (p, d) ∈ descList 0 l ↔ getL l p = some d := by
  rw [Card.mem_descList]
  constructor
  · rintro ⟨j, c, rest, hj, hp, h⟩
    rw [hp, Nat.zero_add]
    simp only [getL, hj]
    rcases h with ⟨h1, h2⟩ | h
    · simp [h1, h2, getPath]
    · exact ((hl c (List.mem_of_getElem? hj) rest d).1 h).2
  · intro hg
    cases p with
    | nil => simp [getL] at hg
    | cons j rest =>
      simp only [getL] at hg
      cases hj : l[j]? with
      | none => simp [hj] at hg
      | some c =>
        rw [hj] at hg
        refine ⟨j, c, rest, hj, by simp, ?_⟩
        by_cases hr : rest = []
        · subst hr; simp only [getPath, Option.some.injEq] at hg; exact Or.inl ⟨rfl, hg.symm⟩
        · exact Or.inr ((hl c (List.mem_of_getElem? hj) rest d).2 ⟨hr, hg⟩)

theorem Card.mem_descendants : ∀ (c : Card) (p : List Nat) (d : Card),
    (p, d) ∈ c.descendants ↔ p ≠ [] ∧ c.getPath p = some d := by
  intro c
  induction c using Card.induct with
  | h c ih =>
    intro p d
    rw [Card.descendants_eq, Card.mem_descList_of _ ih]
    cases p with
    | nil => simp [getL]
    | cons i rest =>
      simp only [getL, getPath, Card.getChild_eq, ne_eq, reduceCtorEq, not_false_eq_true, true_and]
      cases c.children[i]? <;> rfl

theorem Card.mem_descList_iff (l : List Card) (p : List Nat) (d : Card) :
    (p, d) ∈ descList 0 l ↔ getL l p = some d :=
  Card.mem_descList_of l (fun c _ => Card.mem_descendants c) p d

namespace Module

theorem mem_walkFns (fns : List (String × Func)) (k : Nat) (idx : CardIndex) (d : Card) :
    (idx, d) ∈ walkFns k fns ↔
      ∃ j nf, fns[j]? = some nf ∧ idx.function = k + j ∧ getL nf.2.cards idx.indices = some d := by
  induction fns generalizing k with
  | nil => simp [walkFns]
  | cons nf rest ih =>
    obtain ⟨n, fn⟩ := nf
    rw [walkFns, List.mem_append, ih, List.mem_map]
    constructor
    · rintro (⟨⟨p, d'⟩, hm, h⟩ | ⟨j, nf', hj, hf, hg⟩)
      · simp only [Prod.mk.injEq] at h
        obtain ⟨h1, h2⟩ := h
        subst h2
        rw [Card.mem_descList_iff] at hm
        refine ⟨0, (n, fn), by simp, by simp [← h1], ?_⟩
        rw [← h1]; exact hm
      · exact ⟨j + 1, nf', by simpa using hj, by omega, hg⟩
    · rintro ⟨j, nf', hj, hf, hg⟩
      cases j with
      | zero =>
        simp only [List.getElem?_cons_zero, Option.some.injEq] at hj
        subst hj
        refine Or.inl ⟨(idx.indices, d), (Card.mem_descList_iff _ _ _).2 hg, ?_⟩
        cases idx; simp at hf; simp [hf]
      | succ j => exact Or.inr ⟨j, nf', by simpa using hj, by omega, hg⟩

theorem mem_walk_iff (m : Module) (idx : CardIndex) (d : Card) :
    (idx, d) ∈ m.walk ↔ m.getCard idx = .ok d := by
  rw [walk, mem_walkFns, getCard_ok_iff]
  simp only [cardL_get, cardsOf]
  constructor
  · rintro ⟨j, nf, hj, hf, hg⟩
    rw [Nat.zero_add] at hf
    simp [hf, hj, hg]
  · intro h
    cases hj : m.functions[idx.function]? with
    | none => simp [hj] at h
    | some nf => exact ⟨idx.function, nf, hj, by omega, by simpa [hj] using h⟩

end Module

/-! ## no index is reported twice -/

theorem nodup_map_cons (k : Nat) (l : List (List Nat)) (h : l.Nodup) : (l.map (k :: ·)).Nodup := by
  unfold List.Nodup at *
  rw [List.pairwise_map]
  exact h.imp (fun hne heq => hne (List.cons.inj heq).2)

theorem Card.map_fst_node (k : Nat) (c : Card) (ds : List (List Nat × Card)) :
    (node k c ds).map Prod.fst = [k] :: (ds.map Prod.fst).map (k :: ·) := by
  simp [node, List.map_map, Function.comp_def]

theorem Card.nodup_descList (l : List Card) (k : Nat)
    (h : ∀ c ∈ l, (c.descendants.map Prod.fst).Nodup) : ((descList k l).map Prod.fst).Nodup := by
  induction l generalizing k with
  | nil => simp [descList]
  | cons c cs ih =>
    rw [descList, List.map_append, List.nodup_append]
    refine ⟨?_, ih (k + 1) (fun c' hc' => h c' (List.mem_cons_of_mem _ hc')), ?_⟩
    · rw [Card.map_fst_node, List.nodup_cons]
      refine ⟨?_, nodup_map_cons k _ (h c (List.mem_cons_self ..))⟩
      intro hm
      rw [List.mem_map] at hm
      obtain ⟨r, hr, hk⟩ := hm
      rw [List.mem_map] at hr
      obtain ⟨⟨r', d⟩, hrd, hr'⟩ := hr
      simp only at hr'
      subst hr'
      have := ((Card.mem_descendants c r' d).1 hrd).1
      simp only [List.cons.injEq, true_and] at hk
      exact this hk
    · intro a ha b hb hab
      subst hab
      rw [Card.map_fst_node] at ha
      have ha' : ∃ r, a = k :: r := by
        rcases List.mem_cons.1 ha with h1 | h1
        · exact ⟨[], h1⟩
        · rw [List.mem_map] at h1
          obtain ⟨r, _, hr⟩ := h1
          exact ⟨r, hr.symm⟩
      rw [List.mem_map] at hb
      obtain ⟨⟨p, d⟩, hpd, hp⟩ := hb
      simp only at hp
      subst hp
      obtain ⟨j, _, rest, _, hp, _⟩ := (Card.mem_descList _ _ _ _).1 hpd
      obtain ⟨r, hr⟩ := ha'
      rw [hr] at hp
      simp only [List.cons.injEq] at hp
      omega

theorem Card.nodup_descendants (c : Card) : (c.descendants.map Prod.fst).Nodup := by
  induction c using Card.induct with
  | h c ih =>
    rw [Card.descendants_eq]
    exact Card.nodup_descList _ _ ih

namespace Module

theorem nodup_walkFns (fns : List (String × Func)) (k : Nat) :
    ((walkFns k fns).map Prod.fst).Nodup := by
  induction fns generalizing k with
  | nil => simp [walkFns]
  | cons nf rest ih =>
    obtain ⟨n, fn⟩ := nf
    rw [walkFns, List.map_append, List.nodup_append]
    refine ⟨?_, ih (k + 1), ?_⟩
    · rw [List.map_map]
      have : (Prod.fst ∘ fun (pd : List Nat × Card) => ((⟨k, pd.1⟩ : CardIndex), pd.2))
          = (fun p => (⟨k, p⟩ : CardIndex)) ∘ Prod.fst := rfl
      rw [this, ← List.map_map]
      have hn := Card.nodup_descList fn.cards 0 (fun c _ => Card.nodup_descendants c)
      unfold List.Nodup at *
      rw [List.pairwise_map]
      exact hn.imp (fun hne heq => hne (by injection heq))
    · intro a ha b hb hab
      subst hab
      rw [List.map_map, List.mem_map] at ha
      obtain ⟨pd, _, hpd⟩ := ha
      rw [List.mem_map] at hb
      obtain ⟨⟨idx, d⟩, hmem, hidx⟩ := hb
      simp only at hidx
      subst hidx
      obtain ⟨j, _, _, hf, _⟩ := (mem_walkFns _ _ _ _).1 hmem
      rw [← hpd] at hf
      simp only [Function.comp] at hf
      omega

theorem nodup_walk (m : Module) : (m.walk.map Prod.fst).Nodup := nodup_walkFns _ _

end Module

/-! ## `insert_child` / `remove_child` -/

/-- child slot `i` of `c` belongs to a `Vec<Card>` (insert shifts, remove shrinks) rather than to
a fixed field (insert overwrites, remove leaves a placeholder) -/
def Card.isListSlot : Card → Nat → Bool
  | .composite _ _, _ => true
  | .closure _ _, _ => true
  | .array _, _ => true
  | .call _ _, _ => true
  | .callNative _ _, _ => true
  | .dynamicCall _ _, i => decide (i ≠ 0)
  | _, _ => false

theorem Card.isListSlot_withChildren (c : Card) (l : List Card) (i : Nat) :
    (c.withChildren l).isListSlot i = c.isListSlot i := by
  cases c <;> rfl

/-- a kind with a list slot takes any list of children; `DynamicCall`, whose child 0 is the fixed
`function` field, any non-empty one, which `i ≤ l.length` grants for a list slot `i` -/
theorem Card.children_withChildren_of_listSlot (c : Card) (l : List Card) (i : Nat)
    (hl : c.isListSlot i = true) (hi : i ≤ l.length) : (c.withChildren l).children = l := by
  cases c <;> first | rfl | cases hl | skip
  cases l with
  | cons f a => rfl
  | nil => cases Nat.le_zero.1 hi; cases hl

/-! The model guards its list accesses; the guards decide nothing that `l[i]?` does not. -/

theorem _root_.List.getElem?_guard_le {α β : Type} (l : List α) (i : Nat) (f : α → β) :
    (if l.length ≤ i then none else (l[i]?).map f) = (l[i]?).map f := by
  split
  · rename_i h; rw [List.getElem?_eq_none h]; rfl
  · rfl

theorem _root_.List.getElem?_guard_lt {α β : Type} (l : List α) (i : Nat) (f : α → β) :
    (if i < l.length then (l[i]?).map f else none) = (l[i]?).map f := by
  split
  · rfl
  · rename_i h; rw [List.getElem?_eq_none (Nat.le_of_not_lt h)]; rfl

theorem ite_lt_swap {α : Type} (a b : Nat) (x y : α) :
    (if a < b then x else y) = (if b ≤ a then y else x) := by
  by_cases h : a < b
  · rw [if_pos h, if_neg (Nat.not_le.2 h)]
  · rw [if_neg h, if_pos (Nat.le_of_not_lt h)]

theorem Card.insertChild_eq (c : Card) (i : Nat) (x : Card) :
    c.insertChild i x =
      if c.isListSlot i then
        if i ≤ c.children.length then .ok (c.withChildren (c.children.insertIdx i x)) else .error x
      else match c.getChild i with
        | some _ => .ok (c.setChild i x)
        | none => .error x := by
  cases c
  case composite | closure => exact ite_lt_swap ..
  case forEach => rcases i with _ | _ | i <;> rfl
  case dynamicCall a f =>
    cases i with
    | zero => rfl
    | succ i => simp [insertChild, children, withChildren, Card.isListSlot]
  all_goals rfl

/-- the placeholder `remove_child` leaves in a fixed slot -/
def Card.hole : Card → Nat → Card
  | .repeat _ _ _, 0 => .scalarInt 0
  | _, _ => .scalarNil

theorem Card.removeChild_eq (c : Card) (i : Nat) :
    c.removeChild i = (c.getChild i).map fun r =>
      (if c.isListSlot i then c.withChildren (c.children.eraseIdx i) else c.setChild i (hole c i), r) := by
  cases c
  case composite | closure => exact List.getElem?_guard_le ..
  case callNative | call | array => exact List.getElem?_guard_lt ..
  case «repeat» | forEach => rcases i with _ | _ | i <;> rfl
  case dynamicCall a f =>
    cases i with
    | zero => rfl
    | succ i => exact List.getElem?_guard_lt ..
  all_goals rfl

theorem Card.removeChild_snd (c : Card) (i : Nat) :
    (c.removeChild i).map (·.2) = c.getChild i := by
  rw [removeChild_eq, Option.map_map]
  exact Option.map_id'

theorem Card.removeChild_insertChild (c c' : Card) (i : Nat) (x : Card)
    (h : c.insertChild i x = .ok c') (hl : c.isListSlot i = true) :
    c'.removeChild i = some (c, x) := by
  rw [insertChild_eq, if_pos hl] at h
  split at h <;> cases h
  rename_i hi
  rw [removeChild_eq, isListSlot_withChildren, if_pos hl, getChild_eq,
    children_withChildren_of_listSlot c _ i hl (by rw [List.length_insertIdx_of_le_length hi]; omega),
    List.getElem?_insertIdx_self, if_pos hi, withChildren_withChildren, List.eraseIdx_insertIdx_self,
    withChildren_children]
  rfl

theorem Card.getChild_insertChild (c c' : Card) (i : Nat) (x : Card)
    (h : c.insertChild i x = .ok c') : c'.getChild i = some x := by
  rw [insertChild_eq] at h
  split at h
  · rename_i hl
    split at h <;> cases h
    rename_i hi
    rw [getChild_eq, children_withChildren_of_listSlot c _ i hl (by rw [List.length_insertIdx_of_le_length hi]; omega),
      List.getElem?_insertIdx_self, if_pos hi]
  · split at h <;> cases h
    rename_i hg
    rw [getChild_setChild, if_pos rfl, hg]; rfl

/-! ## the hand-written `Ord for CardIndex` on prefix-related indices -/
namespace CardIndex

theorem zipCmp_prefix_left (p t : List Nat) : zipCmp (p.zip (p ++ t)) = none := by
  induction p with
  | nil => simp [zipCmp]
  | cons i ps ih => simp [zipCmp, ih]

theorem zipCmp_prefix_right (p t : List Nat) : zipCmp ((p ++ t).zip p) = none := by
  induction p with
  | nil => simp [zipCmp]
  | cons i ps ih => simp [zipCmp, ih]

theorem lt_of_prefix (a b : CardIndex) (hf : a.function = b.function)
    (hp : a.indices <+: b.indices) (hne : a ≠ b) : a < b := by
  obtain ⟨t, ht⟩ := hp
  show cmp a b = .lt
  have htne : t ≠ [] := by
    intro h; apply hne
    cases a; cases b; simp_all
  unfold cmp
  rw [hf, ← ht, zipCmp_prefix_left]
  have hff : compare b.function b.function = .eq := by simp
  simp only [hff, List.length_append]
  have : 0 < t.length := List.length_pos_iff.2 htne
  simp [Nat.compare_eq_lt]; omega

theorem not_lt_of_prefix (a b : CardIndex) (hf : a.function = b.function)
    (hp : b.indices <+: a.indices) : ¬ a < b := by
  obtain ⟨t, ht⟩ := hp
  show ¬ cmp a b = .lt
  unfold cmp
  rw [hf, ← ht, zipCmp_prefix_right]
  have hff : compare b.function b.function = .eq := by simp
  simp only [hff, List.length_append]
  simp [Nat.compare_eq_lt]

end CardIndex

/-! ## `swap_cards` -/

theorem not_mdisj_iff (x y : CardIndex) :
    ¬ MDisj x y ↔ x.function = y.function ∧ (x.indices <+: y.indices ∨ y.indices <+: x.indices) := by
  unfold MDisj PDisj
  by_cases hf : x.function = y.function
  · by_cases h1 : x.indices <+: y.indices <;> by_cases h2 : y.indices <+: x.indices <;> simp [hf, h1, h2]
  · simp [hf]

theorem MDisj.ne {x y : CardIndex} (h : MDisj x y) : x ≠ y := by
  intro he; subst he
  rcases h with h | h
  · exact h rfl
  · exact h.1 (List.prefix_refl _)

namespace Module

theorem replaceCard_ok (m : Module) (idx : CardIndex) (x old : Card) (h : m.getCard idx = .ok old) :
    m.replaceCard idx x = .ok (m.setCard idx x, old) := by
  unfold replaceCard; rw [h]

theorem replaceCard_error (m : Module) (idx : CardIndex) (x : Card) (e) (h : m.getCard idx = .error e) :
    m.replaceCard idx x = .error e := by
  unfold replaceCard; rw [h]

/-- the part of `swap_cards` after the `lhs == rhs` test and the exchange -/
def swapCore (m : Module) (lhs rhs : CardIndex) : Module × Except SwapError Unit :=
  match m.replaceCard rhs .scalarNil with
  | .error e => (m, .error (.fetchError e))
  | .ok (m1, rhsCard) =>
    match m1.getCard lhs with
    | .error _ =>
      match m1.replaceCard rhs rhsCard with
      | .ok (m0, _) => (m0, .error .invalidSwap)
      | .error _ => (m1, .error .invalidSwap)
    | .ok _ =>
      match m1.replaceCard lhs rhsCard with
      | .error _ => (m1, .error .invalidSwap)
      | .ok (m2, lhsCard) =>
        match m2.replaceCard rhs lhsCard with
        | .error _ => (m2, .error .invalidSwap)
        | .ok (m3, _) => (m3, .ok ())

theorem swapCardsSt_ne (m : Module) (a b : CardIndex) (h : a ≠ b) :
    m.swapCardsSt a b = m.swapCore (if a < b then b else a) (if a < b then a else b) := by
  unfold swapCardsSt swapCore
  rw [if_neg h]
  rfl

theorem swapCardsSt_self (m : Module) (a : CardIndex) :
    m.swapCardsSt a a = match m.getCard a with
      | .ok _ => (m, .ok ())
      | .error e => (m, .error (.fetchError e)) := by
  unfold swapCardsSt
  rw [if_pos rfl]
  cases m.getCard a <;> rfl

theorem swapCore_rhs_error (m : Module) (lhs rhs : CardIndex) (e) (h : m.getCard rhs = .error e) :
    m.swapCore lhs rhs = (m, .error (.fetchError e)) := by
  unfold swapCore
  rw [replaceCard_error _ _ _ _ h]

/-- the restore step really restores -/
theorem swapCore_restore (m : Module) (lhs rhs : CardIndex) (R : Card)
    (hr : m.getCard rhs = .ok R) (e) (hl : (m.setCard rhs .scalarNil).getCard lhs = .error e) :
    m.swapCore lhs rhs = (m, .error .invalidSwap) := by
  unfold swapCore
  rw [replaceCard_ok _ _ _ _ hr]
  simp only [hl]
  rw [replaceCard_ok _ _ _ _ (getCard_setCard_same m rhs .scalarNil R hr)]
  simp only [setCard_setCard_same, setCard_getCard _ _ _ hr]

theorem swapCore_ancestor (m : Module) (lhs rhs : CardIndex) (R : Card)
    (hr : m.getCard rhs = .ok R) (hf : rhs.function = lhs.function)
    (hp : rhs.indices <+: lhs.indices) (hne : lhs ≠ rhs) :
    m.swapCore lhs rhs = (m, .error .invalidSwap) := by
  obtain ⟨t, ht⟩ := hp
  have htne : t ≠ [] := by
    intro h; apply hne; cases lhs; cases rhs; simp_all
  have h1 := getCard_setCard_same m rhs .scalarNil R hr
  have h2 := getCard_append (m.setCard rhs .scalarNil) rhs.function rhs.indices t .scalarNil h1
  have hlhs : lhs = ⟨rhs.function, rhs.indices ++ t⟩ := by cases lhs; cases rhs; simp_all
  cases t with
  | nil => exact absurd rfl htne
  | cons i t' =>
    have : (m.setCard rhs .scalarNil).getCard lhs = .error .cardNotFound := by
      rw [hlhs, h2]; rfl
    exact swapCore_restore m lhs rhs R hr _ this

theorem swapCore_disj (m : Module) (lhs rhs : CardIndex) (L R : Card) (hd : MDisj lhs rhs)
    (hl : m.getCard lhs = .ok L) (hr : m.getCard rhs = .ok R) :
    m.swapCore lhs rhs = ((m.setCard rhs L).setCard lhs R, .ok ()) := by
  unfold swapCore
  rw [replaceCard_ok _ _ _ _ hr]
  have h1 : (m.setCard rhs .scalarNil).getCard lhs = .ok L := by
    rw [getCard_setCard_disj _ _ _ _ hd.symm, hl]
  simp only [h1]
  rw [replaceCard_ok _ _ _ _ h1]
  have h2 : ((m.setCard rhs .scalarNil).setCard lhs R).getCard rhs = .ok .scalarNil := by
    rw [getCard_setCard_disj _ _ _ _ hd]
    exact getCard_setCard_same m rhs .scalarNil R hr
  simp only []
  rw [replaceCard_ok _ _ _ _ h2]
  simp only []
  rw [setCard_comm _ _ _ _ _ hd, setCard_setCard_same]

theorem swapCore_disj_lhs_error (m : Module) (lhs rhs : CardIndex) (R : Card) (hd : MDisj lhs rhs)
    (e) (hl : m.getCard lhs = .error e) (hr : m.getCard rhs = .ok R) :
    m.swapCore lhs rhs = (m, .error .invalidSwap) := by
  apply swapCore_restore m lhs rhs R hr e
  rw [getCard_setCard_disj _ _ _ _ hd.symm, hl]

/-- `lhs` is never a proper ancestor of `rhs`: this is what the `lhs < rhs` exchange of
`swap_cards` is for -/
theorem swap_select (a b : CardIndex) (hne : a ≠ b) :
    let lhs := if a < b then b else a
    let rhs := if a < b then a else b
    ((lhs = b ∧ rhs = a) ∨ (lhs = a ∧ rhs = b)) ∧ lhs ≠ rhs ∧
      ¬ (lhs.function = rhs.function ∧ lhs.indices <+: rhs.indices) := by
  intro lhs rhs
  by_cases hlt : a < b
  · have h1 : lhs = b := if_pos hlt
    have h2 : rhs = a := if_pos hlt
    refine ⟨Or.inl ⟨h1, h2⟩, by rw [h1, h2]; exact Ne.symm hne, ?_⟩
    rw [h1, h2]
    rintro ⟨hf, hp⟩
    exact CardIndex.not_lt_of_prefix a b hf.symm hp hlt
  · have h1 : lhs = a := if_neg hlt
    have h2 : rhs = b := if_neg hlt
    refine ⟨Or.inr ⟨h1, h2⟩, by rw [h1, h2]; exact hne, ?_⟩
    rw [h1, h2]
    rintro ⟨hf, hp⟩
    exact hlt (CardIndex.lt_of_prefix a b hf hp hne)

theorem swapCore_cases (m : Module) (lhs rhs : CardIndex) (hne : lhs ≠ rhs)
    (hord : ¬ (lhs.function = rhs.function ∧ lhs.indices <+: rhs.indices)) :
    (∃ e, m.getCard rhs = .error e ∧ m.swapCore lhs rhs = (m, .error (.fetchError e))) ∨
    (∃ R, m.getCard rhs = .ok R ∧ ¬ MDisj lhs rhs ∧ m.swapCore lhs rhs = (m, .error .invalidSwap)) ∨
    (∃ R e, m.getCard rhs = .ok R ∧ MDisj lhs rhs ∧ m.getCard lhs = .error e ∧
        m.swapCore lhs rhs = (m, .error .invalidSwap)) ∨
    (∃ L R, m.getCard rhs = .ok R ∧ MDisj lhs rhs ∧ m.getCard lhs = .ok L ∧
        m.swapCore lhs rhs = ((m.setCard rhs L).setCard lhs R, .ok ())) := by
  cases hr : m.getCard rhs with
  | error e => exact Or.inl ⟨e, rfl, swapCore_rhs_error m lhs rhs e hr⟩
  | ok R =>
    by_cases hd : MDisj lhs rhs
    · cases hl : m.getCard lhs with
      | error e =>
        exact Or.inr (Or.inr (Or.inl ⟨R, e, rfl, hd, rfl, swapCore_disj_lhs_error m lhs rhs R hd e hl hr⟩))
      | ok L =>
        exact Or.inr (Or.inr (Or.inr ⟨L, R, rfl, hd, rfl, swapCore_disj m lhs rhs L R hd hl hr⟩))
    · refine Or.inr (Or.inl ⟨R, rfl, hd, ?_⟩)
      obtain ⟨hf, hp⟩ := (not_mdisj_iff _ _).1 hd
      rcases hp with hp | hp
      · exact absurd ⟨hf, hp⟩ hord
      · exact swapCore_ancestor m lhs rhs R hr hf.symm hp hne

end Module

/-! ## `insert_card` / `remove_card` -/

theorem _root_.List.split_last (i j : Nat) (rest : List Nat) :
    (i :: j :: rest).dropLast ++ [(i :: j :: rest).getLast?.getD 0] = i :: j :: rest := by
  have h : (i :: j :: rest) ≠ [] := by simp
  rw [List.getLast?_eq_some_getLast h]
  simp only [Option.getD_some]
  exact List.dropLast_concat_getLast h

namespace Module

/-- the addressed slot belongs to a `Vec<Card>`: a top-level slot of a function body, or a
list slot (`Card.isListSlot`) of the parent card -/
def isListSlot (m : Module) (idx : CardIndex) : Bool :=
  match idx.indices with
  | [] => false
  | [_] => true
  | ind@(_ :: _ :: _) =>
    match m.getCard idx.parent with
    | .ok p => p.isListSlot (ind.getLast?.getD 0)
    | .error _ => false

theorem insertCard_top (m : Module) (idx : CardIndex) (x : Card) (i : Nat) (hi : idx.indices = [i]) :
    m.insertCard idx x = match m.cardsOf idx.function with
      | none => .error .functionNotFound
      | some cs => if cs.length < i then .error .cardNotFound
                   else .ok (m.setFn idx.function (cs.insertIdx i x)) := by
  unfold insertCard cardsOf setFn
  cases m.functions[idx.function]? with
  | none => rfl
  | some nf => obtain ⟨n, fn⟩ := nf; simp only [hi, Option.map_some]

theorem removeCard_top (m : Module) (idx : CardIndex) (i : Nat) (hi : idx.indices = [i]) :
    m.removeCard idx = match m.cardsOf idx.function with
      | none => .error .functionNotFound
      | some cs => match cs[i]? with
        | none => .error .cardNotFound
        | some r => .ok (m.setFn idx.function (cs.eraseIdx i), r) := by
  unfold removeCard cardsOf setFn
  cases m.functions[idx.function]? with
  | none => rfl
  | some nf =>
    obtain ⟨n, fn⟩ := nf
    simp only [hi, Option.map_some]
    split
    · rename_i h
      rw [List.getElem?_eq_none h]
    · cases fn.cards[i]? <;> rfl

theorem getCard_parent_fnf (m : Module) (idx : CardIndex) (h : m.functions[idx.function]? = none) :
    m.getCard idx.parent = .error .functionNotFound := by
  unfold getCard CardIndex.parent
  simp only [h]

theorem insertCard_nested (m : Module) (idx : CardIndex) (x : Card) (i j : Nat) (rest : List Nat)
    (hi : idx.indices = i :: j :: rest) :
    m.insertCard idx x = match m.getCard idx.parent with
      | .error e => .error e
      | .ok p => match p.insertChild (idx.indices.getLast?.getD 0) x with
        | .error _ => .error .cardNotFound
        | .ok p' => .ok (m.setCard idx.parent p') := by
  cases hf : m.functions[idx.function]? with
  | none =>
    rw [getCard_parent_fnf m idx hf]
    unfold insertCard; simp only [hf]
  | some nf =>
    unfold insertCard; simp only [hf, hi]; rfl

theorem removeCard_nested (m : Module) (idx : CardIndex) (i j : Nat) (rest : List Nat)
    (hi : idx.indices = i :: j :: rest) :
    m.removeCard idx = match m.getCard idx.parent with
      | .error e => .error e
      | .ok p => match p.removeChild (idx.indices.getLast?.getD 0) with
        | none => .error .cardNotFound
        | some (p', r) => .ok (m.setCard idx.parent p', r) := by
  cases hf : m.functions[idx.function]? with
  | none =>
    rw [getCard_parent_fnf m idx hf]
    unfold removeCard; simp only [hf]
  | some nf =>
    unfold removeCard; simp only [hf, hi]; rfl

theorem idx_eq_parent_append (idx : CardIndex) (i j : Nat) (rest : List Nat)
    (hi : idx.indices = i :: j :: rest) :
    idx = ⟨idx.parent.function, idx.parent.indices ++ [idx.indices.getLast?.getD 0]⟩ := by
  cases idx with
  | mk f ind =>
    simp only at hi
    subst hi
    simp only [CardIndex.parent, List.split_last]

end Module

/-! ## what a successful `insert_card` / `remove_card` did

Either a top-level edit of a function body, or an edit of the parent card written back. -/

namespace Module

theorem insertCard_ok {m m' : Module} {idx : CardIndex} {c : Card} (h : m.insertCard idx c = .ok m') :
    (∃ i cs, idx.indices = [i] ∧ m.cardsOf idx.function = some cs ∧ i ≤ cs.length ∧
        m' = m.setFn idx.function (cs.insertIdx i c)) ∨
    (∃ p p', (∃ i j rest, idx.indices = i :: j :: rest) ∧ m.getCard idx.parent = .ok p ∧
        p.insertChild (idx.indices.getLast?.getD 0) c = .ok p' ∧ m' = m.setCard idx.parent p' ∧
        idx = ⟨idx.parent.function, idx.parent.indices ++ [idx.indices.getLast?.getD 0]⟩) := by
  rcases hi : idx.indices with _ | ⟨i, _ | ⟨j, rest⟩⟩
  · unfold insertCard at h
    cases hf : m.functions[idx.function]? with
    | none => simp [hf] at h
    | some nf => simp [hf, hi] at h
  · rw [insertCard_top m idx c i hi] at h
    split at h
    · cases h
    · rename_i cs hc
      split at h <;> cases h
      exact Or.inl ⟨i, cs, rfl, hc, by omega, rfl⟩
  · rw [insertCard_nested m idx c i j rest hi] at h
    split at h
    · cases h
    · rename_i p hp
      split at h <;> cases h
      rename_i p' hins
      rw [← hi]
      exact Or.inr ⟨p, p', ⟨i, j, rest, hi⟩, hp, hins, rfl, idx_eq_parent_append idx i j rest hi⟩

theorem removeCard_ok {m m' : Module} {idx : CardIndex} {r : Card} (h : m.removeCard idx = .ok (m', r)) :
    (∃ i cs, idx.indices = [i] ∧ m.cardsOf idx.function = some cs ∧ cs[i]? = some r ∧
        m' = m.setFn idx.function (cs.eraseIdx i)) ∨
    (∃ p p', (∃ i j rest, idx.indices = i :: j :: rest) ∧ m.getCard idx.parent = .ok p ∧
        p.removeChild (idx.indices.getLast?.getD 0) = some (p', r) ∧ m' = m.setCard idx.parent p' ∧
        idx = ⟨idx.parent.function, idx.parent.indices ++ [idx.indices.getLast?.getD 0]⟩) := by
  rcases hi : idx.indices with _ | ⟨i, _ | ⟨j, rest⟩⟩
  · unfold removeCard at h
    cases hf : m.functions[idx.function]? with
    | none => simp [hf] at h
    | some nf => simp [hf, hi] at h
  · rw [removeCard_top m idx i hi] at h
    split at h
    · cases h
    · rename_i cs hc
      split at h <;> cases h
      rename_i hg
      exact Or.inl ⟨i, cs, rfl, hc, hg, rfl⟩
  · rw [removeCard_nested m idx i j rest hi] at h
    split at h
    · cases h
    · rename_i p hp
      split at h <;> cases h
      rename_i p' hrem
      rw [← hi]
      exact Or.inr ⟨p, p', ⟨i, j, rest, hi⟩, hp, hrem, rfl, idx_eq_parent_append idx i j rest hi⟩

theorem removeCard_map_snd (m : Module) (idx : CardIndex) :
    (m.removeCard idx).map (·.2) = m.getCard idx := by
  cases hi : idx.indices with
  | nil =>
    unfold removeCard getCard
    cases m.functions[idx.function]? with
    | none => rfl
    | some nf => simp only [hi]; rfl
  | cons i r =>
    cases r with
    | nil =>
      rw [removeCard_top m idx i hi, getCard_eq, hi]
      cases m.cardsOf idx.function with
      | none => rfl
      | some cs =>
        simp only [getL, List.cons_ne_nil, if_false]
        cases cs[i]? <;> rfl
    | cons j rest =>
      rw [removeCard_nested m idx i j rest hi]
      have hidx := idx_eq_parent_append idx i j rest hi
      cases hp : m.getCard idx.parent with
      | error e =>
        have hne : idx.parent.indices ≠ [] := by simp [CardIndex.parent, hi]
        have := getCard_append_error m idx.parent.function idx.parent.indices
          [idx.indices.getLast?.getD 0] e hne hp
        rw [← hidx] at this
        rw [this]; rfl
      | ok p =>
        have := getCard_append m idx.parent.function idx.parent.indices
          [idx.indices.getLast?.getD 0] p hp
        rw [← hidx] at this
        rw [this]
        simp only [getPath]
        rw [← Card.removeChild_snd]
        cases hrem : p.removeChild (idx.indices.getLast?.getD 0) with
        | none => rfl
        | some pr => obtain ⟨p', r⟩ := pr; rfl

theorem insertCard_fixed (m m' : Module) (idx : CardIndex) (c : Card)
    (h : m.insertCard idx c = .ok m') (hl : m.isListSlot idx = false) :
    ∃ old, m.replaceCard idx c = .ok (m', old) := by
  rcases insertCard_ok h with ⟨i, cs, hi, _⟩ | ⟨p, p', ⟨i, j, rest, hi⟩, hp, hins, rfl, hidx⟩
  · simp [isListSlot, hi] at hl
  · have hl' : p.isListSlot (idx.indices.getLast?.getD 0) = false := by
      simp only [isListSlot, hi, hp] at hl
      rw [hi]; exact hl
    rw [Card.insertChild_eq, if_neg (by rw [hl']; exact Bool.false_ne_true)] at hins
    cases hg : p.getChild (idx.indices.getLast?.getD 0) with
    | none => simp [hg] at hins
    | some old =>
      simp only [hg, Except.ok.injEq] at hins
      subst hins
      have hget := getCard_append m idx.parent.function idx.parent.indices
        [idx.indices.getLast?.getD 0] p hp
      have hset := setCard_append m idx.parent.function idx.parent.indices
        [idx.indices.getLast?.getD 0] c p hp
      rw [← hidx] at hget hset
      refine ⟨old, ?_⟩
      rw [replaceCard_ok m idx c old (by rw [hget]; simp only [getPath, hg]; rfl), hset]
      simp only [setPath, hg]

end Module
end Cao
