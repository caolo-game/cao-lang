import CaoProofs.Props.C10b
import CaoProofs.Props.C08b
import CaoProofs.Props.C04
/-!
# C08c — static calls and closures of compiled programs land where they should (C08b / C06 + C10)

Two hypotheses of the run-time theorems of `C08b` / `C06` are discharged with the well-formedness
results of `C10` / `C10b`:

* `C08b.compiled_call_card_enters_body` transfers control to the body of the designated function
  *if no other label was inserted under the same 32-bit handle* (a premise about the compiler's
  final state `sF`, inside the statement). `compiled_call_card_enters_body'` replaces the premise by
  a hypothesis on the compilation, `FunctionHandlesDistinct m std limit` (implied by
  `C10b.LabelHandlesDistinct`), and adds that **the body position is an instruction start** of the
  program (`C10.compile_labels_land`; in the vocabulary of `C04`: `C04.Start p pos`, by `start_iff`).
* `C06.closure_dispatch_Full` (every `Closure` instruction's handle is mapped by the label table to
  the entry of the body its own closure expression emitted) needs a decomposition of a
  `compileUnit` run into its closure expressions; the level structure `UpT`
  (`Lemmas/WfUpvalues.lean`) is one. `compiled_closure_dispatch` proves the statement for every
  compiled program under `C10b.ClosureHandlesDistinct` (weaker than the `Nodup` hypothesis of
  `closure_dispatch_Full`), except for one clause: that the operand of the `Goto` in front of the
  body is the address of the `Closure` instruction (`UpT` does not look at jump operands).
  `closure_dispatch_Full'` states the version with that clause; `Props/C08d.lean` proves it for
  programs below `2 ^ 32` bytes.
-/
namespace Cao.C08c
open Cao Cao.Vm Cao.Compiler Cao.Cross Cao.C05 Cao.C08b

/-! ## 0. instruction starts: the vocabulary of C10 and of C04 agree on compiled programs -/

/-- for a compiled program, `C04.Start` (membership in the decoded instruction list) is
    `C10.IsStartPos` (the bytes before the address tile into instructions) -/
theorem start_iff {m std : Module} {limit : Nat} {p : Program} (h : compile m std limit = .ok p) (a : Nat) :
    C04.Start p a ↔ C10.IsStartPos p a := by
  obtain ⟨l, hl, _⟩ := C10.compile_decodes h
  unfold C04.Start C04.instrs
  rw [hl]
  exact Bytecode.decoded_start_iff hl a

theorem label_start {m std : Module} {limit : Nat} {p : Program} (h : compile m std limit = .ok p)
    {l : UInt32 × Nat} (hl : l ∈ p.labels) : C04.Start p l.2 :=
  (start_iff h _).2 (C10.compile_labels_land h hl)

/-! ## 1. static calls -/

/-- **no-collision hypothesis for function labels**: the handle of a (non-entry) function of the
    stream is not the handle of a label at another position. Handles are 32-bit hashes; the
    interpreter finds the body of a function by looking its handle up in the label table, where the
    last insertion wins. -/
def FunctionHandlesDistinct (m std : Module) (limit : Nat) : Prop :=
  ∀ unit, intoIrStream m std limit = .ok unit → ∀ i (hi : i < unit.size), 0 < i →
    ∀ l1 ∈ C10b.labelLog m std limit, ∀ l2 ∈ C10b.labelLog m std limit,
      l1.1 = unit[i].handle → l2.1 = l1.1 → l2.2 = l1.2

theorem FunctionHandlesDistinct.of_labels {m std : Module} {limit : Nat}
    (h : C10b.LabelHandlesDistinct m std limit) : FunctionHandlesDistinct m std limit :=
  fun _ _ _ _ _ l1 h1 l2 h2 _ e => h l1 h1 l2 h2 e

/-- **(C08, complete for `Call` cards, without the uniqueness premise)**: every `Call` card (name
    `n`) anywhere in the body of `unit[i]` has its static-call sequence at some `src` inside the code
    of `unit[i]`, with the handle and arity of the function `unit[j]` the reference lookup designates;
    for `j > 0` the label table maps that handle to the body position `pos` of `unit[j]`, an
    instruction start, and executing the two instructions at `src` (from any state with a frame, room
    for another, enough arguments and a fresh heap address, when the first one succeeds) transfers
    control to `pos`, in a new frame whose slots are exactly the arguments. -/
theorem compiled_call_card_enters_body' {m std : Module} {limit : Nat} {p : Program}
    (h : compile m std limit = .ok p) (hfd : FunctionHandlesDistinct m std limit) :
    ∃ unit sF, intoIrStream m std limit = .ok unit ∧ (compileUnit unit).run {} = .ok ((), sF) ∧
      p.bytecode = sF.bytecode ∧
      ∀ i (hi : i < unit.size), ∀ n ∈ callNamesList unit[i].cards,
        ∃ j, ∃ hj : j < unit.size, Sem.resolve (unit.map toFnDef) i n = some j ∧
          ∃ src bodyI, BodyAt (jumpTableOf unit.toList) unit[i] bodyI sF ∧ bodyI ≤ src ∧
            StaticCallAt (Prog.ofProgram p) src ∧
            fpHandle (Prog.ofProgram p) src = unit[j].handle ∧
            fpArity (Prog.ofProgram p) src = UInt32.ofNat unit[j].arguments.length ∧
            (0 < j → ∃ pos, BodyAt (jumpTableOf unit.toList) unit[j] pos sF ∧
              p.labels.find? (fun q => q.1 == unit[j].handle) = some (unit[j].handle, pos) ∧
              C04.Start p pos ∧
              ∀ (re re' : Reenter) (s : VmState), FreshNext s.heap → s.frames ≠ [] →
                (fpArity (Prog.ofProgram p) src).toNat ≤ s.stack.count → s.frames.length < s.frameCap →
                ∀ ctl1 s1, (step (Prog.ofProgram p) re src).go s = (.ok ctl1, s1) →
                  ctl1 = { ip := src + 9 } ∧
                  ∃ s2, (step (Prog.ofProgram p) re' (src + 9)).go s1 = (.ok { ip := pos }, s2) ∧
                    s2.frames = s.frames.dropLast ++ [callerFrame s src] ++
                      [calleeFrame (Prog.ofProgram p) src s.stack.count] ∧
                    s2.stack = { count := s.stack.count, data := s.stack.data.set s.stack.count .nil }) := by
  obtain ⟨unit, sF, hC, rfl⟩ := compile_run h
  refine ⟨unit, sF, hC.ir, hC.run, rfl, fun i hi n hn => ?_⟩
  obtain ⟨j, hj, d, src, bodyI, hb, hle, hs⟩ := call_sites_designate hC.run hi hn
  obtain ⟨hat, hh, har⟩ := siteAt_static_call (p := programOf sF) hs
  refine ⟨j, hj, d.sem, src, bodyI, hb, hle, hat, hh, har, fun h0 => ?_⟩
  obtain ⟨pos, hmemL, hbody, hlabel⟩ := d.body h0
  have hlog := C10b.labelLog_eq hC
  have hl := hlabel fun q hq hqe =>
    hfd unit hC.ir j hj h0 (unit[j].handle, pos) (hlog ▸ hmemL) q (hlog ▸ hq) rfl hqe
  exact ⟨pos, hbody, hl, label_start h (List.mem_of_find?_eq_some hl), static_call_labelled hat hl hh⟩

/-! ## 2. closures -/

section closures
open Cao.Bytecode

/-- `UpT.closure_label`, with two more facts about the closure expression a `Closure` instruction
    belongs to: it starts (at `a'`, an instruction start) with a `Goto`, and the body `[a'+5, c)` is
    a level of its own -/
theorem UpT.closure_entry {bc : Array UInt8} {L : List (UInt32 × Nat)} {n a b : Nat} (h : UpT bc L n a b) :
    ∀ c, Tiled bc a c → c < b → bc.getD c 0 = op.closure →
      ∃ a', a ≤ a' ∧ a' + 5 ≤ c ∧ Tiled bc a a' ∧ bc.getD a' 0 = op.goto ∧
        (∃ m, UpT bc L m (a' + 5) c) ∧ (UInt32.ofNat (Bytecode.rdU32 bc (c + 1)), a' + 5) ∈ L := by
  induction h with
  | nil => intro c ht hlt; have := ht.le; omega
  | @plain n a k b hs hc hu ht ih =>
    intro c htc hlt hcl
    cases htc with
    | nil => rw [hcl] at hc; exact absurd hc (by decide)
    | @cons _ k' _ hs' ht' =>
      rw [hs] at hs'; cases hs'
      obtain ⟨a', h1, h2, h3, h4, h5, h6⟩ := ih c ht' hlt hcl
      exact ⟨a', by omega, h2, .cons hs h3, h4, h5, h6⟩
  | @clos n m a c0 b hg hb hcl0 hl hm hp ht ihb iht =>
    intro c htc hlt hcl
    have hbt := hb.tiled
    have hble := hb.le
    have hg5 : Gen.spanOf (bc.getD a 0) = some 5 := by rw [hg]; decide
    cases htc with
    | nil => rw [hg] at hcl; exact absurd hcl (by decide)
    | @cons _ k' _ hs' ht' =>
      have : k' = 5 := by
        rw [hg5] at hs'; cases hs'; rfl
      subst this
      rcases Nat.lt_or_ge c c0 with hlt0 | hge0
      · obtain ⟨a', h1, h2, h3, h4, h5, h6⟩ := ihb c ht' hlt0 hcl
        exact ⟨a', by omega, h2, .cons hg5 h3, h4, h5, h6⟩
      · have ht2 := hbt.split ht' hge0
        cases ht2 with
        | nil => exact ⟨a, Nat.le_refl _, hble, .nil _, hg, ⟨m, hb⟩, hl⟩
        | @cons _ k'' _ hs'' ht'' =>
          have hc9 : Gen.spanOf (bc.getD c0 0) = some 9 := by rw [hcl0]; decide
          have : k'' = 9 := by
            rw [hc9] at hs''; cases hs''; rfl
          subst this
          rcases Nat.lt_or_ge c (c0 + 9 + 4 * m) with hlt1 | hge1
          · rcases hp.starts ht'' hlt1 with h | ⟨h, _⟩
            · rw [hcl] at h; exact absurd h (by decide)
            · rw [hcl] at h; exact absurd h (by decide)
          · have ht3 := hp.tiled.split ht'' hge1
            obtain ⟨a', h1, h2, h3, h4, h5, h6⟩ := iht c ht3 hlt hcl
            have hpre : Tiled bc a (c0 + 9 + 4 * m) :=
              .cons hg5 (hbt.trans (.cons hc9 hp.tiled))
            exact ⟨a', by omega, h2, hpre.trans h3, h4, h5, h6⟩

/-- **`compiled_closure_dispatch`** (C06 `closure_dispatch_Full`, for every compiled program, under
    the weaker collision hypothesis of `C10b`, minus the `Goto`-operand clause): the `Closure`
    instruction at `q` belongs to a closure expression `Goto _; ⟨body⟩; Closure h arity; …` with its
    body at `[e, q)`, and **the program's label table maps the handle operand `h` to the entry `e` of
    that body** — calling the closure value the instruction creates (`C06.closure_object`: it carries
    `h`; the call looks `h` up in the label table) executes the body of the closure expression that
    created it. -/
theorem compiled_closure_dispatch {m std : Module} {limit : Nat} {p : Program}
    (h : compile m std limit = .ok p) (hd : C10b.ClosureHandlesDistinct m std limit p)
    (q : Nat) (hq : C10.IsInstr p q op.closure) :
    ∃ e, p.labels.find? (fun l => l.1 == UInt32.ofNat (Bytecode.rdU32 p.bytecode (q + 1))) =
          some (UInt32.ofNat (Bytecode.rdU32 p.bytecode (q + 1)), e) ∧
      5 ≤ e ∧ e ≤ q ∧ p.bytecode.getD (e - 5) 0 = op.goto ∧
      C10.IsStartPos p (e - 5) ∧ C10.IsStartPos p e ∧
      ∃ nUp, UpT p.bytecode (C10b.labelLog m std limit) nUp e q := by
  obtain ⟨unit, s, hC, rfl⟩ := compile_run h
  have T : UpT (programOf s).bytecode s.labels 0 0 (programOf s).bytecode.size := compileUnit_level hC.run
  rw [← C10b.labelLog_eq hC] at T
  obtain ⟨hst, hlt, hop⟩ := hq
  obtain ⟨a', _, h2, h3, h4, ⟨nUp, h5⟩, h6⟩ := UpT.closure_entry T q hst hlt hop.symm
  have he := resolveLog_find_of_unique h6 fun l2 hl2 e2 => hd q ⟨hst, hlt, hop⟩ _ h6 l2 hl2 rfl e2
  rw [← C10b.compile_labels h] at he
  have hstart5 : Tiled (programOf s).bytecode 0 (a' + 5) :=
    h3.trans (.cons (n := 5) (by rw [h4]; decide) (.nil _))
  refine ⟨a' + 5, he, by omega, h2, ?_, ?_, ⟨hstart5, by omega⟩, nUp, h5⟩
  · rw [Nat.add_sub_cancel]; exact h4
  · rw [Nat.add_sub_cancel]; exact ⟨h3, by omega⟩

end closures

/-- … the same with the addresses in the vocabulary of C04, and for the interpreter's view of the
    program (`Vm.rdU32` is the same function as `Bytecode.rdU32`) -/
theorem compiled_closure_dispatch_vm {m std : Module} {limit : Nat} {p : Program}
    (h : compile m std limit = .ok p) (hd : C10b.ClosureHandlesDistinct m std limit p)
    (q : Nat) (hq : C04.Start p q) (hop : p.bytecode.getD q 0 = op.closure) :
    ∃ e, (Prog.ofProgram p).labels.find?
          (fun l => l.1 == UInt32.ofNat (Vm.rdU32 (Prog.ofProgram p).bytecode (q + 1))) =
          some (UInt32.ofNat (Vm.rdU32 (Prog.ofProgram p).bytecode (q + 1)), e) ∧
      5 ≤ e ∧ e ≤ q ∧ p.bytecode.getD (e - 5) 0 = op.goto ∧ C04.Start p (e - 5) ∧ C04.Start p e := by
  obtain ⟨h1, h2⟩ := (start_iff h q).1 hq
  obtain ⟨e, he, g1, g2, g3, g4, g5, _⟩ := compiled_closure_dispatch h hd q ⟨h1, h2, hop.symm⟩
  exact ⟨e, he, g1, g2, g3, (start_iff h _).2 g4, (start_iff h _).2 g5⟩

/-- as `compiled_closure_dispatch`, plus "the `Goto` in front of the body jumps to the `Closure`
    instruction" (`rdU32 (e - 4) = q`, the clause of `C06.closure_dispatch_Full` that `UpT` cannot
    give: it deliberately ignores jump operands, so that back-patching does not disturb it).
    Not proved in this file: `C08d.closure_dispatch_sized'` proves it for `p.bytecode.size < 2 ^ 32`,
    from the jump-segment structure `JSeg`; without a size bound it is presumably false (the patched
    operand has 32 bits). -/
def closure_dispatch_Full' : Prop :=
  ∀ (m std : Module) (limit : Nat) (p : Program), compile m std limit = .ok p →
    C10b.ClosureHandlesDistinct m std limit p → ∀ q, C10.IsInstr p q op.closure →
      ∃ e, p.labels.find? (fun l => l.1 == UInt32.ofNat (Bytecode.rdU32 p.bytecode (q + 1))) =
            some (UInt32.ofNat (Bytecode.rdU32 p.bytecode (q + 1)), e) ∧
        5 ≤ e ∧ p.bytecode.getD (e - 5) 0 = op.goto ∧ Bytecode.rdU32 p.bytecode (e - 4) = q

/-! ## 3. non-vacuity -/

/-- the example of `C08b` (`main` calls `f(7)`): its label log is functional, so both no-collision
    hypotheses hold -/
theorem exM_labels : C10b.LabelHandlesDistinct C08b.exM C08b.exStd Gen.recursionLimit := by
  have h : decide (((C10b.labelLog C08b.exM C08b.exStd Gen.recursionLimit).map (·.1)).Pairwise (· ≠ ·)) = true := by
    decide +kernel
  exact C10b.functional_of_pairwise _ (of_decide_eq_true h)

example : FunctionHandlesDistinct C08b.exM C08b.exStd Gen.recursionLimit := .of_labels exM_labels

/-- facts about the two-level closure of `C10b` (evaluated on its `splitOn`-free twin): the decoded
    instruction list has `Closure` instructions at 31 and 46 (`C10b.twoLevel_bytes`) -/
def twoLevelCheck : Bool :=
  match C10b.finish (C10b.unitT.1.run {}) with
  | .error _ => false
  | .ok p =>
    match Bytecode.decodeAll p.bytecode (p.bytecode.size + 1) 0 [] with
    | .ok l => l.contains (31, op.closure) && l.contains (46, op.closure)
    | .error _ => false

theorem twoLevelCheck_true : twoLevelCheck = true := by decide +kernel

/-- the hypotheses of `compiled_closure_dispatch` are satisfiable: the two `Closure` instructions of
    the two-level closure of `C10b` -/
theorem twoLevel_dispatch : ∃ p, compile C10b.twoLevel C10b.stdE = .ok p ∧
    C10b.ClosureHandlesDistinct C10b.twoLevel C10b.stdE Gen.recursionLimit p ∧
    C10.IsInstr p 31 op.closure ∧ C10.IsInstr p 46 op.closure := by
  obtain ⟨p, hc, _, _, _, hd⟩ := C10b.hypsOK_sound C10b.twoLevel_hyps
  have hc' : compile C10b.twoLevel C10b.stdE = .ok p := hc
  have hchk := twoLevelCheck_true
  unfold twoLevelCheck at hchk
  rw [← C10b.compile_twin, hc'] at hchk
  obtain ⟨l, hl, hmem, _⟩ := C10.compile_decodes hc'
  simp only [hl, Bool.and_eq_true, List.contains_iff_mem] at hchk
  exact ⟨p, hc', hd, (hmem _ _).1 hchk.1, (hmem _ _).1 hchk.2⟩

example : ∃ p e1 e2, compile C10b.twoLevel C10b.stdE = .ok p ∧
    p.labels.find? (fun l => l.1 == UInt32.ofNat (Bytecode.rdU32 p.bytecode 32)) =
      some (UInt32.ofNat (Bytecode.rdU32 p.bytecode 32), e1) ∧ 5 ≤ e1 ∧ e1 ≤ 31 ∧
    p.labels.find? (fun l => l.1 == UInt32.ofNat (Bytecode.rdU32 p.bytecode 47)) =
      some (UInt32.ofNat (Bytecode.rdU32 p.bytecode 47), e2) ∧ 5 ≤ e2 ∧ e2 ≤ 46 := by
  obtain ⟨p, hc, hd, h31, h46⟩ := twoLevel_dispatch
  obtain ⟨e1, a1, a2, a3, _⟩ := compiled_closure_dispatch hc hd 31 h31
  obtain ⟨e2, b1, b2, b3, _⟩ := compiled_closure_dispatch hc hd 46 h46
  exact ⟨p, e1, e2, hc, a1, a2, a3, b1, b2, b3⟩

end Cao.C08c
