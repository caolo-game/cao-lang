import CaoProofs.Lemmas.SerdeLemmas
/-!
# C11 — serialization round-trips preserve programs and values

The text/binary formats (serde_json, serde_yaml, ciborium, bincode) are trusted. What the
project's own code does is modelled in `CaoProofs/Lemmas/Serde*.lean` on top of the table and VM
models:

1. **tables** — `HandleTable` / `CaoHashMap` are written as their entry sequence in iteration
   order and read back by `with_capacity(hint)` + one `insert` per entry (every table satisfying
   the representation invariant of C13 / C12, *every* requested capacity including 0 and 1, every
   allocation oracle; any sequence of distinct (non-null) keys).
2. **runtime values** — `Value → OwnedValue` is `own` / `ownD`, `OwnedValue → Value` is
   `insertValue` (`Vm::insert_value`).
3. **compiled programs**.
4. **source modules** — `compile` is a function of the module tree; the harness' token syntax
   round-trips.
-/
namespace Cao.C11
open Cao Cao.Vm Cao.Gc Cao.C02 Cao.C05 Cao.Serde

/-! ## 1. tables -/
section Tables
variable {V : Type}

theorem htInv_reachable (c : Nat) (al al' : Alloc) (t : HTable V)
    (h0 : HTable.withCapacity c al = (al', .ok t)) (ops : List (C13.Op V)) :
    C13.HTInv (C13.finalModel t ops) := by
  have hI : C13.HTInv t := by
    have := C13.ht_withCapacity_inv (V := V) c al
    rw [h0] at this; exact this
  exact (C13.run_refines ops (C13.R_canon hI)).2.1

/-- **C11 (handle tables)**: for every handle table satisfying the representation invariant
    `C13.HTInv` (in particular every table reachable by the model's operations,
    `htInv_reachable`), every requested capacity `c` (0 and 1 included) and every allocation
    oracle: `deserialize (serialize t)` never panics, reports `allocErr` only when the oracle
    injects a failure, and otherwise yields a table that satisfies the invariant and is the same
    finite map: same `get` for every handle, same `len`, iteration list a permutation. -/
theorem ht_roundtrip {t : HTable V} (hI : C13.HTInv t) (c : Nat) (al : Alloc) :
    ∃ al' r, htDeserialize c (htSerialize t) al = (al', r) ∧ al'.failAt = al.failAt ∧
      ((r = .allocErr ∧ al.failAt ≠ none) ∨
       ∃ t', r = .ok t' ∧ C13.HTInv t' ∧ HTEquiv t t') :=
  ht_roundtrip_safe hI c al

/-- with the size hint of any format (`none`: JSON / YAML; `some n`: bincode / CBOR) -/
theorem ht_roundtrip_hint {t : HTable V} (hI : C13.HTInv t) (hint : Option Nat) (al : Alloc)
    (hal : al.failAt = none) :
    ∃ t' al', htDeserialize (hintCap hint) (htSerialize t) al = (al', .ok t') ∧
      C13.HTInv t' ∧ HTEquiv t t' := by
  obtain ⟨t', al', h1, _, h2, h3⟩ := (ht_roundtrip_safe hI (hintCap hint)).ok al hal
  exact ⟨t', al', h1, h2, h3⟩

/-- **any sequence of pairwise distinct non-null handles** (the keys of a table) deserializes,
    for every requested capacity, to a table that maps exactly these handles -/
theorem ht_roundtrip_entries (c : Nat) (xs : List (UInt32 × V)) (al : Alloc)
    (hal : al.failAt = none) (hnd : (xs.map Prod.fst).Nodup) (hnz : ∀ kv ∈ xs, kv.1 ≠ 0) :
    ∃ t' al', htDeserialize c xs al = (al', .ok t') ∧ C13.HTInv t' ∧
      (∀ k, t'.get k = AL.lookup xs k) ∧ t'.count = xs.length ∧ t'.toList.Perm xs := by
  obtain ⟨t', al', hd, _, h⟩ := (ht_deserialize_list c xs hnd hnz).ok al hal
  exact ⟨t', al', hd, h⟩

variable {K : Type} [DecidableEq K]

def hmFinal (hashOf : K → UInt64) (m : HMap K V) : List (C12.Op K V) → HMap K V
  | [] => m
  | op :: ops => hmFinal hashOf (C12.modelStep hashOf m op).1 ops

theorem hmInv_reachable (hashOf : K → UInt64) (c : Nat) (al al' : Alloc) (m : HMap K V)
    (h0 : HMap.withCapacity c al = (al', .ok m)) (ops : List (C12.Op K V)) :
    C12.HInv hashOf (hmFinal hashOf m ops) := by
  have hI : C12.HInv hashOf m := by
    have := C12.hm_withCapacity_inv (V := V) hashOf c al
    rw [h0] at this; exact this
  clear h0
  induction ops generalizing m with
  | nil => exact hI
  | cons op ops ih => exact ih _ (C12.step_refines (C12.R_canon hI) op).1.1

/-- **C11 (hash maps)**: the same for `CaoHashMap` with arbitrary keys and any hash function -/
theorem hm_roundtrip {hashOf : K → UInt64} {m : HMap K V} (hI : C12.HInv hashOf m) (c : Nat)
    (al : Alloc) :
    ∃ al' r, hmDeserialize hashOf c (hmSerialize m) al = (al', r) ∧ al'.failAt = al.failAt ∧
      ((r = .allocErr ∧ al.failAt ≠ none) ∨
       ∃ m', r = .ok m' ∧ C12.HInv hashOf m' ∧ HMEquiv hashOf m m') :=
  hm_roundtrip_safe hI c al

theorem hm_roundtrip_entries (hashOf : K → UInt64) (c : Nat) (xs : List (K × V)) (al : Alloc)
    (hal : al.failAt = none) (hnd : (xs.map Prod.fst).Nodup) :
    ∃ m' al', hmDeserialize hashOf c xs al = (al', .ok m') ∧ C12.HInv hashOf m' ∧
      (∀ k, m'.get hashOf k = AL.lookup xs k) ∧ m'.count = xs.length ∧ m'.toList.Perm xs := by
  obtain ⟨m', al', hd, _, h⟩ := (hm_deserialize_list hashOf c xs hnd).ok al hal
  exact ⟨m', al', hd, h⟩

end Tables

/-! ## 2. runtime values -/

theorem heapOk_of_inv {s : VmState} (h : C05.Inv s) : HeapOk s := ⟨h.unique, h.fresh⟩

/-- **C11 (values, `insert_value`)**: in any state whose heap has unique addresses below `next`,
    for every storable tree `o` (nil / integers / reals / strings / tables of these with pairwise
    different keys; no function values) — if all allocations succeed, whatever collections they
    run — the inserted value unfolds to `o` again: deep equality, entries in the same order. The
    run leaves the stack, globals, frames, open upvalues and the guard list as they were, keeps
    the heap invariant, and the new value lives at fresh addresses. -/
theorem insertValue_roundtrip {s s' : VmState} {o : OVal} {v' : Val} (hok : HeapOk s)
    (hst : Storable o) (hrun : (insertValue o).run.run s = (.ok v', s')) :
    ownD s'.heap v' = o ∧ own s'.heap (ownFuel s'.heap) v' = some o ∧
    HeapOk s' ∧ s'.stack = s.stack ∧ s'.globals = s.globals ∧ s'.frames = s.frames ∧
    s'.openUpvalues = s.openUpvalues ∧ s'.guards = s.guards ∧
    (∀ a, v' = .obj a → s.heap.next ≤ a ∧ a < s'.heap.next) := by
  have h := insertValue_correct o s hok hst
  rw [hrun] at h
  obtain ⟨g, ho, _⟩ := h
  have ho' := Owns.of_above ho
  refine ⟨ho'.ownD, ho'.own_fuel, g.ok, g.roots.1, g.roots.2.1, g.roots.2.2.1, g.roots.2.2.2,
    g.guards, ?_⟩
  rintro a rfl
  obtain ⟨f, hf⟩ := ho
  cases f with
  | zero => rw [own_zero_obj] at hf; cases hf
  | succ f =>
    cases hg : (heapAbove s'.heap s.heap.next).get a with
    | none => rw [own_none hg] at hf; cases hf
    | some ob =>
      obtain ⟨h1, h2⟩ := heapAbove_sub _ _ _ _ hg
      exact ⟨h1, get_lt_next g.ok.fresh h2⟩

/-- **C11 (value round trip)**: a runtime value `v` of a VM with heap `h`, converted to its owned
    form (`ownD h v`), inserted into another VM (state `s`): the result is deeply equal to the
    original. (`ownD` of a value that does not unfold — cyclic or dangling — is `nil`, which
    round-trips as `nil`.) -/
theorem value_roundtrip (h : Heap) (v : Val) {s s' : VmState} {v' : Val} (hok : HeapOk s)
    (hst : Storable (ownD h v)) (hrun : (insertValue (ownD h v)).run.run s = (.ok v', s')) :
    ownD s'.heap v' = ownD h v :=
  (insertValue_roundtrip hok hst hrun).1

/-- the hypothesis `Storable` of `value_roundtrip` discharged from properties of the source heap:
    the value unfolds (it is acyclic, no dangling address), contains no function values, and the
    keys of every table of the source heap are pairwise different as deep values -/
theorem value_roundtrip_keys {h : Heap} {v : Val} {o : OVal} (hk : KeysDistinct h)
    (ho : own h (ownFuel h) v = some o) (hnf : NoFn o) {s s' : VmState} {v' : Val}
    (hok : HeapOk s) (hrun : (insertValue (ownD h v)).run.run s = (.ok v', s')) :
    ownD s'.heap v' = ownD h v ∧ ownD h v = o := by
  have hd : ownD h v = o := Owns.ownD ⟨_, ho⟩
  have hst : Storable (ownD h v) := by rw [hd]; exact storable_of_own hk _ _ _ ho hnf
  exact ⟨value_roundtrip h v hok hst hrun, hd⟩

/-- the only way `insert_value` of a storable tree fails is a refused allocation -/
theorem insertValue_only_oom {s s' : VmState} {o : OVal} {e : ErrKind} (hok : HeapOk s)
    (hst : Storable o) (hrun : (insertValue o).run.run s = (.error e, s')) : e = .outOfMemory := by
  have h := insertValue_correct o s hok hst
  rw [hrun] at h
  exact h.1

/-- **the accounting invariant of C05** (ledger balanced, within the limit, unique addresses below
    `next`, threshold) is preserved by `insert_value`, whether it succeeds or runs out of memory -/
theorem insertValue_inv {s : VmState} {o : OVal} (hst : Storable o) (hinv : C05.Inv s) :
    C05.Inv ((insertValue o).run.run s).2 := by
  have h := insertValue_correct o s (heapOk_of_inv hinv) hst
  rcases hr : (insertValue o).run.run s with ⟨r, s'⟩
  rw [hr] at h
  cases r with
  | error e => exact h.2 hinv
  | ok v => exact h.2.2 hinv

/-- **table order is preserved**: the table object that `insertValue (.table es)` returns lists,
    in its insertion order, entries whose keys and values unfold to `es`, one by one -/
theorem insertValue_order {s s' : VmState} {es : List (OVal × OVal)} {v' : Val} (hok : HeapOk s)
    (hst : Storable (.table es)) (hrun : (insertValue (.table es)).run.run s = (.ok v', s')) :
    ∃ a cap esV, v' = .obj a ∧ s'.heap.get a = some (.table cap esV) ∧
      esV.map (fun e => (ownD s'.heap e.1, ownD s'.heap e.2)) = es := by
  have h := insertValue_correct _ s hok hst
  rw [hrun] at h
  obtain ⟨g, ho, _⟩ := h
  have ho' := Owns.of_above ho
  obtain ⟨f, hf⟩ := ho'
  obtain ⟨a, cap, esV, f', rfl, hg, hall⟩ := own_eq_table hf
  exact ⟨a, cap, esV, rfl, hg, all2_map_ownD hall⟩

/-- **frame**: every value that was reachable from the roots (stack, globals, frames, open
    upvalues, guards) before the insertion has the same deep value afterwards, although the
    allocations may have run collections -/
theorem insertValue_frame {s s' : VmState} {o : OVal} {v' : Val} (hok : HeapOk s)
    (hst : Storable o) (hrun : (insertValue o).run.run s = (.ok v', s'))
    {w : Val} {ow : OVal} (hw : ∀ a, w = .obj a → Reach s.heap (rootAddrs s) a)
    (how : own s.heap (ownFuel s.heap) w = some ow) : ownD s'.heap w = ow := by
  have h := insertValue_correct o s hok hst
  rw [hrun] at h
  obtain ⟨g, _, _⟩ := h
  have : Owns s'.heap w ow := by
    apply Owns.keep (fun b => Reach s.heap (rootAddrs s) b) ?_ ?_ hw ⟨_, how⟩
    · intro b ob hb hg
      obtain ⟨ob', q1, q2, _⟩ := g.keeps b ob hb hg
      rw [q1, q2 (fun h => h)]
    · intro b ob c hb hg hc
      exact Reach.step hb hg hc
  exact this.ownD

/-- `insertValueHost` (`Lemmas/SerdeValue.lean`: `insert_value` as the host sees it; the Rust has no wrapper,
    its guards are RAII values that an error drops) returns the same on success -/
theorem insertValueHost_ok {s s' : VmState} {o : OVal} {v' : Val}
    (hrun : (insertValue o).run.run s = (.ok v', s')) :
    (insertValueHost o).run.run s = (.ok v', s') := by
  unfold insertValueHost
  simp only [run_bind, run_get, run_tryCatch, hrun]

/-- … and after a failure the guard list is what it was -/
theorem insertValueHost_err {s s' : VmState} {o : OVal} {e : ErrKind}
    (hrun : (insertValue o).run.run s = (.error e, s')) :
    (insertValueHost o).run.run s = (.error e, { s' with guards := s.guards }) := by
  unfold insertValueHost
  simp only [run_bind, run_get, run_tryCatch, hrun, run_modify, run_throw]

/-! ## 3. compiled programs -/

/-- **C11 (programs)**: `deserializeProgram (serializeProgram p) ≃ p` for every compiled program
    whose four tables satisfy their invariants, every hash function of the trace map, every
    format (size hints) — given that allocations succeed; the result satisfies the invariants. -/
theorem program_roundtrip (hashOf : Nat → UInt64) (fmt : Nat → Option Nat) {p : CProgram}
    (hw : p.WF hashOf) (al : Alloc) (hal : al.failAt = none) :
    ∃ p' al', deserializeProgram hashOf fmt (serializeProgram p) al = (al', .ok p') ∧
      p'.WF hashOf ∧ CProgram.Equiv hashOf p p' := by
  obtain ⟨p', al', hd, _, h⟩ := (program_safe hashOf fmt hw).ok al hal
  exact ⟨p', al', hd, h⟩

/-- whatever the allocation oracle does, reading a program back never panics -/
theorem program_roundtrip_no_panic (hashOf : Nat → UInt64) (fmt : Nat → Option Nat) {p : CProgram}
    (hw : p.WF hashOf) (al : Alloc) :
    ∀ w, (deserializeProgram hashOf fmt (serializeProgram p) al).2 ≠ .panic w :=
  (program_safe hashOf fmt hw).no_panic al

/-- **equivalent programs run identically**: the same final machine state and outcome for every
    budget and start state, the same error traces, the same variable ids and names. No
    side condition on distinct keys is needed: the entry lists come from tables satisfying their
    invariant, whose iteration lists have distinct keys. -/
theorem equiv_run {hashOf : Nat → UInt64} {p p' : CProgram} (hw : p.WF hashOf) (hw' : p'.WF hashOf)
    (h : CProgram.Equiv hashOf p p') :
    (∀ n s, run p.toProg n s = run p'.toProg n s) ∧
    (∀ gas t s, exec p.toProg gas t s = exec p'.toProg gas t s) ∧
    (∀ e, errTrace p.toProg e = errTrace p'.toProg e) ∧
    (∀ k, p'.variableId k = p.variableId k) ∧ (∀ k, p'.variableName k = p.variableName k) :=
  ⟨run_congr (h.progEq hw hw'), exec_congr (h.progEq hw hw'), errTrace_congr (h.progEq hw hw'),
   h.varIds.get, h.varNames.get⟩

/-- **a program written with any format and read back has the same bytecode, data, labels,
    variable names / ids and traces, and running it gives the same outcome as the original** -/
theorem program_roundtrip_run (hashOf : Nat → UInt64) (fmt : Nat → Option Nat) {p : CProgram}
    (hw : p.WF hashOf) (al : Alloc) (hal : al.failAt = none) :
    ∃ p' al', deserializeProgram hashOf fmt (serializeProgram p) al = (al', .ok p') ∧
      p'.bytecode = p.bytecode ∧ p'.data = p.data ∧ p'.version = p.version ∧
      (∀ k, p'.labels.get k = p.labels.get k) ∧ (∀ k, p'.varIds.get k = p.varIds.get k) ∧
      (∀ k, p'.varNames.get k = p.varNames.get k) ∧
      (∀ k, p'.trace.get hashOf k = p.trace.get hashOf k) ∧
      (∀ n s, run p'.toProg n s = run p.toProg n s) ∧
      (∀ e, errTrace p'.toProg e = errTrace p.toProg e) := by
  obtain ⟨p', al', hd, hw', he⟩ := program_roundtrip hashOf fmt hw al hal
  obtain ⟨r1, _, r3, _, _⟩ := equiv_run hw hw' he
  exact ⟨p', al', hd, he.bytecode, he.data, he.version, he.labels.get, he.varIds.get,
    he.varNames.get, he.trace.get, fun n s => (r1 n s).symm, fun e => (r3 e).symm⟩

/-- the link with the model compiler: a `CProgram` that holds the tables of `compile`'s output
    runs exactly like `Prog.ofProgram` of that output — and so does its round-tripped copy -/
theorem represents_run {hashOf : Nat → UInt64} {cp : CProgram} {prog : Compiler.Program}
    (hw : cp.WF hashOf) (hr : Represents hashOf cp prog) (n : Nat) (s : VmState) :
    run cp.toProg n s = run (Prog.ofProgram prog) n s :=
  run_congr (hr.progEq hw) n s

theorem represents_roundtrip_run (hashOf : Nat → UInt64) (fmt : Nat → Option Nat) {cp : CProgram}
    {prog : Compiler.Program} (hw : cp.WF hashOf) (hr : Represents hashOf cp prog) (al : Alloc)
    (hal : al.failAt = none) :
    ∃ cp' al', deserializeProgram hashOf fmt (serializeProgram cp) al = (al', .ok cp') ∧
      Represents hashOf cp' prog ∧
      ∀ n s, run cp'.toProg n s = run (Prog.ofProgram prog) n s := by
  obtain ⟨cp', al', hd, hw', he⟩ := program_roundtrip hashOf fmt hw al hal
  exact ⟨cp', al', hd, hr.of_equiv he, fun n s => run_congr ((hr.of_equiv he).progEq hw') n s⟩

/-- such a table form exists for every program whose table keys are pairwise distinct and whose
    handles are non-null (what the compiler's `HandleTable::insert`s require): build the tables
    by inserting the entries -/
theorem represents_exists (hashOf : Nat → UInt64) (prog : Compiler.Program)
    (hl : (prog.labels.map Prod.fst).Nodup) (hlz : ∀ kv ∈ prog.labels, kv.1 ≠ 0)
    (hi : (prog.varIds.map Prod.fst).Nodup) (hiz : ∀ kv ∈ prog.varIds, kv.1 ≠ 0)
    (hn : (prog.varNames.map Prod.fst).Nodup) (hnz : ∀ kv ∈ prog.varNames, kv.1 ≠ 0)
    (ht : (prog.trace.map Prod.fst).Nodup) (version : String) :
    ∃ cp : CProgram, cp.WF hashOf ∧ Represents hashOf cp prog ∧ cp.version = version := by
  obtain ⟨t1, _, _, i1, g1, _, _⟩ := ht_roundtrip_entries 0 prog.labels {} rfl hl hlz
  obtain ⟨t2, _, _, i2, g2, _, _⟩ := ht_roundtrip_entries 0 prog.varIds {} rfl hi hiz
  obtain ⟨t3, _, _, i3, g3, _, _⟩ := ht_roundtrip_entries 0 prog.varNames {} rfl hn hnz
  obtain ⟨t4, _, _, i4, g4, _, _⟩ := hm_roundtrip_entries hashOf 0 prog.trace {} rfl ht
  exact ⟨{ bytecode := prog.bytecode, data := prog.data, labels := t1, varIds := t2, varNames := t3,
           version := version, trace := t4 }, ⟨i1, i2, i3, i4⟩, ⟨rfl, rfl, g1, g2, g3, g4⟩, rfl⟩

/-! ## 4. source modules -/

/-- source modules are plain serde-derived trees: a module that is read back equal compiles to
    the very same result (`compile` is a function) — byte-identical program or the same error -/
theorem module_roundtrip (m m' std : Module) (l : Nat) (h : m = m') :
    Compiler.compile m std l = Compiler.compile m' std l := by rw [h]

/-- **the token syntax of the differential driver round-trips**: printing a module with
    `Module.toTok` and parsing it back with `Module.ofTok?` (fuel-based recursive descent, fuel =
    length + 1) gives the module back — names through their UTF-8 hex rendering, integers through
    their decimal rendering, floats through their 16 hex digits, nested card lists and
    submodules. -/
theorem module_tok_roundtrip (m : Module) : Module.ofTok? (Module.toTok m) = some m :=
  Serde.module_tok_roundtrip m

theorem card_tok_roundtrip (c : Card) : Card.ofTok? (Card.toTok c) = some c :=
  Serde.card_tok_roundtrip c

theorem module_tok_roundtrip_compile (m std : Module) (l : Nat) :
    (Module.ofTok? (Module.toTok m)).map (fun m' => Compiler.compile m' std l) =
      some (Compiler.compile m std l) := by
  rw [module_tok_roundtrip]; rfl

/-! ## 5. non-vacuity -/

/-- a handle table reached through growth (2 → 4 → 8), a collision and a removal -/
private def exT : HTable Nat :=
  C13.finalModel ({ cap := 2, slots := OA.empty, count := 0 } : HTable Nat)
    [.insert 3 30 none, .insert 11 110 none, .insert 4 40 none, .remove 3]

/-- the hypothesis of `ht_roundtrip` is satisfiable -/
example : C13.HTInv exT := htInv_reachable 0 {} _ _ rfl _
example : htSerialize exT = [(11, 110), (4, 40)] := by decide +kernel

private def htView : Res (HTable Nat) → Option (Nat × Nat × List (Option Nat))
  | .ok t => some (t.cap, t.count, [t.get 4, t.get 11, t.get 3, t.get 0])
  | _ => none

/-- the round trip evaluated for the requested capacities 0, 1 (the degenerate hints) and for the
    default 128 of a format without a size hint -/
example : htView (htDeserialize 0 (htSerialize exT) {}).2 =
    some (4, 2, [some 40, some 110, none, none]) := by decide +kernel
example : htView (htDeserialize 1 (htSerialize exT) {}).2 =
    some (4, 2, [some 40, some 110, none, none]) := by decide +kernel
example : htView (htDeserialize (hintCap none) (htSerialize exT) {}).2 =
    some (128, 2, [some 40, some 110, none, none]) := by decide +kernel
/-- an empty table read back with hint 0: capacity 2, no panic -/
example : htView (htDeserialize (hintCap (some 0)) ([] : List (UInt32 × Nat)) {}).2 =
    some (2, 0, [none, none, none, none]) := by decide +kernel
/-- the null handle in the input is rejected (`expect` panics), an injected allocation failure is
    reported -/
example : (match (htDeserialize 0 [((0 : UInt32), (1 : Nat))] {}).2 with
    | .panic _ => true | _ => false) = true := by decide +kernel
example : (match (htDeserialize 0 (htSerialize exT) { failAt := some 3 }).2 with
    | .allocErr => true | _ => false) = true := by decide +kernel
/-- the hypotheses of `ht_roundtrip_entries` are satisfiable -/
example : let xs : List (UInt32 × Nat) := [(5, 50), (13, 130), (21, 210)]
    (xs.map Prod.fst).Nodup ∧ ∀ kv ∈ xs, kv.1 ≠ 0 := by decide

private def exHash : Nat → UInt64 := fun k => UInt64.ofNat (k + 1)

/-- a hash map grown from capacity 1, with colliding keys and a removal -/
private def exM : HMap Nat Nat :=
  hmFinal exHash ({ cap := 1, slots := OA.empty, count := 0 } : HMap Nat Nat)
    [.insert 1 10 none, .insert 9 90 none, .insert 17 170 none, .remove 9]

example : C12.HInv exHash exM := hmInv_reachable exHash 0 {} _ _ rfl _

private def hmView : Res (HMap Nat Nat) → Option (Nat × List (Option Nat))
  | .ok m => some (m.count, [m.get exHash 1, m.get exHash 17, m.get exHash 9])
  | _ => none

example : hmView (hmDeserialize exHash 0 (hmSerialize exM) {}).2 =
    some (2, [some 10, some 170, none]) := by decide +kernel
example : hmView (hmDeserialize exHash (hintCap (some 2)) (hmSerialize exM) {}).2 =
    some (2, [some 10, some 170, none]) := by decide +kernel

/-- a machine, and a nested owned value: strings, a table as a value, a table as a key -/
private def exS : VmState :=
  VmState.fresh { memLimit := 100000, stackSize := 4, callStackSize := 4, maxInstr := 10 }

private def exO : OVal :=
  .table [(.str [97], .int 1),
          (.int 2, .table [(.nil, .real 5), (.str [98, 99], .str [])]),
          (.table [(.int 1, .int 1)], .nil)]

/-- the hypotheses of `insertValue_roundtrip` are satisfiable -/
example : HeapOk exS := heapOk_of_inv (C05.fresh_inv _)
example : Storable exO := by decide +kernel

private def insView (s : VmState) (o : OVal) : Option (OVal × Nat × List Nat × Nat) :=
  match (insertValue o).run.run s with
  | (.ok v, s') => some (ownD s'.heap v, s'.heap.objs.length, s'.guards, s'.gcRuns)
  | _ => none

/-- the round trip evaluated: without a collection, and with a collection forced before every
    one of the 12 allocations (6 objects are built, all survive, no guard is left) -/
example : insView exS exO = some (exO, 6, [], 0) := by decide +kernel
example : insView { exS with sched := .every } exO = some (exO, 6, [], 12) := by decide +kernel

/-- a later equal key overwrites: a tree with a repeated key is not storable, and does not
    round-trip (the hypothesis `Storable` of `insertValue_roundtrip` is needed) -/
example : ¬ Storable (.table [(.int 1, .int 10), (.int 1, .int 11)]) := by
  simp [Storable, StorableL]
example : (insView exS (.table [(.int 1, .int 10), (.int 1, .int 11)])).map (·.1) =
    some (.table [(.int 1, .int 11)]) := by decide +kernel

/-- the same inside a heap: two different table objects used as keys of table 1 have become
    deeply equal (e.g. after `pop` on one of them). The owned form lists both entries; inserting it
    overwrites the first: the value does **not** round-trip. `KeysDistinct` fails for this heap.
    (The Rust does the same: `CaoLangTable::insert` overwrites on an equal key.) -/
private def exDup : Heap :=
  { objs := [(1, .table 8 [(.obj 2, .int 1), (.obj 3, .int 2)]), (2, .table 8 []), (3, .table 8 [])],
    next := 4 }

example : ownD exDup (.obj 1) = .table [(.table [], .int 1), (.table [], .int 2)] := by
  decide +kernel
example : ¬ Storable (ownD exDup (.obj 1)) := by decide +kernel
example : (insView exS (ownD exDup (.obj 1))).map (·.1) = some (.table [(.table [], .int 2)]) := by
  decide +kernel

/-- the hypotheses of `value_roundtrip_keys` are satisfiable: a heap with a nested table -/
private def exH : Heap :=
  { objs := [(1, .table 8 [(.obj 2, .int 1), (.int 7, .obj 3)]), (2, .str [107]),
             (3, .table 8 [(.nil, .real 9)])],
    next := 4 }

example : own exH (ownFuel exH) (.obj 1) =
    some (.table [(.str [107], .int 1), (.int 7, .table [(.nil, .real 9)])]) := by decide +kernel
example : KeysDistinct exH := by
  intro a cap es hg
  have hm := mem_of_get hg
  simp only [exH, List.mem_cons, Prod.mk.injEq, List.not_mem_nil, or_false] at hm
  rcases hm with ⟨_, h⟩ | ⟨_, h⟩ | ⟨_, h⟩
  · cases h; decide +kernel
  · cases h
  · cases h; decide +kernel

/-- a memory limit that is too small: the only error is `OutOfMemory` -/
example : (match (insertValue exO).run.run
      (VmState.fresh { memLimit := 900, stackSize := 4, callStackSize := 4, maxInstr := 10 }) with
    | (.error .outOfMemory, _) => true | _ => false) = true := by decide +kernel

/-- a compiled program with two labels, one global and two trace entries -/
private def exP : CProgram :=
  { bytecode := #[1, 2, 3], data := #[0],
    labels := C13.finalModel ({ cap := 2, slots := OA.empty, count := 0 } : HTable Nat)
      [.insert 7 0 none, .insert 9 12 none],
    varIds := C13.finalModel ({ cap := 2, slots := OA.empty, count := 0 } : HTable Nat)
      [.insert 5 0 none],
    varNames := C13.finalModel ({ cap := 2, slots := OA.empty, count := 0 } : HTable String)
      [.insert 5 "g" none],
    version := "0.2.6",
    trace := hmFinal exHash ({ cap := 1, slots := OA.empty, count := 0 } : HMap Nat Compiler.Trace)
      [.insert 0 ⟨[], 0, [0]⟩ none, .insert 9 ⟨["m"], 1, [0, 1]⟩ none] }

/-- the hypothesis of `program_roundtrip` is satisfiable -/
example : exP.WF exHash :=
  ⟨htInv_reachable 0 {} _ _ rfl _, htInv_reachable 0 {} _ _ rfl _, htInv_reachable 0 {} _ _ rfl _,
   hmInv_reachable exHash 0 {} _ _ rfl _⟩

private def progView : Res CProgram → Option (List (Option Nat) × Option Nat × Option String ×
    List (Option Compiler.Trace))
  | .ok p => some ([p.labels.get 7, p.labels.get 9, p.labels.get 8], p.varIds.get 5,
      p.varNames.get 5, [p.trace.get exHash 0, p.trace.get exHash 9, p.trace.get exHash 1])
  | _ => none

/-- bincode / CBOR (`some len`) and JSON / YAML (`none`) size hints -/
example : progView (deserializeProgram exHash some (serializeProgram exP) {}).2 =
    some ([some 0, some 12, none], some 0, some "g",
      [some ⟨[], 0, [0]⟩, some ⟨["m"], 1, [0, 1]⟩, none]) := by decide +kernel
example : progView (deserializeProgram exHash (fun _ => none) (serializeProgram exP) {}).2 =
    some ([some 0, some 12, none], some 0, some "g",
      [some ⟨[], 0, [0]⟩, some ⟨["m"], 1, [0, 1]⟩, none]) := by decide +kernel

end Cao.C11
