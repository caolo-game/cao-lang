import CaoModel.Compiler
import CaoModel.Sem
/-!
# Name resolution as a pure function (C08)

`resolveWith lk ns imports name`: the lookup order of `resolve_function` (absolute path, own module, function
imports, module-prefix imports) over an arbitrary lookup `lk` of full names; `resolveSpec` is its instance for a
jump table. The reference semantics' `Sem.resolve` is built from the same steps (`semWith`), with errors read as
misses; `resolveWith_semWith_cases` puts the two side by side. The jump table of a stream of functions is the
reference function table relabelled (`resolveSpec_eq_map`).
-/

namespace Cao.Compiler
open Cao

/-! ## the lookup order -/

abbrev JumpTable := List (String × (UInt32 × UInt32))

def look (jt : JumpTable) (name : String) : Option (UInt32 × UInt32) :=
  (jt.find? (fun p => p.1 == name)).map (·.2)

/-- the full name an import alias designates from module `ns`: `super.` walks up, too many
`super.` is an error. `mk` builds the tail from the text after the last `super.` (if any) -/
def importTarget (ns : List String) (alias_ : String) (mk : Option String → String) :
    Except CErrKind String :=
  if (superDepth alias_).1 > ns.length then .error .superLimitReached
  else .ok (joinNs (ns.take (ns.length - (superDepth alias_).1)) (mk (superDepth alias_).2))

/-- step 3: `name` is the key of a function import (`lk` = lookup of a full name) -/
def fnImportStep {α : Type} (lk : String → Option α) (ns : List String) (imports : List (String × String))
    (name : String) : Except CErrKind (Option α) :=
  match imports.find? (fun p => p.1 == name) with
  | none => .ok none
  | some p => (importTarget ns p.2 (fun sfx => sfx.getD p.2)).map lk

/-- step 4: the first segment of `name` is the key of a module import -/
def modImportStep {α : Type} (lk : String → Option α) (ns : List String) (imports : List (String × String))
    (name : String) : Except CErrKind (Option α) :=
  match name.splitOn "." with
  | pre :: rest@(_ :: _) =>
    match imports.find? (fun p => p.1 == pre) with
    | none => .ok none
    | some p =>
      (importTarget ns p.2 (fun sfx => sfx.getD p.2 ++ "." ++ ".".intercalate rest)).map lk
  | _ => .ok none

def stepThen {α : Type} (st : Except CErrKind (Option α)) (rest : Except CErrKind α) : Except CErrKind α :=
  match st with
  | .error k => .error k
  | .ok (some r) => .ok r
  | .ok none => rest

/-- the lookup order of the four comments inside `resolve_function`: absolute dotted path, the caller's own module, function
imports, module-prefix imports; the first match wins. Generic in the lookup `lk` of a full name. -/
def resolveWith {α : Type} (lk : String → Option α) (ns : List String) (imports : List (String × String))
    (name : String) : Except CErrKind α :=
  stepThen (.ok (lk name)) <|
  stepThen (.ok (lk (joinNs ns name))) <|
  stepThen (fnImportStep lk ns imports name) <|
  stepThen (modImportStep lk ns imports name) <|
  .error .invalidJump

def resolveSpec (jt : JumpTable) (ns : List String) (imports : List (String × String))
    (name : String) : Except CErrKind (UInt32 × UInt32) :=
  resolveWith (look jt) ns imports name

theorem look_mem {jt : JumpTable} {name : String} {r : UInt32 × UInt32} (h : look jt name = some r) :
    ∃ e ∈ jt, e.2 = r := by
  unfold look at h
  cases hf : jt.find? (fun p => p.1 == name) with
  | none => rw [hf] at h; cases h
  | some e => rw [hf] at h; exact ⟨e, List.mem_of_find?_eq_some hf, Option.some.inj h⟩

/-! ## the reference resolution `Sem.resolve` is built from the same steps -/

theorem sem_joinNs_eq : Sem.joinNs = joinNs := rfl

def optStep {α : Type} (st : Except CErrKind (Option α)) : Option α :=
  match st with
  | .ok o => o
  | .error _ => none

/-- the reference lookup order, generic in the lookup of a full name (errors are misses) -/
def semWith {α : Type} (lk : String → Option α) (ns : List String) (imports : List (String × String))
    (name : String) : Option α :=
  (lk name).orElse fun _ =>
  (lk (joinNs ns name)).orElse fun _ =>
  (optStep (fnImportStep lk ns imports name)).orElse fun _ =>
  optStep (modImportStep lk ns imports name)

theorem sem_resolve_eq_semWith (fns : Array Sem.FnDef) (home : Nat) (h : Sem.FnDef) (hh : fns[home]? = some h)
    (name : String) :
    Sem.resolve fns home name = semWith (Sem.findFn fns) h.ns h.imports name := by
  unfold semWith
  unfold Sem.resolve
  simp only [hh, sem_joinNs_eq]
  congr 1; funext _
  congr 1; funext _
  congr 1
  · unfold fnImportStep
    cases List.find? (fun p => p.fst == name) h.imports with
    | none => rfl
    | some p =>
      simp only [Option.bind_some, importTarget]
      split <;> rfl
  · funext _
    unfold modImportStep
    rcases name.splitOn "." with _ | ⟨pre, _ | ⟨hd, tl⟩⟩
    · rfl
    · rfl
    · simp only []
      cases List.find? (fun p => p.fst == pre) h.imports with
      | none => rfl
      | some p =>
        simp only [Option.bind_some, importTarget]
        split <;> rfl

theorem importTarget_error {ns : List String} {a : String} {mk : Option String → String} {k : CErrKind}
    (h : importTarget ns a mk = .error k) : k = .superLimitReached := by
  unfold importTarget at h
  split at h
  · cases h; rfl
  · cases h

theorem fnImportStep_error {α : Type} {lk : String → Option α} {ns : List String}
    {imports : List (String × String)} {name : String} {k : CErrKind}
    (h : fnImportStep lk ns imports name = .error k) : k = .superLimitReached := by
  unfold fnImportStep at h
  split at h
  · cases h
  · cases h2 : importTarget ns _ _ with
    | error e => rw [h2] at h; cases h; exact importTarget_error h2
    | ok v => rw [h2] at h; cases h

theorem modImportStep_error {α : Type} {lk : String → Option α} {ns : List String}
    {imports : List (String × String)} {name : String} {k : CErrKind}
    (h : modImportStep lk ns imports name = .error k) : k = .superLimitReached := by
  unfold modImportStep at h
  split at h
  · split at h
    · cases h
    · cases h2 : importTarget ns _ _ with
      | error e => rw [h2] at h; cases h; exact importTarget_error h2
      | ok v => rw [h2] at h; cases h
  · cases h

section
variable {α : Type} {lk : String → Option α} {ns : List String} {imports : List (String × String)}
  {name : String}

theorem fnImportStep_lk {a : α} (h : fnImportStep lk ns imports name = .ok (some a)) :
    ∃ n, lk n = some a := by
  unfold fnImportStep at h
  split at h
  · cases h
  · cases hi : importTarget ns _ _ with
    | error e => rw [hi] at h; cases h
    | ok t => rw [hi] at h; exact ⟨t, Except.ok.inj h⟩

theorem modImportStep_lk {a : α} (h : modImportStep lk ns imports name = .ok (some a)) :
    ∃ n, lk n = some a := by
  unfold modImportStep at h
  split at h
  · split at h
    · cases h
    · cases hi : importTarget ns _ _ with
      | error e => rw [hi] at h; cases h
      | ok t => rw [hi] at h; exact ⟨t, Except.ok.inj h⟩
  · cases h

/-- the compiler's lookup and the reference lookup, side by side: they find the same hit of `lk`,
or both find nothing, or the compiler stops at an import with too many `super.` — which the
reference skips (going on with the module imports if it was a function import) -/
theorem resolveWith_semWith_cases :
    (∃ a, resolveWith lk ns imports name = .ok a ∧ semWith lk ns imports name = some a ∧
      ∃ n, lk n = some a) ∨
    (resolveWith lk ns imports name = .error .invalidJump ∧ semWith lk ns imports name = none) ∨
    (resolveWith lk ns imports name = .error .superLimitReached ∧
      (semWith lk ns imports name = none ∨
       ∃ k, fnImportStep lk ns imports name = .error k ∧
         semWith lk ns imports name = optStep (modImportStep lk ns imports name))) := by
  unfold resolveWith semWith stepThen
  cases h1 : lk name with
  | some a => exact .inl ⟨a, rfl, rfl, _, h1⟩
  | none =>
  cases h2 : lk (joinNs ns name) with
  | some a => exact .inl ⟨a, rfl, rfl, _, h2⟩
  | none =>
  rcases h3 : fnImportStep lk ns imports name with e | _ | a
  · cases fnImportStep_error h3
    exact .inr (.inr ⟨rfl, .inr ⟨_, rfl, rfl⟩⟩)
  · rcases h4 : modImportStep lk ns imports name with e | _ | a
    · cases modImportStep_error h4
      exact .inr (.inr ⟨rfl, .inl rfl⟩)
    · exact .inr (.inl ⟨rfl, rfl⟩)
    · exact .inl ⟨a, rfl, rfl, modImportStep_lk h4⟩
  · exact .inl ⟨a, rfl, rfl, fnImportStep_lk h3⟩

theorem resolveWith_ok_sem {r : α} (h : resolveWith lk ns imports name = .ok r) :
    semWith lk ns imports name = some r := by
  rcases resolveWith_semWith_cases (lk := lk) (ns := ns) (imports := imports) (name := name) with
    ⟨a, h1, h2, _⟩ | ⟨h1, _⟩ | ⟨h1, _⟩ <;> rw [h1] at h <;> cases h
  exact h2

theorem resolveWith_invalidJump_sem (h : resolveWith lk ns imports name = .error .invalidJump) :
    semWith lk ns imports name = none := by
  rcases resolveWith_semWith_cases (lk := lk) (ns := ns) (imports := imports) (name := name) with
    ⟨a, h1, _⟩ | ⟨_, h2⟩ | ⟨h1, _⟩
  · rw [h1] at h; cases h
  · exact h2
  · rw [h1] at h; cases h

theorem resolveWith_error_kind {k : CErrKind} (h : resolveWith lk ns imports name = .error k) :
    k = .invalidJump ∨ k = .superLimitReached := by
  rcases resolveWith_semWith_cases (lk := lk) (ns := ns) (imports := imports) (name := name) with
    ⟨a, h1, _⟩ | ⟨h1, _⟩ | ⟨h1, _⟩ <;> rw [h1] at h <;> cases h
  · exact .inl rfl
  · exact .inr rfl

theorem resolveWith_ok_lk {r : α} (h : resolveWith lk ns imports name = .ok r) : ∃ n, lk n = some r := by
  rcases resolveWith_semWith_cases (lk := lk) (ns := ns) (imports := imports) (name := name) with
    ⟨a, h1, _, h3⟩ | ⟨h1, _⟩ | ⟨h1, _⟩ <;> rw [h1] at h <;> cases h
  exact h3

theorem optStep_some {st : Except CErrKind (Option α)} {a : α} (h : optStep st = some a) :
    st = .ok (some a) := by
  rcases st with e | o
  · cases h
  · exact congrArg _ h

theorem semWith_lk {a : α} (h : semWith lk ns imports name = some a) : ∃ n, lk n = some a := by
  rcases resolveWith_semWith_cases (lk := lk) (ns := ns) (imports := imports) (name := name) with
    ⟨b, _, h2, h3⟩ | ⟨_, h2⟩ | ⟨_, h2 | ⟨_, _, h2⟩⟩
  · rw [h2] at h; cases h; exact h3
  · rw [h2] at h; cases h
  · rw [h2] at h; cases h
  · exact modImportStep_lk (optStep_some (h2 ▸ h))

theorem semWith_some {r : α} (h : semWith lk ns imports name = some r) :
    resolveWith lk ns imports name = .ok r ∨
    resolveWith lk ns imports name = .error .superLimitReached := by
  rcases resolveWith_semWith_cases (lk := lk) (ns := ns) (imports := imports) (name := name) with
    ⟨a, h1, h2, _⟩ | ⟨_, h2⟩ | ⟨h1, _⟩
  · rw [h2] at h; cases h; exact .inl h1
  · rw [h2] at h; cases h
  · exact .inr h1

/-- import keys are single segments. `executeImports` takes as key the last `.`-segment of the import path; that such
a segment splits into itself is a fact about `String.splitOn` that is stated, not proved
(`C08.executeImports_simpleKeys_Full`) -/
def SimpleKeys (imports : List (String × String)) : Prop :=
  ∀ p ∈ imports, ∀ pre x rest, p.1.splitOn "." ≠ pre :: x :: rest

theorem modImportStep_of_fnImportStep_error (hk : SimpleKeys imports) {k : CErrKind}
    (h : fnImportStep lk ns imports name = .error k) : modImportStep lk ns imports name = .ok none := by
  unfold fnImportStep at h
  split at h
  · cases h
  · rename_i p hp
    have hmem := List.mem_of_find?_eq_some hp
    have hname : p.1 = name := by simpa using List.find?_some hp
    have := hk p hmem
    rw [hname] at this
    unfold modImportStep
    split
    · rename_i heq
      exact absurd heq (this _ _ _)
    · rfl

theorem resolveWith_toOption (hk : SimpleKeys imports) :
    (resolveWith lk ns imports name).toOption = semWith lk ns imports name := by
  rcases resolveWith_semWith_cases (lk := lk) (ns := ns) (imports := imports) (name := name) with
    ⟨a, h1, h2, _⟩ | ⟨h1, h2⟩ | ⟨h1, h2 | ⟨k, h3, h2⟩⟩
  · rw [h1, h2]; rfl
  · rw [h1, h2]; rfl
  · rw [h1, h2]; rfl
  · rw [h1, h2, modImportStep_of_fnImportStep_error hk h3]; rfl

theorem resolveWith_map {β : Type} (g : α → β) :
    resolveWith (fun n => (lk n).map g) ns imports name = (resolveWith lk ns imports name).map g := by
  have hstep : ∀ (st : Except CErrKind (Option α)) (rest : Except CErrKind α),
      stepThen (st.map (Option.map g)) (rest.map g) = (stepThen st rest).map g := by
    intro st rest
    rcases st with e | _ | a <;> rfl
  have h3 : fnImportStep (fun n => (lk n).map g) ns imports name =
      (fnImportStep lk ns imports name).map (Option.map g) := by
    unfold fnImportStep
    split
    · rfl
    · cases importTarget ns _ _ <;> rfl
  have h4 : modImportStep (fun n => (lk n).map g) ns imports name =
      (modImportStep lk ns imports name).map (Option.map g) := by
    unfold modImportStep
    split
    · split
      · rfl
      · cases importTarget ns _ _ <;> rfl
    · rfl
  unfold resolveWith
  rw [h3, h4]
  rw [← hstep, ← hstep, ← hstep, ← hstep]
  rfl
end

theorem resolveSpec_mem {jt : JumpTable} {ns : List String} {imports : List (String × String)} {name : String}
    {r : UInt32 × UInt32} (h : resolveSpec jt ns imports name = .ok r) : ∃ e ∈ jt, e.2 = r := by
  obtain ⟨n, hn⟩ := resolveWith_ok_lk h
  exact look_mem hn

/-! ## the jump table of a stream of functions and the reference function table -/

theorem fullName_eq_joinNs (f : FunctionIr) : f.fullName = joinNs f.ns f.name := by
  unfold FunctionIr.fullName joinNs
  generalize f.ns = ns
  cases ns with
  | nil => simp
  | cons a l =>
    simp only [List.isEmpty_cons, Bool.false_eq_true, if_false]
    induction l generalizing a with
    | nil => simp
    | cons b l ih =>
      have := ih b
      rw [String.intercalate_cons_cons, List.map_cons, String.join_cons]
      simp only [String.append_assoc] at this ⊢
      rw [this]

def toFnDef (f : FunctionIr) : Sem.FnDef :=
  { fullName := joinNs f.ns f.name, ns := f.ns, imports := f.imports, params := f.arguments, cards := f.cards }

/-- what a static call to `f` is compiled to: its handle and its arity -/
def tgt (f : FunctionIr) : UInt32 × UInt32 := (f.handle, UInt32.ofNat f.arguments.length)

/-- the jump table `addFunctions` builds -/
def jumpTableOf (fns : List FunctionIr) : JumpTable := fns.map fun f => (f.fullName, tgt f)

theorem look_jumpTableOf (fns : List FunctionIr) (n : String) :
    look (jumpTableOf fns) n =
      (Sem.findFn (fns.map toFnDef).toArray n).map (fun j => tgt (fns.getD j default)) := by
  unfold look jumpTableOf Sem.findFn
  rw [List.findIdx?_toArray, List.findIdx?_map, List.find?_map]
  induction fns with
  | nil => rfl
  | cons f fs ih =>
    rw [List.find?_cons, List.findIdx?_cons]
    simp only [Function.comp, toFnDef, fullName_eq_joinNs] at ih ⊢
    by_cases hb : (joinNs f.ns f.name == n) = true
    · simp [hb]
    · simp only [hb]
      rw [ih]
      simp only [Bool.false_eq_true, if_false, Option.map_map]
      rfl

theorem findFn_lt {fns : Array Sem.FnDef} {n : String} {j : Nat} (h : Sem.findFn fns n = some j) :
    j < fns.size := by
  unfold Sem.findFn at h
  have := Array.findIdx?_eq_some_iff_getElem.1 h
  exact this.1

theorem map_toFnDef_toArray (fns : Array FunctionIr) : (fns.toList.map toFnDef).toArray = fns.map toFnDef := by
  apply Array.ext'
  simp

theorem resolveSpec_eq_map (fns : Array FunctionIr) (ns : List String) (imports : List (String × String))
    (name : String) :
    resolveSpec (jumpTableOf fns.toList) ns imports name =
      (resolveWith (Sem.findFn (fns.map toFnDef)) ns imports name).map
        (fun j => tgt (fns.toList.getD j default)) := by
  unfold resolveSpec
  rw [← resolveWith_map]
  congr 1
  funext n
  rw [look_jumpTableOf, map_toFnDef_toArray]

theorem sem_resolve_stream (fns : Array FunctionIr) (home : Nat) (hh : home < fns.size) (name : String) :
    Sem.resolve (fns.map toFnDef) home name =
      semWith (Sem.findFn (fns.map toFnDef)) fns[home].ns fns[home].imports name := by
  have : (fns.map toFnDef)[home]? = some (toFnDef fns[home]) := by simp [hh]
  rw [sem_resolve_eq_semWith _ _ _ this]
  rfl

theorem getD_toList (fns : Array FunctionIr) (j : Nat) (hj : j < fns.size) :
    fns.toList.getD j default = fns[j] := by
  simp [List.getD, hj]

end Cao.Compiler
