import CaoModel.Sem
import CaoProofs.Lemmas.SimLemmas
/-!
# C01: the reference semantics on the cards of the fragments

Nothing here runs the VM or the compiler; the fragment predicate `isExpr` and `binVal`, the value of an operator
as the VM computes it, come from `Lemmas/SimLemmas.lean`. Sequencing in `Sem.exec`/`Sem.eval` is written as `andThen`,
with one equation per card kind in its terms; expressions do not change the store; `Sem.run`: its function
table, the context in which it executes `main` (`CxH`: the contexts of one program) and how it renders
the outcome.
-/
namespace Cao.C01
open Cao Cao.Vm Cao.Sim Cao.Compiler

/-- results that are not an error, a `Return` or an `Abort` -/
def benign {α : Type} : Sem.Res α → Prop
  | .ok _ | .unspecified _ | .outOfFuel => True
  | _ => False

def isOOF {α : Type} : Sem.Res α → Prop
  | .outOfFuel => True
  | _ => False

/-- the results of statements that the simulation follows: the statement completes, or it executes a `Return` -/
def okRet {α : Type} : Sem.Res α → Prop
  | .ok _ | .ret _ => True
  | _ => False

/-- results that are not an error or an `Abort` -/
def benignR {α : Type} : Sem.Res α → Prop
  | .ok _ | .ret _ | .unspecified _ | .outOfFuel => True
  | _ => False

theorem benignR_of_benign {α : Type} {r : Sem.Res α} (h : benign r) : benignR r := by
  cases r <;> first | trivial | exact h

/-- sequencing in the reference semantics (`lift` in `Sem.exec`): go on with the value of a step that
    ended with `ok`, pass every other result on -/
def andThen {α β : Type} (r : Sem.St × Sem.Env × Sem.Res α)
    (k : Sem.St → Sem.Env → α → Sem.St × Sem.Env × Sem.Res β) : Sem.St × Sem.Env × Sem.Res β :=
  match r with
  | (s, env, .ok v) => k s env v
  | (s, env, .ret v) => (s, env, .ret v)
  | (s, env, .exit) => (s, env, .exit)
  | (s, env, .err e) => (s, env, .err e)
  | (s, env, .unspecified w) => (s, env, .unspecified w)
  | (s, env, .outOfFuel) => (s, env, .outOfFuel)

section andThen
variable {α β : Type} {r : Sem.St × Sem.Env × Sem.Res α} {k : Sem.St → Sem.Env → α → Sem.St × Sem.Env × Sem.Res β}

theorem andThen_ok {σ' : Sem.St} {env' : Sem.Env} {v : β} (h : andThen r k = (σ', env', .ok v)) :
    ∃ σ1 env1 a, r = (σ1, env1, .ok a) ∧ k σ1 env1 a = (σ', env', .ok v) := by
  obtain ⟨σ1, env1, x⟩ := r
  cases x with
  | ok a => exact ⟨σ1, env1, a, rfl, h⟩
  | _ => cases h

theorem res_inj {s s' : Sem.St} {e e' : Sem.Env} {x y : Sem.Res α} (h : (s, e, x) = (s', e', y)) :
    s = s' ∧ e = e' ∧ x = y := by
  cases h; exact ⟨rfl, rfl, rfl⟩

theorem andThen_okRet {σ' : Sem.St} {env' : Sem.Env} {x : Sem.Res β} (h : andThen r k = (σ', env', x)) (hx : okRet x) :
    (∃ w, r = (σ', env', .ret w) ∧ x = .ret w) ∨ ∃ σ1 env1 a, r = (σ1, env1, .ok a) ∧ k σ1 env1 a = (σ', env', x) := by
  obtain ⟨σ1, env1, y⟩ := r
  cases y with
  | ok a => exact Or.inr ⟨σ1, env1, a, rfl, h⟩
  | ret v => cases h; exact Or.inl ⟨v, rfl, rfl⟩
  | _ => cases h; exact hx.elim

theorem andThen_ok_of_benign {σ' : Sem.St} {env' : Sem.Env} {x : Sem.Res β} (hb : benign r.2.2)
    (h : andThen r k = (σ', env', x)) (hx : okRet x) :
    ∃ σ1 env1 a, r = (σ1, env1, .ok a) ∧ k σ1 env1 a = (σ', env', x) := by
  rcases andThen_okRet h hx with ⟨w, hr, _⟩ | h
  · rw [hr] at hb; exact hb.elim
  · exact h

theorem andThen_state (Q : Sem.St → Prop) (hr : Q r.1) (hk : ∀ s env a, Q s → Q (k s env a).1) : Q (andThen r k).1 := by
  obtain ⟨s, env, x⟩ := r
  cases x <;> first | exact hk _ _ _ hr | exact hr

end andThen

/-- the `match` that `lift` unfolds to in `Sem.exec` is `andThen` -/
theorem lift_eq (r : Sem.St × Sem.Env × Sem.Res Val) (k : Sem.St → Sem.Env → Val → Sem.St × Sem.Env × Sem.Res Unit) :
    (match r with
      | (s, env, .ok v) => k s env v
      | (s, env, .ret v) => (s, env, .ret v)
      | (s, env, .exit) => (s, env, .exit)
      | (s, env, .err e) => (s, env, .err e)
      | (s, env, .unspecified w) => (s, env, .unspecified w)
      | (s, env, .outOfFuel) => (s, env, .outOfFuel)) = andThen r k := by
  obtain ⟨s, env, x⟩ := r
  cases x <;> rfl

section semeq
variable (cx : Sem.Ctx) (f : Nat) (env : Sem.Env) (s : Sem.St)

theorem eval_zero (c : Card) : Sem.eval cx 0 env s c = (s, env, .outOfFuel) := by
  cases c <;> rfl

theorem exec_zero (c : Card) : Sem.exec cx 0 env s c = (s, env, .outOfFuel) := by
  cases c <;> rfl

theorem eval_fuel {cx : Sem.Ctx} {fuel : Nat} {env : Sem.Env} {s : Sem.St} {c : Card} {x : Sem.St × Sem.Env × Sem.Res Val}
    (h : Sem.eval cx fuel env s c = x) (hx : ¬ isOOF x.2.2) : ∃ f, fuel = f + 1 := by
  cases fuel with
  | zero => rw [eval_zero] at h; subst h; exact absurd trivial hx
  | succ f => exact ⟨f, rfl⟩

theorem exec_fuel {cx : Sem.Ctx} {fuel : Nat} {env : Sem.Env} {s : Sem.St} {c : Card} {x : Sem.St × Sem.Env × Sem.Res Unit}
    (h : Sem.exec cx fuel env s c = x) (hx : ¬ isOOF x.2.2) : ∃ f, fuel = f + 1 := by
  cases fuel with
  | zero => rw [exec_zero] at h; subst h; exact absurd trivial hx
  | succ f => exact ⟨f, rfl⟩

def litVal : Card → Option Val
  | .scalarInt i => some (.int i)
  | .scalarFloat b => some (.real b)
  | .scalarNil => some .nil
  | _ => none

theorem eval_lit {e : Card} {v : Val} (h : litVal e = some v) : Sem.eval cx (f + 1) env s e = (s, env, .ok v) := by
  cases e <;> simp only [litVal, Option.some.injEq, reduceCtorEq] at h <;> subst h <;> rfl

theorem eval_not (c : Card) : Sem.eval cx (f + 1) env s (.un .not c) =
    andThen (Sem.eval cx f env s c) fun s env v =>
      (s, env, .ok (Vm.boolVal (!(OVal.asBool hostF64 (Sem.deepV s v))))) := by
  show (match Sem.eval cx f env s c with
    | (s, env, .ok v) => (s, env, Sem.Res.ok (Vm.boolVal (!(OVal.asBool hostF64 (Sem.deepV s v)))))
    | r => r) = _
  rcases Sem.eval cx f env s c with ⟨s1, e1, r⟩
  cases r <;> rfl

theorem eval_bin (k : BinKind) (hk : isValOp k = true) (a b : Card) :
    Sem.eval cx (f + 1) env s (.bin k a b) =
    andThen (Sem.eval cx f env s a) fun s env va =>
      andThen (Sem.eval cx f env s b) fun s env vb => (s, env, .ok (binVal k (Sem.deepV s va) (Sem.deepV s vb))) := by
  have h0 : Sem.eval cx (f + 1) env s (.bin k a b) =
      (match Sem.eval cx f env s a with
        | (s, env, .ok va) =>
          match Sem.eval cx f env s b with
          | (s, env, .ok vb) => (s, env, .ok (binVal k (Sem.deepV s va) (Sem.deepV s vb)))
          | (s, env, r) => (s, env, r)
        | (s, env, r) => (s, env, r)) := by
    cases k <;> first | rfl | (simp [isValOp] at hk)
  rw [h0]
  rcases Sem.eval cx f env s a with ⟨s1, e1, r⟩
  cases r <;> try rfl
  show (match Sem.eval cx f e1 s1 b with
    | (s, env, .ok vb) => (s, env, Sem.Res.ok (binVal k (Sem.deepV s _) (Sem.deepV s vb)))
    | (s, env, r) => (s, env, r)) = andThen (Sem.eval cx f e1 s1 b) _
  rcases Sem.eval cx f e1 s1 b with ⟨s2, e2, r2⟩
  cases r2 <;> rfl

theorem eval_readVar (n : String) : Sem.eval cx (f + 1) env s (.readVar n) = Sem.readVar cx env s n := rfl

theorem exec_composite (t : String) (cs : List Card) :
    Sem.exec cx (f + 1) env s (.composite t cs) = Sem.execListWith (Sem.exec cx f) env s cs := rfl

theorem execList_cons (ex : Sem.Env → Sem.St → Card → Sem.St × Sem.Env × Sem.Res Unit) (c : Card) (cs : List Card) :
    Sem.execListWith ex env s (c :: cs) = andThen (ex env s c) fun s env _ => Sem.execListWith ex env s cs := by
  simp only [Sem.execListWith]
  rcases ex env s c with ⟨s1, e1, r⟩
  cases r <;> rfl

/-- the assignment to a global of the reference semantics -/
def gupd (g : List (String × Val)) (name : String) (x : Val) : List (String × Val) :=
  if g.any (·.1 == name) then g.map (fun p => if p.1 == name then (name, x) else p) else g ++ [(name, x)]

theorem exec_setGlobal (n : String) (e : Card) :
    Sem.exec cx (f + 1) env s (.setGlobalVar n e) =
    andThen (Sem.eval cx f env s e) fun s env x =>
      if n.isEmpty then (s, env, .unspecified "empty variable name (compile error)")
      else ({ s with globals := gupd s.globals n x }, env, .ok ()) := lift_eq _ _

theorem exec_ifTrue (c b : Card) :
    Sem.exec cx (f + 1) env s (.bin .ifTrue c b) =
    andThen (Sem.eval cx f env s c) fun s env x =>
      if Sem.truthy s x then Sem.exec cx f env s b else (s, env, .ok ()) := lift_eq _ _

theorem exec_ifFalse (c b : Card) :
    Sem.exec cx (f + 1) env s (.bin .ifFalse c b) =
    andThen (Sem.eval cx f env s c) fun s env x =>
      if Sem.truthy s x then (s, env, .ok ()) else Sem.exec cx f env s b := lift_eq _ _

theorem exec_ifElse (c a b : Card) :
    Sem.exec cx (f + 1) env s (.tri .ifElse c a b) =
    andThen (Sem.eval cx f env s c) fun s env x =>
      if Sem.truthy s x then Sem.exec cx f env s a else Sem.exec cx f env s b := lift_eq _ _

theorem exec_ret (e : Card) :
    Sem.exec cx (f + 1) env s (.un .ret e) = andThen (Sem.eval cx f env s e) fun s env x => (s, env, .ret x) := lift_eq _ _

/-- the result of the body of a loop seen from outside: its scope is dropped -/
def dropScope (env : Sem.Env) (r : Sem.St × Sem.Env × Sem.Res Unit) : Sem.St × Sem.Env × Sem.Res Unit :=
  (r.1, env, r.2.2)

theorem dropScope_eq {env : Sem.Env} {r : Sem.St × Sem.Env × Sem.Res Unit} {σ : Sem.St} {env' : Sem.Env} {x : Sem.Res Unit}
    (h : dropScope env r = (σ, env', x)) : ∃ envb, r = (σ, envb, x) ∧ env = env' := by
  obtain ⟨a, b, c⟩ := r
  cases h
  exact ⟨b, rfl, rfl⟩

theorem exec_while (c b : Card) :
    Sem.exec cx (f + 1) env s (.bin .while c b) =
    andThen (Sem.eval cx f env s c) fun s env x =>
      if Sem.truthy s x then
        andThen (dropScope env (Sem.exec cx f ([] :: env) s b)) fun s env _ => Sem.exec cx f env s (.bin .while c b)
      else (s, env, .ok ()) := by
  refine (lift_eq _ fun s env x => if Sem.truthy s x then
      (match Sem.exec cx f ([] :: env) s b with
        | (s, _, .ok ()) => Sem.exec cx f env s (.bin .while c b)
        | (s, _, r) => (s, env, r))
    else (s, env, .ok ())).trans ?_
  congr 1
  funext s env x
  split
  · rcases Sem.exec cx f ([] :: env) s b with ⟨s2, e2, r2⟩
    cases r2 <;> rfl
  · rfl

theorem exec_repeat (i : Option String) (n b : Card) :
    Sem.exec cx (f + 1) env s (.repeat i n b) =
    andThen (Sem.eval cx f env s n) fun s env nv =>
      ((Sem.repeatLoop (fun scope s => Sem.exec cx f (scope :: env) s b) i nv f 0 s).1, env,
        (Sem.repeatLoop (fun scope s => Sem.exec cx f (scope :: env) s b) i nv f 0 s).2) := lift_eq _ _

def declEnv (env : Sem.Env) (n : String) (c : Nat) : Sem.Env :=
  match env with
  | scope :: rest => (scope ++ [(n, c)]) :: rest
  | [] => [[(n, c)]]

theorem exec_setVar (hout : cx.outer = []) {n : String} (e : Card) (hn : simpleName n = true) :
    Sem.exec cx (f + 1) env s (.setVar n e) =
    andThen (Sem.eval cx f env s e) fun s env v =>
      match Sem.lookupEnv env n with
      | some c => ({ s with cells := s.cells.set! c v }, env, .ok ())
      | none => ((Sem.newCell s v).1, declEnv env n (Sem.newCell s v).2, .ok ()) := by
  obtain ⟨hsplit, hne⟩ := simpleName_iff.1 hn
  have hnone : Sem.lookupEnv [] n = none := rfl
  simp only [Sem.exec, hsplit, hne, hout, Bool.false_eq_true, if_false, hnone]
  rcases Sem.eval cx f env s e with ⟨s1, env1, r⟩
  cases r <;> try rfl
  show (match Sem.lookupEnv env1 n with
    | some c => _
    | none => _) = (match Sem.lookupEnv env1 n with
    | some c => _
    | none => _)
  split
  · rfl
  · cases env1 <;> rfl

end semeq

/-! ## reading a variable; expressions do not change the store -/

/-- value of the global `n` in the store of the reference semantics -/
def glookup (g : List (String × Val)) (n : String) : Option Val :=
  (g.find? (fun p => p.1 == n)).map (·.2)

theorem readVar_env {cx : Sem.Ctx} (hout : cx.outer = []) {n : String} (hn : simpleName n = true)
    (env : Sem.Env) (s : Sem.St) :
    Sem.readVar cx env s n = (s, env, match Sem.lookupEnv env n with
      | some c => .ok (s.cells[c]?.getD .nil)
      | none => match glookup s.globals n with
        | some x => .ok x
        | none => .unspecified "read of a global that was never written") := by
  obtain ⟨hsplit, hne⟩ := simpleName_iff.1 hn
  have hnone : Sem.lookupEnv [] n = none := rfl
  unfold Sem.readVar
  simp only [hsplit, List.filter_nil, hne, Bool.false_eq_true, if_false, hout, hnone, List.foldl_nil]
  rcases Sem.lookupEnv env n with _ | c
  · unfold glookup
    rcases hfind : List.find? (fun p => p.fst == n) s.globals with _ | ⟨a, b⟩ <;> simp only [hfind] <;> rfl
  · rfl

theorem readVar_state (cx : Sem.Ctx) (env : Sem.Env) (σ : Sem.St) {n : String} (hn : simpleName n = true) :
    (Sem.readVar cx env σ n).1 = σ := by
  obtain ⟨hsplit, hne⟩ := simpleName_iff.1 hn
  unfold Sem.readVar
  simp only [hsplit, List.filter_nil, hne, Bool.false_eq_true, if_false, List.foldl_nil]
  split <;> rfl

theorem eval_state (cx : Sem.Ctx) (e : Card) : isExpr e = true → ∀ (fuel : Nat) (env : Sem.Env) (σ : Sem.St),
    (Sem.eval cx fuel env σ e).1 = σ := by
  fun_induction isExpr e with
  | case1 | case2 | case3 => intro _ fuel env σ; cases fuel <;> rfl
  | case4 c ih =>
    intro he fuel env σ
    cases fuel with
    | zero => rfl
    | succ f => rw [eval_not]; exact andThen_state (· = σ) (ih he f env σ) fun _ _ _ h => h
  | case5 k a b iha ihb =>
    intro he fuel env σ
    simp only [Bool.and_eq_true] at he
    cases fuel with
    | zero => rfl
    | succ f =>
      rw [eval_bin _ _ _ _ k he.1.1]
      exact andThen_state (· = σ) (iha he.1.2 f env σ) fun s env _ hs =>
        andThen_state (· = σ) (hs ▸ ihb he.2 f env s) fun _ _ _ h => h
  | case6 n =>
    intro he fuel env σ
    cases fuel with
    | zero => rfl
    | succ f => rw [eval_readVar]; exact readVar_state cx env σ he
  | case7 => intro he; cases he

/-! ## `Repeat` -/

/-- the store and the scope of one iteration: a fresh cell with a copy of the counter for the loop
    variable -/
def repScope (i : Option String) (k : Int64) (s : Sem.St) : Sem.St × List (String × Nat) :=
  match i with
  | some var => ((Sem.newCell s (.int k)).1, [(var, (Sem.newCell s (.int k)).2)])
  | none => (s, [])

theorem repeatLoop_succ (body : List (String × Nat) → Sem.St → Sem.St × Sem.Env × Sem.Res Unit) (i : Option String)
    (nv : Val) (gas : Nat) (k : Int64) (s : Sem.St) :
    Sem.repeatLoop body i nv (gas + 1) k s =
      if OVal.vlt Sem.F (.int k) (Sem.deepV s nv) then
        match body (repScope i k s).2 (repScope i k s).1 with
        | (s, _, .ok ()) => Sem.repeatLoop body i nv gas (k + 1) s
        | (s, _, .ret v) => (s, .ret v)
        | (s, _, .exit) => (s, .exit)
        | (s, _, .err e) => (s, .err e)
        | (s, _, .unspecified w) => (s, .unspecified w)
        | (s, _, .outOfFuel) => (s, .outOfFuel)
      else (s, .ok ()) := by
  cases i <;> rfl

/-! ## static calls -/

def runBody (f : Nat) : Sem.RunBody := fun cx' env s cards => Sem.execListWith (Sem.exec cx' f) env s cards

/-- what a static call does once its arguments are evaluated -/
def callRest (cx : Sem.Ctx) (f : Nat) (g : String) (s : Sem.St) (env : Sem.Env) (vs : List Val) :
    Sem.St × Sem.Env × Sem.Res Val :=
  match Sem.resolve cx.fns cx.home g with
  | some i =>
    match cx.fns[i]? with
    | some fd =>
      if vs.length < fd.params.length then ({ s with fewArgs := true }, env, .err .missingArgument) else
      if vs.length != fd.params.length then (s, env, .unspecified "arity mismatch in a static call") else
      match Sem.callFnWith (runBody f) cx.fns s (.inl i) vs with
      | (s, r) => (s, env, r)
    | none => (s, env, .unspecified "bad function index")
  | none => (s, env, .unspecified "unresolved function (compile error)")

theorem eval_call (cx : Sem.Ctx) (f : Nat) (env : Sem.Env) (s : Sem.St) (g : String) (args : List Card) :
    Sem.eval cx (f + 1) env s (.call g args) =
      andThen (Sem.evalListWith (Sem.eval cx f) env s args) (callRest cx f g) := by
  show (match Sem.evalListWith (Sem.eval cx f) env s args with
    | (s, env, .ok vs) => callRest cx f g s env vs
    | (s, env, .ret v) => (s, env, .ret v)
    | (s, env, .exit) => (s, env, .exit)
    | (s, env, .err e) => (s, env, .err e)
    | (s, env, .unspecified w) => (s, env, .unspecified w)
    | (s, env, .outOfFuel) => (s, env, .outOfFuel)) = _
  rcases Sem.evalListWith (Sem.eval cx f) env s args with ⟨s2, env2, r2⟩
  cases r2 <;> rfl

theorem callFnWith_inl (rb : Sem.RunBody) (fns : Array Sem.FnDef) (s : Sem.St) (i : Nat) (fd : Sem.FnDef)
    (hfd : fns[i]? = some fd) (args : List Val) :
    Sem.callFnWith rb fns s (.inl i) args =
      if s.calls ≥ Sem.callLimit then (s, .outOfFuel) else
      match rb { fns := fns, home := i, outer := [] } [(Sem.bindArgs { s with calls := s.calls + 1 } fd.params args).2]
          (Sem.bindArgs { s with calls := s.calls + 1 } fd.params args).1 fd.cards with
      | (s, _, .ok ()) => (s, .ok .nil)
      | (s, _, .ret v) => (s, .ok v)
      | (s, _, .exit) => (s, .exit)
      | (s, _, .err e) => (s, .err e)
      | (s, _, .unspecified w) => (s, .unspecified w)
      | (s, _, .outOfFuel) => (s, .outOfFuel) := by
  unfold Sem.callFnWith
  simp only [hfd]
  rfl

theorem evalList_cons (ev : Sem.Env → Sem.St → Card → Sem.St × Sem.Env × Sem.Res Val) (env : Sem.Env) (s : Sem.St)
    (c : Card) (cs : List Card) :
    Sem.evalListWith ev env s (c :: cs) =
      andThen (ev env s c) fun s env v => andThen (Sem.evalListWith ev env s cs) fun s env vs => (s, env, .ok (v :: vs)) := by
  simp only [Sem.evalListWith]
  rcases ev env s c with ⟨s1, e1, r⟩
  cases r <;> try rfl
  show (match Sem.evalListWith ev e1 s1 cs with
    | (s, env, .ok vs) => (s, env, .ok (_ :: vs))
    | r => r) = andThen (Sem.evalListWith ev e1 s1 cs) fun s env vs => (s, env, .ok (_ :: vs))
  rcases Sem.evalListWith ev e1 s1 cs with ⟨s2, e2, r2⟩
  cases r2 <;> rfl

theorem evalList_length (cx : Sem.Ctx) : ∀ (es : List Card) (fuel : Nat) (env : Sem.Env) (σ σ' : Sem.St) (env' : Sem.Env)
    (vals : List Val), Sem.evalListWith (Sem.eval cx fuel) env σ es = (σ', env', .ok vals) → vals.length = es.length
  | [], _, _, _, _, _, _, h => by cases h; rfl
  | e :: es, fuel, env, σ, σ', env', vals, h => by
    rw [evalList_cons] at h
    obtain ⟨σ1, env1, v, _, h⟩ := andThen_ok h
    obtain ⟨σ2, env2, vs, hcs, h⟩ := andThen_ok h
    cases h
    rw [List.length_cons, List.length_cons, evalList_length cx es fuel env1 σ1 _ _ vs hcs]

/-- what the caller sees of the outcome of the body of a callee -/
def callPost (env2 : Sem.Env) (r : Sem.St × Sem.Env × Sem.Res Unit) : Sem.St × Sem.Env × Sem.Res Val :=
  match r with
  | (s, _, .ok ()) => (s, env2, .ok .nil)
  | (s, _, .ret v) => (s, env2, .ok v)
  | (s, _, .exit) => (s, env2, .exit)
  | (s, _, .err e) => (s, env2, .err e)
  | (s, _, .unspecified w) => (s, env2, .unspecified w)
  | (s, _, .outOfFuel) => (s, env2, .outOfFuel)

theorem callRest_run (cx : Sem.Ctx) (f : Nat) (g : String) {s2 : Sem.St} {env2 : Sem.Env} {vals : List Val}
    {i : Nat} {dfn : Sem.FnDef} (hres : Sem.resolve cx.fns cx.home g = some i) (hdi : cx.fns[i]? = some dfn)
    (hlen : vals.length = dfn.params.length) :
    callRest cx f g s2 env2 vals =
      if s2.calls ≥ Sem.callLimit then (s2, env2, .outOfFuel) else
      callPost env2 (Sem.execListWith (Sem.exec { fns := cx.fns, home := i, outer := [] } f)
          [(Sem.bindArgs { s2 with calls := s2.calls + 1 } dfn.params vals).2]
          (Sem.bindArgs { s2 with calls := s2.calls + 1 } dfn.params vals).1 dfn.cards) := by
  unfold callRest
  simp only [hres, hdi]
  rw [if_neg (by omega), if_neg (by simp [hlen]), callFnWith_inl _ _ _ _ _ hdi]
  split
  · rfl
  · unfold runBody callPost
    rcases Sem.execListWith (Sem.exec { fns := cx.fns, home := i, outer := [] } f)
      [(Sem.bindArgs { s2 with calls := s2.calls + 1 } dfn.params vals).2]
      (Sem.bindArgs { s2 with calls := s2.calls + 1 } dfn.params vals).1 dfn.cards with ⟨s3, env3, r3⟩
    cases r3 with
    | ok u => cases u; rfl
    | _ => rfl

/-! ## `Sem.run`: the function table and the context of `main` -/

/-- the function `main` of the root module (the first one with that name) -/
def mainFn (m : Module) : Option Func :=
  (m.functions.findIdx? (fun p => p.1 == "main")).bind fun i => m.functions[i]?.map (·.2)

theorem mainFn_some {m : Module} {f : Func} (h : mainFn m = some f) :
    ∃ i nf, m.functions.findIdx? (fun p => p.1 == "main") = some i ∧ m.functions[i]? = some nf ∧ nf.2 = f := by
  unfold mainFn at h
  rcases hi : m.functions.findIdx? (fun p => p.1 == "main") with _ | i
  · rw [hi] at h; cases h
  · rw [hi] at h
    simp only [Option.bind_some] at h
    rcases hf : m.functions[i]? with _ | nf
    · rw [hf] at h; cases h
    · rw [hf] at h
      simp only [Option.map_some, Option.some.injEq] at h
      exact ⟨i, nf, hi, hf, h⟩

/-- how `Sem.run` renders the result of executing the cards of `main` -/
def render (x : Sem.St × Sem.Env × Sem.Res Unit) : Sem.Outcome :=
  let (s, _, r) := x
  let res := match r with
    | .ok () | .exit => "ok"
    | .ret _ => "unspecified:return from main"
    | .err e => "err:" ++ e.name
    | .unspecified w => "unspecified:" ++ w
    | .outOfFuel => "unspecified:out of fuel"
  { result := res, globals := s.globals.map (fun (n, v) => (n, Sem.deepV s v)), log := s.log,
    stmtValue := s.stmtValue, fewArgs := s.fewArgs }

theorem joinNs_nil (n : String) : Sem.joinNs [] n = n := by
  simp [Sem.joinNs, String.join]

def mkFn (imports : List (String × String)) (p : String × Func) : Sem.FnDef :=
  { fullName := Sem.joinNs [] p.1, ns := [], imports := imports, params := p.2.arguments, cards := p.2.cards }

/-- the function table `Sem.run` works with -/
def semFns (m std : Module) : Array Sem.FnDef :=
  (Sem.flattenFns (Module.mk (m.submodules ++ [("std", std)]) m.functions m.imports) []).toArray

/-- the context in which `Sem.run` evaluates `main` (the function with index `mi`) -/
def semCtx (m std : Module) (mi : Nat) : Sem.Ctx := { fns := semFns m std, home := mi, outer := [] }

theorem semFns_eq (m std : Module) :
    ∃ imports rest, semFns m std = (m.functions.map (mkFn imports) ++ rest).toArray := by
  unfold semFns
  simp only [Sem.flattenFns]
  exact ⟨_, _, rfl⟩

/-- the functions of the root module come first in the table, under their own names -/
theorem semFns_get {m std : Module} {j : Nat} {q : String × Func} (hq : m.functions[j]? = some q) :
    ∃ imports, (semFns m std)[j]? = some (mkFn imports q) := by
  obtain ⟨imports, rest, hfl⟩ := semFns_eq m std
  refine ⟨imports, ?_⟩
  rw [hfl]
  simp only [List.getElem?_toArray]
  rw [List.getElem?_append_left (by simpa using (List.getElem?_eq_some_iff.1 hq).1), List.getElem?_map, hq]
  rfl

theorem semFns_findIdx {m std : Module} {name : String} {j : Nat}
    (h : m.functions.findIdx? (fun p => p.1 == name) = some j) :
    (semFns m std).findIdx? (fun f => f.fullName == name) = some j := by
  obtain ⟨imports, rest, hfl⟩ := semFns_eq m std
  rw [hfl, List.findIdx?_toArray, List.findIdx?_append, List.findIdx?_map]
  have : ((fun (f : Sem.FnDef) => f.fullName == name) ∘ mkFn imports) = fun p => p.1 == name := by
    funext p
    simp only [Function.comp, mkFn, joinNs_nil]
  rw [this, h]
  rfl

theorem sem_run_ctx {m std : Module} {mi : Nat} {nf : String × Func}
    (hi : m.functions.findIdx? (fun p => p.1 == "main") = some mi) (hf : m.functions[mi]? = some nf) (fuel : Nat) :
    Sem.run m std fuel = render (Sem.execList (semCtx m std mi) fuel [[]] {} nf.2.cards) := by
  obtain ⟨imports, hget⟩ := semFns_get (std := std) hf
  have hget' : (semFns m std)[mi]! = mkFn imports nf := by rw [getElem!_def, hget]
  unfold Sem.run
  have e : (Sem.flattenFns (Module.mk (m.submodules ++ [("std", std)]) m.functions m.imports) []).toArray = semFns m std := rfl
  simp only [e, semFns_findIdx (std := std) hi, hget']
  rfl

theorem semFns_root {m std : Module} (hpw : (m.functions.map (·.1)).Pairwise (· ≠ ·)) {j : Nat} {q : String × Func}
    (hq : m.functions[j]? = some q) :
    ∃ d, (semFns m std)[j]? = some d ∧ d.params = q.2.arguments ∧ d.cards = q.2.cards ∧
      ∀ home, home < (semFns m std).size → Sem.resolve (semFns m std) home q.1 = some j := by
  obtain ⟨hlt, hjq⟩ := List.getElem?_eq_some_iff.1 hq
  obtain ⟨imports, hget⟩ := semFns_get (std := std) hq
  have hidx : m.functions.findIdx? (fun p => p.1 == q.1) = some j := by
    rw [List.findIdx?_eq_some_iff_getElem]
    refine ⟨hlt, by rw [hjq]; simp, fun k hk => ?_⟩
    have hp := List.pairwise_iff_getElem.1 hpw k j (by simp; omega) (by simpa using hlt) hk
    simp only [List.getElem_map] at hp
    rw [hjq] at hp
    simpa using hp
  refine ⟨mkFn imports q, hget, rfl, rfl, fun home hh => ?_⟩
  unfold Sem.resolve Sem.findFn
  rw [Array.getElem?_eq_getElem hh]
  simp only [semFns_findIdx (std := std) hidx, Option.orElse_some]

/-- the contexts in which the functions of one program are evaluated: no enclosing scopes, the function table
    `fns`, and a valid `home` from which the callees are resolved -/
def CxH (fns : Array Sem.FnDef) (cx : Sem.Ctx) : Prop := cx.outer = [] ∧ cx.fns = fns ∧ cx.home < fns.size

theorem semCtx_ok {m std : Module} {mi : Nat} (hmilt : mi < m.functions.length) : CxH (semFns m std) (semCtx m std mi) := by
  refine ⟨rfl, rfl, ?_⟩
  obtain ⟨imports, rest, hfl⟩ := semFns_eq m std
  show mi < (semFns m std).size
  rw [hfl]; simp; omega

/-- `Sem.run` executes the cards of the first function named `main` of the root module, in a context of the
    program that is the same for every fuel -/
theorem sem_run_main {m std : Module} {i : Nat} {nf : String × Func}
    (hi : m.functions.findIdx? (fun p => p.1 == "main") = some i) (hf : m.functions[i]? = some nf) :
    ∃ cx : Sem.Ctx, CxH (semFns m std) cx ∧
      ∀ fuel, Sem.run m std fuel = render (Sem.execList cx fuel [[]] {} nf.2.cards) :=
  ⟨semCtx m std i, semCtx_ok (List.getElem?_eq_some_iff.1 hf).1, sem_run_ctx hi hf⟩

/-! ## the rendered outcome -/

/-- value of the global `n` in the outcome of the reference semantics (`nil` if absent) -/
def semGlobal (o : Sem.Outcome) (n : String) : OVal :=
  ((o.globals.find? (fun p => p.1 == n)).map (·.2)).getD .nil

theorem unspecified_ne_ok (w : String) : "unspecified:" ++ w ≠ "ok" := by
  intro h
  have := congrArg String.length h
  rw [String.length_append] at this
  have e1 : "unspecified:".length = 12 := by decide
  have e2 : "ok".length = 2 := by decide
  omega

theorem semGlobal_render (σ : Sem.St) (env : Sem.Env) (r : Sem.Res Unit) (n : String) :
    semGlobal (render (σ, env, r)) n = ((glookup σ.globals n).map (Sem.deepV σ)).getD .nil := by
  unfold semGlobal render glookup
  simp only [List.find?_map]
  have hcomp : ((fun (p : String × OVal) => p.1 == n) ∘ fun (x : String × Val) =>
      (match x with | (n, v) => (n, Sem.deepV σ v) : String × OVal)) = fun p => p.1 == n := by
    funext p; rfl
  rw [hcomp]
  rcases List.find? (fun (p : String × Val) => p.1 == n) σ.globals with _ | ⟨a, b⟩ <;> rfl

theorem render_ok {x : Sem.St × Sem.Env × Sem.Res Unit} (hb : benignR x.2.2) (h : (render x).result = "ok") :
    x.2.2 = .ok () := by
  obtain ⟨s, env, r⟩ := x
  cases r with
  | ok u => cases u; rfl
  | unspecified w => exact absurd h (unspecified_ne_ok w)
  | outOfFuel =>
    have : ("unspecified:out of fuel" : String) ≠ "ok" := by decide
    exact absurd h this
  | ret _ =>
    have : ("unspecified:return from main" : String) ≠ "ok" := by decide
    exact absurd h this
  | exit | err _ => exact absurd hb id

end Cao.C01
