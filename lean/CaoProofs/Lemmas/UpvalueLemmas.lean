import CaoProofs.Lemmas.VmFrame
import CaoProofs.Lemmas.RegisterUpvalue
import CaoProofs.Props.C02
import CaoProofs.Props.C05
/-!
# The capture mechanism of the interpreter: upvalue objects

* the well-formedness invariant of the capture mechanism: `UpCore` (the part that does not mention
  the height of the value stack), `UpBound` (no open upvalue points at or above `stack.count`),
  `UpInv = UpCore ∧ UpBound`;
* `closeUpvalues` as a pure function (`closeGo_spec`);
* transfer of the invariant to a modified heap, through the collector and the allocator;
* preservation of `UpCore` by every primitive that `RunFrame` of `Lemmas/VmFrame.lean` asks about and
  by each effect of `RegisterUpvalue` (`RegEffect`, `Lemmas/RegisterUpvalue.lean`, which also has
  `upvalueFor` and `captured`), hence by every instruction and every run (`RunFrame CoreR`).
-/
namespace Cao.Upv
open Cao Cao.Vm Cao.Gc Cao.C02 Cao.C05

/-! ## heap lookups; `dropGuard` and `newObject` on `M.go` -/

theorem get_set_none (h : Heap) (a b : Nat) (o : Obj) (ha : h.get a = none) :
    (h.set a o).get b = h.get b := by
  rw [get_set]
  split
  · next hb => subst hb; rw [ha]; rfl
  · rfl

theorem set_next (h : Heap) (a : Nat) (o : Obj) : (h.set a o).next = h.next := rfl

theorem go_dropGuard (a : Nat) (s : VmState) :
    (dropGuard a).go s = (.ok ⟨⟩, { s with guards := s.guards.erase a }) := Vm.go_dropGuard a s

theorem go_newObject (o : Obj) (s : VmState) : (newObject o).go s = (.ok s.heap.next, withObject o s) :=
  Vm.go_newObject o s

/-! ## upvalue objects -/

def IsUp (h : Heap) (u : Nat) : Prop := ∃ loc, h.get u = some (.upvalue loc)

theorem upvalueSlot_congr {h h' : Heap} {a : Nat} (hg : h'.get a = h.get a) :
    upvalueSlot h' a = upvalueSlot h a := by
  unfold upvalueSlot; rw [hg]

theorem isUp_of_slot {h : Heap} {a i : Nat} (hs : upvalueSlot h a = some i) : IsUp h a :=
  ⟨_, upvalueSlot_eq_some.mp hs⟩

def SlotGt (h : Heap) (a b : Nat) : Prop :=
  ∀ i j, upvalueSlot h a = some i → upvalueSlot h b = some j → j < i

/-- the part of the invariant that talks about the heap and the list of open upvalues only -/
structure UpCore (s : VmState) : Prop where
  /-- every allocated address is below `heap.next` (so that new objects are really new) -/
  fresh : FreshNext s.heap
  /-- every listed address is an `upvalue (open slot)` object -/
  open_ : ∀ a ∈ s.openUpvalues, ∃ i, upvalueSlot s.heap a = some i
  /-- the list is sorted by slot, highest first, without repetition of a slot -/
  sorted : s.openUpvalues.Pairwise (SlotGt s.heap)
  /-- the upvalue lists of closures refer to upvalue objects -/
  closures : ∀ c hd ar ups, s.heap.get c = some (.closure hd ar ups) → ∀ u ∈ ups, IsUp s.heap u

def UpBound (s : VmState) : Prop :=
  ∀ a ∈ s.openUpvalues, ∀ i, upvalueSlot s.heap a = some i → i < s.stack.count

structure UpInv (s : VmState) : Prop where
  core : UpCore s
  bound : UpBound s

theorem UpCore.slot_inj {s : VmState} (hc : UpCore s) {a b i : Nat} (ha : a ∈ s.openUpvalues)
    (hb : b ∈ s.openUpvalues) (hsa : upvalueSlot s.heap a = some i) (hsb : upvalueSlot s.heap b = some i) :
    a = b := by
  have hs := hc.sorted
  generalize s.openUpvalues = l at ha hb hs
  induction l with
  | nil => cases ha
  | cons x l ih =>
    rw [List.pairwise_cons] at hs
    rcases List.mem_cons.mp ha with rfl | ha'
    · rcases List.mem_cons.mp hb with rfl | hb'
      · rfl
      · exact absurd (hs.1 b hb' i i hsa hsb) (Nat.lt_irrefl _)
    · rcases List.mem_cons.mp hb with rfl | hb'
      · exact absurd (hs.1 a ha' i i hsb hsa) (Nat.lt_irrefl _)
      · exact ih ha' hb' hs.2

theorem UpCore.upvalueFor_iff {s : VmState} (hc : UpCore s) {slot u : Nat} :
    upvalueFor s slot = some u ↔ u ∈ s.openUpvalues ∧ upvalueSlot s.heap u = some slot := by
  constructor
  · intro h
    exact ⟨(upvalueFor_some h).1, upvalueSlot_eq_some.mpr (upvalueFor_some h).2⟩
  · rintro ⟨hm, hs⟩
    cases hf : upvalueFor s slot with
    | none => exact absurd hs (upvalueFor_none hf u hm)
    | some u' =>
      have := upvalueFor_some hf
      rw [hc.slot_inj this.1 hm (upvalueSlot_eq_some.mpr this.2) hs]

theorem UpCore.congr {s s' : VmState} (hh : s'.heap = s.heap) (ho : s'.openUpvalues = s.openUpvalues)
    (hc : UpCore s) : UpCore s' := by
  constructor
  · rw [hh]; exact hc.fresh
  · rw [hh, ho]; exact hc.open_
  · rw [hh, ho]; exact hc.sorted
  · rw [hh]; exact hc.closures

theorem UpBound.congr {s s' : VmState} (hh : s'.heap = s.heap) (ho : s'.openUpvalues = s.openUpvalues)
    (hk : s.stack.count ≤ s'.stack.count) (hb : UpBound s) : UpBound s' := by
  intro a ha i hi
  rw [ho] at ha; rw [hh] at hi
  exact Nat.lt_of_lt_of_le (hb a ha i hi) hk

/-! ## `closeUpvalues` as a pure function -/

def below (h : Heap) (top : Nat) (a : Nat) : Bool :=
  match upvalueSlot h a with
  | some i => decide (i < top)
  | none => false

theorem closeGo_nil (top : Nat) (s : VmState) (h : Heap) : closeUpvalues.go top s [] h = ([], h) := by
  unfold closeUpvalues.go; rfl

theorem closeGo_cons (top : Nat) (s : VmState) (a : Nat) (rest : List Nat) (h : Heap) (i : Nat)
    (hi : upvalueSlot h a = some i) :
    closeUpvalues.go top s (a :: rest) h =
      if i < top then (a :: rest, h)
      else closeUpvalues.go top s rest (h.set a (.upvalue (.closed (s.stack.data.getD i .nil)))) := by
  rw [closeUpvalues.go]
  simp only [hi]

theorem closeGo_spec (top : Nat) (s : VmState) : ∀ (l : List Nat) (h : Heap),
    (∀ a ∈ l, ∃ i, upvalueSlot h a = some i) → l.Pairwise (SlotGt h) →
    (closeUpvalues.go top s l h).1 = l.filter (below h top) ∧
    (∀ b ∈ l, ∀ i, upvalueSlot h b = some i → top ≤ i →
      (closeUpvalues.go top s l h).2.get b = some (.upvalue (.closed (s.stack.data.getD i .nil)))) ∧
    (∀ b, (b ∉ l ∨ below h top b = true) → (closeUpvalues.go top s l h).2.get b = h.get b) := by
  intro l
  induction l with
  | nil =>
    intro h _ _
    rw [closeGo_nil]
    exact ⟨rfl, fun b hb => absurd hb List.not_mem_nil, fun _ _ => rfl⟩
  | cons a rest ih =>
    intro h hopen hsorted
    obtain ⟨i, hi⟩ := hopen a List.mem_cons_self
    rw [List.pairwise_cons] at hsorted
    rw [closeGo_cons top s a rest h i hi]
    have hrest : ∀ b ∈ rest, ∃ j, upvalueSlot h b = some j ∧ j < i := by
      intro b hb
      obtain ⟨j, hj⟩ := hopen b (List.mem_cons_of_mem _ hb)
      exact ⟨j, hj, hsorted.1 b hb i j hi hj⟩
    by_cases hlt : i < top
    · rw [if_pos hlt]
      have hbelow : ∀ b ∈ a :: rest, below h top b = true := by
        intro b hb
        rcases List.mem_cons.mp hb with rfl | hb
        · simp [below, hi, hlt]
        · obtain ⟨j, hj, hji⟩ := hrest b hb
          simp only [below, hj, decide_eq_true_eq]; omega
      refine ⟨(List.filter_eq_self.mpr hbelow).symm, ?_, fun _ _ => rfl⟩
      intro b hb j hj hle
      have := hbelow b hb
      simp only [below, hj, decide_eq_true_eq] at this
      omega
    · rw [if_neg hlt]
      have hga : h.get a = some (.upvalue (.stack i)) := upvalueSlot_eq_some.mp hi
      have hne : ∀ b ∈ rest, b ≠ a := by
        intro b hb hba
        obtain ⟨j, hj, hji⟩ := hrest b hb
        rw [hba, hi] at hj
        cases hj; omega
      generalize hh' : h.set a (.upvalue (.closed (s.stack.data.getD i .nil))) = h'
      have hslot' : ∀ b, b ≠ a → upvalueSlot h' b = upvalueSlot h b := by
        intro b hb; subst hh'; exact upvalueSlot_congr (get_set_ne h a b _ hb)
      have hbel' : ∀ b, b ≠ a → below h' top b = below h top b := by
        intro b hb; unfold below; rw [hslot' b hb]
      have hopen' : ∀ b ∈ rest, ∃ j, upvalueSlot h' b = some j := by
        intro b hb
        obtain ⟨j, hj, _⟩ := hrest b hb
        exact ⟨j, by rw [hslot' b (hne b hb)]; exact hj⟩
      have hsorted' : rest.Pairwise (SlotGt h') := by
        refine List.Pairwise.imp_of_mem ?_ hsorted.2
        intro x y hx hy hxy i' j' hi' hj'
        rw [hslot' x (hne x hx)] at hi'
        rw [hslot' y (hne y hy)] at hj'
        exact hxy i' j' hi' hj'
      obtain ⟨ih1, ih2, ih3⟩ := ih h' hopen' hsorted'
      have hbela : below h top a = false := by simp [below, hi, hlt]
      refine ⟨?_, ?_, ?_⟩
      · rw [ih1, List.filter_cons, hbela]
        simp only [Bool.false_eq_true, if_false]
        exact List.filter_congr (fun b hb => hbel' b (hne b hb))
      · intro b hb j hj hle
        rcases List.mem_cons.mp hb with rfl | hb
        · rw [hi] at hj; cases hj
          rw [ih3 b (Or.inl (fun hm => hne b hm rfl))]
          subst hh'; exact get_set_self h b _ _ hga
        · exact ih2 b hb j (by rw [hslot' b (hne b hb)]; exact hj) hle
      · intro b hb
        have hba : b ≠ a := by
          rcases hb with hb | hb
          · intro h1; exact hb (h1 ▸ List.mem_cons_self)
          · intro h1; rw [h1, hbela] at hb; cases hb
        have : b ∉ rest ∨ below h' top b = true := by
          rcases hb with hb | hb
          · exact Or.inl (fun hm => hb (List.mem_cons_of_mem _ hm))
          · exact Or.inr (by rw [hbel' b hba]; exact hb)
        rw [ih3 b this]
        subst hh'; exact get_set_ne h a b _ hba

theorem closeGo_fresh (top : Nat) (s : VmState) (l : List Nat) (h : Heap) (hf : FreshNext h) :
    FreshNext (closeUpvalues.go top s l h).2 :=
  closeGo_pres (R := fun h h' => FreshNext h → FreshNext h') (fun _ => id) (fun h1 h2 => h2 ∘ h1)
    (fun h a _ _ _ => set_fresh h a _) top s l h hf

section close
variable {s : VmState} (hc : UpCore s) (top : Nat)
include hc

theorem closeState_open : (closeState top s).openUpvalues = s.openUpvalues.filter (below s.heap top) :=
  (closeGo_spec top s s.openUpvalues s.heap hc.open_ hc.sorted).1

theorem closeState_closed {b i : Nat} (hb : b ∈ s.openUpvalues) (hi : upvalueSlot s.heap b = some i)
    (hle : top ≤ i) :
    (closeState top s).heap.get b = some (.upvalue (.closed (s.stack.data.getD i .nil))) :=
  (closeGo_spec top s s.openUpvalues s.heap hc.open_ hc.sorted).2.1 b hb i hi hle

theorem closeState_other {b : Nat} (hb : b ∉ s.openUpvalues ∨ below s.heap top b = true) :
    (closeState top s).heap.get b = s.heap.get b :=
  (closeGo_spec top s s.openUpvalues s.heap hc.open_ hc.sorted).2.2 b hb

theorem closeState_isUp {u : Nat} (hu : IsUp s.heap u) : IsUp (closeState top s).heap u := by
  by_cases hm : u ∈ s.openUpvalues
  · obtain ⟨i, hi⟩ := hc.open_ u hm
    by_cases hle : top ≤ i
    · exact ⟨_, closeState_closed hc top hm hi hle⟩
    · obtain ⟨loc, hl⟩ := hu
      exact ⟨loc, by rw [closeState_other hc top (Or.inr (by simp only [below, hi, decide_eq_true_eq]; omega))]; exact hl⟩
  · obtain ⟨loc, hl⟩ := hu
    exact ⟨loc, by rw [closeState_other hc top (Or.inl hm)]; exact hl⟩

theorem closeState_notUp {b : Nat} (hb : ¬ IsUp s.heap b) : (closeState top s).heap.get b = s.heap.get b := by
  apply closeState_other hc top
  by_cases hm : b ∈ s.openUpvalues
  · obtain ⟨i, hi⟩ := hc.open_ b hm
    exact absurd (isUp_of_slot hi) hb
  · exact Or.inl hm

theorem closeState_core : UpCore (closeState top s) := by
  have hsurv : ∀ a ∈ (closeState top s).openUpvalues,
      a ∈ s.openUpvalues ∧ upvalueSlot (closeState top s).heap a = upvalueSlot s.heap a := by
    intro a ha
    rw [closeState_open hc top, List.mem_filter] at ha
    exact ⟨ha.1, upvalueSlot_congr (closeState_other hc top (Or.inr ha.2))⟩
  constructor
  · exact closeGo_fresh top s _ _ hc.fresh
  · intro a ha
    obtain ⟨hm, hs⟩ := hsurv a ha
    rw [hs]; exact hc.open_ a hm
  · have h1 : (closeState top s).openUpvalues.Pairwise (SlotGt s.heap) := by
      rw [closeState_open hc top]
      exact hc.sorted.sublist List.filter_sublist
    refine List.Pairwise.imp_of_mem ?_ h1
    intro x y hx hy hxy i j hi hj
    rw [(hsurv x hx).2] at hi
    rw [(hsurv y hy).2] at hj
    exact hxy i j hi hj
  · intro c hd ar ups hg u hu
    have : s.heap.get c = some (.closure hd ar ups) := by
      by_cases hup : IsUp s.heap c
      · obtain ⟨loc, hl⟩ := closeState_isUp hc top hup
        rw [hl] at hg; cases hg
      · rw [← closeState_notUp hc top hup]; exact hg
    exact closeState_isUp hc top (hc.closures c hd ar ups this u hu)

theorem closeState_below {a i : Nat} (ha : a ∈ (closeState top s).openUpvalues)
    (hi : upvalueSlot (closeState top s).heap a = some i) : i < top := by
  rw [closeState_open hc top, List.mem_filter] at ha
  rw [upvalueSlot_congr (closeState_other hc top (Or.inr ha.2))] at hi
  have := ha.2
  simp only [below, hi, decide_eq_true_eq] at this
  exact this

end close

/-! ## transferring the invariant to a modified heap -/

theorem UpCore.transfer {s s' : VmState} (hc : UpCore s) (hf : FreshNext s'.heap)
    (ho : s'.openUpvalues = s.openUpvalues)
    (hslot : ∀ a ∈ s.openUpvalues, s'.heap.get a = s.heap.get a)
    (hisup : ∀ b, IsUp s.heap b → IsUp s'.heap b)
    (hcl : ∀ c hd ar ups, s'.heap.get c = some (.closure hd ar ups) →
      s.heap.get c = some (.closure hd ar ups) ∨ ∀ u ∈ ups, IsUp s'.heap u) : UpCore s' := by
  constructor
  · exact hf
  · intro a ha
    rw [ho] at ha
    rw [upvalueSlot_congr (hslot a ha)]
    exact hc.open_ a ha
  · rw [ho]
    refine List.Pairwise.imp_of_mem ?_ hc.sorted
    intro x y hx hy hxy i j hi hj
    rw [upvalueSlot_congr (hslot x hx)] at hi
    rw [upvalueSlot_congr (hslot y hy)] at hj
    exact hxy i j hi hj
  · intro c hd ar ups hg u hu
    rcases hcl c hd ar ups hg with h1 | h1
    · exact hisup u (hc.closures c hd ar ups h1 u hu)
    · exact h1 u hu

/-- objects whose creation cannot break the invariant: everything except a closure that already
    has upvalues -/
def noUps : Obj → Bool
  | .closure _ _ (_ :: _) => false
  | _ => true

theorem withObject_core {s : VmState} (hc : UpCore s) (o : Obj) (ho : noUps o = true) :
    UpCore (withObject o s) := by
  refine hc.transfer (withObject_fresh o s hc.fresh) rfl ?_ ?_ ?_
  · intro a ha
    obtain ⟨i, hi⟩ := hc.open_ a ha
    have := upvalueSlot_eq_some.mp hi
    rw [get_withObject_of_some o s this, this]
  · rintro b ⟨loc, hl⟩
    exact ⟨loc, get_withObject_of_some o s hl⟩
  · intro c hd ar ups hg
    rw [get_withObject_of_fresh _ _ hc.fresh] at hg
    split at hg
    · cases hg
      cases ups with
      | nil => exact Or.inr (fun u hu => absurd hu List.not_mem_nil)
      | cons _ _ => cases ho
    · exact Or.inl hg

theorem set_core {s : VmState} (hc : UpCore s) (a : Nat) (o : Obj)
    (hold : ∀ old, s.heap.get a = some old →
      (∀ i, old ≠ .upvalue (.stack i)) ∧ (∀ loc, old = .upvalue loc → ∃ loc', o = .upvalue loc') ∧
      ∀ hd ar ups, o = .closure hd ar ups → ∀ u ∈ ups, IsUp s.heap u) :
    UpCore { s with heap := s.heap.set a o } := by
  have hisup : ∀ b, IsUp s.heap b → IsUp (s.heap.set a o) b := by
    rintro b ⟨loc, hl⟩
    by_cases hba : b = a
    · subst hba
      obtain ⟨loc', rfl⟩ := (hold _ hl).2.1 loc rfl
      exact ⟨loc', get_set_self _ _ _ _ hl⟩
    · exact ⟨loc, by rw [get_set_ne _ _ _ _ hba]; exact hl⟩
  refine hc.transfer (set_fresh _ _ _ hc.fresh) rfl ?_ hisup ?_
  · intro b hb
    obtain ⟨i, hi⟩ := hc.open_ b hb
    have hg := upvalueSlot_eq_some.mp hi
    show (s.heap.set a o).get b = _
    rw [get_set_ne]
    rintro rfl
    exact (hold _ hg).1 i rfl
  · intro c hd ar ups hg
    change (s.heap.set a o).get c = _ at hg
    rw [get_set] at hg
    split at hg
    · next hca =>
      subst hca
      cases ho : s.heap.get c with
      | none => rw [ho] at hg; cases hg
      | some old =>
        rw [ho] at hg
        cases hg
        exact .inr fun u hu => hisup u ((hold old ho).2.2 hd ar ups rfl u hu)
    · exact .inl hg

theorem set_table_core {s : VmState} (hc : UpCore s) (a : Nat) (cap : Nat) (es : List (Val × Val))
    (ha : s.heap.get a = none ∨ ∃ cap' es', s.heap.get a = some (.table cap' es')) :
    UpCore { s with heap := s.heap.set a (.table cap es) } :=
  set_core hc a _ fun old ho => by
    rcases ha with ha | ⟨c, e, ha⟩ <;> rw [ha] at ho <;> cases ho
    exact ⟨fun _ h => (nomatch h), fun _ h => (nomatch h), fun _ _ _ h => (nomatch h)⟩

theorem set_closure_core {s : VmState} (hc : UpCore s) (c : Nat) (hd ar : UInt32) (ups : List Nat) (u : Nat)
    (hcl : s.heap.get c = none ∨ s.heap.get c = some (.closure hd ar ups)) (hu : IsUp s.heap u) :
    UpCore { s with heap := s.heap.set c (.closure hd ar (ups ++ [u])) } :=
  set_core hc c _ fun old ho => by
    rcases hcl with h1 | h1 <;> rw [h1] at ho <;> cases ho
    refine ⟨fun _ h => (nomatch h), fun _ h => (nomatch h), fun _ _ _ h x hx => ?_⟩
    cases h
    rcases List.mem_append.mp hx with hx | hx
    · exact hc.closures _ _ _ _ h1 x hx
    · rw [List.mem_singleton.mp hx]; exact hu

theorem set_closed_core {s : VmState} (hc : UpCore s) (u : Nat) (v w : Val)
    (hu : s.heap.get u = some (.upvalue (.closed w))) :
    UpCore { s with heap := s.heap.set u (.upvalue (.closed v)) } :=
  set_core hc u _ fun old ho => by
    rw [hu] at ho; cases ho
    exact ⟨fun _ h => (nomatch h), fun _ _ => ⟨_, rfl⟩, fun _ _ _ h => (nomatch h)⟩

/-! ## the collector and the allocator -/

theorem gc_core {s : VmState} (hc : UpCore s) : UpCore (gc s) := by
  have hkeep : ∀ a ∈ s.openUpvalues, (gc s).heap.get a = s.heap.get a :=
    fun a ha => gc_preserves_reachable s a (Reach.root (mem_rootAddrs_open ha))
  constructor
  · exact gc_fresh s hc.fresh
  · intro a ha
    rw [upvalueSlot_congr (hkeep a ha)]
    exact hc.open_ a ha
  · show s.openUpvalues.Pairwise (SlotGt (gc s).heap)
    refine List.Pairwise.imp_of_mem ?_ hc.sorted
    intro x y hx hy hxy i j hi hj
    rw [upvalueSlot_congr (hkeep x hx)] at hi
    rw [upvalueSlot_congr (hkeep y hy)] at hj
    exact hxy i j hi hj
  · intro c hd ar ups hg u hu
    obtain ⟨hg', hr⟩ := (gc_exact_get s c _).mp hg
    have hru : Reach s.heap (rootAddrs s) u :=
      Reach.step hr hg' (by simp only [Heap.children, List.mem_map]; exact ⟨u, hu, rfl⟩)
    obtain ⟨loc, hl⟩ := hc.closures c hd ar ups hg' u hu
    exact ⟨loc, by rw [gc_preserves_reachable s u hru]; exact hl⟩

/-- what an allocation may do to the machine: a collection (objects disappear, roots stay) -/
structure AllocRel (s s1 : VmState) : Prop where
  stack_eq : s1.stack = s.stack
  frames_eq : s1.frames = s.frames
  open_eq : s1.openUpvalues = s.openUpvalues
  guards_eq : s1.guards = s.guards
  next_eq : s1.heap.next = s.heap.next
  get_sub : ∀ a, s1.heap.get a = s.heap.get a ∨ s1.heap.get a = none
  root_keep : ∀ a ∈ rootAddrs s, s1.heap.get a = s.heap.get a

theorem allocPure_rel (c : Nat) (s : VmState) : AllocRel s (allocPure c s).2 :=
  (allocPure_effect c s).elim
    (fun e => ⟨e.stack, e.frames, e.openUpvalues, e.guards, by rw [e.heap],
      fun a => .inl (by rw [e.heap]), fun a _ => by rw [e.heap]⟩)
    (fun e => ⟨e.stack, e.frames, e.openUpvalues, e.guards, by rw [e.heap]; rfl,
      fun a => by rw [e.heap, gc_get]; split <;> simp,
      fun a ha => by rw [e.heap]; exact gc_preserves_reachable s a (Reach.root ha)⟩)

theorem allocPure_core (c : Nat) {s : VmState} (hc : UpCore s) : UpCore (allocPure c s).2 :=
  (allocPure_effect c s).elim (fun e => hc.congr e.heap e.openUpvalues)
    (fun e => (gc_core hc).congr e.heap e.openUpvalues)

theorem alloc1Pure_ok {c1 : Nat} {o : Obj} {s s1 : VmState} {u : Nat}
    (h : alloc1Pure c1 o s = (.ok u, s1)) :
    ∃ s0, AllocRel s s0 ∧ (UpCore s → UpCore s0) ∧ u = s0.heap.next ∧ s1 = withObject o s0 := by
  unfold alloc1Pure at h
  have hrel := allocPure_rel c1 s
  have hcore := fun hc => allocPure_core c1 (s := s) hc
  generalize allocPure c1 s = q at h hrel hcore
  rcases q with ⟨r, s0⟩
  cases r with
  | error e => cases h
  | ok x =>
    simp only [Prod.mk.injEq, Except.ok.injEq] at h
    exact ⟨s0, hrel, hcore, h.1.symm, h.2.symm⟩

theorem core_insertEffect {a : Nat} {s s' : VmState} (h : InsertEffect a s s') (hc : UpCore s) :
    UpCore s' := by
  cases h with
  | none => exact hc
  | rows es' hg => exact set_table_core hc a _ _ (Or.inr ⟨_, _, hg⟩)
  | @oom cap _ _ _ hg ha =>
    have := allocPure_core (Heap.tableCharge (HMap.growCap cap)) hc
    rwa [ha] at this
  | @grow cap es s1 es' hg ha =>
    have hrel := allocPure_rel (Heap.tableCharge (HMap.growCap cap)) s
    have hcore := allocPure_core (Heap.tableCharge (HMap.growCap cap)) hc
    rw [ha] at hcore hrel
    refine set_table_core (s := refund (Heap.tableCharge cap) s1) (UpCore.congr (s := s1) rfl rfl hcore)
      a _ _ ?_
    exact (hrel.get_sub a).elim (fun h3 => .inr ⟨_, _, h3.trans hg⟩) .inl

/-! ## the `Pres` logic for `UpCore` -/

def CoreR (s s' : VmState) : Prop := UpCore s → UpCore s'

instance : StateOrder CoreR where
  refl _ h := h
  trans h1 h2 h := h2 (h1 h)

theorem coreR_same {s s' : VmState} (hh : s'.heap = s.heap) (ho : s'.openUpvalues = s.openUpvalues) :
    CoreR s s' := fun hc => hc.congr hh ho

instance : StateFrame CoreR where
  stack _ _ := coreR_same rfl rfl
  globals _ _ := coreR_same rfl rfl
  guards _ _ := coreR_same rfl rfl
  hostLog _ _ := coreR_same rfl rfl

theorem corePres_keyOf (v : Val) : Pres CoreR (keyOf v) := pres_of_prim _

theorem corePres_allocBytes (c : Nat) : Pres CoreR (allocBytes c) :=
  Pres.intro (fun s hc => by rw [go_allocBytes]; exact allocPure_core c hc)

theorem corePres_newObject (o : Obj) (ho : noUps o = true) : Pres CoreR (newObject o) :=
  Pres.intro (fun _ hc => withObject_core hc o ho)

theorem corePres_initSimple (o : Obj) (ho : noUps o = true) : Pres CoreR (initSimple o) := by
  unfold initSimple
  exact pres_bind (corePres_allocBytes _) (fun _ => corePres_newObject o ho)

theorem corePres_writeUpvalueLoc (u : Nat) (v : Val) : Pres CoreR (writeUpvalueLoc u v) := by
  refine Pres.intro (fun s hc => ?_)
  unfold writeUpvalueLoc
  simp only [go_bind, go_get]
  split
  · exact UpCore.congr (s := s) rfl rfl hc
  · next w hg => exact set_closed_core hc u v w hg
  · exact hc

/-! ## `RegisterUpvalue` keeps `UpCore` -/

theorem insert_core {s : VmState} (hc : UpCore s) {u slot : Nat} (hu : upvalueSlot s.heap u = some slot)
    (hnone : ∀ a ∈ s.openUpvalues, upvalueSlot s.heap a ≠ some slot) :
    UpCore { s with openUpvalues := (splitAt s.heap slot s.openUpvalues).1 ++ [u] ++
      (splitAt s.heap slot s.openUpvalues).2 } := by
  unfold splitAt
  simp only [List.partition_eq_filter_filter]
  constructor
  · exact hc.fresh
  · intro a ha
    simp only [List.mem_append, List.mem_filter, List.mem_singleton] at ha
    rcases ha with (⟨ha, _⟩ | rfl) | ⟨ha, _⟩
    · exact hc.open_ a ha
    · exact ⟨slot, hu⟩
    · exact hc.open_ a ha
  · show List.Pairwise (SlotGt s.heap) _
    rw [List.pairwise_append, List.pairwise_append]
    refine ⟨⟨hc.sorted.sublist List.filter_sublist, List.pairwise_singleton _ _, ?_⟩,
      hc.sorted.sublist List.filter_sublist, ?_⟩
    · intro a ha b hb i j hi hj
      rw [List.mem_singleton] at hb; subst hb
      rw [hu] at hj; cases hj
      have := (List.mem_filter.mp ha).2
      simp only [hi, gt_iff_lt, decide_eq_true_eq] at this
      exact this
    · intro a ha b hb i j hi hj
      have hb2 : j ≤ slot := by
        have := (List.mem_filter.mp hb).2
        simpa [hj] using this
      have hjne : j ≠ slot := fun h => hnone b (List.mem_filter.mp hb).1 (h ▸ hj)
      rcases List.mem_append.mp ha with ha | ha
      · have := (List.mem_filter.mp ha).2
        simp only [hi, gt_iff_lt, decide_eq_true_eq] at this
        omega
      · rw [List.mem_singleton] at ha; subst ha
        rw [hu] at hi; cases hi
        omega
  · exact hc.closures

theorem captured_core {s s0 : VmState} (hc : UpCore s) (hrel : AllocRel s s0) (hc0 : UpCore s0)
    {c : Nat} {hd ar : UInt32} {ups : List Nat} {slot : Nat}
    (hg : s.heap.get c = some (.closure hd ar ups))
    (hnone : ∀ a ∈ s.openUpvalues, upvalueSlot s.heap a ≠ some slot) :
    UpCore (captured s0 c hd ar ups slot) := by
  have hc1 : UpCore (withObject (.upvalue (.stack slot)) s0) := withObject_core hc0 _ rfl
  have hu : (withObject (.upvalue (.stack slot)) s0).heap.get s0.heap.next = some (.upvalue (.stack slot)) := by
    rw [get_withObject_of_fresh _ _ hc0.fresh, if_pos rfl]
  have hnone1 : ∀ a ∈ (withObject (.upvalue (.stack slot)) s0).openUpvalues,
      upvalueSlot (withObject (.upvalue (.stack slot)) s0).heap a ≠ some slot := by
    intro a ha
    have ha' : a ∈ s.openUpvalues := by
      have : (withObject (.upvalue (.stack slot)) s0).openUpvalues = s0.openUpvalues := rfl
      rw [this, hrel.open_eq] at ha; exact ha
    obtain ⟨i, hi⟩ := hc.open_ a ha'
    have h1 := upvalueSlot_eq_some.mp hi
    have h2 : s0.heap.get a = some (.upvalue (.stack i)) := by
      rw [hrel.root_keep a (mem_rootAddrs_open ha')]; exact h1
    rw [upvalueSlot_eq_some.mpr (get_withObject_of_some _ s0 h2)]
    rw [← hi]; exact hnone a ha'
  have h2 := insert_core hc1 (upvalueSlot_eq_some.mpr hu) hnone1
  have hcne : c ≠ s0.heap.next := by
    have := get_lt_next hc.fresh hg
    rw [← hrel.next_eq] at this
    exact Nat.ne_of_lt this
  have hgc : (withObject (.upvalue (.stack slot)) s0).heap.get c = none ∨
      (withObject (.upvalue (.stack slot)) s0).heap.get c = some (.closure hd ar ups) := by
    rw [get_withObject_of_fresh _ _ hc0.fresh, if_neg hcne]
    rcases hrel.get_sub c with h3 | h3
    · exact Or.inr (h3.trans hg)
    · exact Or.inl h3
  have h3 := set_closure_core h2 c hd ar ups s0.heap.next hgc ⟨_, hu⟩
  exact ⟨h3.fresh, h3.open_, h3.sorted, h3.closures⟩

theorem coreR_regEffect {p s' : VmState} (h : RegEffect p s') : CoreR p s' := by
  intro hc
  cases h with
  | none => exact hc
  | oom ha => have := allocPure_core Heap.objCharge hc; rwa [ha] at this
  | share hcl hu =>
    exact set_closure_core hc _ _ _ _ _ (Or.inr hcl)
      (hu.elim (fun ⟨_, hs⟩ => ⟨_, (upvalueFor_some hs).2⟩)
        (fun ⟨o, _, _, oups, ho, hm⟩ => hc.closures o _ _ oups ho _ hm))
  | fresh hcl hnone ha =>
    have h1 := allocPure_rel Heap.objCharge p
    have h2 := allocPure_core Heap.objCharge hc
    rw [ha] at h1 h2
    exact captured_core hc h1 h2 hcl (upvalueFor_none hnone)

theorem corePres_registerUpvalue (index : Nat) (isLocal : Bool) (ip : Nat) :
    Pres CoreR (Instr.registerUpvalue index isLocal ip) :=
  pres_registerUpvalue (fun _ _ => coreR_regEffect) index isLocal ip

/-! ## every instruction, and every run, keeps `UpCore` -/

theorem noUps_of_children {o : Obj} (h : Heap.children o = []) : noUps o = true := by
  cases o with
  | closure hd ar ups => cases ups with
    | nil => rfl
    | cons u us => cases h
  | _ => rfl

macro_rules | `(tactic| pres_side) => `(tactic| exact coreR_same rfl rfl)
macro_rules | `(tactic| pres_prim) => `(tactic| with_reducible first
  | apply corePres_allocBytes | exact corePres_newObject _ rfl)

instance : RunFrame CoreR where
  initTable := by unfold initTable deallocBytes; pres_auto
  initString _ := by unfold initString deallocBytes; pres_auto
  initSimple o _ h := corePres_initSimple o (noUps_of_children h)
  tableInsert s a k v _ hc := by
    rw [go_tableInsert]; exact core_insertEffect (tableInsertPure_effect a k v s) hc
  setTable _ a cap' _ es' hg hc := set_table_core hc a cap' es' (Or.inr ⟨_, _, hg⟩)
  closeUpvalues top := Pres.intro fun s hc => by rw [go_closeUpvalues]; exact closeState_core hc top
  writeUpvalueLoc := corePres_writeUpvalueLoc
  registerUpvalue := corePres_registerUpvalue
  frames _ _ := coreR_same rfl rfl
  tick _ _ := coreR_same rfl rfl
  timeout _ := coreR_same rfl rfl

theorem exec_core (p : Prog) (gas : Nat) (t : Task) (s : VmState) : CoreR s (exec p gas t s).1 :=
  exec_pres p gas t s

theorem run_core (p : Prog) (n : Nat) (s : VmState) (hc : UpCore s) : UpCore (run p n s).1 :=
  run_pres (R := CoreR) p n s (coreR_same rfl rfl) hc

theorem empty_core {s : VmState} (hh : s.heap.objs = []) (ho : s.openUpvalues = []) : UpCore s := by
  have hget : ∀ a, s.heap.get a = none := by intro a; unfold Heap.get; rw [hh]; rfl
  refine ⟨?_, ?_, ?_, ?_⟩
  · intro q hq; rw [hh] at hq; cases hq
  · intro a ha; rw [ho] at ha; cases ha
  · rw [ho]; exact List.Pairwise.nil
  · intro c hd ar ups hg; rw [hget] at hg; cases hg

theorem fresh_core (c : Config) : UpCore (VmState.fresh c) := empty_core rfl rfl

theorem fresh_inv (c : Config) : UpInv (VmState.fresh c) :=
  ⟨fresh_core c, fun _ h => absurd h List.not_mem_nil⟩

theorem clear_inv (s : VmState) : UpInv (clear s) :=
  ⟨empty_core rfl rfl, fun _ h => absurd h List.not_mem_nil⟩

end Cao.Upv
