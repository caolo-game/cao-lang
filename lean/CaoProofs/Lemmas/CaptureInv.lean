import CaoProofs.Lemmas.NoPanic
import CaoProofs.Props.C02
/-!
# The capture invariant (C04c): the triple `St`, the invariant `InvX`, `Harmless`, `CapStatic`

What it is for: the capture assertions of `RegisterUpvalue` are unreachable in region-respecting runs
(`run_no_capture_panic_of`, `Lemmas/CaptureExec.lean`).

`St P m Q E` is the triple `Ho` of `Lemmas/VmLogic.lean` for error classes that do not look at the state (`st_iff_ho`;
`Fr` of `NoPanic.lean` is `St` for assertions on the call stack, `fr_iff_st`). Its rules serve the few instructions
that move the invariant; whatever keeps it is a `Kp` (`Kp.st`, `st_inv_iff_kp`).

The dynamic invariant (`InvX`): every `fn` object enters a position of level 0, every closure object has at least as
many upvalues as the position its handle enters requires (`Complete`), and a list `W` of obligations
`(closure of a frame, level of the position it will continue at)` is satisfied and rooted in the call stack. Between a
`Closure` instruction and the end of its `CopyLast; RegisterUpvalue` pairs one closure object is exempt
(`InvX (some a)`); `InvX.top` keeps it somewhere on the live stack, that it is on top is the separate `TopIs`.

`Hl m`: `m` relates the state before to the state after by `Harmless` (the call stack and the closures rooted in it
are kept, no `fn`/closure object appears or changes) and raises calm errors; such an `m` keeps `InvX`. `CapStatic`:
what the bytecode must satisfy; `StepQ`: where one instruction may leave the invariant.
-/
namespace Cao.Vm

structure St {α : Type} (P : VmState → Prop) (m : M α) (Q : α → VmState → Prop)
    (E : ErrKind → Prop) : Prop where
  ok : ∀ s a s', P s → m.go s = (.ok a, s') → Q a s'
  err : ∀ s e s', P s → m.go s = (.error e, s') → E e

section rules
variable {α β : Type} {P : VmState → Prop} {Q : α → VmState → Prop} {E : ErrKind → Prop}

theorem st_iff_ho {m : M α} : St P m Q E ↔ Ho P m Q (fun e _ => E e) :=
  ⟨fun h => ⟨h.ok, h.err⟩, fun h => ⟨h.ok, h.err⟩⟩

theorem fr_iff_st {m : M α} {fs : List Frame} {Q : α → List Frame → Prop} :
    Fr m fs Q E ↔ St (fun s => s.frames = fs) m (fun a s => Q a s.frames) E :=
  fr_iff_ho.trans st_iff_ho.symm

theorem st_total {m : M α} {f : VmState → α} {g : VmState → VmState} (hm : ∀ s, m.go s = (.ok (f s), g s))
    (h : ∀ s, P s → Q (f s) (g s)) : St P m Q E :=
  st_iff_ho.2 (ho_iff.2 fun s hs => by rw [hm]; exact h s hs)

theorem st_pure {a : α} (h : ∀ s, P s → Q a s) : St P (pure a : M α) Q E := st_iff_ho.2 (ho_pure h)

theorem st_throwE {e : ErrKind} (h : E e) : St P (throwE e : M α) Q E := st_iff_ho.2 (ho_throwE fun _ _ => h)

theorem st_throw {e : ErrKind} (h : E e) : St P (throw e : M α) Q E := st_throwE h

theorem st_conseq {m : M α} {P' : VmState → Prop} {Q' : α → VmState → Prop} {E' : ErrKind → Prop}
    (hm : St P' m Q' E') (hp : ∀ s, P s → P' s) (hq : ∀ a s, Q' a s → Q a s) (he : ∀ e, E' e → E e) :
    St P m Q E :=
  st_iff_ho.2 ((st_iff_ho.1 hm).conseq hp hq fun e _ => he e)

theorem st_of_eq {m : M α} {P' : VmState → Prop} {x : VmState} (hx : P' x) (hm : St P' m Q E) :
    St (fun s => s = x) m Q E :=
  st_conseq hm (fun _ h => h ▸ hx) (fun _ _ h => h) (fun _ h => h)

theorem st_of_forall {m : M α} (h : ∀ s, P s → St (fun s' => s' = s) m Q E) : St P m Q E :=
  st_iff_ho.2 (Ho.of_at fun s hs => st_iff_ho.1 (h s hs))

theorem st_pre_pure {φ : Prop} {m : M α} (h : φ → St P m Q E) : St (fun s => φ ∧ P s) m Q E :=
  ⟨fun s a s' hs hg => (h hs.1).ok s a s' hs.2 hg, fun s e s' hs hg => (h hs.1).err s e s' hs.2 hg⟩

theorem st_bind {m : M α} {f : α → M β} {J : α → VmState → Prop} {Q : β → VmState → Prop}
    (hm : St P m J E) (hf : ∀ a, St (J a) (f a) Q E) : St P (m >>= f) Q E :=
  st_iff_ho.2 ((st_iff_ho.1 hm).bind fun a => st_iff_ho.1 (hf a))

theorem st_get_bind {f : VmState → M β} {Q : β → VmState → Prop}
    (hf : ∀ s0, P s0 → St (fun s => s = s0) (f s0) Q E) : St P (get >>= f) Q E :=
  st_iff_ho.2 (Ho.of_at fun s hs => ho_go_bind rfl (st_iff_ho.1 (hf s hs)))

theorem st_set_bind {x : VmState} {f : PUnit → M β} {Q : β → VmState → Prop}
    (hf : St (fun s => s = x) (f ⟨⟩) Q E) : St P (set x >>= f) Q E :=
  st_iff_ho.2 (Ho.of_at fun _ _ => ho_go_bind (m := set x) rfl (st_iff_ho.1 hf))

theorem st_throwE_bind {e : ErrKind} {f : α → M β} {Q : β → VmState → Prop} (he : E e) :
    St P ((throwE e : M α) >>= f) Q E :=
  st_bind (J := fun _ _ => False) (st_throwE he) (fun _ => ⟨fun _ _ _ h => h.elim, fun _ _ _ h => h.elim⟩)

theorem st_guard_bind {c : Prop} [Decidable c] {e : ErrKind} {f : PUnit → M β} {Q : β → VmState → Prop}
    (he : c → E e) (hf : ¬ c → St P (f ⟨⟩) Q E) :
    St P ((if c then throwE e else Pure.pure PUnit.unit) >>= f) Q E := by
  by_cases hc : c
  · rw [if_pos hc]; exact st_throwE_bind (he hc)
  · rw [if_neg hc]; exact st_bind (J := fun _ => P) (st_pure (fun _ h => h)) (fun _ => hf hc)

end rules

/-! ## the error class: anything but the two capture assertions (below `TaskFailure` wrappers) -/

def NoCap (e : ErrKind) : Prop :=
  rootCause e ≠ .panic "closure not found for capture" ∧ rootCause e ≠ .panic "upvalue index out of bounds"

instance : ErrClass NoCap where
  calm h := ⟨h _, h _⟩
  wrap h := h

theorem noCap_plain {e : ErrKind} (h : e.isPlain = true) : NoCap e := ErrClass.calm (calm_of_plain h)

theorem noCap_gas : NoCap (.panic "gas exhausted") := by
  constructor <;> (intro h; simp only [rootCause, ErrKind.panic.injEq] at h; exact absurd h (by decide))

section invrules
variable {α β : Type} {K : VmState → Prop} {E : ErrKind → Prop}

def Keeps (K : VmState → Prop) {α : Type} (m : M α) : Prop := St K m (fun _ => K) Calm

theorem st_get' {P : VmState → Prop} {Q : VmState → VmState → Prop} (h : ∀ s, P s → Q s s) :
    St P (get : M VmState) Q E :=
  st_iff_ho.2 (ho_get h)

theorem st_set_bind' {P P' : VmState → Prop} {x : VmState} {f : PUnit → M β} {Q : β → VmState → Prop}
    (hx : P' x) (hf : St P' (f ⟨⟩) Q E) : St P (set x >>= f) Q E :=
  st_set_bind (st_of_eq hx hf)

theorem st_modify_bind' {P P' : VmState → Prop} {g : VmState → VmState} {f : PUnit → M β}
    {Q : β → VmState → Prop} (hg : ∀ s, P s → P' (g s)) (hf : St P' (f ⟨⟩) Q E) :
    St P (modify g >>= f) Q E :=
  st_bind (J := fun _ => P') (st_iff_ho.2 (ho_modify hg)) (fun _ => hf)

theorem Kp.st {X : VmState → Prop} {φ : α → Prop} {m : M α} (h : Kp K X E φ m) :
    St K m (fun a s => K s ∧ φ a) E :=
  ⟨h.ok, fun s e s' hs hg => (h.err s e s' hs hg).1⟩

theorem st_inv_iff_kp {m : M α} : St K m (fun _ => K) E ↔ Kp K (fun _ => True) E (fun _ => True) m :=
  ⟨fun h => ⟨fun s a s' hs hg => ⟨h.ok s a s' hs hg, trivial⟩, fun s e s' hs hg => ⟨h.err s e s' hs hg, trivial⟩⟩,
   fun h => st_conseq h.st (fun _ h => h) (fun _ _ h => h.1) (fun _ h => h)⟩

theorem keeps_iff_kp {m : M α} : Keeps K m ↔ Kp K (fun _ => True) Calm (fun _ => True) m := st_inv_iff_kp

end invrules

section inv
variable (p : Prog) (lvl : Nat → Nat)

/-- calling a `fn` object with handle `h` enters a position of level 0 -/
def FnSafe (h : UInt32) : Prop :=
  ∀ l, p.labels.find? (fun l => l.1 == h) = some l → lvl l.2 = 0

/-- a closure object with handle `h` and `n` upvalues has all the upvalues its body may ask for -/
def Complete (h : UInt32) (n : Nat) : Prop :=
  ∀ l, p.labels.find? (fun l => l.1 == h) = some l → lvl l.2 ≤ n

/-- the heap part; the closure at `x` (under construction) is exempt -/
structure HeapOkX (x : Option Nat) (hp : Heap) : Prop where
  fn : ∀ a h ar, hp.get a = some (.fn h ar) → FnSafe p lvl h
  clo : ∀ a h ar ups, hp.get a = some (.closure h ar ups) → x ≠ some a → Complete p lvl h ups.length

def Need (hp : Heap) (c n : Nat) : Prop := ∃ h ar ups, hp.get c = some (.closure h ar ups) ∧ n ≤ ups.length

/-- a frame with closure `clo` may continue at a position of level `n` -/
def FrameOk (hp : Heap) (n : Nat) (clo : Option Nat) : Prop :=
  n = 0 ∨ ∃ c, clo = some c ∧ Need hp c n

/-- the closures of the frames of a call stack -/
def fcs (fs : List Frame) : List Nat := fs.filterMap (·.closure)

/-- the invariant: heap part, the obligations `W`, rooted in the call stack `fs` -/
structure InvX (x : Option Nat) (W : List (Option Nat × Nat)) (fs : List Frame) (s : VmState) : Prop where
  heap : HeapOkX p lvl x s.heap
  obl : ∀ w ∈ W, FrameOk s.heap w.2 w.1
  rooted : ∀ w ∈ W, ∀ c, w.1 = some c → c ∈ fcs fs
  frames : s.frames = fs
  top : ∀ a, x = some a → Val.obj a ∈ s.stack.contents

variable {p lvl}

theorem InvX.congr {x : Option Nat} {W : List (Option Nat × Nat)} {fs : List Frame} {s s' : VmState}
    (h : InvX p lvl x W fs s) (hh : s'.heap = s.heap) (hf : s'.frames = s.frames)
    (ht : x = none ∨ s'.stack = s.stack) : InvX p lvl x W fs s' :=
  ⟨by rw [hh]; exact h.heap, by rw [hh]; exact h.obl, h.rooted, by rw [hf]; exact h.frames, by
    intro a ha
    rcases ht with ht | ht
    · rw [ht] at ha; cases ha
    · rw [ht]; exact h.top a ha⟩

end inv

open Cao.Gc Cao.C02

def isClo : Obj → Bool
  | .closure _ _ _ => true
  | _ => false

def isFC : Obj → Bool
  | .closure _ _ _ => true
  | .fn _ _ => true
  | _ => false

/-- the frames and the closures that are rooted in them are kept; no `fn`/closure object appears or
changes -/
structure Harmless (s s' : VmState) : Prop where
  frames : s'.frames = s.frames
  old : ∀ b o, s'.heap.get b = some o → isFC o = true → s.heap.get b = some o
  keep : ∀ c, c ∈ fcs s.frames → ∀ o, s.heap.get c = some o → isClo o = true → s'.heap.get c = some o

theorem Harmless.refl (s : VmState) : Harmless s s := ⟨rfl, fun _ _ h _ => h, fun _ _ _ h _ => h⟩

theorem Harmless.trans {a b c : VmState} (h1 : Harmless a b) (h2 : Harmless b c) : Harmless a c :=
  ⟨h2.frames.trans h1.frames,
   fun x o h hf => h1.old x o (h2.old x o h hf) hf,
   fun x hx o ho hc => h2.keep x (by rw [h1.frames]; exact hx) o (h1.keep x hx o ho hc) hc⟩

theorem Harmless.of_eq {s s' : VmState} (hh : s'.heap = s.heap) (hf : s'.frames = s.frames) :
    Harmless s s' :=
  ⟨hf, fun _ _ h _ => by rw [← hh]; exact h, fun _ _ _ h _ => by rw [hh]; exact h⟩

theorem mem_fcs_root {s : VmState} {c : Nat} (h : c ∈ fcs s.frames) : Reach s.heap (rootAddrs s) c :=
  Reach.root ((mem_rootAddrs s c).mpr (.inr (.inr (.inl h))))

theorem harmless_gc (s : VmState) : Harmless s (gc s) := by
  refine ⟨rfl, fun b o h _ => ?_, fun c hc o ho _ => ?_⟩
  · exact ((gc_exact_get s b o).1 h).1
  · rw [gc_preserves_reachable s c (mem_fcs_root hc)]; exact ho

theorem harmless_withObject (o : Obj) (s : VmState) (ho : isFC o = false) : Harmless s (withObject o s) := by
  refine ⟨rfl, fun b o' h hf => ?_, fun c _ o' ho' _ => get_withObject_of_some o s ho'⟩
  rw [get_withObject] at h
  cases hg : s.heap.get b with
  | some x => rw [hg] at h; exact h
  | none =>
    rw [hg] at h
    dsimp only at h
    split at h
    · cases h; rw [ho] at hf; cases hf
    · cases h

theorem harmless_set (s : VmState) (a : Nat) (o : Obj) (ho : isFC o = false)
    (hold : ∀ x, s.heap.get a = some x → isClo x = false) :
    Harmless s { s with heap := s.heap.set a o } := by
  refine ⟨rfl, fun b o' h hf => ?_, fun c _ o' ho' hc => ?_⟩
  · simp only at h
    rw [Gc.get_set] at h
    split at h
    · cases hg : s.heap.get a with
      | none => rw [hg] at h; cases h
      | some x =>
        rw [hg] at h
        simp only [Option.map_some, Option.some.injEq] at h
        subst h; rw [ho] at hf; cases hf
    · exact h
  · simp only
    rw [Gc.get_set]
    split
    · next hca =>
      subst hca
      rw [hold o' ho'] at hc; cases hc
    · exact ho'

section inv2
variable {p : Prog} {lvl : Nat → Nat}

theorem need_mono {hp hp' : Heap} {c n : Nat} (h : Need hp c n)
    (hk : ∀ o, hp.get c = some o → isClo o = true → hp'.get c = some o) : Need hp' c n := by
  obtain ⟨hd, ar, ups, hg, hn⟩ := h
  exact ⟨hd, ar, ups, hk _ hg rfl, hn⟩

theorem InvX.harmless {x : Option Nat} {W : List (Option Nat × Nat)} {fs : List Frame} {s s' : VmState}
    (h : InvX p lvl x W fs s) (hh : Harmless s s') (hst : x = none ∨ s'.stack = s.stack) :
    InvX p lvl x W fs s' := by
  refine ⟨⟨fun a hd ar hg => h.heap.fn a hd ar (hh.old a _ hg rfl),
      fun a hd ar ups hg hx => h.heap.clo a hd ar ups (hh.old a _ hg rfl) hx⟩, fun w hw => ?_, h.rooted,
    hh.frames.trans h.frames, fun a ha => by
      rcases hst with hst | hst
      · rw [hst] at ha; cases ha
      · rw [hst]; exact h.top a ha⟩
  rcases h.obl w hw with h0 | ⟨c, hc, hn⟩
  · exact .inl h0
  · refine .inr ⟨c, hc, need_mono hn fun o ho hcl => hh.keep c ?_ o ho hcl⟩
    rw [h.frames]; exact h.rooted w hw c hc

end inv2

theorem harmless_allocPure (c : Nat) (s : VmState) : Harmless s (allocPure c s).2 :=
  (allocPure_effect c s).elim (fun e => .of_eq e.heap e.frames)
    fun e => (harmless_gc s).trans (.of_eq e.heap e.frames)

/-! ### the primitives evolve the heap harmlessly -/

instance : StateOrder Harmless where
  refl := Harmless.refl
  trans := Harmless.trans

instance : StateFrame Harmless where
  stack _ _ := Harmless.of_eq rfl rfl
  globals _ _ := Harmless.of_eq rfl rfl
  guards _ _ := Harmless.of_eq rfl rfl
  hostLog _ _ := Harmless.of_eq rfl rfl

macro_rules | `(tactic| pres_side) => `(tactic| exact Harmless.of_eq rfl rfl)

theorem hpres_curFrame : Pres Harmless curFrame := pres_curFrame
theorem hpres_keyOf (v : Val) : Pres Harmless (keyOf v) := pres_of_prim _
theorem hpres_deallocBytes (c : Nat) : Pres Harmless (deallocBytes c) := by unfold deallocBytes; pres_auto

theorem hpres_allocBytes (c : Nat) : Pres Harmless (allocBytes c) :=
  Pres.intro fun s => by rw [go_allocBytes]; exact harmless_allocPure c s

theorem hpres_newObject (o : Obj) (ho : isFC o = false) : Pres Harmless (newObject o) :=
  Pres.intro fun s => harmless_withObject o s ho

macro_rules | `(tactic| pres_prim) => `(tactic| with_reducible first
  | exact hpres_allocBytes _ | exact hpres_deallocBytes _ | exact hpres_newObject _ rfl)

theorem hpres_writeUpvalueLoc (a : Nat) (v : Val) : Pres Harmless (writeUpvalueLoc a v) := by
  unfold writeUpvalueLoc
  refine pres_get_bind fun s => ?_
  split
  · exact presAt_set (Harmless.of_eq rfl rfl)
  · next heq =>
    exact presAt_set (harmless_set s a _ rfl (fun x hx => by rw [heq] at hx; cases hx; rfl))
  · exact presAt_throwE _ _

theorem hpres_closeUpvalues (t : Nat) : Pres Harmless (closeUpvalues t) := by
  unfold closeUpvalues
  refine pres_get_bind fun s => presAt_set ?_
  -- the loop only turns open upvalue objects into closed ones
  have := closeGo_pres (R := fun h h' => Harmless { s with heap := h } { s with heap := h' })
    (fun _ => .refl _) (fun h1 h2 => h1.trans h2)
    (fun h a i v hu => harmless_set { s with heap := h } a _ rfl fun x hx => by
      rw [show h.get a = _ from Upv.upvalueSlot_eq_some.mp hu] at hx; cases hx; rfl) t s s.openUpvalues s.heap
  exact this.trans (.of_eq rfl rfl)

theorem harmless_tableInsert (a : Nat) (k v : Val) (s : VmState) : Harmless s ((tableInsert a k v).go s).2 := by
  rw [go_tableInsert]
  have he := tableInsertPure_effect a k v s
  generalize (tableInsertPure a k v s).2 = s' at he
  cases he with
  | none => exact Harmless.refl s
  | rows es' hg => exact harmless_set s a _ rfl fun x hx => by rw [hg] at hx; cases hx; rfl
  | @oom cap _ _ _ hg ha => have := harmless_allocPure (Heap.tableCharge (HMap.growCap cap)) s; rwa [ha] at this
  | @grow cap es s1 es' hg ha =>
    have h1 := harmless_allocPure (Heap.tableCharge (HMap.growCap cap)) s
    rw [ha] at h1
    -- whatever is at `a` after the allocation was there before: the table
    have hold1 : ∀ x, s1.heap.get a = some x → isClo x = false := fun x hx => by
      cases hc : isClo x with
      | false => rfl
      | true =>
        have := h1.old a x hx (by cases x <;> simp_all [isClo, isFC])
        rw [hg] at this; cases this; cases hc
    exact h1.trans ((Harmless.of_eq (s := s1) (s' := refund (Heap.tableCharge cap) s1) rfl rfl).trans
      (harmless_set _ a _ rfl hold1))

instance : PlainFrame Harmless where
  initTable := by unfold initTable; pres_auto
  initString _ := by unfold initString; pres_auto
  initNative _ := by unfold initSimple; pres_auto
  closeUpvalues := hpres_closeUpvalues
  writeUpvalueLoc := hpres_writeUpvalueLoc
  tableInsert s a k v _ := harmless_tableInsert a k v s

instance {p : Prog} {lvl : Nat → Nat} {W : List (Option Nat × Nat)} {fs : List Frame} :
    PlainKeep (InvX p lvl none W fs) :=
  .of_frame Harmless fun _ _ hh h => h.harmless hh (.inl rfl)

structure Hl {α : Type} (m : M α) : Prop where
  rel : ∀ s, Harmless s (m.go s).2
  calm : ∀ s e, (m.go s).1 = .error e → Calm e

theorem hl_iff_kp {α : Type} {m : M α} :
    Hl m ↔ ∀ s₀, Kp (Harmless s₀) (Harmless s₀) Calm (fun _ => True) m :=
  ⟨fun h _ => kp_mono (Kp.of_closed (E := Calm) (fun _ _ h h0 => h0.trans h) (Pres.intro h.rel) ⟨h.calm⟩)
      (fun _ h => h) (fun _ h => h) fun _ h => h,
   fun h => ⟨(Kp.pres h).rel, fun s e he => ((h s).err s e (m.go s).2 (Harmless.refl s) (Prod.ext he rfl)).1⟩⟩

theorem hl_pure {α : Type} (a : α) : Hl (pure a : M α) := hl_iff_kp.2 fun _ => kp_pure trivial

theorem hl_bind {α β : Type} {m : M α} {f : α → M β} (hm : Hl m) (hf : ∀ a, Hl (f a)) : Hl (m >>= f) :=
  hl_iff_kp.2 fun s₀ => kp_bind (hl_iff_kp.1 hm s₀) fun a => hl_iff_kp.1 (hf a) s₀

theorem hl_allocBytes (c : Nat) : Hl (allocBytes c) :=
  ⟨(hpres_allocBytes c).rel, fun s e h => by
    rw [go_allocBytes] at h
    rw [allocPure_err c s e h]; exact calm_of_plain rfl⟩

theorem Hl.kp {α : Type} {m : M α} (h : Hl m) {p : Prog} {lvl : Nat → Nat} {W : List (Option Nat × Nat)}
    {fs : List Frame} {X : VmState → Prop} [ErrSt (InvX p lvl none W fs) X] {E : ErrKind → Prop} [ErrClass E] :
    Kp (InvX p lvl none W fs) X E (fun _ => True) m :=
  kp_mono (Kp.of_closed (E := Calm) (fun _ _ hh hs => hs.harmless hh (.inl rfl)) (Pres.intro h.rel) ⟨h.calm⟩)
    (fun _ => ErrClass.calm) ErrSt.sub fun _ h => h

theorem Hl.keeps {α : Type} {m : M α} (h : Hl m) {p : Prog} {lvl : Nat → Nat}
    {W : List (Option Nat × Nat)} {fs : List Frame} : Keeps (InvX p lvl none W fs) m :=
  keeps_iff_kp.2 h.kp

theorem InvX.congr' {p : Prog} {lvl : Nat → Nat} {W : List (Option Nat × Nat)} {fs : List Frame}
    {s s' : VmState} (h : InvX p lvl none W fs s) (hh : s'.heap = s.heap) (hf : s'.frames = s.frames) :
    InvX p lvl none W fs s' := h.congr hh hf (.inl rfl)

example {E : ErrKind → Prop} [ErrClass E] {p : Prog} {lvl : Nat → Nat}
    {W : List (Option Nat × Nat)} {fs : List Frame} (v : Val) :
    St (InvX p lvl none W fs) (modify fun s => { s with guards := (match v with | .obj a => [a] | _ => []) ++ s.guards } : M PUnit)
      (fun _ => InvX p lvl none W fs) E :=
  st_iff_ho.2 (ho_modify fun _ h => h.congr' rfl rfl)

/-- the callback keeps `K` (when it returns) and raises `E`-errors -/
def ReSpecS (re : Reenter) (K : VmState → Prop) (E : ErrKind → Prop) : Prop :=
  ∀ f, St K (re f) (fun _ => K) E

theorem st_callNative {E : ErrKind → Prop} [ErrClass E] {p : Prog} {lvl : Nat → Nat}
    {W : List (Option Nat × Nat)} {fs : List Frame} (re : Reenter)
    (hre : ReSpecS re (InvX p lvl none W fs) E) (h : UInt32) :
    St (InvX p lvl none W fs) (callNative re h) (fun _ => InvX p lvl none W fs) E :=
  st_inv_iff_kp.2 (kp_callNative (fun _ _ => ErrClass.wrap) re (fun f => st_inv_iff_kp.1 (hre f)) h)

/-- the static facts about the program (all of them are decidable properties of a concrete program):
`G` = instruction starts, `lvl pos` = number of upvalues the code at `pos` may ask its closure for,
`cnt c` = a number of `CopyLast; RegisterUpvalue` pairs that follow the `Closure` instruction at `c` (`pairs` asks
that the first `cnt c` pairs are there, not that there are no more; the checker takes `cntOf`).
Nothing is asked about `Exit` in callee code: `run_function` restores the call stack whatever the
callee did. -/
structure CapStatic (p : Prog) (G : Nat → Prop) (lvl cnt : Nat → Nat) : Prop where
  /-- falling through keeps the level -/
  seq : ∀ src sp, G src → Gen.spanOf (p.bytecode.getD src 0) = some sp →
    p.bytecode.getD src 0 ≠ Compiler.op.exit → p.bytecode.getD src 0 ≠ Compiler.op.goto →
    p.bytecode.getD src 0 ≠ Compiler.op.ret → lvl (src + sp) = lvl src
  /-- so does jumping -/
  jump : ∀ src, G src → (p.bytecode.getD src 0 = Compiler.op.goto ∨
    p.bytecode.getD src 0 = Compiler.op.gotoIfTrue ∨ p.bytecode.getD src 0 = Compiler.op.gotoIfFalse) →
    lvl (rdU32 p.bytecode (src + 1)) = lvl src
  /-- a non-local capture asks for an upvalue the level has -/
  reg : ∀ src, G src → p.bytecode.getD src 0 = Compiler.op.registerUpvalue →
    p.bytecode.getD (src + 2) 0 = 0 → (p.bytecode.getD (src + 1) 0).toNat < lvl src
  /-- the handle of a `Closure` instruction enters a position whose level is at most the number
  of pairs that follow the instruction -/
  closLabel : ∀ c, G c → p.bytecode.getD c 0 = Compiler.op.closure →
    Complete p lvl (UInt32.ofNat (rdU32 p.bytecode (c + 1))) (cnt c)
  pairs : ∀ c k, G c → p.bytecode.getD c 0 = Compiler.op.closure → k < cnt c →
    p.bytecode.getD (c + 9 + 4 * k) 0 = Compiler.op.copyLast ∧
    p.bytecode.getD (c + 9 + 4 * k + 1) 0 = Compiler.op.registerUpvalue
  /-- the handle of a `FunctionPointer` instruction enters a position of level 0 -/
  fnLabel : ∀ x, G x → p.bytecode.getD x 0 = Compiler.op.functionPointer →
    FnSafe p lvl (UInt32.ofNat (rdU32 p.bytecode (x + 1)))
  /-- the return address `run_function` gives its callee (the final `Exit`) has level 0 -/
  lastLvl : lvl (p.bytecode.size - 1) = 0
  /-- so has the entry point of `run` -/
  entryLvl : lvl 0 = 0

def TopIs (s : VmState) (a : Nat) : Prop :=
  0 < s.stack.count ∧ s.stack.count < s.stack.data.length ∧ s.stack.data.getD (s.stack.count - 1) .nil = .obj a

def RootedIn (W : List (Option Nat × Nat)) (fs : List Frame) : Prop :=
  ∀ w ∈ W, ∀ c, w.1 = some c → c ∈ fcs fs

/-- what one instruction of the normal phase leads to -/
inductive StepQ (p : Prog) (lvl : Nat → Nat) (W0 : List (Option Nat × Nat))
    (fs0 : List Frame) (l : Frame) (src : Nat) : Ctl → VmState → Prop
  | exit {ctl : Ctl} {s' : VmState} : ctl.exit = true →
      InvX p lvl none (W0 ++ [(l.closure, lvl src)]) (fs0 ++ [l]) s' → StepQ p lvl W0 fs0 l src ctl s'
  | ord {ctl : Ctl} {s' : VmState} : ctl.exit = false →
      InvX p lvl none (W0 ++ [(l.closure, lvl src)]) (fs0 ++ [l]) s' → lvl ctl.ip = lvl src →
      StepQ p lvl W0 fs0 l src ctl s'
  | call {ctl : Ctl} {s' : VmState} (l' nf : Frame) : ctl.exit = false → l'.closure = l.closure →
      lvl l'.dst = lvl src →
      InvX p lvl none (W0 ++ [(l.closure, lvl src)]) (fs0 ++ [l'] ++ [nf]) s' →
      FrameOk s'.heap (lvl ctl.ip) nf.closure → StepQ p lvl W0 fs0 l src ctl s'
  | ret {ctl : Ctl} {s' : VmState} : ctl.exit = false → InvX p lvl none W0 fs0 s' →
      (∃ c, fs0.getLast? = some c ∧ ctl.ip = c.dst) → StepQ p lvl W0 fs0 l src ctl s'
  | clos {ctl : Ctl} {s' : VmState} (a : Nat) (ar : UInt32) : ctl.exit = false → ctl.ip = src + 9 →
      p.bytecode.getD src 0 = Compiler.op.closure →
      InvX p lvl (some a) (W0 ++ [(l.closure, lvl src)]) (fs0 ++ [l]) s' →
      s'.heap.get a = some (.closure (UInt32.ofNat (rdU32 p.bytecode (src + 1))) ar []) → TopIs s' a →
      StepQ p lvl W0 fs0 l src ctl s'

/-! ## One instruction against the invariant

`push` from a known state; an instruction that keeps the invariant and falls through leads to a position of the
same level (`st_falls`); the ways `InvX` moves when a closure object is overwritten, a closure is finished, and the
call stack or the obligations change. -/

theorem st_push_bind {β : Type} {E : ErrKind → Prop} [ErrClass E] {P : VmState → Prop} {v : Val}
    {f : Unit → M β} {Q : β → VmState → Prop}
    (hf : ∀ s, P s → s.stack.count + 1 < s.stack.data.length → St (fun s' => s' =
      { s with stack := { count := s.stack.count + 1, data := s.stack.data.set s.stack.count v } }) (f ()) Q E) :
    St P (push v >>= f) Q E :=
  st_of_forall fun s hs => st_bind
    (J := fun _ s' => s.stack.count + 1 < s.stack.data.length ∧ s' =
      { s with stack := { count := s.stack.count + 1, data := s.stack.data.set s.stack.count v } })
    ⟨fun t u s' ht hg => by subst ht; exact push_ok hg,
     fun t e s' _ hg => ((kp_prim (K := fun _ => True) (X := fun _ => True) (push v)).err t e s' trivial hg).1⟩
    fun _ => st_pre_pure (hf s hs)

section ops
variable {p : Prog} {G : Nat → Prop} {lvl cnt : Nat → Nat} {E : ErrKind → Prop} [ErrClass E]
  {re : Reenter} {W0 : List (Option Nat × Nat)} {fs0 : List Frame} {l : Frame} {src : Nat}

/-- falling through the opcode `o` (its span and the three side conditions are found by evaluation) keeps
the level -/
theorem CapStatic.fall (hs : CapStatic p G lvl cnt) (hsrc : G src) {o : UInt8}
    (hop : p.bytecode.getD src 0 = o) {n : Nat} (hsp : Gen.spanOf o = some n := by rfl)
    (hx : o ≠ Compiler.op.exit := by decide) (hg : o ≠ Compiler.op.goto := by decide)
    (hr : o ≠ Compiler.op.ret := by decide) : lvl (src + n) = lvl src := by
  subst hop
  exact hs.seq src n hsrc hsp hx hg hr

omit [ErrClass E] in
theorem st_falls (hs : CapStatic p G lvl cnt) (hsrc : G src) (hg : p.bytecode.getD src 0 ≠ Compiler.op.goto)
    (hr : p.bytecode.getD src 0 ≠ Compiler.op.ret) {X : VmState → Prop} {m : M Ctl}
    (h : Kp (InvX p lvl none (W0 ++ [(l.closure, lvl src)]) (fs0 ++ [l])) X E (Falls p src) m) :
    St (InvX p lvl none (W0 ++ [(l.closure, lvl src)]) (fs0 ++ [l])) m (StepQ p lvl W0 fs0 l src) E :=
  st_conseq h.st (fun _ h => h)
    (fun _ _ ⟨hK, hx, sp, hsp, hip⟩ => .ord hx hK (hip ▸ hs.seq src sp hsrc hsp.1 hsp.2 hg hr)) fun _ h => h

end ops

section invmove
variable {p : Prog} {lvl : Nat → Nat} {x : Option Nat} {W : List (Option Nat × Nat)} {fs : List Frame}
  {s : VmState}

theorem Complete.mono {h : UInt32} {n m : Nat} (hc : Complete p lvl h n) (hnm : n ≤ m) : Complete p lvl h m :=
  fun e he => Nat.le_trans (hc e he) hnm

theorem InvX.set_clo (h : InvX p lvl x W fs s) (c : Nat) (hd ar : UInt32) (ups' : List Nat)
    (hC : x = some c ∨ Complete p lvl hd ups'.length)
    (hold : ∀ h' a' u', s.heap.get c = some (.closure h' a' u') → u'.length ≤ ups'.length) :
    InvX p lvl x W fs { s with heap := s.heap.set c (.closure hd ar ups') } := by
  refine ⟨⟨fun a h1 ar1 hg => ?_, fun a h1 ar1 ups1 hg hx => ?_⟩, fun w hw => ?_, h.rooted, h.frames, h.top⟩
  · simp only at hg
    rw [Gc.get_set] at hg
    split at hg
    · cases hgc : s.heap.get c with
      | none => rw [hgc] at hg; cases hg
      | some o => rw [hgc] at hg; simp at hg
    · exact h.heap.fn a h1 ar1 hg
  · simp only at hg
    rw [Gc.get_set] at hg
    split at hg
    · next hac =>
      subst hac
      cases hgc : s.heap.get a with
      | none => rw [hgc] at hg; cases hg
      | some o =>
        rw [hgc] at hg
        simp only [Option.map_some, Option.some.injEq, Obj.closure.injEq] at hg
        obtain ⟨rfl, rfl, rfl⟩ := hg
        rcases hC with hC | hC
        · exact absurd hC hx
        · exact hC
    · exact h.heap.clo a h1 ar1 ups1 hg hx
  · rcases h.obl w hw with h0 | ⟨c', hc', hd1, ar1, ups1, hg, hn⟩
    · exact .inl h0
    · refine .inr ⟨c', hc', ?_⟩
      by_cases hcc : c' = c
      · subst hcc
        refine ⟨hd, ar, ups', ?_, Nat.le_trans hn (hold _ _ _ hg)⟩
        simp only
        rw [Gc.get_set, if_pos rfl, hg]; rfl
      · refine ⟨hd1, ar1, ups1, ?_, hn⟩
        simp only
        rw [Gc.get_set, if_neg hcc]; exact hg

theorem InvX.finish {a : Nat} {hd ar : UInt32} {ups : List Nat} (h : InvX p lvl (some a) W fs s)
    (hg : s.heap.get a = some (.closure hd ar ups)) (hc : Complete p lvl hd ups.length) :
    InvX p lvl none W fs s := by
  refine ⟨⟨h.heap.fn, fun b h1 ar1 ups1 hb _ => ?_⟩, h.obl, h.rooted, h.frames, fun _ hx => by cases hx⟩
  by_cases hba : b = a
  · subst hba
    rw [hg] at hb
    simp only [Option.some.injEq, Obj.closure.injEq] at hb
    obtain ⟨rfl, rfl, rfl⟩ := hb
    exact hc
  · exact h.heap.clo b h1 ar1 ups1 hb (by intro hx; cases hx; exact hba rfl)

/-- the value stack matters only while a closure is under construction -/
theorem InvX.reframe' {W' : List (Option Nat × Nat)} {fs' : List Frame} {s' : VmState} (h : InvX p lvl x W fs s)
    (hh : s'.heap = s.heap) (hst : x = none ∨ s'.stack = s.stack) (hf : s'.frames = fs')
    (hW : ∀ w ∈ W', w ∈ W) (hr : RootedIn W' fs') : InvX p lvl x W' fs' s' :=
  ⟨by rw [hh]; exact h.heap, fun w hw => by rw [hh]; exact h.obl w (hW w hw), hr, hf, fun a ha => by
    rcases hst with hst | hst
    · rw [hst] at ha; cases ha
    · rw [hst]; exact h.top a ha⟩

theorem InvX.reframe {W' : List (Option Nat × Nat)} {fs' : List Frame} (h : InvX p lvl x W fs s)
    (hW : ∀ w ∈ W', w ∈ W) (hr : RootedIn W' fs') :
    InvX p lvl x W' fs' { s with frames := fs' } :=
  h.reframe' rfl (.inr rfl) rfl hW hr

theorem InvX.add_obl {n : Nat} {clo : Option Nat} (h : InvX p lvl x W fs s) (hf : FrameOk s.heap n clo)
    (hr : ∀ c, clo = some c → c ∈ fcs fs) : InvX p lvl x (W ++ [(clo, n)]) fs s := by
  refine ⟨h.heap, fun w hw => ?_, fun w hw c hc => ?_, h.frames, h.top⟩
  · rcases List.mem_append.1 hw with hw | hw
    · exact h.obl w hw
    · simp only [List.mem_singleton] at hw; subst hw; exact hf
  · rcases List.mem_append.1 hw with hw | hw
    · exact h.rooted w hw c hc
    · simp only [List.mem_singleton] at hw; subst hw; exact hr c hc

theorem InvX.rootedIn (h : InvX p lvl x W fs s) : RootedIn W fs := h.rooted

theorem mem_fcs_append {fs fs' : List Frame} {c : Nat} : c ∈ fcs (fs ++ fs') ↔ c ∈ fcs fs ∨ c ∈ fcs fs' := by
  unfold fcs; simp [List.filterMap_append]

theorem mem_fcs_singleton {f : Frame} {c : Nat} : c ∈ fcs [f] ↔ f.closure = some c := by
  unfold fcs; simp [List.filterMap_cons]; cases f.closure <;> simp [eq_comm]

end invmove

end Cao.Vm
