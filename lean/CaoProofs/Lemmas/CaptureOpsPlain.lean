import CaoProofs.Lemmas.CaptureInv
/-!
# One instruction keeps the capture invariant: the 37 `plainOps`, which run primitives and fall through

`st_op_plain` covers them all, and is what `st_step` (`CaptureStep.lean`) applies; below it the same statement
opcode by opcode, one instance each.
-/
namespace Cao.Vm

variable {p : Prog} {G : Nat → Prop} {lvl cnt : Nat → Nat} {E : ErrKind → Prop} [ErrClass E]
  {re : Reenter} {W0 : List (Option Nat × Nat)} {fs0 : List Frame} {l : Frame} {src : Nat}

/-- **The plain opcodes.** Every opcode but the jumps, `CallFunction`, `Return`, `Exit`, `FunctionPointer`,
`Closure`, `PopTable` and `RegisterUpvalue` runs primitives (and host functions) and falls through to the next
instruction: it keeps the invariant, which is a `PlainKeep` (`kp_step_plain`), and `CapStatic.seq` puts the next
instruction on the same level. -/
theorem st_op_plain (hs : CapStatic p G lvl cnt) (hsrc : G src)
    (hre : ReSpecS re (InvX p lvl none (W0 ++ [(l.closure, lvl src)]) (fs0 ++ [l])) E)
    (hop : plainOps.contains (p.bytecode.getD src 0) = true) :
    St (InvX p lvl none (W0 ++ [(l.closure, lvl src)]) (fs0 ++ [l])) (step p re src)
      (StepQ p lvl W0 fs0 l src) E :=
  st_falls hs hsrc (ne_of_plainOps hop (by decide)) (ne_of_plainOps hop (by decide)) (X := fun _ => True)
    (kp_step_plain p re src (fun _ s h he => absurd (h.frames.symm.trans he) (by simp))
      (fun _ _ => ErrClass.wrap) (fun _ f => st_inv_iff_kp.1 (hre f)) hop)

theorem st_op_initTable (hs : CapStatic p G lvl cnt) (hsrc : G src)
    (hre : ReSpecS re (InvX p lvl none (W0 ++ [(l.closure, lvl src)]) (fs0 ++ [l])) E)
    (hop : p.bytecode.getD src 0 = Compiler.op.initTable) :
    St (InvX p lvl none (W0 ++ [(l.closure, lvl src)]) (fs0 ++ [l])) (step p re src)
      (StepQ p lvl W0 fs0 l src) E :=
  st_op_plain hs hsrc hre (hop ▸ by decide)

theorem st_op_getProperty (hs : CapStatic p G lvl cnt) (hsrc : G src)
    (hre : ReSpecS re (InvX p lvl none (W0 ++ [(l.closure, lvl src)]) (fs0 ++ [l])) E)
    (hop : p.bytecode.getD src 0 = Compiler.op.getProperty) :
    St (InvX p lvl none (W0 ++ [(l.closure, lvl src)]) (fs0 ++ [l])) (step p re src)
      (StepQ p lvl W0 fs0 l src) E :=
  st_op_plain hs hsrc hre (hop ▸ by decide)

theorem st_op_setProperty (hs : CapStatic p G lvl cnt) (hsrc : G src)
    (hre : ReSpecS re (InvX p lvl none (W0 ++ [(l.closure, lvl src)]) (fs0 ++ [l])) E)
    (hop : p.bytecode.getD src 0 = Compiler.op.setProperty) :
    St (InvX p lvl none (W0 ++ [(l.closure, lvl src)]) (fs0 ++ [l])) (step p re src)
      (StepQ p lvl W0 fs0 l src) E :=
  st_op_plain hs hsrc hre (hop ▸ by decide)

theorem st_op_beginForEach (hs : CapStatic p G lvl cnt) (hsrc : G src)
    (hre : ReSpecS re (InvX p lvl none (W0 ++ [(l.closure, lvl src)]) (fs0 ++ [l])) E)
    (hop : p.bytecode.getD src 0 = Compiler.op.beginForEach) :
    St (InvX p lvl none (W0 ++ [(l.closure, lvl src)]) (fs0 ++ [l])) (step p re src)
      (StepQ p lvl W0 fs0 l src) E :=
  st_op_plain hs hsrc hre (hop ▸ by decide)

theorem st_op_forEach (hs : CapStatic p G lvl cnt) (hsrc : G src)
    (hre : ReSpecS re (InvX p lvl none (W0 ++ [(l.closure, lvl src)]) (fs0 ++ [l])) E)
    (hop : p.bytecode.getD src 0 = Compiler.op.forEach) :
    St (InvX p lvl none (W0 ++ [(l.closure, lvl src)]) (fs0 ++ [l])) (step p re src)
      (StepQ p lvl W0 fs0 l src) E :=
  st_op_plain hs hsrc hre (hop ▸ by decide)

theorem st_op_swapLast (hs : CapStatic p G lvl cnt) (hsrc : G src)
    (hre : ReSpecS re (InvX p lvl none (W0 ++ [(l.closure, lvl src)]) (fs0 ++ [l])) E)
    (hop : p.bytecode.getD src 0 = Compiler.op.swapLast) :
    St (InvX p lvl none (W0 ++ [(l.closure, lvl src)]) (fs0 ++ [l])) (step p re src)
      (StepQ p lvl W0 fs0 l src) E :=
  st_op_plain hs hsrc hre (hop ▸ by decide)

theorem st_op_scalarNil (hs : CapStatic p G lvl cnt) (hsrc : G src)
    (hre : ReSpecS re (InvX p lvl none (W0 ++ [(l.closure, lvl src)]) (fs0 ++ [l])) E)
    (hop : p.bytecode.getD src 0 = Compiler.op.scalarNil) :
    St (InvX p lvl none (W0 ++ [(l.closure, lvl src)]) (fs0 ++ [l])) (step p re src)
      (StepQ p lvl W0 fs0 l src) E :=
  st_op_plain hs hsrc hre (hop ▸ by decide)

theorem st_op_clearStack (hs : CapStatic p G lvl cnt) (hsrc : G src)
    (hre : ReSpecS re (InvX p lvl none (W0 ++ [(l.closure, lvl src)]) (fs0 ++ [l])) E)
    (hop : p.bytecode.getD src 0 = Compiler.op.clearStack) :
    St (InvX p lvl none (W0 ++ [(l.closure, lvl src)]) (fs0 ++ [l])) (step p re src)
      (StepQ p lvl W0 fs0 l src) E :=
  st_op_plain hs hsrc hre (hop ▸ by decide)

theorem st_op_setLocalVar (hs : CapStatic p G lvl cnt) (hsrc : G src)
    (hre : ReSpecS re (InvX p lvl none (W0 ++ [(l.closure, lvl src)]) (fs0 ++ [l])) E)
    (hop : p.bytecode.getD src 0 = Compiler.op.setLocalVar) :
    St (InvX p lvl none (W0 ++ [(l.closure, lvl src)]) (fs0 ++ [l])) (step p re src)
      (StepQ p lvl W0 fs0 l src) E :=
  st_op_plain hs hsrc hre (hop ▸ by decide)

theorem st_op_readLocalVar (hs : CapStatic p G lvl cnt) (hsrc : G src)
    (hre : ReSpecS re (InvX p lvl none (W0 ++ [(l.closure, lvl src)]) (fs0 ++ [l])) E)
    (hop : p.bytecode.getD src 0 = Compiler.op.readLocalVar) :
    St (InvX p lvl none (W0 ++ [(l.closure, lvl src)]) (fs0 ++ [l])) (step p re src)
      (StepQ p lvl W0 fs0 l src) E :=
  st_op_plain hs hsrc hre (hop ▸ by decide)

theorem st_op_setGlobalVar (hs : CapStatic p G lvl cnt) (hsrc : G src)
    (hre : ReSpecS re (InvX p lvl none (W0 ++ [(l.closure, lvl src)]) (fs0 ++ [l])) E)
    (hop : p.bytecode.getD src 0 = Compiler.op.setGlobalVar) :
    St (InvX p lvl none (W0 ++ [(l.closure, lvl src)]) (fs0 ++ [l])) (step p re src)
      (StepQ p lvl W0 fs0 l src) E :=
  st_op_plain hs hsrc hre (hop ▸ by decide)

theorem st_op_readGlobalVar (hs : CapStatic p G lvl cnt) (hsrc : G src)
    (hre : ReSpecS re (InvX p lvl none (W0 ++ [(l.closure, lvl src)]) (fs0 ++ [l])) E)
    (hop : p.bytecode.getD src 0 = Compiler.op.readGlobalVar) :
    St (InvX p lvl none (W0 ++ [(l.closure, lvl src)]) (fs0 ++ [l])) (step p re src)
      (StepQ p lvl W0 fs0 l src) E :=
  st_op_plain hs hsrc hre (hop ▸ by decide)

theorem st_op_pop (hs : CapStatic p G lvl cnt) (hsrc : G src)
    (hre : ReSpecS re (InvX p lvl none (W0 ++ [(l.closure, lvl src)]) (fs0 ++ [l])) E)
    (hop : p.bytecode.getD src 0 = Compiler.op.pop) :
    St (InvX p lvl none (W0 ++ [(l.closure, lvl src)]) (fs0 ++ [l])) (step p re src)
      (StepQ p lvl W0 fs0 l src) E :=
  st_op_plain hs hsrc hre (hop ▸ by decide)

theorem st_op_copyLast (hs : CapStatic p G lvl cnt) (hsrc : G src)
    (hre : ReSpecS re (InvX p lvl none (W0 ++ [(l.closure, lvl src)]) (fs0 ++ [l])) E)
    (hop : p.bytecode.getD src 0 = Compiler.op.copyLast) :
    St (InvX p lvl none (W0 ++ [(l.closure, lvl src)]) (fs0 ++ [l])) (step p re src)
      (StepQ p lvl W0 fs0 l src) E :=
  st_op_plain hs hsrc hre (hop ▸ by decide)

theorem st_op_nativeFunctionPointer (hs : CapStatic p G lvl cnt) (hsrc : G src)
    (hre : ReSpecS re (InvX p lvl none (W0 ++ [(l.closure, lvl src)]) (fs0 ++ [l])) E)
    (hop : p.bytecode.getD src 0 = Compiler.op.nativeFunctionPointer) :
    St (InvX p lvl none (W0 ++ [(l.closure, lvl src)]) (fs0 ++ [l])) (step p re src)
      (StepQ p lvl W0 fs0 l src) E :=
  st_op_plain hs hsrc hre (hop ▸ by decide)

theorem st_op_scalarInt (hs : CapStatic p G lvl cnt) (hsrc : G src)
    (hre : ReSpecS re (InvX p lvl none (W0 ++ [(l.closure, lvl src)]) (fs0 ++ [l])) E)
    (hop : p.bytecode.getD src 0 = Compiler.op.scalarInt) :
    St (InvX p lvl none (W0 ++ [(l.closure, lvl src)]) (fs0 ++ [l])) (step p re src)
      (StepQ p lvl W0 fs0 l src) E :=
  st_op_plain hs hsrc hre (hop ▸ by decide)

theorem st_op_scalarFloat (hs : CapStatic p G lvl cnt) (hsrc : G src)
    (hre : ReSpecS re (InvX p lvl none (W0 ++ [(l.closure, lvl src)]) (fs0 ++ [l])) E)
    (hop : p.bytecode.getD src 0 = Compiler.op.scalarFloat) :
    St (InvX p lvl none (W0 ++ [(l.closure, lvl src)]) (fs0 ++ [l])) (step p re src)
      (StepQ p lvl W0 fs0 l src) E :=
  st_op_plain hs hsrc hre (hop ▸ by decide)

theorem st_op_not (hs : CapStatic p G lvl cnt) (hsrc : G src)
    (hre : ReSpecS re (InvX p lvl none (W0 ++ [(l.closure, lvl src)]) (fs0 ++ [l])) E)
    (hop : p.bytecode.getD src 0 = Compiler.op.not) :
    St (InvX p lvl none (W0 ++ [(l.closure, lvl src)]) (fs0 ++ [l])) (step p re src)
      (StepQ p lvl W0 fs0 l src) E :=
  st_op_plain hs hsrc hre (hop ▸ by decide)

theorem st_op_stringLiteral (hs : CapStatic p G lvl cnt) (hsrc : G src)
    (hre : ReSpecS re (InvX p lvl none (W0 ++ [(l.closure, lvl src)]) (fs0 ++ [l])) E)
    (hop : p.bytecode.getD src 0 = Compiler.op.stringLiteral) :
    St (InvX p lvl none (W0 ++ [(l.closure, lvl src)]) (fs0 ++ [l])) (step p re src)
      (StepQ p lvl W0 fs0 l src) E :=
  st_op_plain hs hsrc hre (hop ▸ by decide)

theorem st_op_callNative (hs : CapStatic p G lvl cnt) (hsrc : G src)
    (hre : ReSpecS re (InvX p lvl none (W0 ++ [(l.closure, lvl src)]) (fs0 ++ [l])) E)
    (hop : p.bytecode.getD src 0 = Compiler.op.callNative) :
    St (InvX p lvl none (W0 ++ [(l.closure, lvl src)]) (fs0 ++ [l])) (step p re src)
      (StepQ p lvl W0 fs0 l src) E :=
  st_op_plain hs hsrc hre (hop ▸ by decide)

theorem st_op_len (hs : CapStatic p G lvl cnt) (hsrc : G src)
    (hre : ReSpecS re (InvX p lvl none (W0 ++ [(l.closure, lvl src)]) (fs0 ++ [l])) E)
    (hop : p.bytecode.getD src 0 = Compiler.op.len) :
    St (InvX p lvl none (W0 ++ [(l.closure, lvl src)]) (fs0 ++ [l])) (step p re src)
      (StepQ p lvl W0 fs0 l src) E :=
  st_op_plain hs hsrc hre (hop ▸ by decide)

theorem st_op_nthRow (hs : CapStatic p G lvl cnt) (hsrc : G src)
    (hre : ReSpecS re (InvX p lvl none (W0 ++ [(l.closure, lvl src)]) (fs0 ++ [l])) E)
    (hop : p.bytecode.getD src 0 = Compiler.op.nthRow) :
    St (InvX p lvl none (W0 ++ [(l.closure, lvl src)]) (fs0 ++ [l])) (step p re src)
      (StepQ p lvl W0 fs0 l src) E :=
  st_op_plain hs hsrc hre (hop ▸ by decide)

theorem st_op_appendTable (hs : CapStatic p G lvl cnt) (hsrc : G src)
    (hre : ReSpecS re (InvX p lvl none (W0 ++ [(l.closure, lvl src)]) (fs0 ++ [l])) E)
    (hop : p.bytecode.getD src 0 = Compiler.op.appendTable) :
    St (InvX p lvl none (W0 ++ [(l.closure, lvl src)]) (fs0 ++ [l])) (step p re src)
      (StepQ p lvl W0 fs0 l src) E :=
  st_op_plain hs hsrc hre (hop ▸ by decide)

theorem st_op_setUpvalue (hs : CapStatic p G lvl cnt) (hsrc : G src)
    (hre : ReSpecS re (InvX p lvl none (W0 ++ [(l.closure, lvl src)]) (fs0 ++ [l])) E)
    (hop : p.bytecode.getD src 0 = Compiler.op.setUpvalue) :
    St (InvX p lvl none (W0 ++ [(l.closure, lvl src)]) (fs0 ++ [l])) (step p re src)
      (StepQ p lvl W0 fs0 l src) E :=
  st_op_plain hs hsrc hre (hop ▸ by decide)

theorem st_op_readUpvalue (hs : CapStatic p G lvl cnt) (hsrc : G src)
    (hre : ReSpecS re (InvX p lvl none (W0 ++ [(l.closure, lvl src)]) (fs0 ++ [l])) E)
    (hop : p.bytecode.getD src 0 = Compiler.op.readUpvalue) :
    St (InvX p lvl none (W0 ++ [(l.closure, lvl src)]) (fs0 ++ [l])) (step p re src)
      (StepQ p lvl W0 fs0 l src) E :=
  st_op_plain hs hsrc hre (hop ▸ by decide)

theorem st_op_closeUpvalue (hs : CapStatic p G lvl cnt) (hsrc : G src)
    (hre : ReSpecS re (InvX p lvl none (W0 ++ [(l.closure, lvl src)]) (fs0 ++ [l])) E)
    (hop : p.bytecode.getD src 0 = Compiler.op.closeUpvalue) :
    St (InvX p lvl none (W0 ++ [(l.closure, lvl src)]) (fs0 ++ [l])) (step p re src)
      (StepQ p lvl W0 fs0 l src) E :=
  st_op_plain hs hsrc hre (hop ▸ by decide)

theorem st_op_and (hs : CapStatic p G lvl cnt) (hsrc : G src)
    (hre : ReSpecS re (InvX p lvl none (W0 ++ [(l.closure, lvl src)]) (fs0 ++ [l])) E)
    (hop : p.bytecode.getD src 0 = Compiler.op.and) :
    St (InvX p lvl none (W0 ++ [(l.closure, lvl src)]) (fs0 ++ [l])) (step p re src)
      (StepQ p lvl W0 fs0 l src) E :=
  st_op_plain hs hsrc hre (hop ▸ by decide)

theorem st_op_or (hs : CapStatic p G lvl cnt) (hsrc : G src)
    (hre : ReSpecS re (InvX p lvl none (W0 ++ [(l.closure, lvl src)]) (fs0 ++ [l])) E)
    (hop : p.bytecode.getD src 0 = Compiler.op.or) :
    St (InvX p lvl none (W0 ++ [(l.closure, lvl src)]) (fs0 ++ [l])) (step p re src)
      (StepQ p lvl W0 fs0 l src) E :=
  st_op_plain hs hsrc hre (hop ▸ by decide)

theorem st_op_xor (hs : CapStatic p G lvl cnt) (hsrc : G src)
    (hre : ReSpecS re (InvX p lvl none (W0 ++ [(l.closure, lvl src)]) (fs0 ++ [l])) E)
    (hop : p.bytecode.getD src 0 = Compiler.op.xor) :
    St (InvX p lvl none (W0 ++ [(l.closure, lvl src)]) (fs0 ++ [l])) (step p re src)
      (StepQ p lvl W0 fs0 l src) E :=
  st_op_plain hs hsrc hre (hop ▸ by decide)

theorem st_op_add (hs : CapStatic p G lvl cnt) (hsrc : G src)
    (hre : ReSpecS re (InvX p lvl none (W0 ++ [(l.closure, lvl src)]) (fs0 ++ [l])) E)
    (hop : p.bytecode.getD src 0 = Compiler.op.add) :
    St (InvX p lvl none (W0 ++ [(l.closure, lvl src)]) (fs0 ++ [l])) (step p re src)
      (StepQ p lvl W0 fs0 l src) E :=
  st_op_plain hs hsrc hre (hop ▸ by decide)

theorem st_op_sub (hs : CapStatic p G lvl cnt) (hsrc : G src)
    (hre : ReSpecS re (InvX p lvl none (W0 ++ [(l.closure, lvl src)]) (fs0 ++ [l])) E)
    (hop : p.bytecode.getD src 0 = Compiler.op.sub) :
    St (InvX p lvl none (W0 ++ [(l.closure, lvl src)]) (fs0 ++ [l])) (step p re src)
      (StepQ p lvl W0 fs0 l src) E :=
  st_op_plain hs hsrc hre (hop ▸ by decide)

theorem st_op_mul (hs : CapStatic p G lvl cnt) (hsrc : G src)
    (hre : ReSpecS re (InvX p lvl none (W0 ++ [(l.closure, lvl src)]) (fs0 ++ [l])) E)
    (hop : p.bytecode.getD src 0 = Compiler.op.mul) :
    St (InvX p lvl none (W0 ++ [(l.closure, lvl src)]) (fs0 ++ [l])) (step p re src)
      (StepQ p lvl W0 fs0 l src) E :=
  st_op_plain hs hsrc hre (hop ▸ by decide)

theorem st_op_div (hs : CapStatic p G lvl cnt) (hsrc : G src)
    (hre : ReSpecS re (InvX p lvl none (W0 ++ [(l.closure, lvl src)]) (fs0 ++ [l])) E)
    (hop : p.bytecode.getD src 0 = Compiler.op.div) :
    St (InvX p lvl none (W0 ++ [(l.closure, lvl src)]) (fs0 ++ [l])) (step p re src)
      (StepQ p lvl W0 fs0 l src) E :=
  st_op_plain hs hsrc hre (hop ▸ by decide)

theorem st_op_equals (hs : CapStatic p G lvl cnt) (hsrc : G src)
    (hre : ReSpecS re (InvX p lvl none (W0 ++ [(l.closure, lvl src)]) (fs0 ++ [l])) E)
    (hop : p.bytecode.getD src 0 = Compiler.op.equals) :
    St (InvX p lvl none (W0 ++ [(l.closure, lvl src)]) (fs0 ++ [l])) (step p re src)
      (StepQ p lvl W0 fs0 l src) E :=
  st_op_plain hs hsrc hre (hop ▸ by decide)

theorem st_op_notEquals (hs : CapStatic p G lvl cnt) (hsrc : G src)
    (hre : ReSpecS re (InvX p lvl none (W0 ++ [(l.closure, lvl src)]) (fs0 ++ [l])) E)
    (hop : p.bytecode.getD src 0 = Compiler.op.notEquals) :
    St (InvX p lvl none (W0 ++ [(l.closure, lvl src)]) (fs0 ++ [l])) (step p re src)
      (StepQ p lvl W0 fs0 l src) E :=
  st_op_plain hs hsrc hre (hop ▸ by decide)

theorem st_op_less (hs : CapStatic p G lvl cnt) (hsrc : G src)
    (hre : ReSpecS re (InvX p lvl none (W0 ++ [(l.closure, lvl src)]) (fs0 ++ [l])) E)
    (hop : p.bytecode.getD src 0 = Compiler.op.less) :
    St (InvX p lvl none (W0 ++ [(l.closure, lvl src)]) (fs0 ++ [l])) (step p re src)
      (StepQ p lvl W0 fs0 l src) E :=
  st_op_plain hs hsrc hre (hop ▸ by decide)

theorem st_op_lessOrEq (hs : CapStatic p G lvl cnt) (hsrc : G src)
    (hre : ReSpecS re (InvX p lvl none (W0 ++ [(l.closure, lvl src)]) (fs0 ++ [l])) E)
    (hop : p.bytecode.getD src 0 = Compiler.op.lessOrEq) :
    St (InvX p lvl none (W0 ++ [(l.closure, lvl src)]) (fs0 ++ [l])) (step p re src)
      (StepQ p lvl W0 fs0 l src) E :=
  st_op_plain hs hsrc hre (hop ▸ by decide)

end Cao.Vm
