import CaoModel.Stack
/-!
# C14 — the value stack and the bounded stack are bounded LIFO stacks

`VStack`/`BStack` (in `CaoModel/Stack.lean`) are the code-shaped
models tied to `value_stack.rs` / `bounded_stack.rs` by the `stack` / `bstack` correspondence
engines; here they are proved to refine a plain `List` specification for **every** capacity
and **every** operation sequence.
-/
namespace Cao.C14
open Cao

variable {α : Type} [Inhabited α]

/-! ## Specification: a `List` (bottom first) with a capacity -/

inductive Op (α : Type) where
  | push (v : α) | pop | popN (n : Nat) | popOff (o : Nat) | set (i : Nat) (v : α)
  | get (i : Nat) | last | peek (n : Nat) | clear | clearUntil (h : Nat) | contents | len

inductive Out (α : Type) where
  | unit | val (v : α) | vals (l : List α) | err (e : StackErr) | num (n : Nat)

/-- the value stack keeps one slot free: a push succeeds iff two slots are free -/
def specPush (cap : Nat) (l : List α) (v : α) : List α × Out α :=
  if l.length + 2 ≤ cap then (l ++ [v], .unit) else (l, .err .full)

def specPop (l : List α) : List α × α :=
  match l.getLast? with
  | some v => (l.dropLast, v)
  | none => (l, default)

/-- top first; missing values are `default` (nil) -/
def specPopN (l : List α) (n : Nat) : List α × List α :=
  (l.take (l.length - n), (l.reverse.take n) ++ List.replicate (n - l.length) default)

def specStep (cap : Nat) (l : List α) : Op α → List α × Out α
  | .push v => specPush cap l v
  | .pop => let (l', v) := specPop l; (l', .val v)
  | .popN n => let (l', vs) := specPopN l n; (l', .vals vs)
  | .popOff o => if l.length ≤ o then (l, .val default) else let (l', v) := specPop l; (l', .val v)
  | .set i v =>
      if i > l.length then (l, .err .outOfBounds)
      else if i = l.length then
        (if l.length + 2 ≤ cap then (l ++ [v], .val default) else (l, .err .full))
      else (l.set i v, .val (l.getD i default))
  | .get i => (l, .val (l.getD i default))
  | .last => (l, .val (l.getLast?.getD default))
  | .peek n => (l, .val (if l.length > n then l.getD (l.length - n - 1) default else default))
  | .clear => ([], .unit)
  | .clearUntil h => (l.take (min h l.length), .val (l.getLast?.getD default))
  | .contents => (l, .vals l)
  | .len => (l, .num l.length)

/-- The property's sentence only speaks about truncation to a height at or below the current
    one; the repaired `clear_until` only ever truncates (to `min h height`), so the refinement
    below holds for **every** `h`, without a guard on the operation sequence. -/
theorem spec_clearUntil_eq_take (cap : Nat) (l : List α) (h : Nat) :
    (specStep cap l (.clearUntil h)).1 = l.take h := by
  simp only [specStep]
  by_cases hh : h ≤ l.length
  · rw [Nat.min_eq_left hh]
  · rw [Nat.min_eq_right (by omega), List.take_length, List.take_of_length_le (by omega)]

/-! ## The model's step function (composition of the functions of `CaoModel/Stack.lean`) -/

def modelStep (s : VStack α) : Op α → VStack α × Out α
  | .push v => match s.push v with
      | (s', .ok ()) => (s', .unit)
      | (s', .error e) => (s', .err e)
  | .pop => let (s', v) := s.pop; (s', .val v)
  | .popN n => let (s', vs) := s.popN n; (s', .vals vs)
  | .popOff o => let (s', v) := s.popWOffset o; (s', .val v)
  | .set i v => match s.set i v with
      | (s', .ok old) => (s', .val old)
      | (s', .error e) => (s', .err e)
  | .get i => (s, .val (s.get i))
  | .last => (s, .val s.last)
  | .peek n => (s, .val (s.peekLast n))
  | .clear => (s.clear, .unit)
  | .clearUntil h => let (s', v) := s.clearUntil h; (s', .val v)
  | .contents => (s, .vals s.contents)
  | .len => (s, .num s.count)

def abs (s : VStack α) : List α := s.data.take s.count

/-- representation invariant: `count ≤ cap - 1` (in particular `cap ≥ 1`) -/
def Inv (s : VStack α) : Prop := s.count < s.data.length

/-! ## helper facts about `List` (local, so the file stands alone) -/

omit [Inhabited α] in
private theorem take_set_ge (l : List α) (i n : Nat) (v : α) (h : n ≤ i) :
    (l.set i v).take n = l.take n := by
  rw [List.take_set, List.set_eq_of_length_le (by rw [List.length_take]; omega)]

omit [Inhabited α] in
private theorem take_succ_set (l : List α) (n : Nat) (v : α) (h : n < l.length) :
    (l.set n v).take (n + 1) = l.take n ++ [v] := by
  rw [List.take_add_one, take_set_ge _ _ _ _ (Nat.le_refl _), List.getElem?_set_self h]; rfl

private theorem getD_take (l : List α) (n i : Nat) (h : i < n) :
    (l.take n).getD i default = l.getD i default := by
  simp [List.getD, h]

private theorem getLast?_take (l : List α) (n : Nat) (h0 : 0 < n) (h : n ≤ l.length) :
    (l.take n).getLast? = some (l.getD (n - 1) default) := by
  have hl : (l.take n).length = n := by rw [List.length_take]; omega
  rw [List.getLast?_eq_getElem?, hl, List.getElem?_take_of_lt (by omega), List.getD,
    List.getElem?_eq_getElem (by omega)]; rfl

private theorem range_map_getD_down (l : List α) (c : Nat) (hc : c ≤ l.length) : ∀ m, m ≤ c →
    (List.range m).map (fun i => l.getD (c - i - 1) default) = (l.take c).reverse.take m
  | 0, _ => rfl
  | m + 1, h => by
    have hl : (l.take c).length = c := by rw [List.length_take]; exact Nat.min_eq_left hc
    rw [List.range_succ, List.map_append, range_map_getD_down l c hc m (by omega), List.take_add_one,
      List.getElem?_reverse (by omega), hl, List.getElem?_take_of_lt (by omega),
      show c - 1 - m = c - m - 1 by omega, List.getElem?_eq_getElem (by omega)]
    simp only [List.map_cons, List.map_nil, List.getD,
      List.getElem?_eq_getElem (show c - m - 1 < l.length by omega)]
    rfl

/-! ## what each function of `CaoModel/Stack.lean` does to the abstraction -/

/-- what one step has to establish, from state `s`: same output, the abstraction commutes, the
    invariant and the allocated size are kept -/
def Sim (s : VStack α) (p : VStack α × Out α) (q : List α × Out α) : Prop :=
  p.2 = q.2 ∧ abs p.1 = q.1 ∧ Inv p.1 ∧ p.1.data.length = s.data.length

omit [Inhabited α] in
private theorem Sim.read {s : VStack α} (hI : Inv s) {v v' : α} (h : v = v') :
    Sim s (s, .val v) (abs s, .val v') := ⟨congrArg Out.val h, rfl, hI, rfl⟩

omit [Inhabited α] in
private theorem length_abs (s : VStack α) (h : Inv s) : (abs s).length = s.count := by
  rw [abs, List.length_take]; exact Nat.min_eq_left (Nat.le_of_lt h)

private theorem get_eq (s : VStack α) (i : Nat) : s.get i = (abs s).getD i default := by
  unfold VStack.get abs
  split
  · rw [List.getD, List.getElem?_take_eq_none (by omega)]; rfl
  · rw [getD_take _ _ _ (by omega)]

private theorem last_eq (s : VStack α) (hI : Inv s) :
    s.last = (abs s).getLast?.getD default := by
  unfold VStack.last abs
  split
  · next h => rw [getLast?_take _ _ h (Nat.le_of_lt hI)]; rfl
  · next h => rw [show s.count = 0 by omega]; rfl

private theorem peek_eq (s : VStack α) (hI : Inv s) (n : Nat) :
    s.peekLast n = if s.count > n then (abs s).getD (s.count - n - 1) default else default := by
  have hI' : s.count < s.data.length := hI
  unfold VStack.peekLast abs
  split
  · rw [getD_take _ _ _ (by omega)]
  · rfl

omit [Inhabited α] in
private theorem push_ok (s : VStack α) (v : α) (h : s.count + 1 < s.data.length) :
    s.push v = ({ count := s.count + 1, data := s.data.set s.count v }, .ok ()) := by
  simp [VStack.push, h]

set_option linter.unusedSectionVars false in
private theorem push_full (s : VStack α) (v : α) (h : ¬ s.count + 1 < s.data.length) :
    s.push v = (s, .error .full) := by
  simp [VStack.push, h]

private theorem push_abs (s : VStack α) (hI : Inv s) (v : α) :
    (∃ s', s.count + 2 ≤ s.data.length ∧ s.push v = (s', .ok ()) ∧
      abs s' = abs s ++ [v] ∧ Inv s' ∧ s'.data.length = s.data.length) ∨
    (¬ s.count + 2 ≤ s.data.length ∧ s.push v = (s, .error .full)) := by
  by_cases h : s.count + 1 < s.data.length
  · exact .inl ⟨_, h, push_ok s v h, take_succ_set _ _ _ hI,
      by rw [Inv, List.length_set]; exact h, List.length_set ..⟩
  · exact .inr ⟨h, push_full s v h⟩

private theorem pop_abs (s : VStack α) (hI : Inv s) :
    Sim s ((s.pop).1, .val (s.pop).2) ((specPop (abs s)).1, .val (specPop (abs s)).2) := by
  have hI' : s.count < s.data.length := hI
  unfold VStack.pop specPop
  by_cases h : s.count = 0
  · have ha : abs s = [] := by rw [abs, h]; rfl
    rw [if_pos h, ha]; exact ⟨rfl, ha, hI, rfl⟩
  · rw [if_neg h, show (abs s).getLast? = _ from getLast?_take s.data s.count (by omega) (by omega)]
    refine ⟨rfl, ?_, ?_, List.length_set ..⟩
    · show ((s.data.set _ _).take _) = (s.data.take _).dropLast
      rw [take_set_ge _ _ _ _ (Nat.le_refl _), List.dropLast_take (by omega)]
    · show s.count - 1 < (s.data.set _ _).length
      rw [List.length_set]; omega

private theorem popN_abs (s : VStack α) (hI : Inv s) (n : Nat) :
    Sim s ((s.popN n).1, .vals (s.popN n).2)
      ((specPopN (abs s) n).1, .vals (specPopN (abs s) n).2) := by
  have hl := length_abs s hI
  have hc : s.count ≤ s.data.length := Nat.le_of_lt hI
  unfold VStack.popN specPopN
  rw [hl]
  -- split on `n ≤ count` once, so that no goal mentions `min` or a truncated subtraction of
  -- unknown sign
  rcases Nat.le_total n s.count with h | h
  · simp only [Nat.min_eq_right h, Nat.sub_self, Nat.sub_eq_zero_of_le h]
    refine ⟨congrArg (fun l => Out.vals (l ++ [])) (range_map_getD_down s.data s.count hc n h), ?_,
      Nat.lt_of_le_of_lt (Nat.sub_le ..) hI, rfl⟩
    show s.data.take (s.count - n) = (s.data.take s.count).take (s.count - n)
    rw [List.take_take, Nat.min_eq_left (Nat.sub_le ..)]
  · simp only [Nat.min_eq_left h, Nat.sub_self, Nat.sub_eq_zero_of_le h]
    refine ⟨congrArg (fun l => Out.vals (l ++ _)) ?_, rfl, Nat.zero_lt_of_lt hI, rfl⟩
    have hr : (abs s).reverse.length = s.count := List.length_reverse.trans hl
    exact (range_map_getD_down s.data s.count hc _ (Nat.le_refl _)).trans
      ((List.take_of_length_le (Nat.le_of_eq hr)).trans
        (List.take_of_length_le (Nat.le_trans (Nat.le_of_eq hr) h)).symm)

private theorem clearUntil_abs (s : VStack α) (hI : Inv s) (h : Nat) :
    abs (s.clearUntil h).1 = (abs s).take (min h s.count) ∧ Inv (s.clearUntil h).1 := by
  have hI' : s.count < s.data.length := hI
  unfold VStack.clearUntil abs Inv
  refine ⟨?_, ?_⟩
  · show s.data.take (if h < s.count then h else s.count) = (s.data.take s.count).take (min h s.count)
    rw [List.take_take]; congr 1; split <;> omega
  · show (if h < s.count then h else s.count) < s.data.length
    split <;> omega

private theorem set_below (s : VStack α) (hI : Inv s) (i : Nat) (v : α) (h : i < s.count) :
    Sim s ({ s with data := s.data.set i v }, .val (s.data.getD i default))
      ((abs s).set i v, .val ((abs s).getD i default)) :=
  ⟨by rw [abs, getD_take _ _ _ h], by rw [abs, abs, List.take_set],
    by rw [Inv, List.length_set]; exact hI, List.length_set ..⟩

/-! ## one-step refinement -/

theorem step_refines (s : VStack α) (op : Op α) (hI : Inv s) :
    (modelStep s op).2 = (specStep s.data.length (abs s) op).2 ∧
    abs (modelStep s op).1 = (specStep s.data.length (abs s) op).1 ∧
    Inv (modelStep s op).1 ∧ (modelStep s op).1.data.length = s.data.length := by
  have hlen := length_abs s hI
  show Sim s (modelStep s op) (specStep s.data.length (abs s) op)
  cases op with
  | push v =>
    rw [modelStep, specStep, specPush, hlen]
    rcases push_abs s hI v with ⟨s', hc, hp, ha, hI', hl⟩ | ⟨hc, hp⟩
    · rw [hp, if_pos hc]; exact ⟨rfl, ha, hI', hl⟩
    · rw [hp, if_neg hc]; exact ⟨rfl, rfl, hI, rfl⟩
  | pop => exact pop_abs s hI
  | popN n => exact popN_abs s hI n
  | popOff o =>
    rw [modelStep, specStep, VStack.popWOffset, hlen]
    by_cases h : s.count ≤ o
    · rw [if_pos h, if_pos h]; exact Sim.read hI rfl
    · rw [if_neg h, if_neg h]; exact pop_abs s hI
  | set i v =>
    rw [modelStep, specStep, VStack.set, hlen]
    by_cases h1 : i > s.count
    · rw [if_pos h1, if_pos h1]; exact ⟨rfl, rfl, hI, rfl⟩
    · rw [if_neg h1, if_neg h1]
      by_cases h2 : i = s.count
      · rw [if_pos h2, if_pos h2]
        rcases push_abs s hI v with ⟨s', hc, hp, ha, hI', hl⟩ | ⟨hc, hp⟩
        · rw [hp, if_pos hc]; exact ⟨rfl, ha, hI', hl⟩
        · rw [hp, if_neg hc]; exact ⟨rfl, rfl, hI, rfl⟩
      · rw [if_neg h2, if_neg h2]; exact set_below s hI i v (by omega)
  | get i => exact Sim.read hI (get_eq s i)
  | last => exact Sim.read hI (last_eq s hI)
  | peek n => rw [modelStep, specStep, hlen]; exact Sim.read hI (peek_eq s hI n)
  | clear =>
    refine ⟨rfl, ?_, ?_, List.length_set ..⟩
    · show (s.data.set 0 default).take 0 = []
      rfl
    · show 0 < (s.data.set 0 default).length
      rw [List.length_set]; exact Nat.zero_lt_of_lt hI
  | clearUntil h =>
    rw [modelStep, specStep, hlen]
    obtain ⟨h1, h2⟩ := clearUntil_abs s hI h
    exact ⟨congrArg Out.val (last_eq s hI), h1, h2, rfl⟩
  | contents => exact ⟨rfl, rfl, hI, rfl⟩
  | len => exact ⟨congrArg Out.num hlen.symm, rfl, hI, rfl⟩

/-! ## runs -/

def runModel (s : VStack α) : List (Op α) → List (Out α)
  | [] => []
  | op :: ops => let (s', o) := modelStep s op; o :: runModel s' ops

def runSpec (cap : Nat) (l : List α) : List (Op α) → List (Out α)
  | [] => []
  | op :: ops => let (l', o) := specStep cap l op; o :: runSpec cap l' ops

theorem run_refines (s : VStack α) (ops : List (Op α)) (hI : Inv s) :
    runModel s ops = runSpec s.data.length (abs s) ops := by
  induction ops generalizing s with
  | nil => rfl
  | cons op ops ih =>
    obtain ⟨h1, h2, h3, h4⟩ := step_refines s op hI
    simp only [runModel, runSpec]
    rw [h1]
    congr 1
    have := ih (modelStep s op).1 h3
    rw [this, h4, h2]

/-- **C14 (value stack)**: for every capacity `≥ 1` and every operation sequence (every
    `clear_until h`, also with `h` above the height: it truncates to `min h height`) the
    outputs of the code-shaped model equal those of the `List`-based bounded stack. -/
theorem vs_refines (cap : Nat) (hcap : 1 ≤ cap) (ops : List (Op α)) :
    runModel (VStack.new cap : VStack α) ops = runSpec cap [] ops := by
  have hI : Inv (VStack.new cap : VStack α) := by simp [Inv, VStack.new]; omega
  have hl : (VStack.new cap : VStack α).data.length = cap := by simp [VStack.new]
  have ha : abs (VStack.new cap : VStack α) = [] := by simp [abs, VStack.new]
  have := run_refines (VStack.new cap : VStack α) ops hI
  rw [this, hl, ha]

/-- `Inv` (`count < data.length`) holds in every reachable state -/
theorem vs_bounded (s : VStack α) (ops : List (Op α)) (hI : Inv s) :
    ∀ s', s' = ops.foldl (fun s op => (modelStep s op).1) s → s'.count < s'.data.length := by
  induction ops generalizing s with
  | nil => intro s' h; subst h; exact hI
  | cons op ops ih =>
    intro s' h
    obtain ⟨_, h2, h3, h4⟩ := step_refines s op hI
    exact ih (modelStep s op).1 h3 s' h

/-- Spec-level sanity: pushes are returned in reverse order by pops. -/
theorem spec_lifo (cap : Nat) (l : List α) (v : α) (h : l.length + 2 ≤ cap) :
    specPop (specPush cap l v).1 = (l, v) := by
  simp [specPush, h, specPop]

/-- Counter-example kept as the record of F1: the *old* `pop` exposed a stale slot. -/
theorem old_pop_exposes_stale_slot :
    let s0 : VStack Nat := VStack.new 4
    let s1 := (s0.push 42).1
    let s2 := (s1.popN 1).1
    (s2.popOld).2 = 42 ∧ (s2.pop).2 = 0 := by decide

/-- `clear_until` never raises the height (the repaired defect): whatever the index. -/
theorem clearUntil_count_le (s : VStack α) (h : Nat) :
    (s.clearUntil h).1.count ≤ s.count ∧ (s.clearUntil h).1.count ≤ h ∧
    (s.clearUntil h).1.count = min h s.count := by
  simp only [VStack.clearUntil]; split <;> omega

/-- Non-vacuity / regression record: a concrete run with a `clear_until` **above** the height
    (`clearUntil 5` at height 2: the stack is unchanged, nothing stale becomes visible) and one
    below it. -/
example : runModel (VStack.new 4 : VStack Nat)
    [.push 1, .push 2, .push 3, .popN 1, .clearUntil 5, .contents, .clearUntil 1, .contents,
     .pop, .pop, .set 0 9, .contents] =
    [.unit, .unit, .unit, .vals [3], .val 2, .vals [1, 2], .val 2, .vals [1],
     .val 1, .val 0, .val 0, .vals [9]] := by rfl

/-! ## bounded stack: LIFO + every element dropped exactly once -/

inductive BOp (τ : Type) where
  | push (v : τ) | pop | clear

/-- log of everything that left the stack towards the caller (`pop` results) -/
structure BRun (τ : Type) where
  st : BStack τ
  popped : List τ

def bStep {τ : Type} (r : BRun τ) : BOp τ → BRun τ
  | .push v => { r with st := (r.st.push v).1 }
  | .pop => match r.st.pop with
      | (s', some v) => { st := s', popped := r.popped ++ [v] }
      | (s', none) => { r with st := s' }
  | .clear => { r with st := r.st.clear }

def pushed {τ : Type} : List (BOp τ) → List τ
  | [] => []
  | .push v :: ops => v :: pushed ops
  | _ :: ops => pushed ops

def pushedBy {τ : Type} : BOp τ → List τ
  | .push v => [v]
  | _ => []

private theorem pushed_cons {τ : Type} (op : BOp τ) (ops : List (BOp τ)) :
    pushed (op :: ops) = pushedBy op ++ pushed ops := by cases op <;> rfl

private theorem getLast?_count {τ : Type} [DecidableEq τ] {l : List τ} {v : τ}
    (h : l.getLast? = some v) (x : τ) : l.count x = l.dropLast.count x + [v].count x := by
  obtain ⟨l', rfl⟩ := List.getLast?_eq_some_iff.mp h
  rw [List.dropLast_concat, List.count_append]

theorem bStep_accounting {τ : Type} [DecidableEq τ] (r : BRun τ) (op : BOp τ)
    (hcap : r.st.items.length ≤ r.st.cap) (x : τ) :
    ((bStep r op).st.items.count x + (bStep r op).popped.count x + (bStep r op).st.dropped.count x =
      r.st.items.count x + r.popped.count x + r.st.dropped.count x + (pushedBy op).count x)
    ∧ (bStep r op).st.items.length ≤ (bStep r op).st.cap := by
  cases op with
  | push v =>
    show ((r.st.push v).1.items.count x + r.popped.count x + (r.st.push v).1.dropped.count x =
      _ + [v].count x) ∧ (r.st.push v).1.items.length ≤ (r.st.push v).1.cap
    unfold BStack.push
    by_cases h : r.st.items.length ≥ r.st.cap
    · rw [if_pos h]
      exact ⟨(congrArg (_ + ·) List.count_append).trans (Nat.add_assoc ..).symm, hcap⟩
    · rw [if_neg h]
      refine ⟨?_, by show (r.st.items ++ [v]).length ≤ _; rw [List.length_append]; exact Nat.lt_of_not_ge h⟩
      show (r.st.items ++ [v]).count x + _ + r.st.dropped.count x = _
      rw [List.count_append]; omega
  | pop =>
    cases hgl : r.st.items.getLast? with
    | none =>
      have e : bStep r .pop = r := by simp only [bStep, BStack.pop, hgl]
      rw [e]; exact ⟨rfl, hcap⟩
    | some v =>
      have e : bStep r .pop = ⟨{ r.st with items := r.st.items.dropLast }, r.popped ++ [v]⟩ := by
        simp only [bStep, BStack.pop, hgl]
      rw [e]
      refine ⟨?_, Nat.le_trans (by rw [List.length_dropLast]; exact Nat.sub_le ..) hcap⟩
      show r.st.items.dropLast.count x + (r.popped ++ [v]).count x + r.st.dropped.count x =
        _ + ([] : List τ).count x
      rw [getLast?_count hgl x, List.count_append, List.count_nil]; omega
  | clear =>
    refine ⟨?_, Nat.zero_le _⟩
    show ([] : List τ).count x + r.popped.count x + (r.st.dropped ++ r.st.items).count x =
      _ + ([] : List τ).count x
    rw [List.count_append, List.count_nil]; omega

/-- **C14 (bounded stack)**: along every run and for every element `x`, the number of times
    `x` was pushed so far equals the number of copies still stored, plus those handed back
    by `pop`, plus those dropped — and the stack never holds more than `cap` elements.
    With pairwise distinct elements (the harness uses unique ids) this is "each element is in
    exactly one of: the stack, the caller's hands, the drop log — exactly once". -/
theorem bs_accounting {τ : Type} [DecidableEq τ] (r : BRun τ) (ops : List (BOp τ))
    (hcap : r.st.items.length ≤ r.st.cap) (x : τ) :
    let r' := ops.foldl bStep r
    (r'.st.items.count x + r'.popped.count x + r'.st.dropped.count x =
      r.st.items.count x + r.popped.count x + r.st.dropped.count x + (pushed ops).count x)
    ∧ r'.st.items.length ≤ r'.st.cap := by
  induction ops generalizing r with
  | nil => exact ⟨rfl, hcap⟩
  | cons op ops ih =>
    obtain ⟨h1, h2⟩ := bStep_accounting r op hcap x
    obtain ⟨h3, h4⟩ := ih (bStep r op) h2
    refine ⟨?_, h4⟩
    rw [List.foldl_cons, pushed_cons, List.count_append]
    exact h3.trans (by omega)

private theorem pushed_append_clear {τ : Type} (ops : List (BOp τ)) :
    pushed (ops ++ [BOp.clear]) = pushed ops := by
  induction ops with
  | nil => simp [pushed]
  | cons op ops ih => cases op <;> simp [pushed, ih]

/-- corollary: a fresh stack, any run, then `clear` (what `Drop` calls): nothing is kept and
    every pushed element was either handed back by `pop` or dropped — never both, never twice -/
theorem bs_drop_once {τ : Type} [DecidableEq τ] (cap : Nat) (ops : List (BOp τ)) (x : τ) :
    let r' := (ops ++ [BOp.clear]).foldl bStep { st := BStack.new cap, popped := [] }
    r'.st.items = [] ∧ r'.popped.count x + r'.st.dropped.count x = (pushed ops).count x := by
  have h := (bs_accounting { st := (BStack.new cap : BStack τ), popped := [] }
    (ops ++ [BOp.clear]) (by simp [BStack.new]) x).1
  rw [pushed_append_clear] at h
  have hi : ((ops ++ [BOp.clear]).foldl bStep
      { st := (BStack.new cap : BStack τ), popped := [] }).st.items = [] := by
    simp [List.foldl_append, bStep, BStack.clear]
  refine ⟨hi, ?_⟩
  simp only [] at h
  rw [hi] at h
  simp only [BStack.new, List.count_nil] at h ⊢
  omega

/-- LIFO: a successful push followed by pop returns the pushed element and restores the items -/
theorem bs_lifo {τ : Type} (s : BStack τ) (v : τ) (h : s.items.length < s.cap) :
    ((s.push v).1.pop) = ({ s with items := s.items }, some v) := by
  have : ¬ (s.items.length ≥ s.cap) := by omega
  simp [BStack.push, this, BStack.pop]

example : (([BOp.push 1, .push 2, .push 3, .pop, .clear] : List (BOp Nat)).foldl bStep
    { st := BStack.new 2, popped := [] }).st.dropped = [3, 1] := by decide

end Cao.C14
