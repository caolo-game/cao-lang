import CaoProofs.Lemmas.CardLemmas
/-!
# C16 — card indices, walking and editing a module

Property: *Every card of a module has exactly one index; visiting all cards reports each card
once together with an index that, when looked up, returns that same card, and child
enumeration, child count and child lookup agree for every card kind. Insert, remove, replace
and swap change exactly the addressed card(s): remove undoes insert at the same index,
replacing back restores the module, swapping twice is the identity, swapping a card with its
own ancestor or using an invalid index fails and leaves the module unchanged.*

The model (`CaoModel/CardOps.lean`) mirrors the patched `card.rs` / `module.rs` kind by kind and
is tied to the Rust crate by the `mod` correspondence engine. The theorems below hold for
**every** module, index and card. Helper lemmas live in `CaoProofs/Lemmas/CardLemmas.lean`.

Vocabulary: `MDisj a b` — the two indices address disjoint subtrees (different functions, or
neither sub-index path is a prefix of the other); `Module.isListSlot m idx` — the addressed slot
is an element position of a `Vec<Card>` (top-level card of a function; child of
Composite/Closure/Array/Call/CallNative; argument of DynamicCall) as opposed to a fixed field.
-/
namespace Cao.C16
open Cao Cao.Card Cao.Module

/-! ## 1. child count, child enumeration and child lookup agree (all 23 constructor shapes) -/

theorem numChildren_children (c : Card) : c.numChildren = c.children.length :=
  Card.numChildren_eq c

theorem children_getChild (c : Card) (i : Nat) : c.children[i]? = c.getChild i :=
  (Card.getChild_eq c i).symm

/-- `get_child(i)` is `Some` exactly for `i < num_children()` -/
theorem getChild_isSome_iff (c : Card) (i : Nat) : (c.getChild i).isSome ↔ i < c.numChildren := by
  rw [Card.getChild_eq, Card.numChildren_eq]
  simp

/-! ## 2. walking: every card is reported exactly once, with an index that fetches it -/

/-- soundness: every reported `(index, card)` satisfies `get_card(index) = Ok(card)` -/
theorem walk_getCard (m : Module) : ∀ p ∈ m.walk, m.getCard p.1 = .ok p.2 := by
  intro p hp
  exact (Module.mem_walk_iff m p.1 p.2).1 hp

/-- completeness: every index at which `get_card` succeeds is reported, with that card -/
theorem walk_complete (m : Module) (idx : CardIndex) (c : Card) (h : m.getCard idx = .ok c) :
    (idx, c) ∈ m.walk :=
  (Module.mem_walk_iff m idx c).2 h

/-- no index is reported twice -/
theorem walk_nodup (m : Module) : (m.walk.map (·.1)).Nodup := Module.nodup_walk m

/-- the reported indices are exactly the valid ones -/
theorem mem_walk_indices_iff (m : Module) (idx : CardIndex) :
    idx ∈ m.walk.map (·.1) ↔ ∃ c, m.getCard idx = .ok c := by
  rw [List.mem_map]
  constructor
  · rintro ⟨⟨i, c⟩, hm, rfl⟩
    exact ⟨c, walk_getCard m _ hm⟩
  · rintro ⟨c, h⟩
    exact ⟨(idx, c), walk_complete m idx c h, rfl⟩

/-- every valid index occurs exactly once in the walk -/
theorem walk_exactly_once (m : Module) (idx : CardIndex) (c : Card) (h : m.getCard idx = .ok c) :
    (m.walk.map (·.1)).count idx = 1 := by
  rw [(walk_nodup m).count, if_pos ((mem_walk_indices_iff m idx).2 ⟨c, h⟩)]

/-- a card occurrence has one index: two reported entries with the same index are the same entry
(and carry the same card) -/
theorem walk_index_unique (m : Module) (i j : Nat) (hi : i < m.walk.length) (hj : j < m.walk.length)
    (h : (m.walk[i]).1 = (m.walk[j]).1) : i = j := by
  have hn := walk_nodup m
  have hi' : i < (m.walk.map (·.1)).length := by simpa using hi
  have hj' : j < (m.walk.map (·.1)).length := by simpa using hj
  exact (List.getElem_inj (h₀ := hi') (h₁ := hj') hn).1 (by simpa using h)

/-! ## 3. replace -/

theorem replace_get (m m' : Module) (idx : CardIndex) (c old : Card)
    (h : m.replaceCard idx c = .ok (m', old)) :
    m.getCard idx = .ok old ∧ m'.getCard idx = .ok c := by
  unfold replaceCard at h
  cases hg : m.getCard idx with
  | error e => rw [hg] at h; cases h
  | ok o =>
    rw [hg] at h
    cases h
    exact ⟨rfl, getCard_setCard_same m idx c _ hg⟩

/-- replacing back restores the module (and hands back the card that was put in) -/
theorem replace_replace (m m' : Module) (idx : CardIndex) (c old : Card)
    (h : m.replaceCard idx c = .ok (m', old)) : m'.replaceCard idx old = .ok (m, c) := by
  have hg := (replace_get m m' idx c old h).1
  rw [replaceCard_ok m idx c old hg] at h
  cases h
  rw [replaceCard_ok _ idx old c (getCard_setCard_same m idx c old hg),
    setCard_setCard_same, setCard_getCard m idx old hg]

/-- `replace_card` succeeds exactly where `get_card` does, with the same error otherwise -/
theorem replace_error_iff (m : Module) (idx : CardIndex) (c : Card) (e : CardFetchError) :
    m.replaceCard idx c = .error e ↔ m.getCard idx = .error e := by
  unfold replaceCard
  cases m.getCard idx <;> simp

/-- replace changes nothing outside the addressed subtree -/
theorem replace_frame (m m' : Module) (idx q : CardIndex) (c old : Card)
    (h : m.replaceCard idx c = .ok (m', old)) (hd : MDisj idx q) : m'.getCard q = m.getCard q := by
  have hg := (replace_get m m' idx c old h).1
  rw [replaceCard_ok m idx c old hg] at h
  cases h
  exact getCard_setCard_disj m idx q c hd

/-! ## 4. insert / remove -/

/-- after a successful insert the addressed index holds the inserted card — for list slots
(the old occupant and its right siblings shifted) and for fixed slots (the old occupant is
overwritten: insert *replaces*) alike -/
theorem insert_get (m m' : Module) (idx : CardIndex) (c : Card)
    (h : m.insertCard idx c = .ok m') : m'.getCard idx = .ok c := by
  rcases insertCard_ok h with ⟨i, cs, hi, hc, hle, rfl⟩ | ⟨p, p', _, hp, hins, rfl, hidx⟩
  · rw [getCard_ok_iff, cardL_get]
    simp [cardsOf_setFn, hc, hi, getL, getPath, List.getElem?_insertIdx_self, hle]
  · have h2 := getCard_append _ idx.parent.function idx.parent.indices
      [idx.indices.getLast?.getD 0] p' (getCard_setCard_same m idx.parent p' p hp)
    rw [← hidx] at h2
    rw [h2]
    simp only [getPath, Card.getChild_insertChild p p' _ c hins]
    rfl

/-- **remove undoes insert** at the same index, for every list slot -/
theorem remove_insert (m m' : Module) (idx : CardIndex) (c : Card)
    (h : m.insertCard idx c = .ok m') (hl : m.isListSlot idx = true) :
    m'.removeCard idx = .ok (m, c) := by
  rcases insertCard_ok h with ⟨i, cs, hi, hc, hle, rfl⟩ | ⟨p, p', ⟨i, j, rest, hi⟩, hp, hins, rfl, _⟩
  · rw [removeCard_top _ idx i hi]
    simp only [cardsOf_setFn, if_pos, hc, Option.map_some, List.getElem?_insertIdx_self, hle,
      List.eraseIdx_insertIdx_self, setFn_setFn, setFn_cardsOf m _ cs hc]
  · have hl' : p.isListSlot (idx.indices.getLast?.getD 0) = true := by
      simp only [Module.isListSlot, hi, hp] at hl
      rw [hi]; exact hl
    rw [removeCard_nested _ idx i j rest hi, getCard_setCard_same m idx.parent p' p hp]
    simp only [Card.removeChild_insertChild p p' _ c hins hl']
    rw [setCard_setCard_same, setCard_getCard m idx.parent p hp]

/-- for fixed slots insert **replaces**: it is `replace_card` with the old card dropped -/
theorem insert_fixed_replaces (m m' : Module) (idx : CardIndex) (c : Card)
    (h : m.insertCard idx c = .ok m') (hl : m.isListSlot idx = false) :
    ∃ old, m.replaceCard idx c = .ok (m', old) :=
  Module.insertCard_fixed m m' idx c h hl

/-- `remove_card` hands out exactly the addressed card -/
theorem remove_returns_addressed (m m' : Module) (idx : CardIndex) (r : Card)
    (h : m.removeCard idx = .ok (m', r)) : m.getCard idx = .ok r := by
  rw [← Module.removeCard_map_snd, h]; rfl

/-- `remove_card` fails exactly where `get_card` does, with the same error -/
theorem remove_error_iff (m : Module) (idx : CardIndex) (e : CardFetchError) :
    m.removeCard idx = .error e ↔ m.getCard idx = .error e := by
  rw [← Module.removeCard_map_snd]
  cases m.removeCard idx with
  | error e' => simp [Except.map]
  | ok r => simp [Except.map]

/-- a nested remove changes nothing outside the subtree of the parent card -/
theorem remove_frame (m m' : Module) (idx q : CardIndex) (r : Card)
    (h : m.removeCard idx = .ok (m', r)) (hlen : 2 ≤ idx.indices.length)
    (hd : MDisj idx.parent q) : m'.getCard q = m.getCard q := by
  rcases removeCard_ok h with ⟨i, _, hi, _⟩ | ⟨p, p', _, _, _, rfl, _⟩
  · rw [hi] at hlen; exact absurd hlen (Nat.not_succ_le_self 1)
  · exact getCard_setCard_disj m idx.parent q p' hd

/-- a nested insert changes nothing outside the subtree of the parent card -/
theorem insert_frame (m m' : Module) (idx q : CardIndex) (c : Card)
    (h : m.insertCard idx c = .ok m') (hlen : 2 ≤ idx.indices.length) (hd : MDisj idx.parent q) :
    m'.getCard q = m.getCard q := by
  rcases insertCard_ok h with ⟨i, _, hi, _⟩ | ⟨p, p', _, _, _, rfl, _⟩
  · rw [hi] at hlen; exact absurd hlen (Nat.not_succ_le_self 1)
  · exact getCard_setCard_disj m idx.parent q p' hd

/-- a top-level insert changes no other function -/
theorem insert_frame_top (m m' : Module) (idx q : CardIndex) (c : Card)
    (h : m.insertCard idx c = .ok m') (hlen : idx.indices.length = 1)
    (hq : idx.function ≠ q.function) : m'.getCard q = m.getCard q := by
  rcases insertCard_ok h with ⟨i, cs, _, _, _, rfl⟩ | ⟨_, _, ⟨i, j, rest, hi⟩, _⟩
  · rw [getCard_eq, getCard_eq, cardsOf_setFn, if_neg hq]
  · rw [hi] at hlen; cases hlen

/-! ## 5. swap -/

/-- swapping a (valid) card with itself is a no-op -/
theorem swap_self (m : Module) (a : CardIndex) (c : Card) (h : m.getCard a = .ok c) :
    m.swapCards a a = .ok m := by
  unfold swapCards
  rw [swapCardsSt_self, h]

theorem swap_self_invalid (m : Module) (a : CardIndex) (e : CardFetchError)
    (h : m.getCard a = .error e) : m.swapCardsSt a a = (m, .error (.fetchError e)) := by
  rw [swapCardsSt_self, h]

/-- **every failing `swap_cards` leaves the module unchanged** (the restore step restores, and
the three `unwrap()`s never fire) -/
theorem swap_error_unchanged (m : Module) (a b : CardIndex) (e : SwapError)
    (h : (m.swapCardsSt a b).2 = .error e) : (m.swapCardsSt a b).1 = m := by
  by_cases hab : a = b
  · subst hab
    rw [swapCardsSt_self]
    cases m.getCard a <;> rfl
  · obtain ⟨_, hne, hord⟩ := swap_select a b hab
    rw [swapCardsSt_ne m a b hab] at h ⊢
    rcases swapCore_cases m _ _ hne hord with ⟨_, _, hs⟩ | ⟨_, _, _, hs⟩ | ⟨_, _, _, _, _, hs⟩ |
      ⟨_, _, _, _, _, hs⟩
    · rw [hs]
    · rw [hs]
    · rw [hs]
    · rw [hs] at h; cases h

/-- characterisation of success: either `a = b` is valid and nothing changes, or `a` and `b` are
both valid and address disjoint subtrees, and the result is `m` with the two cards exchanged -/
theorem swap_ok_char (m m' : Module) (a b : CardIndex) (h : m.swapCards a b = .ok m') :
    (a = b ∧ m' = m ∧ ∃ c, m.getCard a = .ok c) ∨
    (MDisj a b ∧ ∃ A B, m.getCard a = .ok A ∧ m.getCard b = .ok B ∧
      m' = (m.setCard a B).setCard b A) := by
  unfold swapCards at h
  by_cases hab : a = b
  · subst hab
    rw [swapCardsSt_self] at h
    cases hg : m.getCard a with
    | error e => rw [hg] at h; cases h
    | ok c =>
      rw [hg] at h
      simp only [Except.ok.injEq] at h
      exact Or.inl ⟨rfl, h.symm, c, rfl⟩
  · right
    obtain ⟨hsel, hne, hord⟩ := swap_select a b hab
    rw [swapCardsSt_ne m a b hab] at h
    generalize (if a < b then b else a) = lhs at *
    generalize (if a < b then a else b) = rhs at *
    rcases swapCore_cases m _ _ hne hord with ⟨_, _, hs⟩ | ⟨_, _, _, hs⟩ | ⟨_, _, _, _, _, hs⟩ |
      ⟨L, R, hr, hd, hl, hs⟩
    · rw [hs] at h; cases h
    · rw [hs] at h; cases h
    · rw [hs] at h; cases h
    · rw [hs] at h
      simp only [Except.ok.injEq] at h
      rcases hsel with ⟨h1, h2⟩ | ⟨h1, h2⟩
      · subst h1 h2
        exact ⟨hd.symm, R, L, hr, hl, h.symm⟩
      · subst h1 h2
        refine ⟨hd, L, R, hl, hr, ?_⟩
        rw [← h, setCard_comm _ _ _ _ _ hd]

/-- conversely, two valid indices addressing disjoint subtrees can always be swapped -/
theorem swap_ok_of_disj (m : Module) (a b : CardIndex) (A B : Card) (hd : MDisj a b)
    (ha : m.getCard a = .ok A) (hb : m.getCard b = .ok B) :
    m.swapCards a b = .ok ((m.setCard a B).setCard b A) := by
  have hab : a ≠ b := hd.ne
  obtain ⟨hsel, _, _⟩ := swap_select a b hab
  unfold swapCards
  rw [swapCardsSt_ne m a b hab]
  generalize (if a < b then b else a) = lhs at *
  generalize (if a < b then a else b) = rhs at *
  rcases hsel with ⟨h1, h2⟩ | ⟨h1, h2⟩
  · rw [h1, h2, swapCore_disj m b a B A hd.symm hb ha]
  · rw [h1, h2, swapCore_disj m a b A B hd ha hb, setCard_comm _ _ _ _ _ hd.symm]

/-- after a successful swap the two indices hold each other's former cards -/
theorem swap_get (m m' : Module) (a b : CardIndex) (h : m.swapCards a b = .ok m') :
    m'.getCard a = m.getCard b ∧ m'.getCard b = m.getCard a := by
  rcases swap_ok_char m m' a b h with ⟨rfl, rfl, _⟩ | ⟨hd, A, B, ha, hb, rfl⟩
  · exact ⟨rfl, rfl⟩
  · constructor
    · rw [getCard_setCard_disj _ _ _ _ hd.symm, getCard_setCard_same m a B A ha, hb]
    · have : (m.setCard a B).getCard b = .ok B := by rw [getCard_setCard_disj _ _ _ _ hd, hb]
      rw [getCard_setCard_same _ b A B this, ha]

/-- a successful swap changes nothing outside the two addressed subtrees -/
theorem swap_frame (m m' : Module) (a b q : CardIndex) (h : m.swapCards a b = .ok m')
    (hqa : MDisj a q) (hqb : MDisj b q) : m'.getCard q = m.getCard q := by
  rcases swap_ok_char m m' a b h with ⟨rfl, rfl, _⟩ | ⟨_, A, B, _, _, rfl⟩
  · rfl
  · rw [getCard_setCard_disj _ _ _ _ hqb, getCard_setCard_disj _ _ _ _ hqa]

/-- **swapping twice is the identity** -/
theorem swap_swap (m m' : Module) (a b : CardIndex) (h : m.swapCards a b = .ok m') :
    m'.swapCards a b = .ok m := by
  rcases swap_ok_char m m' a b h with ⟨rfl, rfl, c, hc⟩ | ⟨hd, A, B, ha, hb, rfl⟩
  · exact swap_self m' a c hc
  · obtain ⟨h1, h2⟩ := swap_get m _ a b h
    rw [hb] at h1; rw [ha] at h2
    rw [swap_ok_of_disj _ a b B A hd h1 h2]
    congr 1
    rw [setCard_comm (m.setCard a B) b a A A hd.symm, setCard_setCard_same,
      setCard_setCard_same, setCard_getCard m a A ha,
      setCard_getCard m b B hb]

/-- swapping also works with the arguments exchanged, with the same result -/
theorem swap_symm (m m' : Module) (a b : CardIndex) (h : m.swapCards a b = .ok m') :
    m.swapCards b a = .ok m' := by
  rcases swap_ok_char m m' a b h with ⟨rfl, _, _⟩ | ⟨hd, A, B, ha, hb, rfl⟩
  · exact h
  · rw [swap_ok_of_disj m b a B A hd.symm hb ha, setCard_comm _ _ _ _ _ hd.symm]

/-- **swapping a card with its own (proper) ancestor fails**, in either argument order — and by
`swap_error_unchanged` the module is left as it was -/
theorem swap_ancestor_fails (m : Module) (a b : CardIndex) (hf : a.function = b.function)
    (hp : a.indices <+: b.indices) (hne : a ≠ b) :
    (∃ e, m.swapCards a b = .error e) ∧ (∃ e, m.swapCards b a = .error e) := by
  have hnd : ¬ MDisj a b := (not_mdisj_iff a b).2 ⟨hf, Or.inl hp⟩
  constructor
  · cases hs : m.swapCards a b with
    | error e => exact ⟨e, rfl⟩
    | ok m' =>
      rcases swap_ok_char m m' a b hs with ⟨h, _, _⟩ | ⟨hd, _⟩
      · exact absurd h hne
      · exact absurd hd hnd
  · cases hs : m.swapCards b a with
    | error e => exact ⟨e, rfl⟩
    | ok m' =>
      rcases swap_ok_char m m' b a hs with ⟨h, _, _⟩ | ⟨hd, _⟩
      · exact absurd h.symm hne
      · exact absurd hd.symm hnd

/-- swapping with an invalid index fails (either argument, either order) -/
theorem swap_invalid_fails (m : Module) (a b : CardIndex) (e : CardFetchError)
    (h : m.getCard a = .error e ∨ m.getCard b = .error e) : ∃ e', m.swapCards a b = .error e' := by
  cases hs : m.swapCards a b with
  | error e' => exact ⟨e', rfl⟩
  | ok m' =>
    rcases swap_ok_char m m' a b hs with ⟨rfl, _, c, hc⟩ | ⟨_, A, B, ha, hb, _⟩
    · rcases h with h | h <;> rw [hc] at h <;> cases h
    · rcases h with h | h
      · rw [ha] at h; cases h
      · rw [hb] at h; cases h

/-! ## 6. non-vacuity: a concrete module -/

/-- `main = [1 + 2, (dyncall f [5, [nil, table]]), repeat 3 {composite [abort]}]`, `g = [nil]` -/
def ex : Module :=
  .mk [] [("main", ⟨[], [.bin .add (.scalarInt 1) (.scalarInt 2),
                        .dynamicCall [.scalarInt 5, .array [.scalarNil, .createTable]] (.function "f"),
                        .repeat none (.scalarInt 3) (.composite "x" [.abort])]⟩),
          ("g", ⟨["a"], [.scalarNil]⟩)] []

example : ex.walk.map (·.1) =
    [⟨0,[0]⟩, ⟨0,[0,0]⟩, ⟨0,[0,1]⟩, ⟨0,[1]⟩, ⟨0,[1,0]⟩, ⟨0,[1,1]⟩, ⟨0,[1,2]⟩, ⟨0,[1,2,0]⟩, ⟨0,[1,2,1]⟩,
     ⟨0,[2]⟩, ⟨0,[2,0]⟩, ⟨0,[2,1]⟩, ⟨0,[2,1,0]⟩, ⟨1,[0]⟩] := by decide

example : ex.getCard ⟨0, [1, 2, 1]⟩ = .ok .createTable := rfl
example : ex.getCard ⟨0, [1, 0]⟩ = .ok (.function "f") := rfl
example : ex.getCard ⟨0, []⟩ = .error .invalidIndex := rfl
example : ex.getCard ⟨2, [0]⟩ = .error .functionNotFound := rfl
example : ex.getCard ⟨0, [0, 0, 0]⟩ = .error .cardNotFound := rfl

/-- list slot: insert then remove -/
example : ∃ m', ex.insertCard ⟨0, [1, 1]⟩ .abort = .ok m' ∧ ex.isListSlot ⟨0, [1, 1]⟩ = true ∧
    m'.getCard ⟨0, [1, 1]⟩ = .ok .abort ∧ m'.getCard ⟨0, [1, 2]⟩ = .ok (.scalarInt 5) ∧
    m'.removeCard ⟨0, [1, 1]⟩ = .ok (ex, .abort) :=
  ⟨_, rfl, rfl, rfl, rfl, rfl⟩

/-- fixed slot: insert overwrites (`DynamicCall.function`), remove hands the card out -/
example : ∃ m', ex.insertCard ⟨0, [1, 0]⟩ .abort = .ok m' ∧ ex.isListSlot ⟨0, [1, 0]⟩ = false ∧
    m'.getCard ⟨0, [1, 0]⟩ = .ok .abort ∧ m'.getCard ⟨0, [1, 1]⟩ = .ok (.scalarInt 5) ∧
    (m'.removeCard ⟨0, [1, 0]⟩).map (·.2) = .ok .abort :=
  ⟨_, rfl, rfl, rfl, rfl, rfl⟩

/-- and leaves a placeholder (`Repeat.n`: `ScalarInt 0`) -/
example : (ex.removeCard ⟨0, [2, 0]⟩).map (fun r => (r.1.getCard ⟨0, [2, 0]⟩, r.2)) =
    .ok (.ok (.scalarInt 0), .scalarInt 3) := rfl

example : ∃ m', ex.swapCards ⟨0, [0, 1]⟩ ⟨1, [0]⟩ = .ok m' ∧
    m'.getCard ⟨0, [0, 1]⟩ = .ok .scalarNil ∧ m'.getCard ⟨1, [0]⟩ = .ok (.scalarInt 2) ∧
    m'.swapCards ⟨0, [0, 1]⟩ ⟨1, [0]⟩ = .ok ex :=
  ⟨_, rfl, rfl, rfl, rfl⟩

example : ex.swapCardsSt ⟨0, [1]⟩ ⟨0, [1, 2, 0]⟩ = (ex, .error .invalidSwap) := rfl
example : ex.swapCardsSt ⟨0, [1, 2, 0]⟩ ⟨0, [1]⟩ = (ex, .error .invalidSwap) := rfl
example : ex.swapCardsSt ⟨0, [0]⟩ ⟨0, [7]⟩ = (ex, .error .invalidSwap) := rfl
example : ex.swapCardsSt ⟨0, [7]⟩ ⟨0, [8]⟩ = (ex, .error (.fetchError .cardNotFound)) := rfl
example : ex.swapCards ⟨0, [2]⟩ ⟨0, [2]⟩ = .ok ex := rfl

end Cao.C16
