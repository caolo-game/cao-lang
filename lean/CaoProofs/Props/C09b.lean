import CaoProofs.Props.C09
import CaoProofs.Lemmas.RowValue
import CaoProofs.Lemmas.RowValueCompile
/-!
# C09b — `std.min`, `std.max`, `std.sorted` with the key function the library really uses

`Props/C09.lean` proves the contracts of `__min`, `__max`, `__sort` for an abstract callback
satisfying `PureCallback re f φ`. Here the hypothesis is discharged for the REAL callback
`reenterOf p gas = fun f => liftRun (exec p gas (.call f))` — the model of `Vm::run_function` —
and the key function `row_to_value(_key, val) = val` the wrappers `std.min`, `std.max`,
`std.sorted` pass (`Lemmas/RowValue.lean` evaluates the dispatch loop on its code).

`PureCallback` quantifies over ALL machine states, which the real callback cannot satisfy (the
heap of the state decides which function and which arity the address `f` denotes; no open upvalue
may point into the argument slots). It
satisfies `PureCallbackAt s₀` (`Lemmas/RowValue.lean`): the contract relative to the state `s₀` in
which the native was entered, which is a key function in the sense of C09 (`PureCallbackAt.keyFn`);
`pureCallbackAt_of_pure` shows that it subsumes `PureCallback`.

Hypotheses of the contracts: `FreshNext s.heap`; `KeyFnIsRowToValue p s` (DERIVED for every
`compile m Gen.stdlib limit = .ok p`: `rowToValue_code`, `keyFn_of_compile`); `UpvaluesBelow s s.stack.count`
(from `UpInv`); the table below the key function. They are statements about a run of the native that
RETURNS (`callNativeBody … = (.ok r, s')`; lack of fuel, budget, call-stack or stack room makes it fail,
`rowToValue_inv`); the exact conditions under which the callback itself returns are `rowToValue_ok_iff`.
Not composed here: that the card-level wrapper `std.min` (a `Call` of `min_by_key` with a
`Function` card) pushes exactly the function object `.fn hd 2` — C08 (`compile_calls_resolve`)
plus the `FunctionPointer` instruction; and the `callNative` wrapper around `callNativeBody`
(argument popping: `callNative_stack_effect` in `Props/C18.lean`).
-/
namespace Cao.C09b
open Cao Cao.Vm Cao.Gc Cao.C02 Cao.C05 Cao.Native Cao.C09 Cao.RowValue

/-! ## C09 (b), (c) for callbacks that are pure relative to the entry state -/

/-- `g` is arbitrary: the contract does not look at the guards of the entry state (the natives guard
    the rows first) -/
theorem _root_.Cao.RowValue.PureCallbackAt.keyFn {s : VmState} {re : Reenter} {f : Val}
    {φ : Val → Val → Val} (hcb : PureCallbackAt s re f φ) (g : List Nat) (es : List (Val × Val)) :
    KeyFn re f φ { s with guards := g } es (· = s.heap) :=
  ⟨rfl, fun hG hh hok => by
    obtain ⟨st, hre, hc, hl, hk, hv, hsame⟩ := callKV_inv hok
    obtain ⟨hr, hpre, hcnt, hheap, hgu, hfr, hgl, hup⟩ := hcb.ok _ _ _
      (by dsimp only; rw [hc, hG.stack.count]) hl (by exact hh) (by exact hG.openUpvalues)
      (by exact hG.frames) (by exact hG.globals) hre
    exact ⟨by rw [hr]; dsimp only; rw [hk, hv], hG.same_heap (hsame _ hpre hcnt) hheap hgu hfr hgl hup,
      hgu, hheap.trans hh⟩,
   fun _ hh _ _ => by rw [hh]⟩

/-- the specifications of C09 are instances: a callback that is pure everywhere is pure relative
    to every entry state (`pureCallbackAt_of_pure`) -/
example (re : Reenter) {φ : Val → Val → Val} {s s' : VmState} {r keyFn : Val}
    {a cap : Nat} {es : List (Val × Val)}
    (hf : FreshNext s.heap) (hkf : s.stack.peekLast 0 = keyFn) (hit : s.stack.peekLast 1 = .obj a)
    (ha : s.heap.get a = some (.table cap es)) (hcb : PureCallback re keyFn φ)
    (hflat : ∀ e ∈ es, FlatKey s.heap e.1) (hdist : (es.map (fun e => ownD s.heap e.1)).Nodup)
    (hok : (callNativeBody re "__sort").go s = (.ok r, s')) :
    r = .obj s.heap.next ∧ s.heap.get s.heap.next = none ∧
    (∃ cap', s'.heap.get s.heap.next = some (.table cap' (sortedEntries φ s.heap es))) ∧
    s'.heap.get a = some (.table cap es) ∧ Grown s s' ∧ s'.guards = s.guards :=
  have ⟨_, e, _, h⟩ := sort_keyFn re hf hkf hit ha ((pureCallbackAt_of_pure hcb s).keyFn _ _) hflat hdist hok
  e ▸ h

/-! ## the real callback on `row_to_value` -/

/-- the key function on top of the stack is a function object (arity 2) whose label resolves to a
    position where the code of `row_to_value` is -/
def KeyFnIsRowToValue (p : Prog) (s : VmState) : Prop :=
  ∃ (f pos : Nat) (h h' ar : UInt32), s.stack.peekLast 0 = .obj f ∧
    s.heap.get f = some (.fn h ar) ∧ ar.toNat = 2 ∧
    p.labels.find? (fun l => l.1 == h) = some (h', pos) ∧ RowToValueAt p pos

/-- **the callback hypothesis of C09, discharged**: the real `run_function` on `row_to_value` is a
    pure callback with `φ key value = value` relative to the entry state of the native -/
theorem keyFn_pure {p : Prog} {s : VmState} (hk : KeyFnIsRowToValue p s)
    (hup : UpvaluesBelow s s.stack.count) (gas : Nat) :
    PureCallbackAt s (reenterOf p gas) (s.stack.peekLast 0) (fun _ v => v) := by
  obtain ⟨f, pos, h, h', ar, hkf, hfn, har, hlab, hc⟩ := hk
  rw [hkf]
  exact rowToValue_pure hc gas s hfn har hlab hup

/-- `std_min_contract` and `std_max_contract` in one, in terms of `better isMin` -/
theorem minmax_at (isMin : Bool) {p : Prog} (gas : Nat) {s s' : VmState} {r : Val} {a cap : Nat}
    {e₀ : Val × Val} {rest : List (Val × Val)}
    (hf : FreshNext s.heap) (hk : KeyFnIsRowToValue p s) (hup : UpvaluesBelow s s.stack.count)
    (hit : s.stack.peekLast 1 = .obj a) (ha : s.heap.get a = some (.table cap (e₀ :: rest)))
    (hok : (minmaxBody isMin (reenterOf p gas)).go s = (.ok r, s')) :
    ∃ (i : Nat) (e : Val × Val), (e₀ :: rest)[i]? = some e ∧ RowResult s s' r e ∧
      s'.heap.get a = some (.table cap (e₀ :: rest)) ∧
      (∀ (m : Nat) (e' : Val × Val), i < m → (e₀ :: rest)[m]? = some e' → better isMin s.heap e'.2 e.2 = false) ∧
      (SWO (better isMin s.heap) ((e₀ :: rest).map (·.2)) →
        (∀ (m : Nat) (e' : Val × Val), (e₀ :: rest)[m]? = some e' → better isMin s.heap e'.2 e.2 = false) ∧
        (∀ (m : Nat) (e' : Val × Val), m < i → (e₀ :: rest)[m]? = some e' → better isMin s.heap e.2 e'.2 = true)) := by
  obtain ⟨_, rfl, -, R, hin⟩ := minmaxBody_keyFn isMin (φ := fun _ v => v) hf rfl hit ha
    ((keyFn_pure hk hup gas).keyFn _ _) hok
  obtain ⟨e, he, hget, hlater, hswo⟩ := argBest_entries (better isMin s.heap) (fun _ v => v) e₀ rest
  rw [hget] at R
  exact ⟨_, e, he, ⟨R.val, R.new, R.table, R.key, R.value, R.grown, R.guards⟩, hin, hlater, hswo⟩

/-- **`std.min`** = `__min(iterable, row_to_value)` through the real dispatch loop. For a table with
    entries `es = e₀ :: rest` the result is a NEW row `{"key": e.1, "value": e.2}` for an entry
    `e = es[i]` such that no LATER entry has a strictly smaller VALUE and — when `<` is a strict
    weak order on the values — no entry at all has, and every EARLIER entry has a strictly larger
    one: the FIRST entry whose value is minimal. The input table and every object reachable
    before the call are unchanged, no guard is leaked (`RowResult`). -/
theorem std_min_contract {p : Prog} (gas : Nat) {s s' : VmState} {r : Val} {a cap : Nat}
    {e₀ : Val × Val} {rest : List (Val × Val)}
    (hf : FreshNext s.heap) (hk : KeyFnIsRowToValue p s) (hup : UpvaluesBelow s s.stack.count)
    (hit : s.stack.peekLast 1 = .obj a) (ha : s.heap.get a = some (.table cap (e₀ :: rest)))
    (hok : (callNativeBody (reenterOf p gas) "__min").go s = (.ok r, s')) :
    ∃ (i : Nat) (e : Val × Val), (e₀ :: rest)[i]? = some e ∧ RowResult s s' r e ∧
      s'.heap.get a = some (.table cap (e₀ :: rest)) ∧
      (∀ (m : Nat) (e' : Val × Val), i < m → (e₀ :: rest)[m]? = some e' → keyLt s.heap e'.2 e.2 = false) ∧
      (SWO (keyLt s.heap) ((e₀ :: rest).map (·.2)) →
        (∀ (m : Nat) (e' : Val × Val), (e₀ :: rest)[m]? = some e' → keyLt s.heap e'.2 e.2 = false) ∧
        (∀ (m : Nat) (e' : Val × Val), m < i → (e₀ :: rest)[m]? = some e' → keyLt s.heap e.2 e'.2 = true)) :=
  minmax_at true gas hf hk hup hit ha (by rw [callNativeBody_min] at hok; exact hok)

/-- **`std.max`** = `__max(iterable, row_to_value)`: as `std_min_contract` with the order reversed —
    the FIRST entry whose value is maximal -/
theorem std_max_contract {p : Prog} (gas : Nat) {s s' : VmState} {r : Val} {a cap : Nat}
    {e₀ : Val × Val} {rest : List (Val × Val)}
    (hf : FreshNext s.heap) (hk : KeyFnIsRowToValue p s) (hup : UpvaluesBelow s s.stack.count)
    (hit : s.stack.peekLast 1 = .obj a) (ha : s.heap.get a = some (.table cap (e₀ :: rest)))
    (hok : (callNativeBody (reenterOf p gas) "__max").go s = (.ok r, s')) :
    ∃ (i : Nat) (e : Val × Val), (e₀ :: rest)[i]? = some e ∧ RowResult s s' r e ∧
      s'.heap.get a = some (.table cap (e₀ :: rest)) ∧
      (∀ (m : Nat) (e' : Val × Val), i < m → (e₀ :: rest)[m]? = some e' → keyLt s.heap e.2 e'.2 = false) ∧
      (SWO (keyLt s.heap) ((e₀ :: rest).map (·.2)) →
        (∀ (m : Nat) (e' : Val × Val), (e₀ :: rest)[m]? = some e' → keyLt s.heap e.2 e'.2 = false) ∧
        (∀ (m : Nat) (e' : Val × Val), m < i → (e₀ :: rest)[m]? = some e' → keyLt s.heap e'.2 e.2 = true)) :=
  have ⟨i, e, he, R, hin, hl, hs⟩ :=
    minmax_at false gas hf hk hup hit ha (by rw [callNativeBody_max] at hok; exact hok)
  ⟨i, e, he, R, hin, hl, fun h => hs h.flip⟩

/-- the entries of a table sorted by value, as `std.sorted` produces them: a stable merge sort by
    "not greater" on the deep values -/
def sortedByValue (h : Heap) (es : List (Val × Val)) : List (Val × Val) :=
  sortedEntries (fun _ v => v) h es

/-- **`std.sorted`** = `__sort(iterable, row_to_value)` through the real dispatch loop: the result
    is a NEW table whose entry list is `sortedByValue s.heap es`, which is a permutation of `es`
    and — when "not greater" is a total preorder on the values — ordered by value and STABLE
    (every sublist of the input whose values are in order is a sublist of the output); the input
    table and everything reachable before are unchanged, no guard is leaked. Besides the
    hypotheses of `std_min_contract`: the table invariant (`FlatKey`, distinct keys). -/
theorem std_sorted_contract {p : Prog} (gas : Nat) {s s' : VmState} {r : Val} {a cap : Nat}
    {es : List (Val × Val)}
    (hf : FreshNext s.heap) (hk : KeyFnIsRowToValue p s) (hup : UpvaluesBelow s s.stack.count)
    (hit : s.stack.peekLast 1 = .obj a) (ha : s.heap.get a = some (.table cap es))
    (hflat : ∀ e ∈ es, FlatKey s.heap e.1) (hdist : (es.map (fun e => ownD s.heap e.1)).Nodup)
    (hok : (callNativeBody (reenterOf p gas) "__sort").go s = (.ok r, s')) :
    r = .obj s.heap.next ∧ s.heap.get s.heap.next = none ∧
    (∃ cap', s'.heap.get s.heap.next = some (.table cap' (sortedByValue s.heap es))) ∧
    s'.heap.get a = some (.table cap es) ∧ Grown s s' ∧ s'.guards = s.guards ∧
    (sortedByValue s.heap es).Perm es ∧
    (TotalPreorderOn (keyLe s.heap) (es.map (·.2)) →
      (sortedByValue s.heap es).Pairwise (fun e₁ e₂ => keyLe s.heap e₁.2 e₂.2 = true) ∧
      ∀ c : List (Val × Val), c.Sublist es →
        c.Pairwise (fun e₁ e₂ => keyLe s.heap e₁.2 e₂.2 = true) →
        c.Sublist (sortedByValue s.heap es)) := by
  obtain ⟨_, rfl, -, h1, h2, h3, h4, h5, h6⟩ := sort_keyFn (reenterOf p gas) (φ := fun _ v => v)
    hf rfl hit ha ((keyFn_pure hk hup gas).keyFn _ _) hflat hdist hok
  exact ⟨h1, h2, h3, h4, h5, h6, sortedEntries_perm _ _ _, fun hto =>
    ⟨sortedEntries_sorted (fun _ v => v) s.heap es hto,
     fun c hsub hc => sortedEntries_stable (fun _ v => v) s.heap es hto hc hsub⟩⟩

/-! ### integer values: no hypothesis on the order left -/

theorem keyLt_int (h : Heap) (i j : Int64) : keyLt h (.int i) (.int j) = decide (i.toInt < j.toInt) := by
  simp only [keyLt, ownD_int, C19.vlt_int_int]

/-- **`std.min` / `std.max` on a table of integers**: the row of the FIRST entry whose value is best;
    on integers `<` is a strict weak order, so no hypothesis on the order is left -/
theorem minmax_ints (isMin : Bool) {p : Prog} (gas : Nat) {s s' : VmState} {r : Val} {a cap : Nat}
    {e₀ : Val × Val} {rest : List (Val × Val)}
    (hf : FreshNext s.heap) (hk : KeyFnIsRowToValue p s) (hup : UpvaluesBelow s s.stack.count)
    (hit : s.stack.peekLast 1 = .obj a) (ha : s.heap.get a = some (.table cap (e₀ :: rest)))
    (hints : ∀ e ∈ e₀ :: rest, ∃ v : Int64, e.2 = .int v)
    (hok : (minmaxBody isMin (reenterOf p gas)).go s = (.ok r, s')) :
    ∃ (i : Nat) (k : Val) (v : Int64), (e₀ :: rest)[i]? = some (k, .int v) ∧
      RowResult s s' r (k, .int v) ∧ s'.heap.get a = some (.table cap (e₀ :: rest)) ∧
      (∀ (m : Nat) (k' : Val) (v' : Int64), (e₀ :: rest)[m]? = some (k', .int v') →
        better isMin s.heap (.int v') (.int v) = false) ∧
      (∀ (m : Nat) (k' : Val) (v' : Int64), m < i → (e₀ :: rest)[m]? = some (k', .int v') →
        better isMin s.heap (.int v) (.int v') = true) := by
  obtain ⟨i, ⟨k, x⟩, he, hrow, hin, -, hswo⟩ := minmax_at isMin gas hf hk hup hit ha hok
  obtain ⟨v, hv⟩ := hints (k, x) (List.mem_of_getElem? he)
  dsimp only at hv
  subst hv
  have hS : SWO (keyLt s.heap) ((e₀ :: rest).map (·.2)) := swo_int_keys s.heap _ fun key hkey => by
    obtain ⟨e, hem, rfl⟩ := List.mem_map.mp hkey
    exact hints e hem
  obtain ⟨hall, hearlier⟩ := hswo (by cases isMin; exact better_false _ ▸ hS.flip; exact better_true _ ▸ hS)
  exact ⟨i, k, v, he, hrow, hin, fun m k' v' => hall m (k', .int v'), fun m k' v' => hearlier m (k', .int v')⟩

def intLe (e₁ e₂ : Val × Val) : Prop :=
  ∀ v₁ v₂ : Int64, e₁.2 = .int v₁ → e₂.2 = .int v₂ → v₁.toInt ≤ v₂.toInt

/-- **`std.sorted` on a table of integers**: a new table with the same entries, in ascending
    order of the values, entries with equal values in their original order (stated for arbitrary
    ordered sublists); input untouched -/
theorem std_sorted_ints {p : Prog} (gas : Nat) {s s' : VmState} {r : Val} {a cap : Nat}
    {es : List (Val × Val)}
    (hf : FreshNext s.heap) (hk : KeyFnIsRowToValue p s) (hup : UpvaluesBelow s s.stack.count)
    (hit : s.stack.peekLast 1 = .obj a) (ha : s.heap.get a = some (.table cap es))
    (hflat : ∀ e ∈ es, FlatKey s.heap e.1) (hdist : (es.map (fun e => ownD s.heap e.1)).Nodup)
    (hints : ∀ e ∈ es, ∃ v : Int64, e.2 = .int v)
    (hok : (callNativeBody (reenterOf p gas) "__sort").go s = (.ok r, s')) :
    ∃ out : List (Val × Val), r = .obj s.heap.next ∧ s.heap.get s.heap.next = none ∧
      (∃ cap', s'.heap.get s.heap.next = some (.table cap' out)) ∧
      s'.heap.get a = some (.table cap es) ∧ Grown s s' ∧ s'.guards = s.guards ∧
      out.Perm es ∧ out.Pairwise intLe ∧
      ∀ c : List (Val × Val), c.Sublist es → c.Pairwise intLe → c.Sublist out := by
  obtain ⟨h1, h2, h3, h4, h5, h6, hperm, hto⟩ :=
    std_sorted_contract gas hf hk hup hit ha hflat hdist hok
  obtain ⟨hsorted, hstable⟩ := hto (totalPreorder_int_keys s.heap _ (fun key hkey => by
    obtain ⟨e, hem, rfl⟩ := List.mem_map.mp hkey
    exact hints e hem))
  have hconv : ∀ e₁ ∈ es, ∀ e₂ ∈ es, (keyLe s.heap e₁.2 e₂.2 = true ↔ intLe e₁ e₂) := by
    intro e₁ h₁ e₂ h₂
    obtain ⟨v₁, hv₁⟩ := hints e₁ h₁
    obtain ⟨v₂, hv₂⟩ := hints e₂ h₂
    unfold intLe
    rw [hv₁, hv₂, keyLe_int]
    constructor
    · intro h w₁ w₂ e1 e2
      cases e1; cases e2
      simpa using h
    · intro h
      simpa using h v₁ v₂ rfl rfl
  refine ⟨_, h1, h2, h3, h4, h5, h6, hperm, ?_, fun c hsub hc => hstable c hsub ?_⟩
  · exact hsorted.imp_of_mem (fun {e₁ e₂} m₁ m₂ h =>
      (hconv e₁ (hperm.subset m₁) e₂ (hperm.subset m₂)).mp h)
  · exact hc.imp_of_mem (fun {e₁ e₂} m₁ m₂ h =>
      (hconv e₁ (hsub.subset m₁) e₂ (hsub.subset m₂)).mpr h)

/-! ## the code of `row_to_value` in every compiled program -/

theorem rowToValueAt_of_layout {p : Prog} {B : Array UInt8}
    (h : p.bytecode = (B ++ Compiler.rtvBytes.toArray).push Compiler.op.exit) :
    RowToValueAt p B.size := by
  have hl : p.bytecode.toList = B.toList ++ (Compiler.rtvBytes ++ [Compiler.op.exit]) := by
    rw [h]; simp
  constructor
  · intro i hi
    rw [← Array.getElem?_toList, hl, List.getElem?_append_right (by simp),
      show B.toList.length = B.size from Array.length_toList, Nat.add_sub_cancel_left,
      List.getElem?_append_left (by rw [rowToValueCode_eq] at hi; exact hi), rowToValueCode_eq]
    rfl
  · rw [h, Array.back?_push]

/-- **the code of `row_to_value`, derived for EVERY program compiled with the generated standard
    library.** The function stream ends with `std.row_to_value` (arguments `_key`, `val`), so its
    handle is the first match in the label table (no hash-collision hypothesis: the function is
    compiled last); `RowToValueAt p pos`: the bytes at `pos` are
    `ReadLocalVar 0; Return; Pop; Pop; ScalarNil; Return`, and the program ends with `Exit`. -/
theorem rowToValue_code {m : Module} {limit : Nat} {p : Compiler.Program}
    (h : Compiler.compile m Gen.stdlib limit = .ok p) :
    ∃ (unit : Array Compiler.FunctionIr) (f : Compiler.FunctionIr) (pos : Nat),
      Compiler.intoIrStream m Gen.stdlib limit = .ok unit ∧ unit.toList.getLast? = some f ∧
      f.name = "row_to_value" ∧ f.ns = ["std"] ∧ f.arguments = ["_key", "val"] ∧
      (Prog.ofProgram p).labels.find? (fun l => l.1 == f.handle) = some (f.handle, pos) ∧
      RowToValueAt (Prog.ofProgram p) pos := by
  obtain ⟨unit, pre, f, B, hunit, hu, -, hn, hns, hargs, -, hb, hl⟩ :=
    Compiler.compile_rowToValue_layout h
  exact ⟨unit, f, B.size, hunit, by rw [hu]; simp, hn, hns, hargs, hl,
    rowToValueAt_of_layout (p := Prog.ofProgram p) hb⟩

/-- for a compiled program: a function object with the handle of `std.row_to_value` and arity 2 on
    top of the stack is the key function the contracts above are about -/
theorem keyFn_of_compile {m : Module} {limit : Nat} {p : Compiler.Program}
    (h : Compiler.compile m Gen.stdlib limit = .ok p) :
    ∃ hd : UInt32, ∀ (s : VmState) (a : Nat), s.stack.peekLast 0 = .obj a →
      s.heap.get a = some (.fn hd 2) → KeyFnIsRowToValue (Prog.ofProgram p) s := by
  obtain ⟨unit, f, pos, -, -, -, -, -, hl, hc⟩ := rowToValue_code h
  exact ⟨f.handle, fun s a hk hg => ⟨a, pos, f.handle, f.handle, 2, hk, hg, by decide, hl, hc⟩⟩

/-- **`std.min` on a table of integers, in any program compiled with the generated standard
    library**: `__min` with the function value of `std.row_to_value` as key function returns the
    row of the FIRST entry with the smallest value. (`hd` is the handle of `std.row_to_value`; that
    the wrapper `std.min` pushes the function object `.fn hd 2` is not composed here.) -/
theorem std_min_ints_compiled {m : Module} {limit : Nat} {p : Compiler.Program}
    (h : Compiler.compile m Gen.stdlib limit = .ok p) :
    ∃ hd : UInt32, ∀ (gas : Nat) (s s' : VmState) (r : Val) (fa a cap : Nat) (e₀ : Val × Val)
      (rest : List (Val × Val)),
      FreshNext s.heap → s.stack.peekLast 0 = .obj fa → s.heap.get fa = some (.fn hd 2) →
      UpvaluesBelow s s.stack.count → s.stack.peekLast 1 = .obj a →
      s.heap.get a = some (.table cap (e₀ :: rest)) →
      (∀ e ∈ e₀ :: rest, ∃ v : Int64, e.2 = .int v) →
      (callNativeBody (reenterOf (Prog.ofProgram p) gas) "__min").go s = (.ok r, s') →
      ∃ (i : Nat) (k : Val) (v : Int64), (e₀ :: rest)[i]? = some (k, .int v) ∧
        RowResult s s' r (k, .int v) ∧ s'.heap.get a = some (.table cap (e₀ :: rest)) ∧
        (∀ (m : Nat) (k' : Val) (v' : Int64), (e₀ :: rest)[m]? = some (k', .int v') → v.toInt ≤ v'.toInt) ∧
        (∀ (m : Nat) (k' : Val) (v' : Int64), m < i → (e₀ :: rest)[m]? = some (k', .int v') →
          v.toInt < v'.toInt) := by
  obtain ⟨hd, hk⟩ := keyFn_of_compile h
  refine ⟨hd, fun gas s s' r fa a cap e₀ rest hf hkf hfn hup hit ha hints hok => ?_⟩
  rw [callNativeBody_min] at hok
  obtain ⟨i, k, v, he, hrow, hin, hall, hearlier⟩ :=
    minmax_ints true gas hf (hk s fa hkf hfn) hup hit ha hints hok
  simp only [better_true, keyLt_int, decide_eq_false_iff_not, decide_eq_true_eq, Int.not_lt] at hall hearlier
  exact ⟨i, k, v, he, hrow, hin, hall, hearlier⟩

/-- `std.max` on integers, in any program compiled with the generated standard library -/
theorem std_max_ints_compiled {m : Module} {limit : Nat} {p : Compiler.Program}
    (h : Compiler.compile m Gen.stdlib limit = .ok p) :
    ∃ hd : UInt32, ∀ (gas : Nat) (s s' : VmState) (r : Val) (fa a cap : Nat) (e₀ : Val × Val)
      (rest : List (Val × Val)),
      FreshNext s.heap → s.stack.peekLast 0 = .obj fa → s.heap.get fa = some (.fn hd 2) →
      UpvaluesBelow s s.stack.count → s.stack.peekLast 1 = .obj a →
      s.heap.get a = some (.table cap (e₀ :: rest)) →
      (∀ e ∈ e₀ :: rest, ∃ v : Int64, e.2 = .int v) →
      (callNativeBody (reenterOf (Prog.ofProgram p) gas) "__max").go s = (.ok r, s') →
      ∃ (i : Nat) (k : Val) (v : Int64), (e₀ :: rest)[i]? = some (k, .int v) ∧
        RowResult s s' r (k, .int v) ∧ s'.heap.get a = some (.table cap (e₀ :: rest)) ∧
        (∀ (m : Nat) (k' : Val) (v' : Int64), (e₀ :: rest)[m]? = some (k', .int v') → v'.toInt ≤ v.toInt) ∧
        (∀ (m : Nat) (k' : Val) (v' : Int64), m < i → (e₀ :: rest)[m]? = some (k', .int v') →
          v'.toInt < v.toInt) := by
  obtain ⟨hd, hk⟩ := keyFn_of_compile h
  refine ⟨hd, fun gas s s' r fa a cap e₀ rest hf hkf hfn hup hit ha hints hok => ?_⟩
  rw [callNativeBody_max] at hok
  obtain ⟨i, k, v, he, hrow, hin, hall, hearlier⟩ :=
    minmax_ints false gas hf (hk s fa hkf hfn) hup hit ha hints hok
  simp only [better_false, keyLt_int, decide_eq_false_iff_not, decide_eq_true_eq, Int.not_lt] at hall hearlier
  exact ⟨i, k, v, he, hrow, hin, hall, hearlier⟩

/-- `std.sorted` on integers, in any program compiled with the generated standard library -/
theorem std_sorted_ints_compiled {m : Module} {limit : Nat} {p : Compiler.Program}
    (h : Compiler.compile m Gen.stdlib limit = .ok p) :
    ∃ hd : UInt32, ∀ (gas : Nat) (s s' : VmState) (r : Val) (fa a cap : Nat) (es : List (Val × Val)),
      FreshNext s.heap → s.stack.peekLast 0 = .obj fa → s.heap.get fa = some (.fn hd 2) →
      UpvaluesBelow s s.stack.count → s.stack.peekLast 1 = .obj a →
      s.heap.get a = some (.table cap es) →
      (∀ e ∈ es, FlatKey s.heap e.1) → (es.map (fun e => ownD s.heap e.1)).Nodup →
      (∀ e ∈ es, ∃ v : Int64, e.2 = .int v) →
      (callNativeBody (reenterOf (Prog.ofProgram p) gas) "__sort").go s = (.ok r, s') →
      ∃ out : List (Val × Val), r = .obj s.heap.next ∧ s.heap.get s.heap.next = none ∧
        (∃ cap', s'.heap.get s.heap.next = some (.table cap' out)) ∧
        s'.heap.get a = some (.table cap es) ∧ Grown s s' ∧ s'.guards = s.guards ∧
        out.Perm es ∧ out.Pairwise intLe ∧
        ∀ c : List (Val × Val), c.Sublist es → c.Pairwise intLe → c.Sublist out := by
  obtain ⟨hd, hk⟩ := keyFn_of_compile h
  exact ⟨hd, fun gas s s' r fa a cap es hf hkf hfn hup hit ha hflat hdist hints hok =>
    std_sorted_ints gas hf (hk s fa hkf hfn) hup hit ha hflat hdist hints hok⟩

/-! ## non-vacuity: a concrete program, and runs through the real `exec` callback -/

/-- a hand-assembled program: the code of `row_to_value` at address 3 (behind three `Exit`
    instructions standing in for `main`), labelled 77, and the final `Exit` -/
def demoProg : Prog :=
  { bytecode := ([10, 10, 10] ++ rowToValueCode ++ [10]).toArray, data := #[], labels := [(5, 0), (77, 3)],
    varNames := [], trace := [] }

theorem demo_rowToValueAt : RowToValueAt demoProg 3 := rowToValueAt_of_B (by decide)

def demoHeap : Heap :=
  { objs := [(1, .table 8 [(.int 10, .int 30), (.int 11, .int 10), (.int 12, .int 20), (.int 13, .int 10)]),
             (2, .fn 77 2)],
    next := 3 }

/-- inside a run (one frame, a budget of 100 instructions), the table below the key function -/
def demoState : VmState :=
  { VmState.fresh { stackSize := 16 } with
    stack := ⟨2, [.obj 1, .obj 2] ++ List.replicate 14 .nil⟩, heap := demoHeap,
    frames := [⟨0, 0, 0, none⟩], remaining := 100 }

example : FreshNext demoState.heap ∧ KeyFnIsRowToValue demoProg demoState ∧
    UpvaluesBelow demoState demoState.stack.count ∧ demoState.stack.peekLast 1 = .obj 1 ∧
    (∃ cap es, demoState.heap.get 1 = some (.table cap es) ∧
      (∀ e ∈ es, FlatKey demoState.heap e.1) ∧ (es.map (fun e => ownD demoState.heap e.1)).Nodup ∧
      (∀ e ∈ es, ∃ v : Int64, e.2 = .int v)) := by
  refine ⟨by unfold FreshNext; decide, ?_, ?_, by decide, ⟨8, _, rfl, ?_, ?_, ?_⟩⟩
  · exact ⟨2, 3, 77, 77, 2, by decide, rfl, by decide, by decide, demo_rowToValueAt⟩
  · intro a ha; cases ha
  · intro e he b hb
    simp only [List.mem_cons, List.not_mem_nil, or_false] at he
    rcases he with rfl | rfl | rfl | rfl <;> cases hb
  · simp only [List.map_cons, List.map_nil, ownD_int]
    decide
  · intro e he
    simp only [List.mem_cons, List.not_mem_nil, or_false] at he
    rcases he with rfl | rfl | rfl | rfl <;> exact ⟨_, rfl⟩

set_option maxRecDepth 100000 in
example : (match (callNativeBody (reenterOf demoProg 8) "__min").go demoState with
    | (.ok (.obj 3), s') => rowIs s' 3 (.int 11) (.int 10) &&
        entriesAre s' 1 [(.int 10, .int 30), (.int 11, .int 10), (.int 12, .int 20), (.int 13, .int 10)] &&
        s'.remaining == 88 && s'.frames.length == 1 && s'.stack.count == 2
    | _ => false) = true := by decide +kernel

set_option maxRecDepth 100000 in
example : (match (callNativeBody (reenterOf demoProg 8) "__max").go demoState with
    | (.ok (.obj 3), s') => rowIs s' 3 (.int 10) (.int 30) && s'.remaining == 88
    | _ => false) = true := by decide +kernel

/-- the call of the key function alone, as `rowToValue_run` computes it: value `30` below key `10` -/
example : (match exec demoProg 4 (.call (.obj 2))
      { demoState with stack := ⟨4, [.obj 1, .obj 2, .int 30, .int 10] ++ List.replicate 12 .nil⟩ } with
    | (s', .ok (some (.int 30))) => s'.stack.count == 2 && s'.remaining == 97 && s'.dispatches == 3 &&
        s'.frames.length == 1
    | _ => false) = true := by decide +kernel

/-- one unit of fuel or of budget less and the call fails (`rowToValue_inv`) -/
example : (match exec demoProg 3 (.call (.obj 2))
      { demoState with stack := ⟨4, [.obj 1, .obj 2, .int 30, .int 10] ++ List.replicate 12 .nil⟩ } with
    | (_, .error e) => e.kind.name == "panic:gas exhausted"
    | _ => false) = true := by decide +kernel
example : (match exec demoProg 4 (.call (.obj 2))
      { demoState with stack := ⟨4, [.obj 1, .obj 2, .int 30, .int 10] ++ List.replicate 12 .nil⟩,
                       remaining := 3 } with
    | (_, .error e) => e.kind.name == "Timeout"
    | _ => false) = true := by decide +kernel

/- `List.mergeSort` does not reduce in the kernel: the run of `__sort` is checked by evaluation at
   build time (stable: `11` before `13`) -/
#guard (match (callNativeBody (reenterOf demoProg 8) "__sort").go demoState with
    | (.ok (.obj 3), s') =>
        entriesAre s' 3 [(.int 11, .int 10), (.int 13, .int 10), (.int 12, .int 20), (.int 10, .int 30)] &&
        entriesAre s' 1 [(.int 10, .int 30), (.int 11, .int 10), (.int 12, .int 20), (.int 13, .int 10)]
    | _ => false)

/-- the hypothesis `UpvaluesBelow` is NECESSARY: with an open upvalue pointing at the slot of the
    value, the `Return` of the callee closes it — the callback writes to the heap, which no pure
    callback does (such a state is not reachable: `UpInv` keeps open upvalues below the top of
    the stack, and the natives push the arguments above it) -/
example :
    let s : VmState := { demoState with
      stack := ⟨4, [.obj 1, .obj 2, .int 30, .int 10] ++ List.replicate 12 .nil⟩,
      heap := { objs := demoHeap.objs ++ [(3, .upvalue (.stack 2))], next := 4 },
      openUpvalues := [3] }
    (match exec demoProg 4 (.call (.obj 2)) s with
     | (s', .ok (some (.int 30))) =>
        (match s'.heap.get 3 with | some (.upvalue (.closed (.int 30))) => true | _ => false) &&
        s'.openUpvalues.isEmpty
     | _ => false) = true := by decide +kernel

/-! ### a program compiled by the model compiler, run end to end

`String.splitOn` (used by the compiler for dotted names) does not reduce in the kernel: these are
checked by evaluation at build time. `main` stores `std.min([30, 10, 20, 10])` in a global. -/

def demoModule : Module :=
  Module.mk [] [("main", { arguments := [], cards := [
    .setGlobalVar "g" (.call "std.min" [.array [.scalarInt 30, .scalarInt 10, .scalarInt 20, .scalarInt 10]])] })] []

/- the hypothesis of `rowToValue_code` is satisfiable, and its conclusion is what evaluation shows:
   the code of `row_to_value` sits right before the final `Exit` -/
#guard (match Compiler.compile demoModule Gen.stdlib with
    | .ok p => rowToValueAtB (Prog.ofProgram p) (p.bytecode.size - 11)
    | .error _ => false)

/- the whole chain `std.min → min_by_key → __min → run_function(row_to_value)`: the result is the
   row `{"key": 1, "value": 10}` of the FIRST of the two smallest values -/
#guard (match Compiler.compile demoModule Gen.stdlib with
    | .ok p =>
      let (s, e) := run (Prog.ofProgram p) 10000 (VmState.fresh {})
      e.isNone && s.globals.map (fun v => (ownD s.heap v).toTok) == ["t[s6b6579:i1,s76616c7565:i10]"]
    | .error _ => false)

end Cao.C09b
