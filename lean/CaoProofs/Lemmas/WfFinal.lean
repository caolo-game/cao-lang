import CaoProofs.Lemmas.WfInv
import CaoProofs.Lemmas.ByteArrayLemmas
/-!
# Byte facts for the step from the invariant to the checker's view of operands (C10)

Facts about bytes that no compiler run enters: the little-endian word `u32L` inside a list,
the operand bytes `opBytes` of an instruction (`rdU32_opBytes`), a string record `StrAt` passes `validStr`
(`validStr_of_StrAt`), a list without repetition passes `wfReason.dupH`.
-/
namespace Cao.Compiler.Wf
open Cao Cao.Bytecode

/-! ## byte arrays and strings -/

theorem fromUTF8?_toUTF8_isSome (s : String) : (String.fromUTF8? s.toUTF8).isSome = true := by
  have h : s.toUTF8.IsValidUTF8 := s.isValidUTF8
  simp only [String.fromUTF8?, dif_pos h, Option.isSome_some]

theorem getD_toList (a : Array UInt8) (i : Nat) : a.getD i 0 = a.toList.getD i 0 := by
  simp [Array.getD_eq_getD_getElem?, List.getD_eq_getElem?_getD]

theorem getD_mid {pre mid post : List UInt8} (j : Nat) (hj : j < mid.length) :
    (pre ++ mid ++ post).getD (pre.length + j) 0 = mid.getD j 0 := by
  simp only [List.getD_eq_getElem?_getD]
  rw [List.getElem?_append_left (by simp; omega), List.getElem?_append_right (by omega)]
  congr 2; omega

theorem u32L_ofNat (x : Nat) : u32L (le32 (UInt32.ofNat x)) 0 = x % 2 ^ 32 := by
  rw [u32L_le32, UInt32.toNat_ofNat']

theorem u32L_take (bs : List UInt8) : u32L (bs.take 4) 0 = u32L bs 0 := by
  simp only [u32L, List.getD_eq_getElem?_getD]
  rw [List.getElem?_take_of_lt (by omega), List.getElem?_take_of_lt (by omega),
    List.getElem?_take_of_lt (by omega), List.getElem?_take_of_lt (by omega)]

theorem u32L_append_left (a b : List UInt8) (off : Nat) (h : off + 4 ≤ a.length) :
    u32L (a ++ b) off = u32L a off := by
  simp only [u32L, List.getD_eq_getElem?_getD]
  rw [List.getElem?_append_left (by omega), List.getElem?_append_left (by omega),
    List.getElem?_append_left (by omega), List.getElem?_append_left (by omega)]

theorem u32L_append_right (a b : List UInt8) (off : Nat) (h : a.length ≤ off) :
    u32L (a ++ b) off = u32L b (off - a.length) := by
  simp only [u32L, List.getD_eq_getElem?_getD]
  rw [List.getElem?_append_right (by omega), List.getElem?_append_right (by omega),
    List.getElem?_append_right (by omega), List.getElem?_append_right (by omega)]
  have e1 : off + 1 - a.length = off - a.length + 1 := by omega
  have e2 : off + 2 - a.length = off - a.length + 2 := by omega
  have e3 : off + 3 - a.length = off - a.length + 3 := by omega
  rw [e1, e2, e3]

theorem opBytes_getD (bc : Array UInt8) (p m j : Nat) (h : j < m) :
    (opBytes bc p m).getD j 0 = bc.getD (p + 1 + j) 0 := by
  simp [opBytes, List.getD_eq_getElem?_getD, h]

theorem rdU32_opBytes (bc : Array UInt8) (p m off : Nat) (h : off + 4 ≤ m) :
    rdU32 bc (p + 1 + off) = u32L (opBytes bc p m) off := by
  rw [rdU32_eq]
  simp only [u32L]
  rw [opBytes_getD _ _ _ _ (by omega), opBytes_getD _ _ _ _ (by omega), opBytes_getD _ _ _ _ (by omega),
    opBytes_getD _ _ _ _ (by omega)]
  simp only [Nat.add_assoc]

theorem validStr_of_StrAt {data : Array UInt8} {off : Nat} (h : StrAt data off) (hd : data.size < 2 ^ 32) :
    validStr data off = true := by
  obtain ⟨str, pre, post, h1, h2⟩ := h
  have hlen : data.size = pre.length + (4 + str.toUTF8.toList.length) + post.length := by
    rw [← Array.length_toList, h1]; simp only [List.length_append, le32_length]
  have hget : ∀ j, j < 4 + str.toUTF8.toList.length → data.getD (off + j) 0 =
      (le32 (UInt32.ofNat str.toUTF8.toList.length) ++ str.toUTF8.toList).getD j 0 := by
    intro j hj
    rw [getD_toList, h1, ← h2]
    exact getD_mid j (by simp only [List.length_append, le32_length]; omega)
  have hrd : rdU32 data off = str.toUTF8.toList.length := by
    rw [rdU32_eq]
    have e := u32L_ofNat str.toUTF8.toList.length
    simp only [u32L] at e
    have g0 := hget 0 (by omega)
    have g1 := hget 1 (by omega)
    have g2 := hget 2 (by omega)
    have g3 := hget 3 (by omega)
    simp only [List.getD_eq_getElem?_getD] at g0 g1 g2 g3 e
    rw [List.getElem?_append_left (by rw [le32_length]; omega)] at g0 g1 g2 g3
    rw [Nat.add_zero] at g0
    rw [g0, g1, g2, g3]
    simp only [Nat.zero_add] at e
    rw [e]
    exact Nat.mod_eq_of_lt (by omega)
  unfold validStr
  rw [if_neg (by omega)]
  simp only [hrd]
  rw [if_neg (by omega)]
  have hb : (List.range str.toUTF8.toList.length).map (fun i => data.getD (off + 4 + i) 0) =
      str.toUTF8.toList := by
    apply List.ext_getElem
    · simp
    · intro i h1' h2'
      simp only [List.getElem_map, List.getElem_range]
      rw [Nat.add_assoc, hget (4 + i) (by omega)]
      simp only [List.getD_eq_getElem?_getD]
      rw [List.getElem?_append_right (by rw [le32_length]; omega), le32_length]
      have : 4 + i - 4 = i := by omega
      rw [this, List.getElem?_eq_getElem h2']; rfl
  rw [hb, ByteArray.mk_toList_toArray']
  exact fromUTF8?_toUTF8_isSome str

/-! ## duplicate detection -/

theorem dupH_false_of_pairwise : ∀ (l : List UInt32), l.Pairwise (· ≠ ·) → wfReason.dupH l = false
  | [], _ => rfl
  | x :: r, h => by
    rw [List.pairwise_cons] at h
    unfold wfReason.dupH
    rw [dupH_false_of_pairwise r h.2, Bool.or_false]
    cases hc : r.contains x with
    | false => rfl
    | true =>
      have := List.contains_iff_mem.1 hc
      exact absurd rfl (h.1 x this)

end Cao.Compiler.Wf
