import CaoProofs.Props.C01Sem
import CaoProofs.Lemmas.SimScopes
/-!
# C01: what the reference semantics respects on the fragments

Two facts about `Sem.run` alone stand beside the simulation: on the fragments it never yields an error, and
its outcome does not depend on the fuel once that suffices. Both say that the outcomes at two fuels are
related, by a relation closed under the ways in which the evaluator puts outcomes together (`FuelRel`;
`benignRel`, `benignRRel`, `monoRel`), so they are proved by one induction on the fuel for all such relations:
`exec_rel`, for the statements and values of all fragments as the reference semantics sees them (`isStmtR ft`:
by features, with no condition on where locals are declared), in every context of the program.
The statements of F1 to F4 are parts of `isStmtB`, the case without functions and `Return`, where a `Return`
is excluded as well (`exec_benignB`) and no call is counted (`exec_callsB`).
-/
namespace Cao.C01
open Cao Cao.Vm Cao.Sim Cao.Compiler

/-! ## relations between the outcomes at two fuels -/

theorem repeatLoop_res (P : Sem.Res Unit → Prop) (hok : P (.ok ())) (hoof : P .outOfFuel)
    {body : List (String × Nat) → Sem.St → Sem.St × Sem.Env × Sem.Res Unit} (hb : ∀ scope s, P (body scope s).2.2)
    (i : Option String) (nv : Val) : ∀ (gas : Nat) (k : Int64) (s : Sem.St), P (Sem.repeatLoop body i nv gas k s).2 := by
  intro gas
  induction gas with
  | zero => intro k s; exact hoof
  | succ gas ih =>
    intro k s
    rw [repeatLoop_succ]
    split
    · have h := hb (repScope i k s).2 (repScope i k s).1
      rcases hc : body (repScope i k s).2 (repScope i k s).1 with ⟨s2, e2, r2⟩
      rw [hc] at h
      cases r2 with
      | ok u => cases u; exact ih (k + 1) s2
      | _ => exact h
    · exact hok

theorem repeatLoop_fuel_mono {body body' : List (String × Nat) → Sem.St → Sem.St × Sem.Env × Sem.Res Unit}
    (hb : ∀ scope s, ¬ isOOF (body scope s).2.2 → body' scope s = body scope s) (i : Option String) (nv : Val) :
    ∀ (gas : Nat) (k : Int64) (s : Sem.St), ¬ isOOF (Sem.repeatLoop body i nv gas k s).2 →
      ∀ gas', gas ≤ gas' → Sem.repeatLoop body' i nv gas' k s = Sem.repeatLoop body i nv gas k s := by
  intro gas
  induction gas with
  | zero => intro k s h; exact absurd trivial h
  | succ gas ih =>
    intro k s h gas' hg
    obtain ⟨g', rfl⟩ : ∃ g', gas' = g' + 1 := ⟨gas' - 1, by omega⟩
    rw [repeatLoop_succ] at h ⊢
    rw [repeatLoop_succ]
    split at h
    · rename_i ht
      simp only [if_pos ht]
      have hbb := hb (repScope i k s).2 (repScope i k s).1
      rcases hc : body (repScope i k s).2 (repScope i k s).1 with ⟨s2, e2, r2⟩
      rw [hc] at h hbb
      rw [hbb (by cases r2 <;> first | exact h | exact fun x => x)]
      cases r2 with
      | ok u => cases u; simp only at h ⊢; exact ih (k + 1) s2 h g' (by omega)
      | _ => rfl
    · rename_i ht; simp only [if_neg ht]

/-- a relation between the outcome with some fuel and the outcome with more fuel, closed under the
    ways in which the reference semantics puts outcomes together. `post` is what the caller makes of the outcome
    of the body of a callee; a `Return` has to be related to itself only when the fragment has `Return` (`rt`) -/
structure FuelRel (rt : Bool) (R : ∀ {α : Type}, Sem.St × Sem.Env × Sem.Res α → Sem.St × Sem.Env × Sem.Res α → Prop) :
    Prop where
  oof : ∀ {α : Type} (s : Sem.St) (env : Sem.Env) (y : Sem.St × Sem.Env × Sem.Res α), R (s, env, .outOfFuel) y
  ok : ∀ {α : Type} (s : Sem.St) (env : Sem.Env) (a : α), R (s, env, .ok a) (s, env, .ok a)
  unspec : ∀ {α : Type} (s : Sem.St) (env : Sem.Env) (w : String),
    R (s, env, (.unspecified w : Sem.Res α)) (s, env, .unspecified w)
  ret : rt = true → ∀ {α : Type} (s : Sem.St) (env : Sem.Env) (v : Val),
    R (s, env, (.ret v : Sem.Res α)) (s, env, .ret v)
  bind : ∀ {α β : Type} {r r' : Sem.St × Sem.Env × Sem.Res α}
    {k k' : Sem.St → Sem.Env → α → Sem.St × Sem.Env × Sem.Res β},
    R r r' → (∀ s env a, r = (s, env, .ok a) → R (k s env a) (k' s env a)) → R (andThen r k) (andThen r' k')
  loop : ∀ {body body' : List (String × Nat) → Sem.St → Sem.St × Sem.Env × Sem.Res Unit},
    (∀ scope s, R (body scope s) (body' scope s)) → ∀ (i : Option String) (nv : Val) {f k : Nat}, f ≤ k →
    ∀ (s : Sem.St) (env : Sem.Env),
      R ((Sem.repeatLoop body i nv f 0 s).1, env, (Sem.repeatLoop body i nv f 0 s).2)
        ((Sem.repeatLoop body' i nv k 0 s).1, env, (Sem.repeatLoop body' i nv k 0 s).2)
  drop : ∀ (env : Sem.Env) {x y : Sem.St × Sem.Env × Sem.Res Unit}, R x y → R (dropScope env x) (dropScope env y)
  post : ∀ (env2 : Sem.Env) {x y : Sem.St × Sem.Env × Sem.Res Unit}, R x y → R (callPost env2 x) (callPost env2 y)

def BenignRel {α : Type} (x _y : Sem.St × Sem.Env × Sem.Res α) : Prop := benign x.2.2

theorem benignRel : FuelRel false @BenignRel where
  oof _ _ _ := trivial
  ok _ _ _ := trivial
  unspec _ _ _ := trivial
  ret h := nomatch h
  bind := fun {_ _ r _ k _} hr hk => by
    obtain ⟨s, env, x⟩ := r
    cases x <;> first | exact hk _ _ _ rfl | exact hr | trivial
  loop hb i nv _ _ _ s _ := repeatLoop_res benign trivial trivial hb i nv _ 0 s
  drop := fun _ {_ _} h => h
  post := fun _ {x _} h => by
    obtain ⟨s, env, r⟩ := x
    cases r <;> first | trivial | exact h

def BenignRRel {α : Type} (x _y : Sem.St × Sem.Env × Sem.Res α) : Prop := benignR x.2.2

theorem benignRRel (rt : Bool) : FuelRel rt @BenignRRel where
  oof _ _ _ := trivial
  ok _ _ _ := trivial
  unspec _ _ _ := trivial
  ret := fun _ {_} _ _ _ => trivial
  bind := fun {_ _ r _ k _} hr hk => by
    obtain ⟨s, env, x⟩ := r
    cases x <;> first | exact hk _ _ _ rfl | exact hr | trivial
  loop hb i nv _ _ _ s _ := repeatLoop_res benignR trivial trivial hb i nv _ 0 s
  drop := fun _ {_ _} h => h
  post := fun _ {x _} h => by
    obtain ⟨s, env, r⟩ := x
    cases r <;> first | trivial | exact h

def MonoRel {α : Type} (x y : Sem.St × Sem.Env × Sem.Res α) : Prop := ¬ isOOF x.2.2 → y = x

theorem monoRel (rt : Bool) : FuelRel rt @MonoRel where
  oof _ _ _ h := absurd trivial h
  ok _ _ _ _ := rfl
  unspec _ _ _ _ := rfl
  ret := fun _ {_} _ _ _ _ => rfl
  bind := fun {_ _ r r' k k'} hr hk h => by
    obtain ⟨s, env, x⟩ := r
    cases x with
    | outOfFuel => exact absurd trivial h
    | ok a => rw [hr fun x => x]; exact hk s env a rfl h
    | _ => rw [hr fun x => x]; rfl
  loop hb i nv _ _ hk s env h := by rw [repeatLoop_fuel_mono hb i nv _ 0 s h _ hk]
  drop := fun env {_ _} h hn => congrArg (dropScope env) (h hn)
  post := fun env2 {x _} h hn => congrArg (callPost env2) (h (by
    obtain ⟨s, env, r⟩ := x
    cases r <;> first | exact hn | exact fun x => x))

section fuelrel
variable {rt : Bool} {R : ∀ {α : Type}, Sem.St × Sem.Env × Sem.Res α → Sem.St × Sem.Env × Sem.Res α → Prop}
  (hR : FuelRel rt @R)
include hR

theorem FuelRel.same {α : Type} {x : Sem.St × Sem.Env × Sem.Res α} (h : benign x.2.2) : R x x := by
  obtain ⟨s, env, r⟩ := x
  cases r <;> first | exact hR.ok _ _ _ | exact hR.unspec _ _ _ | exact hR.oof _ _ _ | exact absurd h id

theorem FuelRel.list {ex ex' : Sem.Env → Sem.St → Card → Sem.St × Sem.Env × Sem.Res Unit} :
    ∀ (cs : List Card), (∀ c ∈ cs, ∀ env σ, R (ex env σ c) (ex' env σ c)) → ∀ (env : Sem.Env) (σ : Sem.St),
      R (Sem.execListWith ex env σ cs) (Sem.execListWith ex' env σ cs)
  | [], _, env, σ => hR.ok σ env ()
  | c :: cs, h, env, σ => by
    rw [execList_cons, execList_cons]
    exact hR.bind (h c (List.mem_cons_self ..) env σ) fun s env _ _ =>
      FuelRel.list cs (fun c hc => h c (List.mem_cons_of_mem _ hc)) env s

end fuelrel

theorem repeatLoop_calls {body : List (String × Nat) → Sem.St → Sem.St × Sem.Env × Sem.Res Unit}
    (hb : ∀ scope s, (body scope s).1.calls = s.calls) (i : Option String) (nv : Val) :
    ∀ (gas : Nat) (k : Int64) (s : Sem.St), (Sem.repeatLoop body i nv gas k s).1.calls = s.calls := by
  intro gas
  induction gas with
  | zero => intro k s; rfl
  | succ gas ih =>
    intro k s
    rw [repeatLoop_succ]
    have hsc : (repScope i k s).1.calls = s.calls := by cases i <;> rfl
    split
    · have h := hb (repScope i k s).2 (repScope i k s).1
      rcases hc : body (repScope i k s).2 (repScope i k s).1 with ⟨s2, e2, r2⟩
      rw [hc] at h
      simp only at h
      cases r2 with
      | ok u => cases u; exact (ih (k + 1) s2).trans (h.trans hsc)
      | _ => exact h.trans hsc
    · rfl

/-! ## expressions -/

theorem readVar_benign (cx : Sem.Ctx) (env : Sem.Env) (σ : Sem.St) {n : String} (hn : simpleName n = true) :
    benign (Sem.readVar cx env σ n).2.2 := by
  obtain ⟨hsplit, hne⟩ := simpleName_iff.1 hn
  unfold Sem.readVar
  simp only [hsplit, List.filter_nil, hne, Bool.false_eq_true, if_false, List.foldl_nil]
  split <;> rename_i h
  · trivial
  · rename_i r
    revert h
    split
    · intro h; exact absurd rfl (h _)
    · split
      · intro h; exact absurd rfl (h _)
      · split
        · intro h; exact absurd rfl (h _)
        · intro _; trivial

theorem FuelRel.expr {rt : Bool} {R : ∀ {α : Type}, Sem.St × Sem.Env × Sem.Res α → Sem.St × Sem.Env × Sem.Res α → Prop}
    (hR : FuelRel rt @R) (cx : Sem.Ctx) (e : Card) : isExpr e = true → ∀ {f k : Nat}, f ≤ k →
    ∀ (env : Sem.Env) (σ : Sem.St), R (Sem.eval cx f env σ e) (Sem.eval cx k env σ e) := by
  fun_induction isExpr e with
  | case1 | case2 | case3 =>
    intro _ f k hk env σ
    cases f with
    | zero => exact hR.oof _ _ _
    | succ f =>
      obtain ⟨k, rfl⟩ : ∃ k', k = k' + 1 := ⟨k - 1, by omega⟩
      exact hR.ok _ _ _
  | case4 c ih =>
    intro he f k hk env σ
    cases f with
    | zero => exact hR.oof _ _ _
    | succ f =>
      obtain ⟨k, rfl⟩ : ∃ k', k = k' + 1 := ⟨k - 1, by omega⟩
      rw [eval_not, eval_not]
      exact hR.bind (ih he (by omega) env σ) fun _ _ _ _ => hR.same trivial
  | case5 op a b iha ihb =>
    intro he f k hk env σ
    simp only [Bool.and_eq_true] at he
    cases f with
    | zero => exact hR.oof _ _ _
    | succ f =>
      obtain ⟨k, rfl⟩ : ∃ k', k = k' + 1 := ⟨k - 1, by omega⟩
      rw [eval_bin _ _ _ _ op he.1.1, eval_bin _ _ _ _ op he.1.1]
      exact hR.bind (iha he.1.2 (by omega) env σ) fun s env _ _ =>
        hR.bind (ihb he.2 (by omega) env s) fun _ _ _ _ => hR.same trivial
  | case6 n =>
    intro he f k hk env σ
    cases f with
    | zero => exact hR.oof _ _ _
    | succ f =>
      obtain ⟨k, rfl⟩ : ∃ k', k = k' + 1 := ⟨k - 1, by omega⟩
      rw [eval_readVar, eval_readVar]
      exact hR.same (readVar_benign cx env σ he)
  | case7 => intro he; cases he

theorem FuelRel.exprs {rt : Bool} {R : ∀ {α : Type}, Sem.St × Sem.Env × Sem.Res α → Sem.St × Sem.Env × Sem.Res α → Prop}
    (hR : FuelRel rt @R) (cx : Sem.Ctx) {f k : Nat} (hk : f ≤ k) : ∀ (es : List Card), isExprs es = true →
    ∀ (env : Sem.Env) (σ : Sem.St),
      R (Sem.evalListWith (Sem.eval cx f) env σ es) (Sem.evalListWith (Sem.eval cx k) env σ es)
  | [], _, env, σ => hR.ok σ env []
  | e :: es, he, env, σ => by
    simp only [isExprs, Bool.and_eq_true] at he
    rw [evalList_cons, evalList_cons]
    exact hR.bind (hR.expr cx e he.1 hk env σ) fun s env v _ =>
      hR.bind (hR.exprs cx hk es he.2 env s) fun s env vs _ => hR.ok _ _ _

theorem eval_benign (cx : Sem.Ctx) (e : Card) (he : isExpr e = true) (fuel : Nat) (env : Sem.Env) (σ : Sem.St) :
    benign (Sem.eval cx fuel env σ e).2.2 := benignRel.expr cx e he (Nat.le_refl fuel) env σ

/-! ## values: expressions, or static calls -/

theorem evalList_benign (cx : Sem.Ctx) (es : List Card) (he : isExprs es = true) (fuel : Nat) (env : Sem.Env)
    (σ : Sem.St) : benign (Sem.evalListWith (Sem.eval cx fuel) env σ es).2.2 :=
  benignRel.exprs cx (Nat.le_refl fuel) es he env σ

theorem eval_val_noret (cx : Sem.Ctx) (ft : Feat) {e : Card} (he : isVal ft e = true) (f : Nat) (env : Sem.Env)
    (σ σ1 : Sem.St) (env1 : Sem.Env) (w : Val) : Sem.eval cx f env σ e ≠ (σ1, env1, .ret w) := by
  intro h
  rcases isVal_cases he with he' | ⟨g, args, rfl, hc⟩
  · have := eval_benign cx e he' f env σ
    rw [h] at this
    exact this
  · cases f with
    | zero => rw [eval_zero] at h; cases h
    | succ f =>
      simp only [isCall, Bool.and_eq_true] at hc
      rw [eval_call] at h
      have hb := evalList_benign cx args hc.2 f env σ
      rcases hl : Sem.evalListWith (Sem.eval cx f) env σ args with ⟨s2, env2, r2⟩
      rw [hl] at h hb
      cases r2 with
      | ok vs =>
        simp only [andThen, callRest] at h
        split at h
        · split at h
          · split at h
            · cases h
            · split at h
              · cases h
              · rename_i i _ fd hfd _ _
                rw [callFnWith_inl _ _ _ _ _ hfd] at h
                split at h
                · cases h
                · split at h <;> cases h
          · cases h
        · cases h
      | ret _ => exact hb
      | _ => cases h

theorem andThen_val {cx : Sem.Ctx} {ft : Feat} {e : Card} (he : isVal ft e = true) {f : Nat} {env : Sem.Env} {σ σ' : Sem.St}
    {env' : Sem.Env} {β : Type} {k : Sem.St → Sem.Env → Val → Sem.St × Sem.Env × Sem.Res β} {r : Sem.Res β}
    (h : andThen (Sem.eval cx f env σ e) k = (σ', env', r)) (hr : okRet r) :
    ∃ σ1 env1 x, Sem.eval cx f env σ e = (σ1, env1, .ok x) ∧ k σ1 env1 x = (σ', env', r) := by
  rcases andThen_okRet h hr with ⟨w, hc, _⟩ | h
  · exact absurd hc (eval_val_noret cx ft he f env σ σ' env' w)
  · exact h

/-! ## statements and values of all fragments: one induction -/

mutual
  /-- the statement cards of all fragments as the reference semantics sees them, by features: a value may be a
      static call of a function of `ft.fns`, `Return` is a statement when `ft.ret`; there is no condition on where
      locals are declared or on the body of a loop. The statement predicates of the fragments are parts of it
      (`isStmtS_R_all`). -/
  def isStmtR (ft : Feat) : Card → Bool
    | .setGlobalVar n e => !n.isEmpty && isVal ft e
    | .setVar n e => simpleName n && isVal ft e
    | .un .ret e => ft.ret && isVal ft e
    | .bin .ifTrue c b => isExpr c && isStmtR ft b
    | .bin .ifFalse c b => isExpr c && isStmtR ft b
    | .bin .while c b => isExpr c && isStmtR ft b
    | .repeat _ n b => isExpr n && isStmtR ft b
    | .tri .ifElse c t e => isExpr c && isStmtR ft t && isStmtR ft e
    | .composite _ cs => isStmtsR ft cs
    | .comment _ => true
    | _ => false
  def isStmtsR (ft : Feat) : List Card → Bool
    | [] => true
    | c :: cs => isStmtR ft c && isStmtsR ft cs
end

theorem isStmtsR_mem {ft : Feat} : ∀ {cs : List Card}, isStmtsR ft cs = true → ∀ c ∈ cs, isStmtR ft c = true
  | [], _, c, hc => by cases hc
  | x :: xs, h, c, hc => by
    simp only [isStmtsR, Bool.and_eq_true] at h
    rcases List.mem_cons.1 hc with rfl | hc
    · exact h.1
    · exact isStmtsR_mem h.2 c hc

/-- what the reference semantics knows about the functions that may be called -/
def SemTable (ft : Feat) (fns : Array Sem.FnDef) : Prop :=
  ∀ g fd, ft.lookup g = some fd →
    (∃ i d, (∀ home, home < fns.size → Sem.resolve fns home g = some i) ∧ fns[i]? = some d ∧
      d.params = fd.arguments ∧ d.cards = fd.cards) ∧ isStmtsR ft fd.cards = true

theorem call_args {ft : Feat} {fns : Array Sem.FnDef} (htab : SemTable ft fns) {cx : Sem.Ctx} (hcx : CxH fns cx)
    {g : String} {args : List Card} (hc : isCall ft (.call g args) = true) (f : Nat) (env : Sem.Env) (σ : Sem.St) :
    isExprs args = true ∧ ∃ fd i dfn, ft.lookup g = some fd ∧ isStmtsR ft fd.cards = true ∧
      cx.fns[i]? = some dfn ∧ i < fns.size ∧ dfn.cards = fd.cards ∧ Sem.resolve cx.fns cx.home g = some i ∧
      ∀ s2 env2 vals, Sem.evalListWith (Sem.eval cx f) env σ args = (s2, env2, .ok vals) → vals.length = dfn.params.length := by
  simp only [isCall, Bool.and_eq_true] at hc
  obtain ⟨hlk, hargs⟩ := hc
  rcases hfd : ft.lookup g with _ | fd
  · rw [hfd] at hlk; exact absurd hlk (by simp)
  rw [hfd] at hlk
  have harity : fd.arguments.length = args.length := by simpa using hlk
  obtain ⟨⟨i, dfn, hres, hdi, hdp, hdc⟩, hbody⟩ := htab g fd hfd
  have hi : i < fns.size := (Array.getElem?_eq_some_iff.1 hdi).1
  exact ⟨hargs, fd, i, dfn, rfl, hbody, by rw [hcx.2.1]; exact hdi, hi, hdc, by rw [hcx.2.1]; exact hres cx.home hcx.2.2,
    fun s2 env2 vals hl => by rw [hdp, evalList_length cx args f env σ s2 env2 vals hl, harity]⟩

section fuelrel
variable {ft : Feat} {R : ∀ {α : Type}, Sem.St × Sem.Env × Sem.Res α → Sem.St × Sem.Env × Sem.Res α → Prop}
  (hR : FuelRel ft.ret @R)
include hR

/-- **the reference semantics on the fragments respects every such relation**: statements and values, in
    every context of the program, by induction on the smaller fuel -/
theorem exec_rel (fns : Array Sem.FnDef) (htab : SemTable ft fns) :
    ∀ (f : Nat) (cx : Sem.Ctx), CxH fns cx → ∀ k, f ≤ k →
      (∀ c, isStmtR ft c = true → ∀ (env : Sem.Env) (σ : Sem.St), R (Sem.exec cx f env σ c) (Sem.exec cx k env σ c)) ∧
      (∀ e, isVal ft e = true → ∀ (env : Sem.Env) (σ : Sem.St), R (Sem.eval cx f env σ e) (Sem.eval cx k env σ e)) := by
  intro f
  induction f with
  | zero =>
    intro cx _ k _
    exact ⟨fun c _ env σ => by rw [exec_zero]; exact hR.oof _ _ _, fun e _ env σ => by rw [eval_zero]; exact hR.oof _ _ _⟩
  | succ f ih =>
    intro cx hcx k' hk'
    obtain ⟨k, rfl⟩ : ∃ k, k' = k + 1 := ⟨k' - 1, by omega⟩
    have hk : f ≤ k := by omega
    have hout := hcx.1
    obtain ⟨ihx, ihv⟩ := ih cx hcx k hk
    have hexpr := fun e he env σ => hR.expr cx e he hk env σ
    refine ⟨fun c hs env σ => ?_, fun e he env σ => ?_⟩
    · cases c with
      | comment t => exact hR.ok _ _ _
      | composite t cs =>
        rw [exec_composite, exec_composite]
        exact hR.list cs (fun c hc env σ => ihx c (isStmtsR_mem hs c hc) env σ) env σ
      | setVar n e =>
        simp only [isStmtR, Bool.and_eq_true] at hs
        rw [exec_setVar cx f env σ hout e hs.1, exec_setVar cx k env σ hout e hs.1]
        exact hR.bind (ihv e hs.2 env σ) fun s env x _ => hR.same (by split <;> trivial)
      | setGlobalVar n e =>
        simp only [isStmtR, Bool.and_eq_true] at hs
        rw [exec_setGlobal, exec_setGlobal]
        exact hR.bind (ihv e hs.2 env σ) fun s env x _ => hR.same (by split <;> trivial)
      | un kk e =>
        cases kk with
        | ret =>
          simp only [isStmtR, Bool.and_eq_true] at hs
          rw [exec_ret, exec_ret]
          exact hR.bind (ihv e hs.2 env σ) fun _ _ _ _ => hR.ret hs.1 _ _ _
        | _ => simp [isStmtR] at hs
      | tri kk a b c =>
        cases kk with
        | setProperty => simp [isStmtR] at hs
        | ifElse =>
          simp only [isStmtR, Bool.and_eq_true] at hs
          rw [exec_ifElse, exec_ifElse]
          exact hR.bind (hexpr a hs.1.1 env σ) fun s env x _ => by
            by_cases ht : Sem.truthy s x = true
            · simp only [if_pos ht]; exact ihx b hs.1.2 env s
            · simp only [if_neg ht]; exact ihx c hs.2 env s
      | bin kk a b =>
        cases kk with
        | ifTrue =>
          simp only [isStmtR, Bool.and_eq_true] at hs
          rw [exec_ifTrue, exec_ifTrue]
          exact hR.bind (hexpr a hs.1 env σ) fun s env x _ => by
            by_cases ht : Sem.truthy s x = true
            · simp only [if_pos ht]; exact ihx b hs.2 env s
            · simp only [if_neg ht]; exact hR.ok _ _ _
        | ifFalse =>
          simp only [isStmtR, Bool.and_eq_true] at hs
          rw [exec_ifFalse, exec_ifFalse]
          exact hR.bind (hexpr a hs.1 env σ) fun s env x _ => by
            by_cases ht : Sem.truthy s x = true
            · simp only [if_pos ht]; exact hR.ok _ _ _
            · simp only [if_neg ht]; exact ihx b hs.2 env s
        | «while» =>
          have hs0 := hs
          simp only [isStmtR, Bool.and_eq_true] at hs
          rw [exec_while, exec_while]
          exact hR.bind (hexpr a hs.1 env σ) fun s env x _ => by
            by_cases ht : Sem.truthy s x = true
            · simp only [if_pos ht]
              exact hR.bind (hR.drop env (ihx b hs.2 ([] :: env) s)) fun s env _ _ => ihx _ hs0 env s
            · simp only [if_neg ht]; exact hR.ok _ _ _
        | _ => simp [isStmtR] at hs
      | «repeat» i n b =>
        simp only [isStmtR, Bool.and_eq_true] at hs
        rw [exec_repeat, exec_repeat]
        exact hR.bind (hexpr n hs.1 env σ) fun s env nv _ =>
          hR.loop (fun scope s => ihx b hs.2 (scope :: env) s) i nv hk s env
      | _ => simp [isStmtR] at hs
    · rcases isVal_cases he with he' | ⟨g, args, rfl, hc⟩
      · exact hR.expr cx e he' (Nat.succ_le_succ hk) env σ
      · obtain ⟨hargs, fd, i, dfn, _, hbody, hdi, hi, hdc, hres, hlen⟩ := call_args htab hcx hc f env σ
        rw [eval_call, eval_call]
        refine hR.bind (hR.exprs cx hk args hargs env σ) fun s2 env2 vals hl => ?_
        rw [callRest_run cx f g hres hdi (hlen s2 env2 vals hl), callRest_run cx k g hres hdi (hlen s2 env2 vals hl)]
        by_cases hlim : s2.calls ≥ Sem.callLimit
        · rw [if_pos hlim]; exact hR.oof _ _ _
        · rw [if_neg hlim, if_neg hlim, hcx.2.1]
          obtain ⟨ihx', _⟩ := ih _ (⟨rfl, rfl, hi⟩ : CxH fns { fns := fns, home := i, outer := [] }) k hk
          exact hR.post env2 (hR.list dfn.cards
            (fun c hc env σ => ihx' c (isStmtsR_mem (by rw [hdc]; exact hbody) c hc) env σ) _ _)

end fuelrel

theorem exec_benignR (ft : Feat) (fns : Array Sem.FnDef) (htab : SemTable ft fns) (f : Nat) (cx : Sem.Ctx)
    (hcx : CxH fns cx) :
    (∀ c, isStmtR ft c = true → ∀ (env : Sem.Env) (σ : Sem.St), benignR (Sem.exec cx f env σ c).2.2) ∧
    (∀ e, isVal ft e = true → ∀ (env : Sem.Env) (σ : Sem.St), benignR (Sem.eval cx f env σ e).2.2) :=
  exec_rel (benignRRel ft.ret) fns htab f cx hcx f (Nat.le_refl f)

theorem exec_fuel_monoR (ft : Feat) (fns : Array Sem.FnDef) (htab : SemTable ft fns) (f : Nat) (cx : Sem.Ctx)
    (hcx : CxH fns cx) :
    (∀ c, isStmtR ft c = true → ∀ (env : Sem.Env) (σ : Sem.St), ¬ isOOF (Sem.exec cx f env σ c).2.2 →
      ∀ f', f ≤ f' → Sem.exec cx f' env σ c = Sem.exec cx f env σ c) ∧
    (∀ e, isVal ft e = true → ∀ (env : Sem.Env) (σ : Sem.St), ¬ isOOF (Sem.eval cx f env σ e).2.2 →
      ∀ f', f ≤ f' → Sem.eval cx f' env σ e = Sem.eval cx f env σ e) :=
  ⟨fun c hc env σ h f' hf => (exec_rel (monoRel ft.ret) fns htab f cx hcx f' hf).1 c hc env σ h,
   fun e he env σ h f' hf => (exec_rel (monoRel ft.ret) fns htab f cx hcx f' hf).2 e he env σ h⟩

/-! ## statements without calls and `Return` (F1 to F4) -/

mutual
  /-- the statement cards of the fragments without calls and without `Return` (F1 to F4), with no condition
      on where locals are declared: the cards of `isStmt`, of `isStmtL` and of `isStmtS` without functions
      and `Return` are among them (`isStmt_B`, `isStmtL_B`, `isStmtS_B`) -/
  def isStmtB : Card → Bool
    | .setGlobalVar n e => !n.isEmpty && isExpr e
    | .setVar n e => simpleName n && isExpr e
    | .bin .ifTrue c b => isExpr c && isStmtB b
    | .bin .ifFalse c b => isExpr c && isStmtB b
    | .bin .while c b => isExpr c && isStmtB b
    | .repeat _ n b => isExpr n && isStmtB b
    | .tri .ifElse c t e => isExpr c && isStmtB t && isStmtB e
    | .composite _ cs => isStmtsB cs
    | .comment _ => true
    | _ => false
  def isStmtsB : List Card → Bool
    | [] => true
    | c :: cs => isStmtB c && isStmtsB cs
end

theorem execList_benign {ex : Sem.Env → Sem.St → Card → Sem.St × Sem.Env × Sem.Res Unit}
    (cs : List Card) (h : ∀ c ∈ cs, ∀ env σ, benign (ex env σ c).2.2) (env : Sem.Env) (σ : Sem.St) :
    benign (Sem.execListWith ex env σ cs).2.2 := benignRel.list (ex' := ex) cs h env σ

theorem execList_fuel_mono {ex ex' : Sem.Env → Sem.St → Card → Sem.St × Sem.Env × Sem.Res Unit}
    (cs : List Card) (h : ∀ c ∈ cs, ∀ env σ, ¬ isOOF (ex env σ c).2.2 → ex' env σ c = ex env σ c)
    (env : Sem.Env) (σ : Sem.St) (hn : ¬ isOOF (Sem.execListWith ex env σ cs).2.2) :
    Sem.execListWith ex' env σ cs = Sem.execListWith ex env σ cs := (monoRel false).list cs h env σ hn

theorem execList_calls {ex : Sem.Env → Sem.St → Card → Sem.St × Sem.Env × Sem.Res Unit}
    : ∀ (cs : List Card), (∀ c ∈ cs, ∀ env σ, (ex env σ c).1.calls = σ.calls) → ∀ (env : Sem.Env) (σ : Sem.St),
      (Sem.execListWith ex env σ cs).1.calls = σ.calls
  | [], _, env, σ => rfl
  | c :: cs, h, env, σ => by
    rw [execList_cons]
    exact andThen_state (·.calls = σ.calls) (h c (List.mem_cons_self ..) env σ) fun s env _ hs =>
      (execList_calls cs (fun c hc => h c (List.mem_cons_of_mem _ hc)) env s).trans hs

theorem isVal_noFns {ft : Feat} (hfns : ft.fns = []) (e : Card) : isVal ft e = isExpr e := by
  unfold isVal
  cases e <;> simp [isCall, Feat.lookup, hfns]

theorem isStmtR_B {ft : Feat} (hfns : ft.fns = []) (hret : ft.ret = false) :
    (∀ c, isStmtR ft c = isStmtB c) ∧ (∀ cs, isStmtsR ft cs = isStmtsB cs) := by
  apply isStmtR.mutual_induct (motive_1 := fun c => isStmtR ft c = isStmtB c)
    (motive_2 := fun cs => isStmtsR ft cs = isStmtsB cs)
  case case1 | case2 => intro n e; simp only [isStmtR, isStmtB, isVal_noFns hfns]
  case case3 => intro e; simp [isStmtR, isStmtB, hret]
  case case4 | case5 | case6 => intro c b ih; simp only [isStmtR, isStmtB, ih]
  case case7 => intro i n b ih; simp only [isStmtR, isStmtB, ih]
  case case8 => intro c t e iht ihe; simp only [isStmtR, isStmtB, iht, ihe]
  case case9 => intro t cs ih; simpa only [isStmtR, isStmtB] using ih
  case case10 => intro t; rfl
  case case11 =>
    intro c h1 h2 h3 h4 h5 h6 h7 h8 h9 h10
    rw [isStmtR.eq_11 ft c h1 h2 h3 h4 h5 h6 h7 h8 h9 h10, isStmtB.eq_10 c h1 h2 h4 h5 h6 h7 h8 h9 h10]
  case case12 => rfl
  case case13 => intro c cs ihc ihs; simp only [isStmtsR, isStmtsB, ihc, ihs]

theorem isStmtsB_mem {cs : List Card} (h : isStmtsB cs = true) (c : Card) (hc : c ∈ cs) : isStmtB c = true :=
  (isStmtR_B (ft := {}) rfl rfl).1 c ▸ isStmtsR_mem ((isStmtR_B (ft := {}) rfl rfl).2 cs ▸ h) c hc

theorem semTable_nil {ft : Feat} (hfns : ft.fns = []) (fns : Array Sem.FnDef) : SemTable ft fns :=
  fun g fd h => by simp [Feat.lookup, hfns] at h

section stmtB
variable {fns : Array Sem.FnDef} {cx : Sem.Ctx} (hcx : CxH fns cx)
include hcx

theorem exec_benignB (fuel : Nat) (c : Card) (hs : isStmtB c = true) (env : Sem.Env) (σ : Sem.St) :
    benign (Sem.exec cx fuel env σ c).2.2 :=
  (exec_rel (ft := {}) benignRel fns (semTable_nil rfl fns) fuel cx hcx fuel (Nat.le_refl _)).1 c
    ((isStmtR_B (ft := {}) rfl rfl).1 c ▸ hs) env σ

end stmtB

section callsB
variable (cx : Sem.Ctx) (hout : cx.outer = [])
include hout

theorem exec_callsB : ∀ (fuel : Nat) (c : Card), isStmtB c = true →
    ∀ (env : Sem.Env) (σ : Sem.St), (Sem.exec cx fuel env σ c).1.calls = σ.calls := by
  intro fuel
  induction fuel with
  | zero => intro c _ env σ; rw [exec_zero]
  | succ f ih =>
    intro c hs env σ
    have hev : ∀ e, isExpr e = true → (Sem.eval cx f env σ e).1.calls = σ.calls := fun e he => by
      rw [eval_state cx e he f env σ]
    cases c with
    | comment t => rfl
    | composite t cs =>
      rw [exec_composite]
      exact execList_calls cs (fun c hc env σ => ih c (isStmtsB_mem hs c hc) env σ) env σ
    | setVar n e =>
      simp only [isStmtB, Bool.and_eq_true] at hs
      rw [exec_setVar cx f env σ hout e hs.1]
      exact andThen_state (·.calls = σ.calls) (hev e hs.2) fun s env x h => by split <;> exact h
    | setGlobalVar n e =>
      simp only [isStmtB, Bool.and_eq_true] at hs
      rw [exec_setGlobal]
      exact andThen_state (·.calls = σ.calls) (hev e hs.2) fun s env x h => by split <;> exact h
    | tri k a b c =>
      cases k with
      | setProperty => simp [isStmtB] at hs
      | ifElse =>
        simp only [isStmtB, Bool.and_eq_true] at hs
        rw [exec_ifElse]
        exact andThen_state (·.calls = σ.calls) (hev a hs.1.1) fun s env x h => by
          split
          · exact (ih b hs.1.2 env s).trans h
          · exact (ih c hs.2 env s).trans h
    | bin k a b =>
      cases k with
      | ifTrue =>
        simp only [isStmtB, Bool.and_eq_true] at hs
        rw [exec_ifTrue]
        exact andThen_state (·.calls = σ.calls) (hev a hs.1) fun s env x h => by
          split
          · exact (ih b hs.2 env s).trans h
          · exact h
      | ifFalse =>
        simp only [isStmtB, Bool.and_eq_true] at hs
        rw [exec_ifFalse]
        exact andThen_state (·.calls = σ.calls) (hev a hs.1) fun s env x h => by
          split
          · exact h
          · exact (ih b hs.2 env s).trans h
      | «while» =>
        have hs0 := hs
        simp only [isStmtB, Bool.and_eq_true] at hs
        rw [exec_while]
        exact andThen_state (·.calls = σ.calls) (hev a hs.1) fun s env x h => by
          split
          · exact andThen_state (·.calls = σ.calls) ((ih b hs.2 ([] :: env) s).trans h)
              fun s env _ h' => (ih _ hs0 env s).trans h'
          · exact h
      | _ => simp [isStmtB] at hs
    | «repeat» i n b =>
      simp only [isStmtB, Bool.and_eq_true] at hs
      rw [exec_repeat]
      exact andThen_state (·.calls = σ.calls) (hev n hs.1) fun s env nv h =>
        (repeatLoop_calls (fun scope s => ih b hs.2 (scope :: env) s) i nv f 0 s).trans h
    | _ => simp [isStmtB] at hs

end callsB

/-! ## the statement predicates of the fragments are parts of `isStmtB` (F1 to F4) and of `isStmtR` (all) -/

theorem isStmt_B : (∀ c, isStmt c = true → isStmtB c = true) ∧ (∀ cs, isStmts cs = true → isStmtsB cs = true) := by
  apply isStmt.mutual_induct (motive_1 := fun c => isStmt c = true → isStmtB c = true)
    (motive_2 := fun cs => isStmts cs = true → isStmtsB cs = true)
  case case1 => exact fun _ _ h => h
  case case2 | case3 | case4 =>
    intro c b ih h
    simp only [isStmt, isStmtB, Bool.and_eq_true] at h ⊢
    exact ⟨h.1, ih h.2⟩
  case case5 =>
    intro c t e iht ihe h
    simp only [isStmt, isStmtB, Bool.and_eq_true] at h ⊢
    exact ⟨⟨h.1.1, iht h.1.2⟩, ihe h.2⟩
  case case6 => exact fun _ _ ih h => ih h
  case case7 => exact fun _ _ => rfl
  case case8 => intro t h1 h2 h3 h4 h5 h6 h7 hs; rw [isStmt.eq_8 t h1 h2 h3 h4 h5 h6 h7] at hs; cases hs
  case case9 => exact fun _ => rfl
  case case10 =>
    intro c cs ihc ihs h
    simp only [isStmts, isStmtsB, Bool.and_eq_true] at h ⊢
    exact ⟨ihc h.1, ihs h.2⟩

theorem isStmtL_B_both (L : LCtx) :
    (∀ c, isStmtL L c = true → isStmtB c = true) ∧ (∀ cs, isStmtsL L cs = true → isStmtsB cs = true) := by
  apply isStmtL.mutual_induct (motive_1 := fun c => isStmtL L c = true → isStmtB c = true)
    (motive_2 := fun cs => isStmtsL L cs = true → isStmtsB cs = true)
  case case1 => exact fun _ _ h => h
  case case2 =>
    intro n e h
    simp only [isStmtL, isStmtB, Bool.and_eq_true] at h ⊢
    exact ⟨h.1.1, h.2⟩
  case case3 | case4 | case5 =>
    intro c b ih h
    simp only [isStmtL, isStmtB, Bool.and_eq_true] at h ⊢
    exact ⟨h.1, ih h.2⟩
  case case6 =>
    intro c t e iht ihe h
    simp only [isStmtL, isStmtB, Bool.and_eq_true] at h ⊢
    exact ⟨⟨h.1.1, iht h.1.2⟩, ihe h.2⟩
  case case7 => exact fun _ _ ih h => ih h
  case case8 => exact fun _ _ => rfl
  case case9 => intro t h1 h2 h3 h4 h5 h6 h7 h8 hs; rw [isStmtL.eq_9 L t h1 h2 h3 h4 h5 h6 h7 h8] at hs; cases hs
  case case10 => exact fun _ => rfl
  case case11 =>
    intro c cs ihc ihs h
    simp only [isStmtsL, isStmtsB, Bool.and_eq_true] at h ⊢
    exact ⟨ihc h.1, ihs h.2⟩

theorem isStmtL_B (L : LCtx) : ∀ (c : Card), isStmtL L c = true → isStmtB c = true := (isStmtL_B_both L).1

theorem isStmtsL_B (L : LCtx) : ∀ (cs : List Card), isStmtsL L cs = true → isStmtsB cs = true := (isStmtL_B_both L).2

theorem isTops_B (d : Int) : ∀ (cs : List Card) (L : LCtx), isTops d L cs = true → isStmtsB cs = true
  | [], _ => fun _ => rfl
  | c :: cs, L => fun h => by
    simp only [isTops] at h
    simp only [isStmtsB, Bool.and_eq_true]
    rcases hdecl : declOf L c with _ | ⟨n, e⟩ <;> simp only [hdecl, Bool.and_eq_true] at h
    · exact ⟨isStmtL_B L c h.1, isTops_B d cs L h.2⟩
    · obtain ⟨rfl, _⟩ := declOf_some hdecl
      refine ⟨?_, isTops_B d cs _ h.2⟩
      simp only [isStmtB, Bool.and_eq_true]
      exact h.1

theorem isStmtS_R_all (ft : Feat) :
    (∀ d L c, isStmtS ft d L c = true → isStmtR ft c = true) ∧
    (∀ d L cs, isStmtsS ft d L cs = true → isStmtsR ft cs = true) ∧
    (∀ d L cs, isBlock ft d L cs = true → isStmtsR ft cs = true) := by
  apply isStmtS.mutual_induct (motive_1 := fun d L c => isStmtS ft d L c = true → isStmtR ft c = true)
    (motive_2 := fun d L cs => isStmtsS ft d L cs = true → isStmtsR ft cs = true)
    (motive_3 := fun d L cs => isBlock ft d L cs = true → isStmtsR ft cs = true)
  case case1 => exact fun _ _ _ _ h => h
  case case2 =>
    intro d L n e h
    simp only [isStmtS, isStmtR, Bool.and_eq_true] at h ⊢
    exact ⟨h.1.1, h.2⟩
  case case3 => exact fun _ _ _ h => h
  case case4 | case5 =>
    intro d L c b ih h
    simp only [isStmtS, isStmtR, Bool.and_eq_true] at h ⊢
    exact ⟨h.1, ih h.2⟩
  case case6 =>
    intro d L c ty cs ih h
    simp only [isStmtS, isStmtR, Bool.and_eq_true] at h ⊢
    exact ⟨h.1, ih h.2⟩
  case case7 =>
    intro d L i n ty cs ih h
    simp only [isStmtS, isStmtR, Bool.and_eq_true] at h ⊢
    exact ⟨h.1.1.2, ih h.2⟩
  case case8 =>
    intro d L c t e iht ihe h
    simp only [isStmtS, isStmtR, Bool.and_eq_true] at h ⊢
    exact ⟨⟨h.1.1, iht h.1.2⟩, ihe h.2⟩
  case case9 => exact fun _ _ _ _ ih h => ih h
  case case10 => exact fun _ _ _ _ => rfl
  case case11 =>
    intro t d L h1 h2 h3 h4 h5 h6 h7 h8 h9 h10 hs
    rw [isStmtS.eq_11 ft d L t h1 h2 h3 h4 h5 h6 h7 h8 h9 h10] at hs; cases hs
  case case12 | case14 => exact fun _ _ _ => rfl
  case case13 =>
    intro d L c cs ihc ihs h
    simp only [isStmtsS, isStmtsR, Bool.and_eq_true] at h ⊢
    exact ⟨ihc h.1, ihs h.2⟩
  case case15 =>
    intro d L c cs n e hdecl ih h
    obtain ⟨rfl, _⟩ := declOf_some hdecl
    simp only [isBlock, hdecl, isStmtsR, isStmtR, Bool.and_eq_true] at h ⊢
    exact ⟨h.1, ih h.2⟩
  case case16 =>
    intro d L c cs hdecl ihc ihs h
    simp only [isBlock, hdecl, isStmtsR, Bool.and_eq_true] at h ⊢
    exact ⟨ihc h.1, ihs h.2⟩

theorem isBlock_R {ft : Feat} {d : Int} {L : LCtx} {cs : List Card} (h : isBlock ft d L cs = true) :
    isStmtsR ft cs = true := (isStmtS_R_all ft).2.2 d L cs h

theorem isStmtS_B_all {ft : Feat} (hfns : ft.fns = []) (hret : ft.ret = false) :
    (∀ d L c, isStmtS ft d L c = true → isStmtB c = true) ∧
    (∀ d L cs, isStmtsS ft d L cs = true → isStmtsB cs = true) ∧
    (∀ d L cs, isBlock ft d L cs = true → isStmtsB cs = true) :=
  ⟨fun d L c h => (isStmtR_B hfns hret).1 c ▸ (isStmtS_R_all ft).1 d L c h,
   fun d L cs h => (isStmtR_B hfns hret).2 cs ▸ (isStmtS_R_all ft).2.1 d L cs h,
   fun d L cs h => (isStmtR_B hfns hret).2 cs ▸ (isStmtS_R_all ft).2.2 d L cs h⟩

theorem isStmtS_B {ft : Feat} (hfns : ft.fns = []) (hret : ft.ret = false) (d : Int) (L : LCtx) : ∀ (c : Card), isStmtS ft d L c = true → isStmtB c = true :=
  (isStmtS_B_all hfns hret).1 d L

theorem isStmtsS_B {ft : Feat} (hfns : ft.fns = []) (hret : ft.ret = false) (d : Int) (L : LCtx) : ∀ (cs : List Card), isStmtsS ft d L cs = true → isStmtsB cs = true :=
  (isStmtS_B_all hfns hret).2.1 d L

theorem isBlock_B {ft : Feat} (hfns : ft.fns = []) (hret : ft.ret = false) (d : Int) : ∀ (cs : List Card) (L : LCtx), isBlock ft d L cs = true → isStmtsB cs = true :=
  fun cs L => (isStmtS_B_all hfns hret).2.2 d L cs

/-! ## the cards of `main`, and `Sem.run` on the fragments without calls -/

section main
variable {ft : Feat} {fns : Array Sem.FnDef} (htab : SemTable ft fns) {cx : Sem.Ctx} (hcx : CxH fns cx)
  {cs : List Card} (hs : isStmtsR ft cs = true)
include htab hcx hs

theorem execList_benignR (fuel : Nat) (env : Sem.Env) (σ : Sem.St) : benignR (Sem.execList cx fuel env σ cs).2.2 :=
  (benignRRel true).list (ex' := Sem.exec cx fuel) cs
    (fun c hc env σ => (exec_benignR ft fns htab fuel cx hcx).1 c (isStmtsR_mem hs c hc) env σ) env σ

theorem execList_fuel_monoR {f f' : Nat} (hle : f ≤ f') (env : Sem.Env) (σ : Sem.St)
    (h : (render (Sem.execList cx f env σ cs)).result ≠ "unspecified:out of fuel") :
    Sem.execList cx f' env σ cs = Sem.execList cx f env σ cs := by
  refine execList_fuel_mono cs (fun c hc env σ hnc =>
    (exec_fuel_monoR ft fns htab f cx hcx).1 c (isStmtsR_mem hs c hc) env σ hnc f' hle) env σ fun hoof => ?_
  change isOOF (Sem.execList cx f env σ cs).2.2 at hoof
  rcases hx : Sem.execList cx f env σ cs with ⟨σ1, env1, r1⟩
  rw [hx] at h hoof
  cases r1 <;> first | exact hoof | exact h rfl

end main

/-- when `main` consists of cards of the fragments without calls, `Sem.run` yields no error, no `Return`
    and no `Abort` -/
theorem sem_run_benignB {m : Module} (std : Module) {fn : Func} (hmain : mainFn m = some fn)
    (hB : isStmtsB fn.cards = true) (fuel : Nat) : ∃ x, Sem.run m std fuel = render x ∧ benign x.2.2 := by
  obtain ⟨i, nf, hi, hf, rfl⟩ := mainFn_some hmain
  obtain ⟨cx, hcx, hrun⟩ := sem_run_main (std := std) hi hf
  exact ⟨_, hrun fuel, execList_benign _ (fun c hc env σ => exec_benignB hcx fuel c (isStmtsB_mem hB c hc) env σ) _ _⟩

/-- ... and a run that does not run out of fuel has the same outcome with more fuel -/
theorem sem_run_fuel_monoB {m : Module} (std : Module) {fn : Func} (hmain : mainFn m = some fn)
    (hB : isStmtsB fn.cards = true) (f f' : Nat) (hle : f ≤ f')
    (h : (Sem.run m std f).result ≠ "unspecified:out of fuel") : Sem.run m std f' = Sem.run m std f := by
  obtain ⟨i, nf, hi, hf, rfl⟩ := mainFn_some hmain
  obtain ⟨cx, hcx, hrun⟩ := sem_run_main (std := std) hi hf
  rw [hrun f] at h
  rw [hrun f', hrun f, execList_fuel_monoR (ft := {}) (semTable_nil rfl _) hcx ((isStmtR_B (ft := {}) rfl rfl).2 _ ▸ hB) hle _ _ h]

/-- `Sem.run` says `ok` on a `main` of the fragments without calls: its cards were executed to `ok` in a
    context of the program, and no call was counted -/
theorem sem_main_ok {m std : Module} {i : Nat} {nf : String × Func}
    (hi : m.functions.findIdx? (fun p => p.1 == "main") = some i) (hf : m.functions[i]? = some nf)
    (hB : isStmtsB nf.2.cards = true) {fuel : Nat} (hsem : (Sem.run m std fuel).result = "ok") :
    ∃ cx σ' env', CxH (semFns m std) cx ∧ Sem.execList cx fuel [[]] {} nf.2.cards = (σ', env', .ok ()) ∧
      Sem.run m std fuel = render (σ', env', .ok ()) ∧ σ'.calls = 0 := by
  obtain ⟨cx, hcx, hrun⟩ := sem_run_main (std := std) hi hf
  rw [hrun fuel] at hsem ⊢
  have hok : (Sem.execList cx fuel [[]] {} nf.2.cards).2.2 = .ok () := render_ok (benignR_of_benign (execList_benign _
    (fun c hc env σ => exec_benignB hcx fuel c (isStmtsB_mem hB c hc) env σ) [[]] {})) hsem
  have hnc : (Sem.execList cx fuel [[]] {} nf.2.cards).1.calls = 0 :=
    execList_calls _ (fun c hc env σ => exec_callsB cx hcx.1 fuel c (isStmtsB_mem hB c hc) env σ) [[]] {}
  rcases hex : Sem.execList cx fuel [[]] {} nf.2.cards with ⟨σ', env', r⟩
  rw [hex] at hok hnc
  simp only at hok hnc
  subst hok
  exact ⟨cx, σ', env', hcx, hex, rfl, hnc⟩

end Cao.C01
